import BpModel.All
import BpProofs.EvoMsg
import BpProofs.OkSound
/-
  C08, schema evolution, END TO END: a message written with the newer schema, read and
  re-written by a program compiled against the older schema (some fields of the class removed)
  and read again with the newer schema is the original message.

  Route (see `evolution_detail`):
    * `bytes(m)` splits into the records of the slots, in field order, followed by the unknown
      records of `m` (`dump_blocks`: every record of a slot carries the number of its field);
    * what the older program writes is these records with the ones it does not know moved to the
      back, both parts in arrival order (`toBack`).  Moving to the back a set of records that is a
      union of classes of the receiving message class (a field outside every oneof, a oneof group,
      "unknown") changes nothing of what that class decodes, retained unknown bytes included
      (`parse_toBack`: C02's `foldFields_perm` with the unknown class added, `foldFields_classes`);
    * for the OLDER class the set is its own unknown class: so it reads `bytes(m)` as it reads the
      encoding of the projection of `m` onto the kept fields, a well-typed value of the older schema
      (`msgOk_proj`), to which C01 for the older schema applies;
    * for the NEWER class two records of one class come from one slot (`same_slot`: fields have
      distinct numbers, at most one member of a oneof is ever written), hence are both kept or both
      dropped: it reads the rewritten bytes as it reads `bytes(m)`, and C01 for the newer schema
      relates that to `m`.
-/
namespace Bp
open Gen

theorem joinRaw_flatten (L : List (List PField)) : joinRaw L.flatten = (L.map joinRaw).flatten := by
  induction L with
  | nil => rfl
  | cons x L ih => simp [joinRaw_append, ih]

theorem parse_transport (S : Schema) (c : Nat) (d : MsgD) (hd : S[c]? = some d) (bs bs' : Bytes)
    (pfs pfs' : List PField) (hlf : loadFields bs = .ok pfs) (hlf' : loadFields bs' = .ok pfs')
    (hlen : bs'.length = bs.length)
    (hfold : ∀ (rec : Loader) (st st1 : MState), st.onWire = true →
      foldFields S rec d st pfs = .ok st1 → foldFields S rec d st pfs' = .ok st1)
    (v : Val) (h : parse S c bs = .ok v) : parse S c bs' = .ok v := by
  rw [parse_fresh S c d _ hd, loadInto_succ] at h ⊢
  rw [hlf] at h; rw [hlf']
  simp only [bind_ok] at h ⊢
  rw [hlen]
  obtain ⟨st1, hf, hh⟩ := bind_inv h
  rw [hfold _ _ st1 rfl hf]
  exact hh

theorem joinRaw_perm_length (l l' : List PField) (h : l.Perm l') : (joinRaw l).length = (joinRaw l').length := by
  induction h with
  | nil => rfl
  | cons x _ ih => simp only [joinRaw, List.length_append, ih]
  | swap x y l => simp only [joinRaw, List.length_append]; omega
  | trans _ _ ih1 ih2 => exact ih1.trans ih2

theorem ofClass_unknown (d : MsgD) (pf : PField) : ofClass d .unknown pf = isUnknownField d pf := by
  cases hu : isUnknownField d pf with
  | true => simp [ofClass, classOf_unknown d pf hu]
  | false =>
    simp only [ofClass, decide_eq_false_iff_not]
    intro hc
    rw [isUnknown_of_classOf d pf hc] at hu; cases hu

/-- C02 with the unknown bytes: same records of every class, the unknown class included, in the same order
    ⟹ the same state (`foldFields_perm` gives the same `core`, `foldFields_split` the same retained bytes) -/
theorem foldFields_classes (S : Schema) (rec : Loader) (d : MsgD) (pfs pfs' : List PField) (st st1 : MState)
    (how : st.onWire = true) (hsame : ∀ c, pfs.filter (ofClass d c) = pfs'.filter (ofClass d c))
    (h : foldFields S rec d st pfs = .ok st1) : foldFields S rec d st pfs' = .ok st1 := by
  obtain ⟨st2, h2, hc⟩ := foldFields_perm S rec d pfs pfs' st st1 how (fun c _ _ => hsame c) h
  have hunk := hsame .unknown
  simp only [funext (ofClass_unknown d)] at hunk
  have hu : st2.unknown = st1.unknown := by
    rw [(foldFields_split S rec d pfs st st1 h).1, (foldFields_split S rec d pfs' st st2 h2).1, hunk]
  have hc' := (core_eq_iff st2 st1).mp hc
  rw [h2]
  cases st1; cases st2
  simp only at hc' hu
  simp [hc'.1, hc'.2.1, hc'.2.2, hu]

/-- moving to the back the records that satisfy `r`, a predicate constant on every class, changes nothing -/
theorem foldFields_toBack (S : Schema) (rec : Loader) (d : MsgD) (r : PField → Bool) (pfs : List PField) (st st1 : MState)
    (how : st.onWire = true)
    (hconst : ∀ x ∈ pfs, ∀ y ∈ pfs, classOf d x = classOf d y → r x = r y) :
    foldFields S rec d st pfs = .ok st1 ↔ foldFields S rec d st (toBack r pfs) = .ok st1 := by
  have hsame : ∀ c, pfs.filter (ofClass d c) = (toBack r pfs).filter (ofClass d c) := fun c =>
    (filter_toBack r (ofClass d c) pfs fun x hx y hy hqx hqy => hconst x hx y hy (by
      simp only [ofClass, decide_eq_true_eq] at hqx hqy; rw [hqx, hqy])).symm
  exact ⟨foldFields_classes S rec d _ _ st st1 how hsame,
    foldFields_classes S rec d _ _ st st1 how fun c => (hsame c).symm⟩

theorem parse_toBack (S : Schema) (c : Nat) (d : MsgD) (hd : S[c]? = some d) (r : PField → Bool) (bs : Bytes)
    (pfs : List PField) (hlf : loadFields bs = .ok pfs)
    (hconst : ∀ x ∈ pfs, ∀ y ∈ pfs, classOf d x = classOf d y → r x = r y) (v : Val) :
    parse S c bs = .ok v ↔ parse S c (joinRaw (toBack r pfs)) = .ok v := by
  have hlf' : loadFields (joinRaw (toBack r pfs)) = .ok (toBack r pfs) :=
    loadFields_join _ fun pf hpf => loadFields_parsed bs pfs hlf pf ((mem_toBack r pfs pf).mp hpf)
  have hlen : (joinRaw (toBack r pfs)).length = bs.length := by
    rw [joinRaw_perm_length _ _ (toBack_perm r pfs), (loadFields_raw bs pfs hlf).1]
  exact ⟨parse_transport S c d hd bs _ pfs _ hlf hlf' hlen
      (fun rec st st1 how h => (foldFields_toBack S rec d r pfs st st1 how hconst).mp h) v,
    parse_transport S c d hd _ bs _ pfs hlf' hlf hlen.symm
      (fun rec st st1 how h => (foldFields_toBack S rec d r pfs st st1 how hconst).mpr h) v⟩

/-- two records of one known class of the newer class come from one slot: fields have distinct numbers, and only
    the selected member of a oneof group is written -/
theorem same_slot (dn : MsgD) (hdist : NumsDistinct dn.fields) (cur : List (Option Nat)) (L : List (List PField))
    (hLk : ∀ (k : Nat) (recs : List PField), L[k]? = some recs → ∃ f, dn.fields[k]? = some f ∧
      (hidden f k cur = true → recs = []) ∧ ∀ pf ∈ recs, pf.num = f.num ∧ wireFits f pf.wt = true)
    (i j : Nat) (a b : List PField) (hi : L[i]? = some a) (hj : L[j]? = some b) (x y : PField) (hx : x ∈ a) (hy : y ∈ b)
    (e : classOf dn x = classOf dn y) : i = j := by
  obtain ⟨fi, hfi, hhi, hpi⟩ := hLk i a hi
  obtain ⟨fj, hfj, hhj, hpj⟩ := hLk j b hj
  rw [classOf_targets dn x i fi (newer_targets dn hdist i fi hfi x (hpi x hx).1 (hpi x hx).2),
    classOf_targets dn y j fj (newer_targets dn hdist j fj hfj y (hpj y hy).1 (hpj y hy).2)] at e
  have sel : ∀ (g k : Nat) (fk : FieldD) (recs : List PField) (z : PField), fk.group = some g →
      (hidden fk k cur = true → recs = []) → z ∈ recs → cur.getD g Option.none = some k := by
    intro g k fk recs z hg hh hz
    apply selected_of_not_hidden fk k g cur hg
    cases hk : hidden fk k cur with
    | false => rfl
    | true => rw [hh hk] at hz; cases hz
  cases hgi : fi.group with
  | none =>
    cases hgj : fj.group with
    | none => rw [hgi, hgj] at e; cases e; rfl
    | some g' => rw [hgi, hgj] at e; cases e
  | some g =>
    cases hgj : fj.group with
    | none => rw [hgi, hgj] at e; cases e
    | some g' =>
      rw [hgi, hgj] at e
      cases e
      have s1 := sel g i fi _ x hgi hhi hx
      rw [sel g j fj _ y hgj hhj hy] at s1
      exact (Option.some.inj s1).symm

/-- **schema evolution, detailed form.**  `E : Evo Sn So c dn dold mask` is the setting: the two
    schemas agree except on class `c`, where the older class keeps the sub-list `keep mask` of
    the fields, and no field refers to class `c`.  For every well-typed message `m` of the newer
    class whose encoding `bs` is shorter than 2^64 bytes:

    * the older program reads `bs` without error; what it holds is `mo`: slot values `slo`
      equivalent (`ValEqv So`) to the kept slots of `m`, the oneof selection of `m` renumbered
      (`projCur`; a group whose selected member was dropped is unselected), and as unknown
      bytes the records of the dropped fields, in arrival order, followed by those of `m`;
    * it writes `bs'` = the records of `bs` it knows, in arrival order, followed by the records
      it does not know, in arrival order — byte for byte the records of `bs`, same length;
    * the newer program reads `bs'` as exactly what it reads `bs` as: the message
      `.msg c sl' true unk cur` — same oneof selection `cur` (also for groups whose selected
      member the older class had dropped) and same unknown bytes `unk` as `m`, slots
      equivalent to those of `m` (`ValEqv Sn`, the relation of the round-trip theorem C01). -/
theorem evolution_detail {Sn So : Schema} {c : Nat} {dn dold : MsgD} {mask : List Bool}
    (E : Evo Sn So c dn dold mask) (sl : List Val) (ow : Bool) (unk : Bytes) (cur : List (Option Nat))
    (hm : MsgOk Sn (.msg c sl ow unk cur)) (bs : Bytes)
    (hdump : dumpVal Sn (.msg c sl ow unk cur) = .ok bs) (hbl : bs.length < 2 ^ 64) :
    ∃ (pfs : List PField) (dropped : Bytes) (slo sl' : List Val) (bs' : Bytes),
      loadFields bs = .ok pfs
      ∧ dropped ++ unk = joinRaw (pfs.filter (isUnknownField dold))
      ∧ bs' = joinRaw (pfs.filter fun pf => !isUnknownField dold pf) ++ joinRaw (pfs.filter (isUnknownField dold))
      ∧ bs'.length = bs.length
      ∧ parse So c bs = .ok (.msg c slo true (dropped ++ unk) (projCur mask cur))
      ∧ ValEqv So (.msg c (keep mask sl) ow (dropped ++ unk) (projCur mask cur))
          (.msg c slo true (dropped ++ unk) (projCur mask cur))
      ∧ dumpVal So (.msg c slo true (dropped ++ unk) (projCur mask cur)) = .ok bs'
      ∧ parse Sn c bs' = .ok (.msg c sl' true unk cur)
      ∧ parse Sn c bs = .ok (.msg c sl' true unk cur)
      ∧ ValEqv Sn (.msg c sl ow unk cur) (.msg c sl' true unk cur) := by
  obtain ⟨L, upfs, hLlen, hlf, hupj, hup, hAparsed, hLk⟩ := dump_blocks Sn c dn E.hn sl ow unk cur hm bs hdump hbl
  have hm0 := hm
  cases hm with
  | mk _ d' _ _ _ _ hd' hdist hwfg hgrpopt hcurlen hcurok hinv hselset hslots hunk =>
  rw [E.hn] at hd'; injection hd' with hd'; subst hd'
  clear hunk
  have hlen : sl.length = dn.fields.length := slotsOk_len Sn _ _ hslots
  have hfoO : fieldsOf So c = dold.fields := by simp [fieldsOf, E.ho]
  have hmlen : mask.length = L.length := by rw [hLlen]; exact E.mlen
  let A : List PField := L.flatten
  -- the encodings of the slots, in field order
  have hbl1 : (L.map joinRaw).length = sl.length := by rw [List.length_map, hLlen, hlen]
  have hbslot : ∀ (k : Nat) (f : FieldD), dn.fields[k]? = some f → k < sl.length →
      dumpSlot Sn f (hidden f k cur) (selectedInGroup f k cur) (sl.getD k .ph) = .ok ((L.map joinRaw).getD k []) := by
    intro k f hf hk
    have hkL : k < L.length := by rw [hLlen, ← hlen]; exact hk
    obtain ⟨f', hf', hd, _⟩ := hLk k L[k] (List.getElem?_eq_getElem hkL)
    obtain rfl : f' = f := Option.some.inj (hf'.symm.trans hf)
    rw [hd, List.getD_eq_getElem?_getD, List.getElem?_map, List.getElem?_eq_getElem hkL]; rfl
  -- known / unknown to the older class, block by block
  have hhom : ∀ (k : Nat) (b : Bool) (xs : List PField), mask[k]? = some b → L[k]? = some xs →
      ∀ x ∈ xs, (!isUnknownField dold x) = b := by
    intro k b xs hmk hxs x hx
    obtain ⟨f, hf, _, _, hp⟩ := hLk k xs hxs
    cases b with
    | true =>
      have := targets_known dold x _ f (kept_targets dn dold mask E.fields hdist k f hf hmk x (hp x hx).1 (hp x hx).2)
      simp [this]
    | false =>
      have := dropped_unknown dn dold mask E.fields hdist k f hf hmk x (hp x hx).1
      simp [this]
  have hfk := filter_flatten_keep (fun pf => !isUnknownField dold pf) mask L hmlen hhom
  have hupO : ∀ pf ∈ upfs, isUnknownField dold pf = true :=
    fun pf hpf => isUnknown_older dn dold mask E.fields hdist pf (hup pf hpf).2
  have hAknown : ∀ x ∈ A, isUnknownField dn x = false := by
    intro x hx
    obtain ⟨recs, hrecs, hxr⟩ := List.mem_flatten.mp hx
    obtain ⟨k, hk⟩ := List.getElem?_of_mem hrecs
    obtain ⟨f, hf, _, _, hp⟩ := hLk k recs hk
    exact targets_known dn x k f (newer_targets dn hdist k f hf x (hp x hxr).1 (hp x hxr).2)
  -- what the older program writes: the records it does not know moved to the back
  have hknown : (A ++ upfs).filter (fun pf => !isUnknownField dold pf) = (keep mask L).flatten := by
    have hU : upfs.filter (fun pf => !isUnknownField dold pf) = [] :=
      List.filter_eq_nil_iff.mpr fun x hx => by simp [hupO x hx]
    rw [List.filter_append, hU, List.append_nil]; exact hfk
  have hunkO : (A ++ upfs).filter (isUnknownField dold) = A.filter (isUnknownField dold) ++ upfs := by
    rw [List.filter_append, show upfs.filter (isUnknownField dold) = upfs from List.filter_eq_self.mpr hupO]
  have hbs' : joinRaw (toBack (isUnknownField dold) (A ++ upfs))
      = (keep mask (L.map joinRaw)).flatten ++ (joinRaw (A.filter (isUnknownField dold)) ++ unk) := by
    rw [toBack, joinRaw_append, hknown, hunkO, joinRaw_append, hupj, joinRaw_flatten, ← keep_map]
  have hbs'len : (joinRaw (toBack (isUnknownField dold) (A ++ upfs))).length = bs.length := by
    rw [joinRaw_perm_length _ _ (toBack_perm _ _), (loadFields_raw bs _ hlf).1]
  -- OLDER side: the projection, and C01 for the older schema; its own unknown records may stand anywhere
  have hX : UnkOk dold (joinRaw (A.filter (isUnknownField dold)) ++ unk) :=
    ⟨A.filter (isUnknownField dold) ++ upfs, fun pf hpf => by
        rcases List.mem_append.mp hpf with h | h
        · exact ⟨hAparsed pf (List.mem_filter.mp h).1, (List.mem_filter.mp h).2⟩
        · exact ⟨(hup pf h).1, hupO pf h⟩,
      by rw [joinRaw_append, hupj]⟩
  have hmp := msgOk_proj E sl ow unk cur _ hm0 hX
  have hdp := dumpSlots_proj E sl cur hslots (L.map joinRaw) hbl1 hbslot
  have hdumpP : dumpVal So (.msg c (keep mask sl) ow (joinRaw (A.filter (isUnknownField dold)) ++ unk) (projCur mask cur))
      = .ok (joinRaw (toBack (isUnknownField dold) (A ++ upfs))) := by
    rw [dumpVal_msg, hfoO, hdp, hbs']; rfl
  obtain ⟨slo, hpo, heqo, hdo⟩ :=
    C01.roundtrip_nested_partial So c dold E.ho _ ow _ _ hmp _ hdumpP (by rw [hbs'len]; exact hbl)
  have hparseO := (parse_toBack So c dold E.ho (isUnknownField dold) bs _ hlf
    (fun x _ y _ e => by rw [← ofClass_unknown, ← ofClass_unknown, ofClass, ofClass, e]) _).mpr hpo
  -- NEWER side: C01 for the newer schema; two records of one class come from one slot, or are both unknown
  obtain ⟨sl', hpn, heqn, _⟩ := C01.roundtrip_nested_partial Sn c dn E.hn sl ow unk cur hm0 bs hdump hbl
  have hblock : ∀ x ∈ A, ∃ k xs, L[k]? = some xs ∧ x ∈ xs := fun x hx => by
    obtain ⟨xs, hxs, hxr⟩ := List.mem_flatten.mp hx
    obtain ⟨k, hk⟩ := List.getElem?_of_mem hxs
    exact ⟨k, xs, hk, hxr⟩
  have hconst : ∀ x ∈ A ++ upfs, ∀ y ∈ A ++ upfs, classOf dn x = classOf dn y →
      isUnknownField dold x = isUnknownField dold y := by
    have unk_of : ∀ x ∈ A ++ upfs, isUnknownField dn x = true → x ∈ upfs := fun x hx hu =>
      (List.mem_append.mp hx).elim (fun h => by rw [hAknown x h] at hu; cases hu) id
    intro x hx y hy e
    cases hux : isUnknownField dn x with
    | true =>
      have huy := isUnknown_of_classOf dn y (e ▸ classOf_unknown dn x hux)
      rw [hupO x (unk_of x hx hux), hupO y (unk_of y hy huy)]
    | false =>
      have hxA : x ∈ A := (List.mem_append.mp hx).elim id fun h => by rw [(hup x h).2] at hux; cases hux
      have hyA : y ∈ A := (List.mem_append.mp hy).elim id fun h => by
        rw [isUnknown_of_classOf dn x (e ▸ classOf_unknown dn y (hup y h).2)] at hux; cases hux
      obtain ⟨i, a, hi, hxa⟩ := hblock x hxA
      obtain ⟨j, b, hj, hyb⟩ := hblock y hyA
      obtain rfl := same_slot dn hdist cur L (fun k recs hk => by
        obtain ⟨f, hf, _, hh, hp⟩ := hLk k recs hk
        exact ⟨f, hf, hh, hp⟩) i j a b hi hj x y hxa hyb e
      obtain ⟨bit, hbit⟩ : ∃ bit, mask[i]? = some bit :=
        ⟨mask[i]'(hmlen ▸ (List.getElem?_eq_some_iff.mp hi).1), List.getElem?_eq_getElem _⟩
      have h1 := hhom i bit a hbit hi x hxa
      have h2 := hhom i bit b hbit hj y hyb
      rw [← h2] at h1
      simpa using h1
  have hparseN := (parse_toBack Sn c dn E.hn (isUnknownField dold) bs _ hlf hconst _).mp hpn
  exact ⟨A ++ upfs, joinRaw (A.filter (isUnknownField dold)), slo, sl', _, hlf,
    by rw [hunkO, joinRaw_append, hupj], by rw [toBack, joinRaw_append], hbs'len, hparseO, heqo, hdo, hparseN, hpn, heqn⟩

/-- **schema evolution is lossless** (C08): a message `m` of class `c` written with the newer
    schema `Sn`, read by a program compiled against the older schema `So` (class `c` keeps the
    sub-list `keep mask` of its fields; everything else is unchanged and nothing refers to
    class `c`), written again by that program, and read again with the newer schema comes back
    as `m`: same class, same oneof selection, same unknown bytes, and slot values equivalent
    to the original ones in the sense of the round-trip theorem C01 (`ValEqv`: identical up to
    unset-vs-default, `serialized_on_wire`, `-0.0` in wrappers, empty map-value messages) -/
theorem evolution_roundtrip {Sn So : Schema} {c : Nat} {dn dold : MsgD} {mask : List Bool}
    (E : Evo Sn So c dn dold mask) (sl : List Val) (ow : Bool) (unk : Bytes) (cur : List (Option Nat))
    (hm : MsgOk Sn (.msg c sl ow unk cur)) (bs : Bytes)
    (hdump : dumpVal Sn (.msg c sl ow unk cur) = .ok bs) (hbl : bs.length < 2 ^ 64) :
    ∃ mo bs' sl', parse So c bs = .ok mo ∧ dumpVal So mo = .ok bs'
      ∧ parse Sn c bs' = .ok (.msg c sl' true unk cur)
      ∧ ValEqv Sn (.msg c sl ow unk cur) (.msg c sl' true unk cur) := by
  obtain ⟨_, dropped, slo, sl', bs', _, _, _, _, h1, _, h2, h3, _, h4⟩ :=
    evolution_detail E sl ow unk cur hm bs hdump hbl
  exact ⟨_, bs', sl', h1, h2, h3, h4⟩

namespace EvoInst
deriving instance DecidableEq for FieldD
deriving instance DecidableEq for MsgD
end EvoInst

/-- `dold` keeps a sub-list of the fields of `dn` (same `FieldD` records, same relative order)
    and declares the same number of oneof groups.  (A group may keep all, some or none of its
    members; group indices keep their meaning.) -/
def Older (dn dold : MsgD) : Prop :=
  ∃ mask : List Bool, mask.length = dn.fields.length ∧ dold.fields = keep mask dn.fields ∧ dold.nGroups = dn.nGroups

/-- with distinct field numbers the mask is determined: a field is kept iff the older class
    declares its number -/
def olderMask (dn dold : MsgD) : List Bool := dn.fields.map fun f => dold.fields.any fun g => g.num == f.num

def olderB (dn dold : MsgD) : Bool :=
  decide (dold.fields = keep (olderMask dn dold) dn.fields) && dold.nGroups == dn.nGroups

theorem olderB_sound (dn dold : MsgD) (h : olderB dn dold = true) : Older dn dold := by
  simp only [olderB, Bool.and_eq_true, decide_eq_true_eq, beq_iff_eq] at h
  exact ⟨olderMask dn dold, by simp [olderMask], h.1, h.2⟩

def evoB (Sn So : Schema) (c : Nat) : Bool :=
  match Sn[c]?, So[c]? with
  | some dn, some dold =>
    olderB dn dold && schemaFreeB c Sn && Sn.length == So.length
      && (List.range Sn.length).all fun c' => c' == c || decide (So[c']? = Sn[c']?)
  | _, _ => false

theorem evoB_sound (Sn So : Schema) (c : Nat) (dn dold : MsgD) (hn : Sn[c]? = some dn) (ho : So[c]? = some dold)
    (h : evoB Sn So c = true) : Evo Sn So c dn dold (olderMask dn dold) := by
  simp only [evoB, hn, ho, Bool.and_eq_true, beq_iff_eq, List.all_eq_true, List.mem_range, Bool.or_eq_true,
    decide_eq_true_eq] at h
  obtain ⟨⟨⟨h1, h2⟩, h3⟩, h4⟩ := h
  simp only [olderB, Bool.and_eq_true, decide_eq_true_eq, beq_iff_eq] at h1
  refine { hn := hn, ho := ho, agree := ?_, free := schemaFreeB_sound c Sn h2,
           mlen := by simp [olderMask], fields := h1.1, groups := h1.2 }
  intro c' hc
  by_cases hl : c' < Sn.length
  · rcases h4 c' hl with e | e
    · exact absurd e hc
    · exact e
  · rw [List.getElem?_eq_none (by omega), List.getElem?_eq_none (by omega)]

/-! ### non-vacuity: a concrete evolution, evaluated on the model

  Newer class 1: `a` int32 #1, `s` string #2, `sub` message(class 0) #3, `r` repeated sint32 #4,
  oneof group 0 = { `x` bytes #5, `y` int64 #6 }, `z` optional bool #7.  The older class 1 has
  dropped `s` (in the middle), `r`, and the oneof member `x` — which is the SELECTED member of
  the message below.  The message also carries an unknown record (#9 varint 1 = `48 01`). -/
namespace EvoEx

def SN : Schema :=
  [ { fields := [{ name := "x", num := 1, ty := .int32 }] },
    { fields := [{ name := "a", num := 1, ty := .int32 },
                 { name := "s", num := 2, ty := .string },
                 { name := "sub", num := 3, ty := .message, kind := .user 0 },
                 { name := "r", num := 4, ty := .sint32, repeated := true },
                 { name := "x", num := 5, ty := .bytes, group := some 0 },
                 { name := "y", num := 6, ty := .int64, group := some 0 },
                 { name := "z", num := 7, ty := .bool, optional := true }], nGroups := 1 } ]

def SO : Schema :=
  [ { fields := [{ name := "x", num := 1, ty := .int32 }] },
    { fields := [{ name := "a", num := 1, ty := .int32 },
                 { name := "sub", num := 3, ty := .message, kind := .user 0 },
                 { name := "y", num := 6, ty := .int64, group := some 0 },
                 { name := "z", num := 7, ty := .bool, optional := true }], nGroups := 1 } ]

def mask : List Bool := [true, false, true, false, false, true, true]

def m : Val :=
  .msg 1 [.int 5, .str [104, 105], .msg 0 [.int 7] true [] [], .list [.int 1, .int (-2)], .byt [65], .ph, .none]
    true [0x48, 0x01] [some 4]

/-- written with the newer schema -/
def bs : Bytes := [8, 5, 18, 2, 104, 105, 26, 2, 8, 7, 34, 2, 2, 3, 42, 1, 65, 72, 1]

/-- what the older program holds: kept slots, group 0 unselected, dropped records + `48 01` as unknown bytes -/
def mo : Val :=
  .msg 1 [.int 5, .msg 0 [.int 7] true [] [], .ph, .none] true [18, 2, 104, 105, 34, 2, 2, 3, 42, 1, 65, 72, 1] [Option.none]

/-- what the older program writes: `a`, `sub`, then `s`, `r`, `x`, then `48 01` -/
def bs' : Bytes := [8, 5, 26, 2, 8, 7, 18, 2, 104, 105, 34, 2, 2, 3, 42, 1, 65, 72, 1]

-- the hypotheses of the theorem hold (all decidable)
example : olderMask SN[1] SO[1] = mask := by decide +kernel
example : evoB SN SO 1 = true := by decide +kernel
example : olderSchema SN 1 mask = SO := by decide +kernel
theorem evo : Evo SN SO 1 SN[1] SO[1] (olderMask SN[1] SO[1]) := evoB_sound SN SO 1 _ _ rfl rfl (by decide +kernel)
theorem m_ok : MsgOk SN m := msgOkB_sound _ _ (by decide +kernel)

-- the three steps, evaluated on the model
example : dumpVal SN m = .ok bs := by decide +kernel
example : parse SO 1 bs = .ok mo := by rfl
example : dumpVal SO mo = .ok bs' := by decide +kernel
example : parse SN 1 bs' = .ok m := by rfl
example : ((dumpVal SN m).bind fun b => (parse SO 1 b).bind fun o => (dumpVal SO o).bind fun b' =>
    (parse SN 1 b').bind fun m' => dumpVal SN m') = .ok bs := by decide +kernel
-- the same, with the selected member `x` and the middle field `s` KEPT and `a` dropped: selection survives as index 2
example : parse (olderSchema SN 1 [false, true, true, false, true, true, true]) 1 bs
    = .ok (.msg 1 [.str [104, 105], .msg 0 [.int 7] true [] [], .byt [65], .ph, .none] true
        [8, 5, 34, 2, 2, 3, 72, 1] [some 2]) := by rfl

/-- the theorem, instantiated -/
example : ∃ mo bs' sl', parse SO 1 bs = .ok mo ∧ dumpVal SO mo = .ok bs'
    ∧ parse SN 1 bs' = .ok (.msg 1 sl' true [0x48, 0x01] [some 4])
    ∧ ValEqv SN m (.msg 1 sl' true [0x48, 0x01] [some 4]) :=
  evolution_roundtrip evo _ _ _ _ m_ok bs (by decide +kernel) (by decide)

end EvoEx

end Bp

#print axioms Bp.evolution_detail
#print axioms Bp.evolution_roundtrip
