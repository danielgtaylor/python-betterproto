import BpProofs.Gen.SrcJson
import BpProofs.Presence
import BpProofs.Json
import BpProofs.JsonOneof
import BpProofs.JsonGuard
import BpProofs.JsonRt
import BpProofs.ResCalc
/-
  THE TIE BETWEEN THE TRANSLATED LOOP BODY OF `Message.to_dict` AND THE HAND-WRITTEN MODEL.

  `Bp.Src.to_dict_field` / `Bp.Src.dump_float` (BpProofs/Gen/SrcJson.lean) are regenerated from
  the Python AST of the body of the field loop of `Message.to_dict` / of `_dump_float` on every
  run.  The theorems below say that `_dump_float` as written is the model's `dumpFloat` (every
  value), and that, with `enc := toDict S E cs incl` (the recursive `to_dict` of the model), one
  iteration as written leaves the output dict as it is when the model's
  `toDictSlot S E cs incl f hid sel v` is `none`, and stores exactly the model's object under the
  model's key `jsonKey cs f.name` when it is `some j` — for every field descriptor, both
  casings, every flag combination (`incl`: include_default_values, `hid`: getattr raises
  AttributeError, `sel`: `_include_default_value_for_oneof`) and every raw slot value `v` inside
  the decidable guard `dynOkJ f v` (the value has the Python type the descriptor allows) — and,
  for a slot that reads as the field's default, the guard `DefaultOkJ` (see there).
-/
namespace Bp.SrcTieJson
open Bp Bp.Py Gen

@[simp] theorem res_bind_raise {α β} (e : PyErr) (f : α → Res β) : (Res.raise e : Res α).bind f = .raise e := rfl

/-- what one iteration does to the output dict with the model's answer for the field -/
def putJ (output : JDict) (k : JKey) : Option JVal → JDict
  | Option.none => output
  | some j => setItem output k j

@[simp] theorem putJ_none (o : JDict) (k : JKey) : putJ o k Option.none = o := rfl
@[simp] theorem putJ_some (o : JDict) (k : JKey) (j : JVal) : putJ o k (some j) = setItem o k j := rfl

section tie
-- every lemma of the section takes those of these parameters that its statement mentions, in this order, before its own; definitions bind theirs themselves
variable (S : Schema) (E : Enums) (cs : KeyCase) (incl : Bool) (f : FieldD) (sel : Bool)
variable (v : Val) (out : JDict)

theorem setItem_fresh (d : JDict) (k : JKey) (x : JVal) (h : k ∉ d.map (·.1)) : setItem d k x = d ++ [(k, x)] := by
  have : d.any (fun kv => kv.1 == k) = false := by
    rw [List.any_eq_false]
    intro kv hkv hc
    exact h (List.mem_map.mpr ⟨kv, hkv, by simpa using hc⟩)
  simp [setItem, this]

theorem dump_float_eq : Src.dump_float v = .ok (dumpFloat v) := by
  cases v <;>
    simp only [Src.dump_float, eqInf, isFloat, isNan, dumpFloat, asIs, rawJ, Res.ok_ite, ↓reduceIte, Bool.false_eq_true,
      Bool.true_and, Bool.false_and]

theorem toDict_msg (c : Nat) (sl : List Val) (ow : Bool)
    (unk : Bytes) (cur : List (Option Nat)) :
    toDict S E cs incl (.msg c sl ow unk cur) = mkObj (toDictKVs S E cs incl (fieldsOf S c) cur 0 sl) := by
  rw [toDict]

theorem toDict_nonmsg (h : isMsgVal v = false) :
    toDict S E cs incl v = .raw v := by
  cases v with
  | msg c sl ow unk cur => cases h
  | _ => rfl

theorem toDictList_eq :
    ∀ xs : List Val, toDictList S E cs incl xs = xs.map (toDict S E cs incl)
  | [] => by rw [toDictList]; rfl
  | x :: xs => by
    rw [List.map_cons, ← toDictList_eq xs]
    -- a Message item, or any other: for the catch-all equation of `toDictList`, `rw` leaves the side goals that the
    -- item is not a Message (`intros; contradiction`); the same idiom serves `toDictMapVals_eq` below
    cases x with
    | msg c sl ow unk cur => rw [toDictList, toDict_msg]
    | _ => rw [toDictList, toDict_nonmsg _ _ _ _ _ rfl]; all_goals (intros; contradiction)

/-- what `to_dict` does to one map value; `enc` stands for the recursive `to_dict` -/
def mapValJ (enc : Val → JVal) (x : Val) : JVal :=
  if isMsgVal x then enc x else rawJ x

theorem toDictMapVals_eq :
    ∀ vs : List Val, toDictMapVals S E cs incl vs = vs.map (mapValJ (toDict S E cs incl))
  | [] => by rw [toDictMapVals]; rfl
  | x :: xs => by
    rw [List.map_cons, ← toDictMapVals_eq xs]
    cases x with
    | msg c sl ow unk cur => rw [toDictMapVals]; simp [mapValJ, isMsgVal, toDict_msg]
    | _ =>
      rw [toDictMapVals]
      · simp [mapValJ, isMsgVal]
      all_goals (intros; contradiction)

theorem lookupKey_zip (k : JKey) : ∀ (ks vs : List Val),
    lookupKey k ks vs = ((ks.zip vs).find? (fun kv => keyJ kv.1 == k)).map (·.2)
  | [], vs => by simp [lookupKey]
  | _ :: _, [] => by simp [lookupKey]
  | k' :: ks, v :: vs => by
    simp only [lookupKey, List.zip_cons_cons, List.find?_cons]
    cases h : keyJ k' == k <;> simp [lookupKey_zip k ks vs]

theorem find_mid (k : JKey) (pre suf : List (Val × Val)) (kv : Val × Val) (hk : keyJ kv.1 = k)
    (hpre : k ∉ pre.map (fun p => keyJ p.1)) :
    (pre ++ kv :: suf).find? (fun p => keyJ p.1 == k) = some kv := by
  rw [List.find?_append, List.find?_eq_none.mpr fun p hp e => hpre (List.mem_map.mpr ⟨p, hp, by simpa using e⟩),
    Option.none_or, List.find?_cons_of_pos (by simpa using hk)]

theorem map_id_of_notin (k : JKey) (x : JVal) (A : JDict) (h : k ∉ A.map (·.1)) :
    A.map (fun kv => if kv.1 == k then (kv.1, x) else kv) = A :=
  (List.map_congr_left fun a ha => if_neg fun e => h (List.mem_map.mpr ⟨a, ha, by simpa using e⟩)).trans (List.map_id A)

theorem setItem_mid (A B : JDict) (k : JKey) (x y : JVal) (hA : k ∉ A.map (·.1)) (hB : k ∉ B.map (·.1)) :
    setItem (A ++ (k, x) :: B) k y = A ++ (k, y) :: B := by
  have hany : (A ++ (k, x) :: B).any (fun kv => kv.1 == k) = true := by simp
  unfold setItem
  rw [if_pos hany, List.map_append, List.map_cons, map_id_of_notin k y A hA, map_id_of_notin k y B hB]
  simp

/-- the item `to_dict` stores for one entry of a map field, before / after the conversion loop -/
def rawItem (kv : Val × Val) : JKey × JVal := (keyJ kv.1, rawJ kv.2)
def convItem (enc : Val → JVal) (kv : Val × Val) : JKey × JVal :=
  (keyJ kv.1, mapValJ enc kv.2)

/-- the loop of the map branch, `for k in value: if hasattr(value[k], "to_dict"): output_map[k] = …`, converts the
    entries of `{**value}` in place -/
theorem map_loop (enc : Val → JVal) (ks vs : List Val)
    (hn : ((ks.zip vs).map fun p => keyJ p.1).Nodup) :
    ∀ (suf pre : List (Val × Val)), ks.zip vs = pre ++ suf →
      Src.to_dict_field.loop1 S E enc cs incl (.dict ks vs) (suf.map (·.1))
        (pre.map (convItem enc) ++ suf.map rawItem)
      = .ok ((ks.zip vs).map (convItem enc))
  | [], pre, h => by simp [Src.to_dict_field.loop1, h]
  | kv :: suf, pre, h => by
    obtain ⟨k, v⟩ := kv
    rw [h, List.map_append, List.nodup_append] at hn
    obtain ⟨hnp, hns, hdis⟩ := hn
    have hkpre : keyJ k ∉ pre.map (fun p => keyJ p.1) := fun hm => hdis _ hm _ (by simp) rfl
    have hksuf : keyJ k ∉ suf.map (fun p => keyJ p.1) := by
      simp only [List.map_cons, List.nodup_cons] at hns; exact hns.1
    have hget : getItem (.dict ks vs) k = .ok v := by
      simp only [getItem, lookupKey_zip, h, find_mid (keyJ k) pre suf (k, v) rfl hkpre, Option.map_some]
    have hA : keyJ k ∉ (pre.map (convItem enc)).map (·.1) := by
      simpa [convItem, Function.comp_def] using hkpre
    have hB : keyJ k ∉ (suf.map rawItem).map (·.1) := by
      simpa [rawItem, Function.comp_def] using hksuf
    have ih := map_loop enc ks vs (by rw [h, List.map_append, List.nodup_append]; exact ⟨hnp, hns, hdis⟩)
      suf (pre ++ [(k, v)]) (by rw [h]; simp)
    simp only [List.map_cons, Src.to_dict_field.loop1, hget, Res.ok_bind, hasToDict, callToDict, setItemV]
    by_cases hm : isMsgVal v = true
    · rw [if_pos hm]
      have : (rawItem (k, v)) = (keyJ k, rawJ v) := rfl
      rw [this, setItem_mid _ _ _ _ _ hA hB]
      simpa [convItem, mapValJ, hm] using ih
    · rw [if_neg hm]
      simpa [convItem, mapValJ, hm, rawItem] using ih

/-- a leaf value in a REPEATED scalar field of type `t`: fine where `to_dict` does not iterate over the
    value — the types written as they are, and enum ("transparently upgrade single value to repeated";
    a bytes object is iterable, so it is iterated) -/
def repLeafOk (t : PType) (isByt : Bool) : Bool :=
  if isInt64 t then false else if t == .bytes then false else if t == .enum then !isByt
  else if t == .float || t == .double then false else true

/-- a leaf value (None, number, bool, str, bytes, datetime, timedelta) where the descriptor allows it:
    `msgOk` says whether it may sit in a message-typed field; in a repeated scalar field only where
    the source does not iterate (plain types; enum: "transparently upgrade single value") -/
def leafOkJ (f : FieldD) (msgOk isByt : Bool) : Bool :=
  if f.ty == .message then msgOk
  else f.ty != .map && (!f.repeated || repLeafOk f.ty isByt)

/-- The guard of the tie: the value has a Python type the descriptor allows.
    * a list only in a repeated (non-map) field, a dict only in a map field (keys and values in
      parallel, keys pairwise distinct — what a Python dict is), a Message instance only in a singular
      message field without wrapper;
    * a leaf: in a message-typed field a datetime / timedelta, a wrapped value (wrapper field), or
      None (singular); never in a map field; in a repeated scalar field only where `to_dict` does not
      iterate over it.
    Outside the guard the model answers with its "not modelled" leaf `raw v` where the source as
    written raises (AttributeError from `value._serialized_on_wire`, TypeError from iterating a
    number or from `{**value}`), or iterates over something that is not a list. -/
def dynOkJ (f : FieldD) : Val → Bool
  | .ph => true
  | .list _ => f.repeated && f.ty != .map
  | .dict ks vs => f.ty == .map && ks.length == vs.length && decide (((ks.zip vs).map fun p => keyJ p.1).Nodup)
  | .msg _ _ _ _ _ => f.ty == .message && f.wraps.isNone && !f.repeated
  | .ts _ => leafOkJ f true false
  | .dur _ => leafOkJ f true false
  | .none => leafOkJ f (f.wraps.isSome || !f.repeated) false
  | .byt _ => leafOkJ f f.wraps.isSome true
  | _ => leafOkJ f f.wraps.isSome false

/-- a leaf that is neither a datetime nor a timedelta -/
def plainOrNone : Val → Bool
  | .none | .int _ | .bool _ | .f32 _ | .f64 _ | .str _ | .byt _ => true
  | _ => false

/-- What `dynOkJ f v` allows, as the loop bodies of `to_dict` / `to_pydict` tell the cases apart: the class of the field
    (message-typed — wrapper or not —, map, scalar) first, then what the value is.  Each case carries the outcomes of the
    tests of the source on its path. -/
inductive Cell (f : FieldD) : Val → Prop
  | ts (us : Int) : (f.ty == .message) = true → Cell f (.ts us)
  | dur (us : Int) : (f.ty == .message) = true → Cell f (.dur us)
  | wrapped (v : Val) : (f.ty == .message) = true → f.wraps.isSome = true → plainOrNone v = true → Cell f v
  | wrappedList (xs : List Val) : (f.ty == .message) = true → f.wraps.isSome = true → Cell f (.list xs)
  | msgList (xs : List Val) : (f.ty == .message) = true → f.wraps.isSome = false → f.repeated = true → Cell f (.list xs)
  | msgNone : (f.ty == .message) = true → f.wraps.isSome = false → f.repeated = false → Cell f .none
  | msg (c : Nat) (sl : List Val) (ow : Bool) (unk : Bytes) (cur : List (Option Nat)) :
      (f.ty == .message) = true → f.wraps.isSome = false → f.repeated = false → Cell f (.msg c sl ow unk cur)
  | map (ks vs : List Val) : (f.ty == .message) = false → (f.ty == .map) = true → ks.length = vs.length →
      ((ks.zip vs).map fun p => keyJ p.1).Nodup → Cell f (.dict ks vs)
  | scalarList (xs : List Val) : (f.ty == .message) = false → (f.ty == .map) = false → f.repeated = true → Cell f (.list xs)
  | scalar (v : Val) : (f.ty == .message) = false → (f.ty == .map) = false → isLeafVal v = true →
      (!f.repeated || repLeafOk f.ty (isBytes v)) = true → Cell f v

theorem leafOkJ_cell (f : FieldD) (v : Val) (msgOk : Bool) (hl : isLeafVal v = true) (h : leafOkJ f msgOk (isBytes v) = true)
    (hmsg : (f.ty == .message) = true → msgOk = true → Cell f v) : Cell f v := by
  unfold leafOkJ at h
  by_cases hm : (f.ty == .message) = true
  · rw [if_pos hm] at h; exact hmsg hm h
  · rw [if_neg hm, Bool.and_eq_true, bne_iff_ne] at h
    exact .scalar v (by simpa using hm) (by simpa using h.1) hl h.2

theorem Cell.of_dynOkJ (f : FieldD) (v : Val) (hph : v ≠ .ph) (hok : dynOkJ f v = true) : Cell f v := by
  cases v with
  | ph => exact absurd rfl hph
  | list xs =>
    simp only [dynOkJ, Bool.and_eq_true, bne_iff_ne, ne_eq] at hok
    have hmap : (f.ty == PType.map) = false := by simpa using hok.2
    by_cases hm : (f.ty == .message) = true
    · cases hw : f.wraps.isSome with
      | true => exact .wrappedList xs hm hw
      | false => exact .msgList xs hm hw hok.1
    · exact .scalarList xs (by simpa using hm) hmap hok.1
  | dict ks vs =>
    simp only [dynOkJ, Bool.and_eq_true, beq_iff_eq, decide_eq_true_eq] at hok
    exact .map ks vs (by rw [hok.1.1]; rfl) (by rw [hok.1.1]; rfl) hok.1.2 hok.2
  | msg c sl ow unk cur =>
    simp only [dynOkJ, Bool.and_eq_true, Bool.not_eq_true', Option.isNone_iff_eq_none] at hok
    exact .msg c sl ow unk cur hok.1.1 (by rw [hok.1.2]; rfl) hok.2
  | ts us => exact leafOkJ_cell f _ _ rfl hok fun hm _ => .ts us hm
  | dur us => exact leafOkJ_cell f _ _ rfl hok fun hm _ => .dur us hm
  | none =>
    refine leafOkJ_cell f _ _ rfl hok fun hm h => ?_
    cases hw : f.wraps.isSome with
    | true => exact .wrapped _ hm hw rfl
    | false => exact .msgNone hm hw (by simpa [hw] using h)
  | _ => exact leafOkJ_cell f _ _ rfl hok fun hm hw => .wrapped _ hm hw rfl

theorem hint_rep (h : f.repeated = true) : hintArg0 (fieldType E f) = .ok (enumOf E f) := by
  simp [fieldType, h, hintArg0]
theorem hint_opt (h : f.optional = true) : hintArg0 (fieldType E f) = .ok (enumOf E f) := by
  simp [fieldType, h, hintArg0]
theorem hint_cls (hr : f.repeated = false) (ho : f.optional = false) :
    hintClass (fieldType E f) = .ok (enumOf E f) := by
  simp [fieldType, hr, ho, hintClass]

theorem ite_put {c : Bool} {o : JDict} {k : JKey} {j : JVal} :
    (if c = true then Res.ok (setItem o k j) else Res.ok o) = Res.ok (putJ o k (if c = true then some j else Option.none)) := by
  cases c <;> rfl

theorem mapM_pure {α β : Type} (h : α → β) : ∀ xs : List α, Py.mapM (fun x => Res.ok (h x)) xs = .ok (xs.map h)
  | [] => rfl
  | x :: xs => by simp [Py.mapM, mapM_pure h xs, Res.ok_bind]

/-- the values the loop body may hand to `enc` for the attribute value `v` (besides values that are
    not Message instances); named in the namespace of SrcTieJsonMsg.lean, whose guard `vOkAt` recurses over it -/
def _root_.Bp.SrcTieJsonMsg.subs (v : Val) : List Val :=
  match v with
  | .list xs => xs
  | .dict ks vs => ks ++ vs
  | .msg c sl ow unk cur => [.msg c sl ow unk cur]
  | _ => []
open Bp.SrcTieJsonMsg (subs)

/-- the loop body gets past the presence test for a Message instance (`value._serialized_on_wire or
    include_default_values or meta.optional or <selected in its group> or value != default`); a Message instance
    that does not is never handed to `enc` -/
def needed (S : Schema) (incl : Bool) (f : FieldD) (sel : Bool) (v : Val) : Bool :=
  !(isMsgVal v && eqDefault S f.defKind v && !(onWireOf v || incl || f.optional || sel))

/-- `enc` and `enc'` give the same object on `xs`.  The notion is `SrcTieMsg.AgreeL` of the `__bytes__` ties (declared
    in SrcTieDump.lean for encoders into bytes, a module the JSON files do not import), here without its restriction to Message
    instances: `[i.to_dict() for i in value]` hands every item to `enc`. -/
def AgreeL (enc enc' : Val → JVal) (xs : List Val) : Prop := ∀ x ∈ xs, enc x = enc' x

theorem agreeL_self (enc : Val → JVal) (xs : List Val) : AgreeL enc enc xs := fun _ _ => rfl

theorem AgreeL.mapVal_eq {enc enc' : Val → JVal} {xs : List Val} (h : AgreeL enc enc' xs) :
    xs.map (mapValJ enc) = xs.map (mapValJ enc') :=
  List.map_congr_left fun x hx => by rw [mapValJ, mapValJ, h x hx]

theorem zip_fst (ks vs : List Val) (h : ks.length = vs.length) : (ks.zip vs).map (·.1) = ks :=
  List.map_fst_zip (by omega)

theorem zip_conv (enc : Val → JVal) (ks vs : List Val) (h : ks.length = vs.length) :
    mkObj ((ks.zip vs).map (convItem enc)) = .obj (ks.map keyJ) (vs.map (mapValJ enc)) := by
  have h1 : ((ks.zip vs).map (convItem enc)).map (·.1) = ks.map keyJ := by
    rw [List.map_map, ← zip_fst ks vs h, List.map_map]; simp [convItem, Function.comp_def, zip_fst ks vs h]
  have h2 : ((ks.zip vs).map (convItem enc)).map (·.2) = vs.map (mapValJ enc) := by
    have : (ks.zip vs).map (·.2) = vs := List.map_snd_zip (by omega)
    rw [List.map_map]; conv => rhs; rw [← this, List.map_map]
    rfl
  rw [mkObj, h1, h2]

/-- One iteration on an attribute VALUE (anything `getattr` can return: never PLACEHOLDER), for EVERY recursion parameter
    `enc` that is the model's `toDict` on what the body hands to it.  The body is unfolded once; each case of `Cell` then
    decides the tests on its path, and what is left of both sides is closed by computation on the value. -/
theorem field_value (enc : Val → JVal)
    (hph : v ≠ .ph) (hok : dynOkJ f v = true)
    (hag : needed S incl f sel v = true → AgreeL enc (toDict S E cs incl) (subs v)) :
    Src.to_dict_field S E enc cs incl f (.value v) sel out
      = .ok (putJ out (jsonKey cs f.name) (toDictSlot S E cs incl f false sel v)) := by
  unfold Src.to_dict_field
  simp only [metaProtoType, metaOptional, metaWraps, casedName, defaultIsList, clsByField, eqFieldDefault, timestampToJson,
    deltaToJson, callToDict, strOf, b64Of, dumpEnumOf, arrJ, objJ, asIs, dump_float_eq, Res.ok_bind]
  cases Cell.of_dynOkJ f v hph hok with
  | ts us hm | dur us hm => rw [toDictSlot_leaf _ _ _ _ _ _ _ _ rfl]; simp only [toDictPlain, hm, ↓reduceIte]; exact ite_put
  | wrapped v hm hw hp =>
    cases v with
    | ph | list | dict | msg | ts | dur => cases hp
    | _ =>
      rw [toDictSlot_leaf _ _ _ _ _ _ _ _ rfl]
      simp only [toDictPlain, hm, hw, isDatetime, isTimedelta, isNone, ↓reduceIte, Bool.false_eq_true]; exact ite_put
  | wrappedList xs hm hw =>
    rw [toDictSlot]; simp only [hm, hw, isDatetime, isTimedelta, isNone, ↓reduceIte, Bool.false_eq_true]; exact ite_put
  | msgList xs hm hw hr =>
    rw [toDictSlot]
    cases hk : f.kind <;>
      simp only [hm, hw, hr, ↓reduceIte, isDatetime, isTimedelta, clsIsDatetime, clsIsTimedelta, Bool.false_eq_true,
        iterItems, Res.ok_bind, toDictList_eq,
        show xs.map (fun i => enc i) = xs.map (toDict S E cs incl) from List.map_congr_left (hag rfl)] <;>
      exact ite_put
  | msgNone hm hw hr =>
    rw [toDictSlot_leaf _ _ _ _ _ _ _ _ rfl]
    simp only [toDictPlain, hm, hw, hr, isDatetime, isTimedelta, isNone, ↓reduceIte, Bool.false_eq_true]; exact ite_put
  | msg c sl ow unk cur hm hw hr =>
    rw [toDictSlot]
    simp only [hm, hw, hr, ↓reduceIte, Bool.false_eq_true, isDatetime, isTimedelta, isNone, Option.isSome_eq_false_iff.mp hw,
      serializedOnWire, Res.ok_bind, Res.ok_or, Bool.or_assoc]
    by_cases hc : (ow || (incl || (f.optional || (sel || !eqDefault S f.defKind (Val.msg c sl ow unk cur))))) = true
    · have key : ∀ o i p s e : Bool, (o || (i || (p || (s || !e)))) = true → (!(true && e && !(o || i || p || s))) = true := by
        decide
      simp only [hc, ↓reduceIte, hag (key ow incl f.optional sel _ hc) _ (List.mem_singleton.mpr rfl), toDict_msg]; rfl
    · simp only [hc, ↓reduceIte, Bool.false_eq_true]; rfl
  | map ks vs hm hmap hlen hn =>
    have hl := map_loop S E cs incl enc ks vs hn (ks.zip vs) [] rfl
    simp only [List.map_nil, List.nil_append, zip_fst ks vs hlen] at hl
    rw [toDictSlot]
    simp only [hm, hmap, ↓reduceIte, Bool.false_eq_true, dictUnpack, iterItems,
      show (ks.zip vs).map (fun kv => (keyJ kv.1, rawJ kv.2)) = (ks.zip vs).map rawItem from rfl, hl, Res.ok_bind,
      truthyVal, zip_conv enc ks vs hlen, AgreeL.mapVal_eq fun x hx => hag rfl x (List.mem_append_right _ hx), ← toDictMapVals_eq]
    exact ite_put
  | scalarList xs hm hmap hr =>
    rw [toDictSlot]
    simp only [hm, hmap, hr, ↓reduceIte, Bool.false_eq_true, isInt64, iterItems, Res.ok_bind, mapM_pure,
      hint_rep E f hr, isIterable, isStr, Bool.not_true, Bool.not_false, Bool.and_true]
    by_cases hc : (!eqDefault S f.defKind (.list xs) || incl || sel) = true
    · simp only [hc, ↓reduceIte]
      by_cases h64 : int64Types.contains f.ty = true
      · simp only [h64, ↓reduceIte]; rfl
      · by_cases hb : (f.ty == PType.bytes) = true
        · simp only [h64, hb, ↓reduceIte, Bool.false_eq_true]; rfl
        · by_cases he : (f.ty == PType.enum) = true
          · simp only [h64, hb, he, ↓reduceIte, Bool.false_eq_true]; rfl
          · by_cases hf : (f.ty == PType.float || f.ty == PType.double) = true
            · simp only [h64, hb, he, hf, ↓reduceIte, Bool.false_eq_true]; rfl
            · simp only [h64, hb, he, hf, ↓reduceIte, Bool.false_eq_true]; rfl
    · simp only [hc, ↓reduceIte, Bool.false_eq_true]; rfl
  | scalar v hm hmap hl hrep =>
    unfold repLeafOk isInt64 at hrep
    rw [toDictSlot_leaf _ _ _ _ _ _ _ _ hl, if_neg Bool.false_ne_true]
    simp only [toDictPlain, encScalar, isInt64, hm, hmap, ↓reduceIte, Bool.false_eq_true]
    by_cases hc : (!eqDefault S f.defKind v || incl || sel) = true <;> simp only [hc, ↓reduceIte, Bool.false_eq_true]
    · by_cases h64 : int64Types.contains f.ty = true
      · have hr : f.repeated = false := by simpa only [h64, ↓reduceIte, Bool.or_false, Bool.not_eq_true'] using hrep
        simp only [h64, hr, ↓reduceIte, Bool.false_eq_true]
        cases v with
        | none => cases incl <;> rfl
        | _ => rfl
      · by_cases hb : (f.ty == PType.bytes) = true
        · have hr : f.repeated = false := by
            simpa only [h64, hb, ↓reduceIte, Bool.false_eq_true, Bool.or_false, Bool.not_eq_true'] using hrep
          simp only [h64, hb, hr, ↓reduceIte, Bool.false_eq_true]
          cases v with
          | none => cases incl <;> rfl
          | _ => rfl
        · by_cases he : (f.ty == PType.enum) = true
          · by_cases hr : f.repeated = true
            · -- "transparently upgrade single value to repeated": only a str is iterable among the leaves left
              simp only [h64, hb, he, hr, ↓reduceIte, Bool.false_eq_true, Bool.not_true, Bool.false_or, Bool.not_eq_true'] at hrep
              simp only [h64, hb, he, hr, ↓reduceIte, Bool.false_eq_true, hint_rep E f hr, Res.ok_bind]
              cases v with
              | ph | list | dict | msg => cases hl
              | byt b => cases hrep
              | _ => rfl
            · by_cases ho : f.optional = true
              · simp only [h64, hb, he, hr, ho, ↓reduceIte, Bool.false_eq_true, hint_opt E f ho, Res.ok_bind]
                cases v with
                | none => cases incl <;> rfl
                | _ => rfl
              · simp only [h64, hb, he, hr, ho, ↓reduceIte, Bool.false_eq_true,
                  hint_cls E f (by simpa using hr) (by simpa using ho), Res.ok_bind]
                cases v with
                | none => cases incl <;> rfl
                | _ => rfl
          · by_cases hf : (f.ty == PType.float || f.ty == PType.double) = true
            · have hr : f.repeated = false := by
                simpa only [h64, hb, he, hf, ↓reduceIte, Bool.false_eq_true, Bool.or_false, Bool.not_eq_true'] using hrep
              simp only [h64, hb, he, hf, hr, ↓reduceIte, Bool.false_eq_true]
              rfl
            · simp only [h64, hb, he, hf, ↓reduceIte, Bool.false_eq_true]
              rfl
    · rfl

/-- The guard for a slot that reads as the default.  The source goes on with
    `self._get_field_default(field_name)` exactly as with any other value; the model has a separate
    function `toDictDefault`, which differs from that in two places, both excluded here:
    * `repeated` on a map field (no such descriptor exists): `{**[]}` is a TypeError, the model says `raw`;
    * the default of a plain singular sub-message field is a fresh instance: with
      `include_default_values=True` the source expands ITS defaults recursively, the model does not
      ("not modelled", `raw ph`) — so `incl = false` is required there, and that the fresh instance
      compares equal to the default and has an empty dict (both follow from the schema guards:
      `defaultOkJ_of_schema`). -/
def DefaultOkJ (S : Schema) (E : Enums) (cs : KeyCase) (incl : Bool) (f : FieldD) : Prop :=
  (f.repeated && f.ty == .map) = false ∧
  ∀ c, f.defKind = .msg c →
    incl = false ∧ eqDefault S (.msg c) (fresh S c) = true ∧ toDict S E cs false (fresh S c) = .obj [] []

theorem dynOkJ_default (h : (f.repeated && f.ty == .map) = false) :
    dynOkJ f (defaultOf S f) = true := by
  unfold defaultOf
  rcases defKind_cases f with ⟨hr, hk⟩ | ⟨hr, ht, hk⟩ | ⟨hr, ht, ho, hk⟩ | ⟨hr, ht, ho, hw, hk⟩ | ⟨hr, ht, htm, ho, hw, hk⟩
  · rw [hk]; simp_all [defaultOfKind, dynOkJ]
  · rw [hk]; simp_all [defaultOfKind, dynOkJ]
  · rw [hk]; simp_all [defaultOfKind, dynOkJ, leafOkJ]
  · rw [hk]; cases hkind : f.kind <;> simp_all [msgKindDef, defaultOfKind, dynOkJ, leafOkJ, fresh]
  · -- the default of a singular scalar field is a leaf, and every leaf is allowed there
    have hl : ∀ a b, leafOkJ f a b = true := fun a b => by simp [leafOkJ, ht, htm, hr]
    rw [hk]
    cases f.ty <;> exact hl _ _

theorem rawJ_nil : rawJ (.list []) = .arr [] := by rw [rawJ, rawJList]

theorem toDictSlot_default
    (hd : DefaultOkJ S E cs incl f) :
    toDictSlot S E cs incl f false sel (defaultOf S f) = toDictDefault S E f sel incl := by
  obtain ⟨hrm, hmsg⟩ := hd
  unfold defaultOf toDictDefault
  rcases defKind_cases f with ⟨hr, hk⟩ | ⟨hr, ht, hk⟩ | ⟨hr, ht, ho, hk⟩ | ⟨hr, ht, ho, hw, hk⟩ | ⟨hr, ht, htm, ho, hw, hk⟩
  · rw [hk]
    simp only [defaultOfKind]
    rw [toDictSlot]
    have hmap : (f.ty == PType.map) = false := by simpa [hr] using hrm
    simp only [hr, hmap, hk, Bool.false_eq_true, if_false, if_true, rawJ_nil, eqDefault, List.isEmpty_nil, Bool.not_true,
      Bool.false_or, Bool.and_true, beq_self_eq_true, List.map_nil]
    by_cases hm : (f.ty == PType.message) = true
    · simp only [hm, if_true]
      by_cases hw : f.wraps.isSome = true
      · simp [hw]
      · have : toDictList S E cs incl [] = [] := by rw [toDictList]
        cases hkind : f.kind <;> simp [hw, this]
    · simp only [hm, if_false, Bool.false_eq_true, ite_self]
  · rw [hk]
    simp only [defaultOfKind]
    rw [toDictSlot]
    have : toDictMapVals S E cs incl [] = [] := by rw [toDictMapVals]
    simp [ht, this]
  · rw [hk]
    simp only [defaultOfKind]
    rw [toDictSlot_leaf _ _ _ _ _ _ _ _ rfl]; rfl
  · rw [hk]
    cases hkind : f.kind with
    | timestamp => simp only [msgKindDef, defaultOfKind]; rw [toDictSlot_leaf _ _ _ _ _ _ _ _ rfl]; rfl
    | duration => simp only [msgKindDef, defaultOfKind]; rw [toDictSlot_leaf _ _ _ _ _ _ _ _ rfl]; rfl
    | user c =>
      obtain ⟨hi, he, hf⟩ := hmsg c (by rw [hk, hkind]; rfl)
      subst hi
      simp only [msgKindDef, defaultOfKind]
      have hfr : fresh S c = .msg c ((fieldsOf S c).map fun f => if f.optional then Val.none else Val.ph)
          false [] (List.replicate (groupsOf S c) Option.none) := rfl
      have he' := he
      rw [hfr] at he' hf ⊢
      rw [toDictSlot]
      rw [toDict_msg] at hf
      simp only [ht, hw, hr, ho, hk, hkind, msgKindDef, he', hf, beq_self_eq_true, Option.isNone_none, Bool.not_false,
        Bool.and_self, if_true, Bool.false_eq_true, if_false, Bool.false_or, Bool.not_true, Bool.or_false]
  · rw [hk]
    cases f.ty <;> (rw [toDictSlot_leaf _ _ _ _ _ _ _ _ rfl]; rfl)

theorem toDictSlot_hid :
    toDictSlot S E cs incl f true sel v = toDictSlot S E cs incl f false sel .ph := by
  rw [toDictSlot_ph, toDictSlot_hidden]

/-- `hid` or PLACEHOLDER: the slot reads as the field's default -/
def readsDefault (hid : Bool) : Val → Bool
  | .ph => true
  | _ => hid

/-- One iteration of a per-field loop that fills a dict (`to_dict`, `to_pydict`): the translated `body` against the
    model's answer for the slot (`slot`; what it answers for PLACEHOLDER is its answer for every slot that reads as the
    field's default), and `kvs`, the model's items along the slots, given by its unfolding over `slot`.  What a loop has
    of its own is `value` — the iteration on an attribute value inside its guard `Ok` — and `default`. -/
structure Tie (S : Schema) (cs : KeyCase) where
  body : FieldD → Got → Bool → JDict → Res JDict
  slot : FieldD → Bool → Bool → Val → R (Option JVal)
  kvs : List FieldD → List (Option Nat) → Nat → List Val → R (List (JKey × JVal))
  Ok : FieldD → Bool → Val → Prop
  DefOk : FieldD → Bool → Prop
  body_got : ∀ f g sel out, body f g sel out
    = body f (.value (match g with | Got.attrError => getFieldDefault S f | Got.value v => v)) sel out
  value : ∀ f sel v out, v ≠ .ph → Ok f sel v →
    body f (.value v) sel out = (ofR (slot f false sel v)).bind fun o => .ok (putJ out (jsonKey cs f.name) o)
  default : ∀ f sel out, DefOk f sel →
    body f (.value (defaultOf S f)) sel out = (ofR (slot f false sel .ph)).bind fun o => .ok (putJ out (jsonKey cs f.name) o)
  slot_hid : ∀ f sel v, slot f true sel v = slot f false sel .ph
  kvs_nil : ∀ fs cur idx, kvs fs cur idx [] = .ok []
  kvs_cons : ∀ fs cur idx v vs, kvs fs cur idx (v :: vs) = match fs[idx]? with
    | Option.none => .ok []
    | some f => (slot f (hidden f idx cur) (selectedInGroup f idx cur) v).bind fun r =>
        (kvs fs cur (idx + 1) vs).bind fun rest => .ok (match r with
          | some j => (jsonKey cs f.name, j) :: rest
          | Option.none => rest)

/-- the iteration on a raw slot: a hidden member and PLACEHOLDER read as the default, anything else is the value -/
theorem Tie.field_eq {S : Schema} {cs : KeyCase} (T : Tie S cs) (f : FieldD) (hid sel : Bool) (v : Val) (out : JDict)
    (hok : readsDefault hid v = false → T.Ok f sel v) (hd : readsDefault hid v = true → T.DefOk f sel) :
    T.body f (getattrField S f hid v) sel out
      = (ofR (T.slot f hid sel v)).bind fun o => .ok (putJ out (jsonKey cs f.name) o) := by
  cases hid with
  | true => rw [T.body_got, T.slot_hid]; exact T.default f sel out (hd (by cases v <;> rfl))
  | false =>
    cases v with
    | ph => rw [T.body_got]; exact T.default f sel out (hd rfl)
    | _ => exact T.value f sel _ out (fun h => nomatch h) (hok rfl)

/-- the iteration of `to_dict` with a recursion parameter `enc` that is the model's `toDict` wherever the body reaches it -/
def encTie (S : Schema) (E : Enums) (cs : KeyCase) (incl : Bool) (enc : Val → JVal) : Tie S cs where
  body f g sel out := Src.to_dict_field S E enc cs incl f g sel out
  slot f hid sel v := .ok (toDictSlot S E cs incl f hid sel v)
  kvs fs cur idx vs := .ok (toDictKVs S E cs incl fs cur idx vs)
  Ok f sel v := dynOkJ f v = true ∧
    (needed S incl f sel v = true → AgreeL enc (toDict S E cs incl) (SrcTieJsonMsg.subs v))
  DefOk f sel := DefaultOkJ S E cs incl f ∧
    (needed S incl f sel (defaultOf S f) = true → AgreeL enc (toDict S E cs incl) (SrcTieJsonMsg.subs (defaultOf S f)))
  body_got f g sel out := by cases g <;> rfl
  value f sel v out hph h := field_value S E cs incl f sel v out enc hph h.1 h.2
  default f sel out h := by
    rw [field_value S E cs incl f sel _ out enc (defaultOf_ne_ph S f) (dynOkJ_default S f h.1.1) h.2,
      toDictSlot_default S E cs incl f sel h.1, toDictSlot_ph]
    rfl
  slot_hid f sel v := congrArg Except.ok (toDictSlot_hid S E cs incl f sel v)
  kvs_nil fs cur idx := by rw [toDictKVs]
  kvs_cons fs cur idx v vs := by
    rw [toDictKVs]
    cases fs[idx]? with
    | none => rfl
    | some f => cases toDictSlot S E cs incl f (hidden f idx cur) (selectedInGroup f idx cur) v <;> rfl

theorem to_dict_field_eq (hid sel : Bool) (v : Val)
    (out : JDict) (hok : readsDefault hid v = false → dynOkJ f v = true)
    (hd : readsDefault hid v = true → DefaultOkJ S E cs incl f) :
    Src.to_dict_field S E (toDict S E cs incl) cs incl f (getattrField S f hid v) sel out
      = .ok (putJ out (jsonKey cs f.name) (toDictSlot S E cs incl f hid sel v)) :=
  (encTie S E cs incl (toDict S E cs incl)).field_eq f hid sel v out
    (fun h => ⟨hok h, fun _ => agreeL_self _ _⟩) (fun h => ⟨hd h, fun _ => agreeL_self _ _⟩)

theorem putJ_fresh (out : JDict) (k : JKey) (r : Option JVal) (h : k ∉ out.map (·.1)) :
    putJ out k r = out ++ r.toList.map fun j => (k, j) := by
  cases r with
  | none => simp
  | some j => simp [setItem_fresh out _ j h]

theorem fresh_slot_none (hj : fieldJsonOk f = true) (hid : Bool) :
    toDictSlot S E cs false f hid false (if f.optional then Val.none else Val.ph) = Option.none := by
  have hj := fj_of f hj
  have hdef := toDictDefault_none S E f hj
  by_cases ho : f.optional = true
  · rw [if_pos ho]
    cases hid with
    | true => rw [toDictSlot_leaf _ _ _ _ _ _ _ _ rfl]; exact hdef
    | false =>
      obtain ⟨hr, hmap⟩ := hj.opt_single ho
      exact toDictSlot_none S E cs f hr hmap (by rw [ho]; rfl)
  · rw [if_neg ho, toDictSlot_ph]; exact hdef

/-- a fresh instance has no items where the model leaves out each of its slots -/
theorem Tie.kvs_fresh {S : Schema} {cs : KeyCase} (T : Tie S cs) (n : Nat) (fs : List FieldD)
    (h : ∀ f ∈ fs, ∀ hid, T.slot f hid false (if f.optional then Val.none else Val.ph) = .ok Option.none) :
    ∀ (suf pre : List FieldD), fs = pre ++ suf →
      T.kvs fs (List.replicate n Option.none) pre.length (suf.map fun f => if f.optional then Val.none else Val.ph) = .ok []
  | [], pre, _ => by rw [List.map_nil, T.kvs_nil]
  | f :: suf, pre, hfs => by
    have hf : fs[pre.length]? = some f := by rw [hfs]; simp
    have := Tie.kvs_fresh T n fs h suf (pre ++ [f]) (by rw [hfs]; simp)
    simp only [List.length_append, List.length_cons, List.length_nil, Nat.zero_add] at this
    rw [List.map_cons, T.kvs_cons, hf]
    simp only [selected_none, h f (by rw [hfs]; simp), this]
    rfl

theorem toDict_fresh (c : Nat)
    (hj : ∀ f ∈ fieldsOf S c, fieldJsonOk f = true) : toDict S E cs false (fresh S c) = .obj [] [] := by
  have := (encTie S E cs false (toDict S E cs false)).kvs_fresh (groupsOf S c) (fieldsOf S c)
    (fun f hf hid => congrArg Except.ok (fresh_slot_none S E cs f (hj f hf) hid)) (fieldsOf S c) [] rfl
  injection this with this
  rw [fresh, toDict_msg]; exact congrArg mkObj this

/-- the per-class part of `jsonOk` -/
def SchemaJsonOk (S : Schema) : Prop := ∀ c, ∀ f ∈ fieldsOf S c, fieldJsonOk f = true

theorem wfSchemaOpt_of (h : SchemaJsonOk S) : WfSchemaOpt S := fun c f hf ho =>
  have ⟨hr, hm⟩ := (fj_of f (h c f hf)).opt_single ho
  ⟨hr, by simpa using hm⟩

theorem defaultOkJ_of_schema (hS : SchemaJsonOk S)
    (hf : fieldJsonOk f = true) : DefaultOkJ S E cs false f := by
  refine ⟨?_, fun c _ => ⟨rfl, eqDefault_fresh S c (wfSchemaOpt_of S hS), toDict_fresh S E cs c (hS c)⟩⟩
  cases hm : f.ty == PType.map
  · exact Bool.and_false _
  · rw [(fj_of f hf).map_rep hm]; rfl

/-- the keys of a dict value are pairwise distinct (what a Python dict is; the typing judgement of
    the model does not say it) -/
def keysDistinct : Val → Bool
  | .dict ks vs => decide (((ks.zip vs).map fun p => keyJ p.1).Nodup)
  | _ => true

/-- a leaf that is neither None nor a datetime / timedelta is typed in a message field only through a wrapper -/
def plainLeaf : Val → Bool
  | .int _ | .bool _ | .f32 _ | .f64 _ | .str _ | .byt _ => true
  | _ => false

theorem leafOk_wraps (h : leafOk f v = true ∧ (f.ty == PType.message) = true)
    (hp : plainLeaf v = true) : f.wraps.isSome = true := by
  rcases leafOk_cases f v h.1 with ⟨_, w, hw, _⟩ | ⟨_, _, ⟨_, us, rfl⟩ | ⟨_, us, rfl⟩⟩ | ⟨hm, _⟩
  · rw [hw]; rfl
  · cases hp
  · cases hp
  · rw [h.2] at hm; cases hm

theorem leaf_guard (hid sel : Bool) (v : Val) (hl : isLeafVal v = true) (hn : v ≠ .none)
    (ht : slotOk' S f hid sel v = true)
    (msgOk : Bool) (isByt : Bool) (hmsg : (leafOk f v = true ∧ (f.ty == PType.message) = true) → msgOk = true)
    : leafOkJ f msgOk isByt = true := by
  rw [slotOk_leaf S f hid sel v hl hn] at ht
  simp only [Bool.and_eq_true, Bool.not_eq_true'] at ht
  obtain ⟨⟨_, hr⟩, hlf⟩ := ht
  unfold leafOkJ
  by_cases hm : (f.ty == PType.message) = true
  · rw [if_pos hm]; exact hmsg ⟨hlf, hm⟩
  · rw [if_neg hm]
    unfold leafOk at hlf
    rw [if_neg hm] at hlf
    simp only [Bool.and_eq_true] at hlf
    simp [hlf.1, hr]

theorem dynOkJ_of_slotOk' (hid sel : Bool) (v : Val)
    (ht : slotOk' S f hid sel v = true) (hk : keysDistinct v = true) : dynOkJ f v = true := by
  cases v with
  | ph => rfl
  | list xs =>
    rw [slotOk'] at ht
    simp only [Bool.and_eq_true] at ht
    simp only [dynOkJ, Bool.and_eq_true]
    exact ⟨ht.1.1.2, ht.1.2⟩
  | dict ks vs =>
    rw [slotOk'] at ht
    simp only [Bool.and_eq_true] at ht
    simp only [dynOkJ, Bool.and_eq_true]
    exact ⟨⟨ht.1.1.1.2, ht.1.1.2⟩, hk⟩
  | msg c sl ow unk cur =>
    rw [slotOk'] at ht
    simp only [Bool.and_eq_true] at ht
    simp only [dynOkJ, Bool.and_eq_true]
    obtain ⟨⟨⟨⟨⟨⟨⟨⟨_, h1⟩, h2⟩, h3⟩, _⟩, _⟩, _⟩, _⟩, _⟩ := ht
    exact ⟨⟨h1, h2⟩, h3⟩
  | none =>
    rw [slotOk'] at ht
    simp only [Bool.and_eq_true] at ht
    simp only [dynOkJ, leafOkJ]
    by_cases hm : (f.ty == PType.message) = true <;> simp_all
  | ts us => exact leaf_guard S f hid sel _ rfl (by simp) ht _ _ (fun _ => rfl)
  | dur us => exact leaf_guard S f hid sel _ rfl (by simp) ht _ _ (fun _ => rfl)
  | _ => exact leaf_guard S f hid sel _ rfl (by simp) ht _ _ (fun h => leafOk_wraps f _ h rfl)

/-- `for field_name, meta in self._betterproto.meta_by_field_name.items(): <translated body>`
    (hand-written fold; the body is the translated `Src.to_dict_field`) -/
def srcLoop (S : Schema) (E : Enums) (cs : KeyCase) (incl : Bool) (fs : List FieldD) (cur : List (Option Nat)) :
    Nat → List Val → JDict → Res JDict
  | _, [], out => .ok out
  | idx, v :: vs, out =>
    match fs[idx]? with
    | Option.none => .ok out
    | some f =>
      (Src.to_dict_field S E (toDict S E cs incl) cs incl f (getattrField S f (hidden f idx cur) v)
        (selectedInGroup f idx cur) out).bind fun out' => srcLoop S E cs incl fs cur (idx + 1) vs out'

/-- the guards of the tie, slot by slot -/
def SlotsTieOk (S : Schema) (E : Enums) (cs : KeyCase) (incl : Bool) (fs : List FieldD) (cur : List (Option Nat)) :
    Nat → List Val → Prop
  | _, [] => True
  | idx, v :: vs =>
    (∀ f, fs[idx]? = some f →
      (readsDefault (hidden f idx cur) v = false → dynOkJ f v = true) ∧
      (readsDefault (hidden f idx cur) v = true → DefaultOkJ S E cs incl f)) ∧
    SlotsTieOk S E cs incl fs cur (idx + 1) vs

/-- distinct fields have distinct keys (C04's `namesOk` implies it) -/
def KeysInj (cs : KeyCase) (fs : List FieldD) : Prop :=
  ∀ (i j : Nat) (fi fj : FieldD), fs[i]? = some fi → fs[j]? = some fj → jsonKey cs fi.name = jsonKey cs fj.name → i = j

theorem keysInj_of_namesOk (cs : KeyCase) (fs : List FieldD) (h : namesOk cs fs = true) : KeysInj cs fs := by
  intro i j fi fj hi hj hk
  have a := namesOk_lookup cs fs h i fi hi
  have b := namesOk_lookup cs fs h j fj hj
  rw [hk, b] at a
  injection a with a
  injection a with a
  exact (Prod.mk.inj a).1.symm

/-- A per-field loop `L` around `T.body` and the guard `G` along the slots, each given by its unfolding (`L` may be read
    under `G`): the hand-written folds `srcLoop` / `srcLoopP` and the generated loop of the whole method are instances. -/
structure Loop {S : Schema} {cs : KeyCase} (T : Tie S cs) (fs : List FieldD) (cur : List (Option Nat)) where
  L : Nat → List Val → JDict → Res JDict
  G : Nat → List Val → Prop
  L_nil : ∀ idx out, G idx [] → L idx [] out = .ok out
  L_cons : ∀ idx v vs out, G idx (v :: vs) → L idx (v :: vs) out = match fs[idx]? with
    | Option.none => .ok out
    | some f => (T.body f (getattrField S f (hidden f idx cur) v) (selectedInGroup f idx cur) out).bind fun out' =>
        L (idx + 1) vs out'
  G_cons : ∀ idx v vs, G idx (v :: vs) →
    (∀ f, fs[idx]? = some f →
      (readsDefault (hidden f idx cur) v = false → T.Ok f (selectedInGroup f idx cur) v) ∧
      (readsDefault (hidden f idx cur) v = true → T.DefOk f (selectedInGroup f idx cur))) ∧ G (idx + 1) vs

/-- the loop appends the model's items, provided no key of a field still to come is in the dict already -/
theorem Loop.eq {S : Schema} {cs : KeyCase} {T : Tie S cs} {fs : List FieldD} {cur : List (Option Nat)}
    (P : Loop T fs cur) (hinj : KeysInj cs fs) :
    ∀ (vs : List Val) (idx : Nat) (out : JDict), P.G idx vs →
      (∀ j fj, idx ≤ j → fs[j]? = some fj → jsonKey cs fj.name ∉ out.map (·.1)) →
      P.L idx vs out = (ofR (T.kvs fs cur idx vs)).bind fun kvs => .ok (out ++ kvs)
  | [], idx, out, hok, _ => by rw [P.L_nil _ _ hok, T.kvs_nil]; simp [Res.ofR_ok, Res.ok_bind]
  | v :: vs, idx, out, hok, hout => by
    rw [P.L_cons _ _ _ _ hok, T.kvs_cons]
    cases hf : fs[idx]? with
    | none => simp [Res.ofR_ok, Res.ok_bind]
    | some f =>
      obtain ⟨h1, h2⟩ := P.G_cons idx v vs hok
      obtain ⟨hv, hd⟩ := h1 f hf
      simp only
      rw [T.field_eq f _ _ v out hv hd]
      cases hs : T.slot f (hidden f idx cur) (selectedInGroup f idx cur) v with
      | error e => rfl
      | ok r =>
        have hput := putJ_fresh out (jsonKey cs f.name) r (hout idx f (Nat.le_refl _) hf)
        have hout' : ∀ j fj, idx + 1 ≤ j → fs[j]? = some fj →
            jsonKey cs fj.name ∉ (putJ out (jsonKey cs f.name) r).map (·.1) := by
          intro j fj hj hfj hmem
          rw [hput, List.map_append, List.mem_append] at hmem
          rcases hmem with hmem | hmem
          · exact hout j fj (by omega) hfj hmem
          · have : jsonKey cs fj.name = jsonKey cs f.name := by
              cases r <;> simp at hmem; exact hmem
            have := hinj j idx fj f hfj hf this
            omega
        simp only [Res.ofR_ok, Res.ok_bind]
        rw [Loop.eq P hinj vs (idx + 1) _ h2 hout', hput]
        cases T.kvs fs cur (idx + 1) vs with
        | error e => rfl
        | ok rest => cases r <;> simp [Except.bind, Res.ofR_ok, Res.ok_bind]

def srcLoop_loop (S : Schema) (E : Enums) (cs : KeyCase) (incl : Bool) (fs : List FieldD) (cur : List (Option Nat)) :
    Loop (encTie S E cs incl (toDict S E cs incl)) fs cur where
  L := srcLoop S E cs incl fs cur
  G := SlotsTieOk S E cs incl fs cur
  L_nil idx out _ := by rw [srcLoop]
  L_cons idx v vs out _ := by rw [srcLoop]; rfl
  G_cons idx v vs h := ⟨fun f hf =>
    ⟨fun hr => ⟨(h.1 f hf).1 hr, fun _ => agreeL_self _ _⟩, fun hr => ⟨(h.1 f hf).2 hr, fun _ => agreeL_self _ _⟩⟩, h.2⟩

theorem srcLoop_eq (fs : List FieldD) (cur : List (Option Nat))
    (hinj : KeysInj cs fs) (vs : List Val) (idx : Nat) (out : JDict) (h : SlotsTieOk S E cs incl fs cur idx vs)
    (hout : ∀ j fj, idx ≤ j → fs[j]? = some fj → jsonKey cs fj.name ∉ out.map (·.1)) :
    srcLoop S E cs incl fs cur idx vs out = .ok (out ++ toDictKVs S E cs incl fs cur idx vs) :=
  (srcLoop_loop S E cs incl fs cur).eq hinj vs idx out h hout

end tie

end Bp.SrcTieJson
