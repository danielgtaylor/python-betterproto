import BpProofs.Gen.SrcObjObs
import BpProofs.EqSound
/-
  THE TIE BETWEEN THE TRANSLATED OBJECT METHODS AND THE HAND-WRITTEN MODEL, second group — the
  observers `Message.__bool__`, `serialized_on_wire`, `Message.is_set`, `Message.__eq__`
  (BpProofs/Gen/SrcObjObs.lean, regenerated from the Python AST on every run) against
  `slotsEqFresh` (BpModel/Value.lean), `isSet` (BpModel/Obj.lean), `slotsEq` / `msgEq`
  (BpModel/Eq.lean).  That these methods are OBSERVERS is visible in the type of their
  translation: no state comes back (a write to `self` / `other` makes the translator refuse).

  Guards: `__eq__` — both instances have one raw slot per field (`FullVal`); `is_set` — the name
  is a field.  `__bool__` / `serialized_on_wire` need none.  (The tie of `is_set` needs no lemma of its
  own: its proof stands under `C14.src_is_set`, Props/C14Src.lean.)
-/
namespace Bp.SrcTieObjObs
open Bp Bp.Py Bp.EqS

section Tie
-- every lemma below whose statement mentions `S` takes it first; a theorem that binds `S` itself is as it reads
variable (S : Schema)

@[simp] theorem res_bind_ok {α β} (a : α) (f : α → Res β) : (Res.ok a).bind f = f a := rfl
@[simp] theorem res_bind_raise {α β} (e : PyErr) (f : α → Res β) : (Res.raise e : Res α).bind f = .raise e := rfl

theorem isPlaceholder_iff (v : Val) : isPlaceholder v = true ↔ v = .ph := by
  cases v <;> simp [isPlaceholder]

theorem isPlaceholder_ne (v : Val) (h : v ≠ .ph) : isPlaceholder v = false :=
  Bool.eq_false_iff.mpr fun hp => h ((isPlaceholder_iff v).1 hp)


theorem any1_eq (fs : List FieldD) (st : MState) : ∀ (fs' : List FieldD) (j : Nat), fs.drop j = fs' →
    Src.msg_bool.any1 S fs st (List.range' j fs'.length) = .ok (!slotsEqFresh S fs' (st.slots.drop j))
  | [], j, _ => by simp [Src.msg_bool.any1, slotsEqFresh_nil_left]
  | f :: fs', j, h => by
    obtain ⟨hfj, hfs⟩ := drop_cons fs j f fs' h
    simp only [List.length_cons, List.range'_succ]
    rw [Src.msg_bool.any1, any1_eq fs st fs' (j + 1) hfs]
    simp only [eqFieldDefaultOf, hfj, rawGet, res_bind_ok]
    cases hs : st.slots.drop j with
    | nil =>
      -- past the end of the slots `rawGet` reads PLACEHOLDER
      rw [List.drop_eq_nil_iff] at hs
      have hg : st.slots.getD j .ph = .ph := by simp [List.getD, List.getElem?_eq_none hs]
      have hs' : st.slots.drop (j + 1) = [] := List.drop_eq_nil_iff.mpr (by omega)
      simp only [hg, hs', slotsEqFresh_nil_right, isPlaceholder, Bool.true_or, Bool.not_true, Bool.false_eq_true, if_false]
    | cons v vs =>
      obtain ⟨hv, hvs⟩ := drop_cons st.slots j v vs hs
      simp only [List.getD_eq_getElem?_getD, hv, Option.getD_some, hvs, slotsEqFresh_cons]
      have hd : (isPlaceholder v || eqDefault S f.defKind v) = isDefSlot S f v := by cases v <;> rfl
      rw [hd]
      cases isDefSlot S f v <;> rfl

/-- the negation of `slotsEqFresh` is what PyPreludeDyn's `truthyVal` says of a Message value -/
theorem msg_bool_eq (fs : List FieldD) (st : MState) :
    Src.msg_bool S fs st = .ok (!slotsEqFresh S fs st.slots) := by
  unfold Src.msg_bool fieldNames
  rw [List.range_eq_range', any1_eq S fs st fs 0 rfl]
  rfl

/-- `betterproto.serialized_on_wire(m)` in the model (the driver's `sowObs`): the flag, or some
    field holding a non-default value -/
def sowM (S : Schema) (fs : List FieldD) (st : MState) : Bool := st.onWire || !slotsEqFresh S fs st.slots

theorem serialized_on_wire_eq (fs : List FieldD) (st : MState) :
    Src.serialized_on_wire S fs st = .ok (sowM S fs st) := by
  unfold Src.serialized_on_wire sowM
  rw [msg_bool_eq]
  by_cases h : st.onWire = true
  · simp [getOnWire, h]
  · have h' : st.onWire = false := by simpa using h
    simp [getOnWire, h']

/-- what one iteration decides: go on (the slots compare equal) or return False -/
theorem cont_eq {α : Type} (S : Schema) (ne : Val → Val → Bool) (hne : ∀ a b, ne a b = false → valEq S a b = true)
    (x y : Val) (A B : α) :
    (if ne x y = true then (if equalOrBothNan S x y = true then A else B) else A) = if valEq S x y = true then A else B := by
  simp only [equalOrBothNan]
  cases h : ne x y with
  | true => simp
  | false => simp [hne x y h]

theorem eq_loop (fs : List FieldD) (ne : Val → Val → Bool) (sameType : Bool) (a b : MState)
    (hne : ∀ x y, ne x y = false → valEq S x y = true) : ∀ (fs' : List FieldD) (as bs : List Val) (j : Nat),
    fs.drop j = fs' → a.slots.drop j = as → b.slots.drop j = bs → as.length = fs'.length → bs.length = fs'.length →
    Src.msg_eq.loop1 S fs ne sameType a b (List.range' j fs'.length) ()
      = .ok (if slotsEq S fs' as bs = true then Ctl.next () else Ctl.ret (EqRes.bool false))
  | [], as, bs, j, _, _, _, _, _ => by
    simp [Src.msg_eq.loop1, slotsEq_nil_fields]
  | f :: fs', [], _, j, _, _, _, ha, _ => by simp at ha
  | f :: fs', _ :: _, [], j, _, _, _, _, hb => by simp at hb
  | f :: fs', x :: as, y :: bs, j, hf, hsa, hsb, ha, hb => by
    obtain ⟨hfj, hfs⟩ := drop_cons fs j f fs' hf
    obtain ⟨hx, hxs⟩ := drop_cons a.slots j x as hsa
    obtain ⟨hy, hys⟩ := drop_cons b.slots j y bs hsb
    have hxa : a.slots.getD j .ph = x := by rw [List.getD_eq_getElem?_getD, hx]; rfl
    have hyb : b.slots.getD j .ph = y := by rw [List.getD_eq_getElem?_getD, hy]; rfl
    have ih := eq_loop fs ne sameType a b hne fs' as bs (j + 1) hfs hxs hys (by simpa using ha) (by simpa using hb)
    simp only [List.length_cons, List.range'_succ]
    rw [Src.msg_eq.loop1]
    simp only [rawGet, hxa, hyb, getFieldDefault, hfj, res_bind_ok]
    rw [slotsEq_cons, ih]
    by_cases hx : x = .ph
    · subst hx
      by_cases hy : y = .ph
      · subst hy
        rfl
      · simp only [isPlaceholder, if_true, Bool.false_eq_true, if_false]
        rw [cont_eq S ne hne, slotEqB_ph_left S f y hy]
        unfold defaultOf
        rw [valEq_default_left]
        cases defEq S f.defKind y <;> rfl
    · have hx' := isPlaceholder_ne x hx
      simp only [hx', Bool.false_eq_true, if_false]
      by_cases hy : y = .ph
      · subst hy
        simp only [isPlaceholder, if_true, res_bind_ok]
        rw [cont_eq S ne hne, slotEqB_ph_right S f x hx]
        unfold defaultOf
        rw [valEq_default_right]
        cases defEq S f.defKind x <;> rfl
      · have hy' := isPlaceholder_ne y hy
        simp only [hy', Bool.false_eq_true, if_false, res_bind_ok]
        rw [cont_eq S ne hne, slotEqB_set S f x y hx hy]
        cases valEq S x y <;> rfl

/-- `ne` is the oracle for Python's `!=` on two field values: all that is assumed of it is that values it does not
    report unequal are equal in the sense of `_equal_or_both_nan`. -/
theorem msg_eq_eq (fs : List FieldD) (ne : Val → Val → Bool) (sameType : Bool) (a b : MState)
    (hne : ∀ x y, ne x y = false → valEq S x y = true)
    (ha : a.slots.length = fs.length) (hb : b.slots.length = fs.length) :
    Src.msg_eq S fs ne sameType a b
      = .ok (if sameType then EqRes.bool (slotsEq S fs a.slots b.slots) else EqRes.notImplemented) := by
  unfold Src.msg_eq fieldNames
  cases sameType with
  | false => rfl
  | true =>
    simp only [Bool.not_true, Bool.false_eq_true, if_false, if_true]
    rw [List.range_eq_range', eq_loop S fs ne true a b hne fs a.slots b.slots 0 rfl rfl rfl ha hb]
    cases slotsEq S fs a.slots b.slots <;> rfl

end Tie

end Bp.SrcTieObjObs
