import BpModel.JsonSpec
import BpModel.PyDict
import BpProofs.CasingFast
/-
  A second way to EVALUATE the schema guards of the JSON theorems (`namesOk`, `jsonOk`, `fieldJsonOk5`, `jsonOk5`,
  `pyDictOk`).  All their weight is in the casing of the field names; here that goes through `Casing.Fast`, and `namesOk`
  is replaced by what it says of the names (`namesOk_fast`): they differ, and every emitted key leads back to its name.
  Use: `rw [jsonOk_fast]; decide +kernel`.  `namesOk_fast` is also how the proofs read `namesOk` (`namesOk_lookup`,
  BpProofs/Json.lean); nothing else reasons about `Fast`.
-/
namespace Bp
open Casing

namespace Fast

/-- the characters of `jsonKey cs name` -/
def keyChars (cs : KeyCase) (n : List Char) : List Char :=
  rstripU (match cs with
    | .camel => Casing.Fast.camel n
    | .snake => Casing.Fast.snake n)

def fieldOfJKey (fs : List FieldD) : JKey → R (Option (Nat × FieldD))
  | .str bs => .ok (findName fs (Casing.Fast.safeSnake (bs.map Char.ofNat)) 0)
  | _ => .error .type

def namesOk (cs : KeyCase) (fs : List FieldD) : Bool :=
  decide (fs.map (·.name.toList)).Nodup &&
    fs.all fun f => Casing.Fast.safeSnake (keyChars cs f.name.toList) == f.name.toList

def jsonOk (S : Schema) (E : Enums) (cs : KeyCase) : Bool :=
  S.all (fun d => d.fields.all fieldJsonOk && namesOk cs d.fields) && E.all enumOk

def jsonNameGo : Bool → List Char → List Char
  | _, [] => []
  | cap, c :: s =>
    if c = '_' then jsonNameGo true s
    else (if cap then Casing.Fast.upperC c else c) :: jsonNameGo false s

def fieldJsonOk5 (f : FieldD) : Bool :=
  fieldJsonOk f && (keyChars .camel f.name.toList == jsonNameGo false f.name.toList) &&
  (if f.ty == .map then
     f.mapV == .int32 || f.mapV == .uint32 || f.mapV == .sint32 || f.mapV == .fixed32 || f.mapV == .sfixed32 ||
     f.mapV == .bool || f.mapV == .string || f.mapV == .message
   else match f.wraps with
     | some w => w == .int32 || w == .uint32 || w == .bool || w == .string
     | Option.none => true)

def jsonOk5 (S : Schema) (E : Enums) : Bool :=
  jsonOk S E .camel && S.all (fun d => d.fields.all fieldJsonOk5) && E.all enumOk5

def pyDictOk (S : Schema) (cs : KeyCase) : Bool :=
  jsonOk S [] cs && S.all (fun d => d.fields.all fieldPyOk)

end Fast

theorem jsonKey_fast (cs : KeyCase) (n : String) : jsonKey cs n = .str ((Fast.keyChars cs n.toList).map Char.toNat) := by
  cases cs <;> simp only [jsonKey, Fast.keyChars, keyCamel_fast, keySnake_fast]

theorem fieldOfJKey_fast : fieldOfJKey = Fast.fieldOfJKey := by
  funext fs k; cases k <;> simp only [fieldOfJKey, Fast.fieldOfJKey, fieldOfKey_fast]

/-- `findName` returns the first field of that name, counting from `k` -/
theorem findName_some (n : List Char) : ∀ (fs : List FieldD) (k j : Nat) (g : FieldD), findName fs n k = some (j, g) →
    ∃ i, j = k + i ∧ fs[i]? = some g ∧ g.name.toList = n ∧ ∀ i' < i, ∀ g', fs[i']? = some g' → g'.name.toList ≠ n
  | [], _, _, _, h => by simp [findName] at h
  | f :: fs, k, j, g, h => by
    rw [findName] at h
    by_cases e : f.name.toList = n
    · rw [if_pos e] at h
      obtain ⟨rfl, rfl⟩ : k = j ∧ f = g := by simpa using h
      exact ⟨0, rfl, rfl, e, fun _ hi => absurd hi (Nat.not_lt_zero _)⟩
    · rw [if_neg e] at h
      obtain ⟨i, rfl, hg, hn, hf⟩ := findName_some n fs (k + 1) j g h
      refine ⟨i + 1, by omega, hg, hn, fun i' hi' g' hg' => ?_⟩
      cases i' with
      | zero => obtain rfl : f = g' := by simpa using hg'
                exact e
      | succ i' => exact hf i' (Nat.lt_of_succ_lt_succ hi') g' hg'

theorem findName_nodup : ∀ (fs : List FieldD) (k i : Nat) (f : FieldD), (fs.map (·.name.toList)).Nodup → fs[i]? = some f →
    findName fs f.name.toList k = some (k + i, f)
  | [], _, i, f, _, h => by simp at h
  | g :: fs, k, 0, f, _, h => by
    obtain rfl : g = f := by simpa using h
    simp [findName]
  | g :: fs, k, i + 1, f, hd, h => by
    rw [List.map_cons, List.nodup_cons] at hd
    have hf : f ∈ fs := List.mem_of_getElem? (by simpa using h)
    have hne : g.name.toList ≠ f.name.toList := fun e => hd.1 (e ▸ List.mem_map_of_mem hf)
    rw [findName, if_neg hne, findName_nodup fs (k + 1) i f hd.2 (by simpa using h)]
    simp only [Nat.add_assoc, Nat.add_comm 1 i]

theorem fieldOfJKey_jsonKey (cs : KeyCase) (fs : List FieldD) (f : FieldD) : fieldOfJKey fs (jsonKey cs f.name)
    = .ok (findName fs (Casing.Fast.safeSnake (Fast.keyChars cs f.name.toList)) 0) := by
  have : (Char.ofNat ∘ Char.toNat) = id := funext fun c => Char.ofNat_toNat c
  rw [jsonKey_fast, fieldOfJKey_fast, Fast.fieldOfJKey, List.map_map, this, List.map_id]

/-- what `namesOk` says of the names: they differ, and `from_dict` leads every emitted key back to its name -/
theorem namesOk_fast : namesOk = Fast.namesOk := by
  funext cs fs
  have hkey := fieldOfJKey_jsonKey cs fs
  rw [Bool.eq_iff_iff, namesOk, Fast.namesOk, List.all_eq_true, Bool.and_eq_true, List.all_eq_true, decide_eq_true_eq]
  simp only [hkey, beq_iff_eq]
  constructor
  · intro h
    have hall : ∀ (i : Nat) (f : FieldD), fs[i]? = some f →
        Casing.Fast.safeSnake (Fast.keyChars cs f.name.toList) = f.name.toList ∧
        ∀ i' < i, ∀ g' : FieldD, fs[i']? = some g' → g'.name.toList ≠ f.name.toList := fun i f hf => by
      have hlt : i < fs.length := (List.getElem?_eq_some_iff.1 hf).1
      have := h i (List.mem_range.2 hlt)
      cases hfn : findName fs (Casing.Fast.safeSnake (Fast.keyChars cs f.name.toList)) 0 with
      | none => simp only [hf, hfn] at this; cases this
      | some p =>
        obtain ⟨j, g⟩ := p
        simp only [hf, hfn, beq_iff_eq] at this
        subst this
        obtain ⟨i'', e, hg, hn, hfirst⟩ := findName_some _ fs 0 j g hfn
        obtain rfl : j = i'' := by omega
        obtain rfl : f = g := by rw [hf] at hg; exact Option.some.inj hg
        exact ⟨hn.symm, fun i' hi' g' hg' => hn ▸ hfirst i' hi' g' hg'⟩
    refine ⟨?_, fun f hf => ?_⟩
    · rw [List.Nodup, List.pairwise_map, List.pairwise_iff_getElem]
      intro i j hi hj hij e
      exact (hall j fs[j] (List.getElem?_eq_getElem hj)).2 i hij fs[i] (List.getElem?_eq_getElem hi) e
    · obtain ⟨i, hi, rfl⟩ := List.getElem_of_mem hf
      exact (hall i _ (List.getElem?_eq_getElem hi)).1
  · intro ⟨hd, hk⟩ i _
    cases hf : fs[i]? with
    | none => rfl
    | some f =>
      simp only [hk f (List.mem_of_getElem? hf), findName_nodup fs 0 i f hd hf, Nat.zero_add, beq_self_eq_true]

theorem jsonOk_fast : jsonOk = Fast.jsonOk := by funext S E cs; rw [jsonOk, namesOk_fast]; rfl

theorem jsonNameGo_fast : jsonNameGo = Fast.jsonNameGo := by
  funext cap s
  induction s generalizing cap with
  | nil => rfl
  | cons c s ih => simp only [jsonNameGo, Fast.jsonNameGo, ih, upperC_fast]

theorem fieldJsonOk5_fast : fieldJsonOk5 = Fast.fieldJsonOk5 := by
  funext f
  have e : (jsonKey .camel f.name == specKey f.name)
      = (Fast.keyChars .camel f.name.toList == Fast.jsonNameGo false f.name.toList) := by
    rw [jsonKey_fast, specKey, jsonNameGo_fast, Bool.eq_iff_iff]
    simp only [beq_iff_eq, JKey.str.injEq]
    refine ⟨fun h => ?_, fun h => h ▸ rfl⟩
    have := congrArg (List.map Char.ofNat) h
    simpa only [List.map_map, (funext fun c => Char.ofNat_toNat c : Char.ofNat ∘ Char.toNat = id), List.map_id] using this
  rw [fieldJsonOk5, e]; rfl

theorem jsonOk5_fast : jsonOk5 = Fast.jsonOk5 := by funext S E; rw [jsonOk5, jsonOk_fast, fieldJsonOk5_fast]; rfl
theorem pyDictOk_fast : pyDictOk = Fast.pyDictOk := by funext S cs; rw [pyDictOk, jsonOk_fast]; rfl

end Bp
