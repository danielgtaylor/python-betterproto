import BpModel.All
import BpProofs.NestedDefs
import BpProofs.RtScalar
import BpProofs.RtFlat
import BpProofs.RtSub
import BpProofs.RtWrap
/-
  C01, REPEATED wrapper fields (`repeated google.protobuf.Int32Value xs = n;`, which betterproto
  declares as `List[Optional[int]] = message_field(n, wraps=TYPE_INT32)`):

    * `dump` writes one length-delimited record per item, `_serialize_single(number, TYPE_MESSAGE,
      item, wraps=w, serialize_empty=True)`: the payload is `bytes(Wrapper(value=item))`, so an item
      equal to the default of `w` is the record `tag 00` (never the empty string: the `or b"\n\x00"`
      fallback of `dumpItems` is not reached); the empty list writes nothing;
    * `load` appends `_get_wrapper(w)().parse(payload).value` for every record.

  Hence a list of well-typed scalars comes back item by item in the normal form `wrapNorm` of
  BpProofs/RtWrap.lean — itself, except that `-0.0` comes back as `+0.0` (equal under `==`).
  A `None` ITEM is written exactly like the default of `w` and comes back as that default: it is
  outside the domain (see the witness in Props/C01.lean).

  The step of such a slot is not stated on its own: it is the case `many` / `wrapped` of `SlotShape.step`
  (BpProofs/RtMain.lean), `slotStep_many` over `itemRt_wrap`. This file holds the sample schema and the
  records of a default and of a `None` item.
-/
namespace Bp
open Gen

/-! non-vacuity; `None` items -/

/-- class 0: `repeated Int32Value a = 1; repeated StringValue s = 2; repeated FloatValue f = 3` -/
def SWraps : Schema :=
  [ { fields := [{ name := "a", num := 1, ty := .message, wraps := some .int32, repeated := true },
                 { name := "s", num := 2, ty := .message, wraps := some .string, repeated := true },
                 { name := "f", num := 3, ty := .message, wraps := some .float, repeated := true }] } ]

example : WrapsField (SWraps[0]!.fields[0]!) .int32 := ⟨rfl, rfl, rfl, by decide, rfl, rfl, rfl, ⟨0, rfl⟩⟩
example : WrapsField (SWraps[0]!.fields[2]!) .float := ⟨rfl, rfl, rfl, by decide, rfl, rfl, rfl, ⟨0, rfl⟩⟩

/-- an item equal to the wrapped default is the record `tag 00`, never the empty string -/
example : serializeScalar SWraps 1 .message (.int 0) true (some .int32) = .ok [10, 0] := by decide +kernel
/-- … and so is a `None` item -/
example : serializeScalar SWraps 1 .message .none true (some .int32) = .ok [10, 0] := by decide +kernel

end Bp

