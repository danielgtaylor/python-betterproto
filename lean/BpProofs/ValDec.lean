import BpModel.Value
/-
  Decidable equality of `Val`.  `Val` is a nested inductive, for which `deriving DecidableEq` is not
  available.  With the instance a closed equation between values (a concrete round trip, a witness) is
  checked by evaluation in the kernel: `decide +kernel`.  (`JVal`: BpProofs/JsonOneof.lean.)
-/
namespace Bp

mutual
def Val.eqb : Val → Val → Bool
  | .ph, .ph | .none, .none => true
  | .int a, .int b | .ts a, .ts b | .dur a, .dur b => a == b
  | .bool a, .bool b => a == b
  | .f32 a, .f32 b | .f64 a, .f64 b => a == b
  | .str a, .str b | .byt a, .byt b => a == b
  | .list a, .list b => Val.eqbs a b
  | .dict a c, .dict b d => Val.eqbs a b && Val.eqbs c d
  | .msg c s o u g, .msg c' s' o' u' g' => c == c' && Val.eqbs s s' && o == o' && u == u' && g == g'
  | _, _ => false
def Val.eqbs : List Val → List Val → Bool
  | [], [] => true
  | a :: as, b :: bs => Val.eqb a b && Val.eqbs as bs
  | _, _ => false
end

mutual
theorem Val.eqb_iff : ∀ a b : Val, Val.eqb a b = true ↔ a = b
  | .ph, b | .none, b => by cases b <;> simp [Val.eqb]
  | .int _, b | .ts _, b | .dur _, b | .bool _, b | .f32 _, b | .f64 _, b | .str _, b | .byt _, b => by
    cases b <;> simp [Val.eqb]
  | .list a, b => by cases b <;> simp [Val.eqb, Val.eqbs_iff a]
  | .dict a c, b => by cases b <;> simp [Val.eqb, Val.eqbs_iff a, Val.eqbs_iff c]
  | .msg _ s _ _ _, b => by cases b <;> simp [Val.eqb, Val.eqbs_iff s, and_assoc]
theorem Val.eqbs_iff : ∀ as bs : List Val, Val.eqbs as bs = true ↔ as = bs
  | [], bs => by cases bs <;> simp [Val.eqbs]
  | a :: as, bs => by cases bs <;> simp [Val.eqbs, Val.eqb_iff a, Val.eqbs_iff as]
end

instance : DecidableEq Val := fun a b => decidable_of_iff _ (Val.eqb_iff a b)

end Bp
