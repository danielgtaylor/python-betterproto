import BpModel.All
import BpProofs.Fields
import BpProofs.Len
/-
  What the small functions under the loop do (`materialize` off PLACEHOLDER, `dictInsert`, `wireFits` as a test on
  `wireOf`).  `Message.load`: a record is unknown to the class, or targets a declared field (`Targets`), or hits the
  inconsistent-table error (`record_cases`).  An unknown field only appends its raw bytes to
  `_unknown_fields`; a known field neither reads nor writes them.  Hence a field list splits into its unknown and its known part
  (`foldFields_unknown_split`); `core` is the state without the retained bytes.  `parse` is the loader on the fresh
  instance (`parse_fresh`, read backwards `parse_ok`).
  At the end, the step of the packed decoder (`decodePackedFuel_ne`) and `_postprocess_single`: `decodeValue` as one
  equation per wire type (and for a map entry), `postLen` as one equation for strings, bytes, sub-messages and wrappers
  (Timestamp / Duration are read off the definition where they are needed: LoadStep's `postLen_decodes`, RtTime);
  `postFixed_ok` is `struct.unpack` read backwards.
-/
namespace Bp
open Gen

/-- does the receiving class treat this field as unknown (no such number, or a wire type
    that does not fit the declared type)? -/
def isUnknownField (d : MsgD) (pf : PField) : Bool :=
  match findField d.fields pf.num with
  | Option.none => true
  | some idx =>
    match d.fields[idx]? with
    | Option.none => false
    | some f => !wireFits f pf.wt

theorem materialize_of_ne_ph (S : Schema) (f : FieldD) {v : Val} (h : v ≠ .ph) : materialize S f v = v := by
  cases v with
  | ph => exact absurd rfl h
  | _ => rfl

theorem dictInsert_cons (y : Val) (ks : List Val) (z : Val) (vs : List Val) (k x : Val) :
    dictInsert (y :: ks) (z :: vs) k x =
      if keyEq y k then (y :: ks, x :: vs)
      else (y :: (dictInsert ks vs k x).1, z :: (dictInsert ks vs k x).2) := by
  rw [dictInsert]

theorem dictInsert_append : ∀ (ks vs : List Val) (k v : Val), ks.length = vs.length →
    (∀ k' ∈ ks, keyEq k' k = false) → dictInsert ks vs k v = (ks ++ [k], vs ++ [v])
  | [], [], k, v, _, _ => rfl
  | [], _ :: _, _, _, h, _ => by simp at h
  | _ :: _, [], _, _, h, _ => by simp at h
  | k' :: ks, v' :: vs, k, v, hl, hne => by
    rw [dictInsert_cons, if_neg (by rw [hne k' (by simp)]; decide),
      dictInsert_append ks vs k v (by simpa using hl) (fun x hx => hne x (by simp [hx]))]
    rfl

theorem wireFits_eq (f : FieldD) (wt : Nat) :
    wireFits f wt = (wireOf f.ty == some wt || (wt == wireLenDelim && isPacked f.ty && f.repeated)) := by
  obtain ⟨w, r, _⟩ := wire_row f.ty
  have e : (wt == w) = (some w == some wt) := by
    rw [Bool.eq_iff_iff, beq_iff_eq, beq_iff_eq, Option.some.injEq]; exact eq_comm
  simp only [wireFits, r.find, r.wireOf, e]

theorem setAttr_with_unknown (S : Schema) (fs : List FieldD) (st : MState) (idx : Nat) (v : Val) (u : Bytes) :
    setAttr S fs { st with unknown := u } idx v = { setAttr S fs st idx v with unknown := u } := by
  unfold setAttr
  dsimp only
  cases fs[idx]? with
  | none => rfl
  | some f => dsimp only; cases f.group <;> rfl

theorem applyField_unknown (S : Schema) (rec : Loader) (d : MsgD) (st : MState) (pf : PField)
    (h : isUnknownField d pf = true) :
    applyField S rec d st pf = .ok { st with unknown := st.unknown ++ pf.raw } := by
  unfold isUnknownField at h
  unfold applyField
  split
  · rfl
  · rename_i idx hidx
    rw [hidx] at h
    simp only at h
    split
    · rename_i hf; rw [hf] at h; simp at h
    · rename_i f hf
      rw [hf] at h
      simp only at h
      simp [h]

theorem prepCurrent_with_unknown (S : Schema) (d : MsgD) (st : MState) (idx : Nat) (f : FieldD) (u : Bytes) :
    prepCurrent S d { st with unknown := u } idx f = { prepCurrent S d st idx f with unknown := u } := by
  unfold prepCurrent
  dsimp only
  split
  · exact setAttr_with_unknown _ _ _ _ _ _
  · rfl

/-- the decoded field values, oneof selection and presence: the state without the raw
    bytes kept for unknown fields -/
def core (st : MState) : MState := { st with unknown := [] }

/-- `pf` is a record the class `d` knows: field number of the declared field `idx` = `f`,
    with a wire type that fits its declared type -/
def Targets (d : MsgD) (pf : PField) (idx : Nat) (f : FieldD) : Prop :=
  findField d.fields pf.num = some idx ∧ d.fields[idx]? = some f ∧ wireFits f pf.wt = true

section Known
variable (S : Schema) (rec : Loader) (d : MsgD)

theorem applyField_targets (st : MState) (pf : PField) (idx : Nat) (f : FieldD)
    (h : Targets d pf idx f) :
    applyField S rec d st pf
      = (decodeValue S rec f pf).bind fun v => storeValue S d (prepCurrent S d st idx f) idx f v := by
  obtain ⟨h1, h2, h3⟩ := h
  unfold applyField
  simp only [h1, h2, h3, Bool.not_true, Bool.false_eq_true, if_false]

theorem targets_known (pf : PField) (idx : Nat) (f : FieldD) (h : Targets d pf idx f) :
    isUnknownField d pf = false := by
  obtain ⟨h1, h2, h3⟩ := h
  simp [isUnknownField, h1, h2, h3]

/-- every record is unknown to the class, or targets a declared field, or hits the
    (unreachable) inconsistent-table error -/
theorem record_cases (pf : PField) :
    isUnknownField d pf = true ∨ (∃ idx f, Targets d pf idx f)
    ∨ (∃ idx, findField d.fields pf.num = some idx ∧ d.fields[idx]? = Option.none) := by
  unfold isUnknownField Targets
  cases h1 : findField d.fields pf.num with
  | none => left; rfl
  | some idx =>
    cases h2 : d.fields[idx]? with
    | none => right; right; exact ⟨idx, rfl, h2⟩
    | some f =>
      cases h3 : wireFits f pf.wt with
      | false => left; simp [h2, h3]
      | true => right; left; exact ⟨idx, f, rfl, h2, h3⟩

theorem applyField_badtable (st : MState) (pf : PField) (idx : Nat)
    (h1 : findField d.fields pf.num = some idx) (h2 : d.fields[idx]? = Option.none) :
    applyField S rec d st pf = .error .key := by
  unfold applyField
  simp only [h1, h2]

theorem core_eq_iff (a b : MState) :
    core a = core b ↔ a.slots = b.slots ∧ a.onWire = b.onWire ∧ a.cur = b.cur := by
  cases a; cases b; simp [core]

theorem storeValue_with_unknown (st1 : MState) (idx : Nat) (f : FieldD) (v : Val) (u : Bytes) :
    storeValue S d { st1 with unknown := u } idx f v
      = (storeValue S d st1 idx f v).map fun s => { s with unknown := u } := by
  unfold storeValue
  dsimp only
  split
  · split <;> rfl
  · split
    · split <;> rfl
    · rw [setAttr_with_unknown]; rfl

theorem applyField_with_unknown (st : MState) (pf : PField)
    (hk : isUnknownField d pf = false) (u : Bytes) :
    applyField S rec d { st with unknown := u } pf
      = (applyField S rec d st pf).map fun s => { s with unknown := u } := by
  rcases record_cases d pf with hu | ⟨idx, f, ht⟩ | ⟨idx, h1, h2⟩
  · rw [hu] at hk; cases hk
  · rw [applyField_targets S rec d _ pf idx f ht, applyField_targets S rec d _ pf idx f ht]
    cases decodeValue S rec f pf with
    | error e => rfl
    | ok v => simp only [bind_ok]; rw [prepCurrent_with_unknown, storeValue_with_unknown]
  · rw [applyField_badtable S rec d _ pf idx h1 h2, applyField_badtable S rec d _ pf idx h1 h2]; rfl

theorem applyField_known_keeps_unknown (st s1 : MState) (pf : PField) (hk : isUnknownField d pf = false)
    (h : applyField S rec d st pf = .ok s1) : s1.unknown = st.unknown := by
  have := applyField_with_unknown S rec d st pf hk st.unknown
  rw [show ({ st with unknown := st.unknown } : MState) = st from rfl, h] at this
  have e : s1 = { s1 with unknown := st.unknown } := Except.ok.inj this
  rw [e]

theorem applyField_known (st st' : MState) (pf : PField)
    (hk : isUnknownField d pf = false) (h : applyField S rec d st pf = .ok st') (u : Bytes) :
    st'.unknown = st.unknown ∧
    applyField S rec d { st with unknown := u } pf = .ok { st' with unknown := u } :=
  ⟨applyField_known_keeps_unknown S rec d st st' pf hk h, by rw [applyField_with_unknown S rec d st pf hk u, h]; rfl⟩

/-- records the class does not know: the result is the result on the known records from the state without
    retained bytes, with the bytes of the unknown records appended in order; a failure is the same failure -/
theorem foldFields_unknown_split (pfs : List PField) (st : MState) :
    foldFields S rec d st pfs
      = (foldFields S rec d (core st) (pfs.filter fun pf => !isUnknownField d pf)).map fun s =>
          { s with unknown := st.unknown ++ joinRaw (pfs.filter (isUnknownField d)) } := by
  induction pfs generalizing st with
  | nil => simp [foldFields, core, joinRaw]
  | cons pf pfs ih =>
    by_cases hu : isUnknownField d pf = true
    · rw [foldFields, applyField_unknown S rec d st pf hu, bind_ok, ih]
      simp only [List.filter_cons, hu, Bool.not_true, Bool.false_eq_true, if_false, if_true, joinRaw,
        List.append_assoc]
      rfl
    · have hu' : isUnknownField d pf = false := by simpa using hu
      simp only [List.filter_cons, hu', Bool.not_false, if_true, Bool.false_eq_true, if_false]
      rw [foldFields, foldFields,
        show applyField S rec d (core st) pf = _ from applyField_with_unknown S rec d st pf hu' []]
      cases ha : applyField S rec d st pf with
      | error e => rfl
      | ok s1 =>
        simp only [bind_ok, map_ok]
        rw [ih s1, applyField_known_keeps_unknown S rec d st s1 pf hu' ha]
        rfl

theorem foldFields_split (pfs : List PField) (st st' : MState)
    (h : foldFields S rec d st pfs = .ok st') :
    st'.unknown = st.unknown ++ joinRaw (pfs.filter (isUnknownField d))
    ∧ foldFields S rec d st (pfs.filter fun pf => !isUnknownField d pf) = .ok { st' with unknown := st.unknown } := by
  rw [foldFields_unknown_split S rec d pfs st] at h
  rw [foldFields_unknown_split S rec d (pfs.filter _) st]
  have e1 : ((pfs.filter fun pf => !isUnknownField d pf).filter fun pf => !isUnknownField d pf)
      = pfs.filter fun pf => !isUnknownField d pf := by simp [List.filter_filter]
  have e2 : (pfs.filter fun pf => !isUnknownField d pf).filter (isUnknownField d) = [] := by
    simp [List.filter_filter]
  rw [e1, e2]
  cases hk : foldFields S rec d (core st) (pfs.filter fun pf => !isUnknownField d pf) with
  | error e => rw [hk] at h; cases h
  | ok s => rw [hk] at h; cases h; exact ⟨rfl, by simp [joinRaw]⟩

end Known

theorem loadInto_succ (S : Schema) (f : Nat) (d : MsgD) (st : MState) (bs : Bytes) :
    loadInto S (f + 1) d st bs =
      (loadFields bs).bind fun pfs => foldFields S (loadInto S f) d { st with onWire := true } pfs := rfl

theorem parseInto_eq (S : Schema) (c : Nat) (d : MsgD) (sl : List Val) (ow : Bool) (unk : Bytes)
    (cur : List (Option Nat)) (bs : Bytes) (hd : S[c]? = some d) :
    parseInto S (.msg c sl ow unk cur) bs =
      (loadFields bs).bind fun pfs =>
        (foldFields S (loadInto S bs.length) d { slots := sl, onWire := true, unknown := unk, cur := cur } pfs).bind
          fun st => .ok (st.toVal c) := by
  unfold parseInto
  simp only [hd, loadInto_succ]
  cases loadFields bs <;> rfl

theorem parseInto_fields_err (S : Schema) (m : Val) (bs : Bytes) (e : PyErr)
    (h : loadFields bs = .error e) : ∃ e', parseInto S m bs = .error e' := by
  cases m with
  | msg c sl ow unk cur =>
    unfold parseInto
    dsimp only
    cases hd : S[c]? with
    | none => exact ⟨_, rfl⟩
    | some d => dsimp only; rw [loadInto_succ, h]; exact ⟨_, rfl⟩
  | _ => exact ⟨_, rfl⟩

theorem fresh_eq (S : Schema) (c : Nat) (d : MsgD) (h : S[c]? = some d) :
    fresh S c = .msg c (freshState d).slots false [] (freshState d).cur := by
  simp [fresh, fieldsOf, groupsOf, h, freshState]

/-- `Cls().parse(bs)`: the loader with nesting fuel `bs.length + 1` on the fresh instance -/
theorem parse_fresh (S : Schema) (c : Nat) (d : MsgD) (bs : Bytes) (hd : S[c]? = some d) :
    parse S c bs = (loadInto S (bs.length + 1) d (freshState d) bs).bind fun st => .ok (st.toVal c) := by
  unfold parse parseInto
  rw [fresh_eq S c d hd]
  simp only [hd]
  rfl

theorem parse_ok {S : Schema} {c : Nat} {bs : Bytes} {m : Val} (h : parse S c bs = .ok m) :
    ∃ d st, S[c]? = some d ∧ loadInto S (bs.length + 1) d (freshState d) bs = .ok st ∧ m = st.toVal c := by
  cases hd : S[c]? with
  | none => simp [parse, fresh, parseInto, hd] at h
  | some d =>
    rw [parse_fresh S c d bs hd] at h
    obtain ⟨st, hl, h⟩ := bind_inv h
    cases h; exact ⟨d, st, rfl, hl, rfl⟩

theorem parseInto_ok (S : Schema) (c : Nat) (sl : List Val) (ow : Bool) (unk : Bytes) (cur : List (Option Nat))
    (bs : Bytes) (m' : Val) (h : parseInto S (.msg c sl ow unk cur) bs = .ok m') :
    ∃ d st', S[c]? = some d ∧
      loadInto S (bs.length + 1) d { slots := sl, onWire := ow, unknown := unk, cur := cur } bs = .ok st' ∧
      m' = st'.toVal c := by
  unfold parseInto at h
  simp only at h
  cases hd : S[c]? with
  | none => rw [hd] at h; cases h
  | some d =>
    rw [hd] at h
    simp only at h
    cases hl : loadInto S (bs.length + 1) d { slots := sl, onWire := ow, unknown := unk, cur := cur } bs with
    | error e => rw [hl] at h; cases h
    | ok st' => rw [hl] at h; injection h with h; exact ⟨d, st', rfl, hl, h.symm⟩

theorem loadFields_trunc (bs : Bytes) (pfs : List PField) (h : loadFields bs = .ok pfs) (n : Nat)
    (hn : n ≤ bs.length) :
    (∃ j, n = (joinRaw (pfs.take j)).length ∧ loadFields (bs.take n) = .ok (pfs.take j))
    ∨ loadFields (bs.take n) = .error .eof := by
  revert n
  refine loadFields_induct (P := fun bs pfs => ∀ n, n ≤ bs.length →
    (∃ j, n = (joinRaw (pfs.take j)).length ∧ loadFields (bs.take n) = .ok (pfs.take j))
    ∨ loadFields (bs.take n) = .error .eof) (fun n hn => ?_) ?_ h
  · obtain rfl : n = 0 := by simpa using hn
    exact Or.inl ⟨0, rfl, rfl⟩
  intro bs pf rest pfs hne hlf _ ih n hn
  have ok := loadField_ok _ _ _ hlf
  have hpos := ok.raw_pos
  by_cases hz : n = 0
  · subst hz; exact Or.inl ⟨0, rfl, rfl⟩
  by_cases hcut : n < pf.raw.length
  · right
    have hne' : bs.take n ≠ [] := fun h => (List.take_eq_nil_iff.mp h).elim hz hne
    exact loadFields_cons_err _ _ hne' (loadField_trunc _ _ _ _ hlf hcut)
  · -- the first field is complete: recurse on the rest
    have hlen : pf.raw.length + rest.length = bs.length := by
      rw [← List.length_append, ok.raw_rest]
    have e : bs.take n = pf.raw ++ rest.take (n - pf.raw.length) := by
      rw [← ok.raw_rest, List.take_append, List.take_of_length_le (by omega)]
    have hloc := loadField_prefix _ _ _ hlf (rest.take (n - pf.raw.length))
    have hne' := List.append_ne_nil_of_left_ne_nil (List.ne_nil_of_length_pos hpos) (rest.take (n - pf.raw.length))
    rw [e, loadFields_cons _ pf _ hne' hloc]
    rcases ih (n - pf.raw.length) (by omega) with ⟨j, hj1, hj2⟩ | herr
    · left
      refine ⟨j + 1, ?_, by rw [hj2]; rfl⟩
      simp only [List.take_succ_cons, joinRaw, List.length_append]; omega
    · right; rw [herr]; rfl

theorem decodePackedFuel_ne (t : PType) (fuel : Nat) (p : Bytes) (hp : p ≠ []) :
    decodePackedFuel t (fuel + 1) p =
      if t == .float || t == .fixed32 || t == .sfixed32 then
        (postFixed t (p.take 4)).bind fun v => (decodePackedFuel t fuel (p.drop 4)).bind fun vs => .ok (v :: vs)
      else if t == .double || t == .fixed64 || t == .sfixed64 then
        (postFixed t (p.take 8)).bind fun v => (decodePackedFuel t fuel (p.drop 8)).bind fun vs => .ok (v :: vs)
      else
        match loadVarint p with
        | .error e => .error e
        | .ok (n, k) => (decodePackedFuel t fuel (p.drop k)).bind fun vs => .ok (postVarint t n :: vs) := by
  cases p with
  | nil => exact absurd rfl hp
  | cons c p => rfl

theorem decodePackedFuel_nil (t : PType) (fuel : Nat) : decodePackedFuel t (fuel + 1) [] = .ok [] := rfl

section PostprocessEquations
variable (S : Schema) (rec : Loader) (f : FieldD)

theorem decodeValue_eq_varint (pf : PField) (h : pf.wt = wireVarint) :
    decodeValue S rec f pf = .ok (postVarint f.ty pf.vint) := by
  unfold decodeValue; rw [h]; rfl

theorem decodeValue_eq_fixed (pf : PField) (h : pf.wt = wireFixed32 ∨ pf.wt = wireFixed64) :
    decodeValue S rec f pf = postFixed f.ty pf.payload := by
  unfold decodeValue
  rcases h with h | h <;> rw [h] <;> rfl

theorem decodeValue_eq_packed (pf : PField) (h : pf.wt = wireLenDelim) (hp : isPacked f.ty = true) :
    decodeValue S rec f pf = (decodePacked f.ty pf.payload).bind fun vs => .ok (Val.list vs) := by
  unfold decodeValue; rw [h, hp]; rfl

theorem decodeValue_eq_other (pf : PField) (hp : (pf.wt == wireLenDelim && isPacked f.ty) = false)
    (h0 : pf.wt ≠ wireVarint) (h5 : ¬ (pf.wt = wireFixed32 ∨ pf.wt = wireFixed64)) :
    decodeValue S rec f pf =
      if f.ty == .map then
        (rec (entryD f) (freshState (entryD f)) pf.payload).bind fun est =>
          .ok (Val.dict [materialize S (entryD f).fields[0]! (est.slots.getD 0 .ph)]
                        [materialize S (entryD f).fields[1]! (est.slots.getD 1 .ph)])
      else postLen S rec f pf.payload := by
  unfold decodeValue
  rw [hp, if_neg Bool.false_ne_true, if_neg (by simpa using h0), if_neg (by simpa using h5)]

theorem decodeValue_eq_len (pf : PField) (h : pf.wt = wireLenDelim) (hp : isPacked f.ty = false) :
    decodeValue S rec f pf =
      if f.ty == .map then
        (rec (entryD f) (freshState (entryD f)) pf.payload).bind fun est =>
          .ok (Val.dict [materialize S (entryD f).fields[0]! (est.slots.getD 0 .ph)]
                        [materialize S (entryD f).fields[1]! (est.slots.getD 1 .ph)])
      else postLen S rec f pf.payload :=
  decodeValue_eq_other S rec f pf (by rw [hp, Bool.and_false]) (by rw [h]; decide) (by rw [h]; decide)

theorem postLen_eq_string (p : Bytes) (h : f.ty = .string) :
    postLen S rec f p = if utf8Valid p then .ok (.str p) else .error .unicode := by
  unfold postLen; rw [h]; rfl

theorem postLen_eq_bytes (p : Bytes) (hs : f.ty ≠ .string) (hm : f.ty ≠ .message) :
    postLen S rec f p = .ok (.byt p) := by
  unfold postLen; rw [if_neg (by simpa using hs), if_neg (by simpa using hm)]

theorem postLen_eq_sub (p : Bytes) (c : Nat) (d : MsgD) (ht : f.ty = .message) (hk : f.kind = .user c)
    (hw : f.wraps = Option.none) (hd : S[c]? = some d) :
    postLen S rec f p = (rec d (freshState d) p).bind fun st => .ok (.msg c st.slots true st.unknown st.cur) := by
  unfold postLen
  rw [ht, if_neg (by decide), if_pos (by decide), hk, hw]
  simp only [hd]

theorem postLen_eq_wrapped (p : Bytes) (c : Nat) (w : PType) (ht : f.ty = .message) (hk : f.kind = .user c)
    (hw : f.wraps = some w) :
    postLen S rec f p = (rec (wrapperD w) (freshState (wrapperD w)) p).bind fun st =>
      .ok (materialize S (wrapperD w).fields[0]! (st.slots.getD 0 .ph)) := by
  unfold postLen
  rw [ht, if_neg (by decide), if_pos (by decide), hk, hw]

theorem decodeValue_eq_map (pf : PField) (h : pf.wt = wireLenDelim) (hty : f.ty = .map) :
    decodeValue S rec f pf =
      (rec (entryD f) (freshState (entryD f)) pf.payload).bind fun est =>
        .ok (Val.dict [materialize S (entryD f).fields[0]! (est.slots.getD 0 .ph)]
                      [materialize S (entryD f).fields[1]! (est.slots.getD 1 .ph)]) := by
  rw [decodeValue_eq_len S rec f pf h (by rw [hty]; rfl), if_pos (by rw [hty]; rfl)]

end PostprocessEquations

/-- `struct.unpack`, read backwards: the row of `_pack_fmt` and the value by its columns -/
theorem postFixed_ok (t : PType) (p : Bytes) (v : Val) (h : postFixed t p = .ok v) :
    ∃ w sg fl, fmtOf t = some (w, sg, fl) ∧ p.length = w ∧
      v = (if fl then (if w == 4 then Val.f32 (quiet32 (unpackLE p)) else Val.f64 (unpackLE p))
           else if sg then Val.int (toSigned (8 * w) (unpackLE p)) else Val.int (unpackLE p)) := by
  unfold postFixed at h
  split at h
  · simp at h
  · rename_i w sg fl hfmt
    split at h
    · cases h
    · rename_i hl
      simp only [← apply_ite Except.ok] at h
      exact ⟨w, sg, fl, hfmt, by simpa using hl, (Except.ok.inj h).symm⟩

end Bp
