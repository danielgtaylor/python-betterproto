import BpModel.EnumM
/-
  Helper lemmas about the enum model (property statements live in Props/C20.lean).
  The declaration loop of `EnumType.__new__` is followed by induction over the member list with the
  class state generalised; what it does to the two maps is said by lookup equations (`assoc_declare` for one
  turn; after the loop `build_valueMap`: `value_map[v]` is named after the FIRST declaration with number `v`, and
  `build_memberMap`: `member_map[n]` is `value_map[d[n]]`) and the invariant `Inv`.  Lookups and "first
  declaration" are core's `List.lookup` / `List.find?` (`assoc_eq_lookup`, `firstName_iff`).  The operations of the API are then described by what
  the maps hold under the key, and `step_state` says that an operation can at most allocate.
-/
namespace Bp.EnumM
set_option linter.unusedSectionVars false

variable {ν : Type} [DecidableEq ν]

theorem assoc_eq_lookup {κ β : Type} [DecidableEq κ] (k : κ) (l : List (κ × β)) : assoc k l = l.lookup k := by
  induction l with
  | nil => rfl
  | cons hd tl ih =>
    obtain ⟨k1, b1⟩ := hd
    rw [List.lookup_cons, assoc, ih]
    by_cases h : k = k1
    · rw [if_pos h, beq_iff_eq.mpr h]
    · rw [if_neg h, beq_eq_false_iff_ne.mpr h]

theorem assoc_eq_none_iff {κ β : Type} [DecidableEq κ] (k : κ) (l : List (κ × β)) :
    assoc k l = none ↔ ∀ p ∈ l, p.1 ≠ k := by
  rw [assoc_eq_lookup, List.lookup_eq_none_iff]
  exact forall₂_congr fun p _ => bne_iff_ne.trans ne_comm

theorem assoc_none_of_forall {κ β : Type} [DecidableEq κ] (k : κ) (l : List (κ × β))
    (h : ∀ p ∈ l, p.1 ≠ k) : assoc k l = none :=
  (assoc_eq_none_iff k l).mpr h

theorem assoc_append {κ β : Type} [DecidableEq κ] (k : κ) (l l' : List (κ × β)) :
    assoc k (l ++ l') = (assoc k l).or (assoc k l') := by
  simp only [assoc_eq_lookup]; exact List.lookup_append

theorem assoc_mem {κ β : Type} [DecidableEq κ] (k : κ) (b : β) (l : List (κ × β))
    (h : assoc k l = some b) : (k, b) ∈ l := by
  rw [assoc_eq_lookup] at h
  obtain ⟨l1, l2, rfl, _⟩ := List.lookup_eq_some_iff.mp h
  exact List.mem_append_right _ List.mem_cons_self

theorem assoc_of_mem (d : Decl ν) (n : ν) (v : Int) (hnd : NamesNodup d = true) (hmem : (n, v) ∈ d) :
    assoc n d = some v := by
  induction d with
  | nil => cases hmem
  | cons hd tl ih =>
    obtain ⟨n1, v1⟩ := hd
    obtain ⟨h1, h2⟩ := Bool.and_eq_true_iff.mp hnd
    show (if n = n1 then some v1 else assoc n tl) = some v
    rcases List.mem_cons.mp hmem with e | h
    · cases e; exact if_pos rfl
    · rw [if_neg fun e => (assoc_eq_none_iff n1 tl).mp (Option.isNone_iff_eq_none.mp h1) (n, v) h e]
      exact ih h2 h

theorem firstName_iff (d : Decl ν) (v : Int) (n0 : ν) :
    FirstName d v n0 ↔ d.find? (·.2 == v) = some (n0, v) := by
  rw [List.find?_eq_some_iff_append]
  simp only [FirstName, beq_self_eq_true, true_and, Bool.not_eq_true', beq_eq_false_iff_ne, ne_eq]

theorem defined_iff (d : Decl ν) (v : Int) : Defined d v ↔ (d.find? (·.2 == v)).isSome = true := by
  rw [List.find?_isSome]
  exact ⟨fun ⟨n, h⟩ => ⟨(n, v), h, beq_self_eq_true v⟩, fun ⟨p, h, e⟩ => ⟨p.1, (beq_iff_eq.mp e) ▸ h⟩⟩

theorem defined_firstName (d : Decl ν) (v : Int) (h : Defined d v) : ∃ n0, FirstName d v n0 := by
  obtain ⟨p, hp⟩ := Option.isSome_iff_exists.mp ((defined_iff d v).mp h)
  have hv : p.2 = v := beq_iff_eq.mp (List.find?_some (p := fun q : ν × Int => q.2 == v) hp)
  exact ⟨p.1, (firstName_iff d v p.1).mpr (hv ▸ hp)⟩

theorem firstName_mem (d : Decl ν) (v : Int) (n0 : ν) (h : FirstName d v n0) : (n0, v) ∈ d :=
  List.mem_of_find?_eq_some ((firstName_iff d v n0).mp h)

theorem firstName_unique (d : Decl ν) (v : Int) (a b : ν) (ha : FirstName d v a) (hb : FirstName d v b) :
    a = b := by
  rw [firstName_iff] at ha hb
  exact (Prod.mk.inj (Option.some.inj (ha.symm.trans hb))).1

theorem assoc_declare (c : Cls ν) (n : ν) (v v' : Int) :
    assoc v' (declare c n v).valueMap
      = (assoc v' c.valueMap).or (if v' = v then some { name := some n, number := v, oid := c.next } else none) := by
  unfold declare
  split
  · next m hm =>
    by_cases e : v' = v
    · rw [e, hm]; rfl
    · rw [if_neg e, Option.or_none]
  · exact assoc_append v' c.valueMap [(v, _)]

theorem declare_memberMap (c : Cls ν) (n : ν) (v : Int) :
    ∃ m, assoc v (declare c n v).valueMap = some m
      ∧ (declare c n v).memberMap = c.memberMap ++ [(n, m)] := by
  unfold declare
  split
  · next m hm => exact ⟨m, hm, rfl⟩
  · next hm => exact ⟨_, by rw [assoc_append, hm]; exact if_pos rfl, rfl⟩

theorem declare_next_le (c : Cls ν) (n : ν) (v : Int) : c.next ≤ (declare c n v).next := by
  unfold declare
  split
  · exact Nat.le_refl _
  · exact Nat.le_succ _

/-- the loop builds the first-occurrence map: after the loop over `d`, `_value_map_` holds under `v` what it held
    before, or else a new member named after the first declaration of `d` with number `v` -/
theorem build_valueMap (d : Decl ν) (c : Cls ν) (v : Int) :
    ∃ oid, assoc v (build c d).valueMap
      = (assoc v c.valueMap).or ((d.find? (·.2 == v)).map fun p => { name := some p.1, number := v, oid := oid }) := by
  induction d generalizing c with
  | nil => exact ⟨0, Option.or_none.symm⟩
  | cons hd tl ih =>
    obtain ⟨n1, v1⟩ := hd
    obtain ⟨oid, e⟩ := ih (declare c n1 v1)
    rw [assoc_declare, Option.or_assoc] at e
    by_cases hv : v1 = v
    · subst hv
      exact ⟨c.next, e.trans (by rw [if_pos rfl, List.find?_cons_of_pos (by exact beq_self_eq_true v1)]; rfl)⟩
    · exact ⟨oid, e.trans (by
        rw [if_neg (Ne.symm hv), List.find?_cons_of_neg (by exact fun h => hv (beq_iff_eq.mp h))]; rfl)⟩

/-- an entry is never replaced -/
theorem build_valueMap_some (d : Decl ν) (c : Cls ν) (v : Int) (m : Member ν)
    (h : assoc v c.valueMap = some m) : assoc v (build c d).valueMap = some m := by
  obtain ⟨oid, e⟩ := build_valueMap d c v
  rw [e, h]; rfl

theorem build_memberMap (d : Decl ν) (c : Cls ν) (n : ν) :
    assoc n (build c d).memberMap
      = (assoc n c.memberMap).or ((assoc n d).bind fun v => assoc v (build c d).valueMap) := by
  induction d generalizing c with
  | nil => exact Option.or_none.symm
  | cons hd tl ih =>
    obtain ⟨n1, v1⟩ := hd
    obtain ⟨m1, hv1, e⟩ := declare_memberMap c n1 v1
    simp only [build, assoc]
    rw [ih, e, assoc_append, Option.or_assoc]
    congr 1
    show (if n = n1 then some m1 else none).or _ = _
    split
    · exact (build_valueMap_some tl _ v1 m1 hv1).symm
    · rfl

theorem build_items (d : Decl ν) (c : Cls ν) :
    (build c d).memberMap.map (fun e => (e.1, some e.2))
      = c.memberMap.map (fun e => (e.1, some e.2))
        ++ d.map (fun p => (p.1, assoc p.2 (build c d).valueMap)) := by
  induction d generalizing c with
  | nil => exact (List.append_nil _).symm
  | cons hd tl ih =>
    obtain ⟨n1, v1⟩ := hd
    obtain ⟨m1, hv1, e⟩ := declare_memberMap c n1 v1
    show (build (declare c n1 v1) tl).memberMap.map _ = _
    rw [ih, e, List.map_append, List.append_assoc]
    show _ ++ ((n1, some m1) :: _) = _
    rw [← build_valueMap_some tl _ v1 m1 hv1]
    rfl

structure Inv (c : Cls ν) : Prop where
  /-- a value-map entry is filed under its own number -/
  num : ∀ v m, assoc v c.valueMap = some m → m.number = v
  /-- canonical members have a name -/
  named : ∀ v m, assoc v c.valueMap = some m → m.name.isSome = true
  /-- their objects were allocated before `next` -/
  lt : ∀ v m, assoc v c.valueMap = some m → m.oid < c.next
  /-- distinct numbers have distinct canonical objects -/
  inj : ∀ v1 v2 m1 m2, assoc v1 c.valueMap = some m1 → assoc v2 c.valueMap = some m2 →
    m1.oid = m2.oid → v1 = v2
  /-- every member-map value is the canonical member of its number -/
  mem : ∀ n m, assoc n c.memberMap = some m → assoc m.number c.valueMap = some m

theorem declare_inv (c : Cls ν) (n : ν) (v : Int) (h : Inv c) : Inv (declare c n v) := by
  have hle := declare_next_le c n v
  -- an entry of `_value_map_` after the turn is an old one, or the member allocated in this turn
  have old : ∀ v' m, assoc v' (declare c n v).valueMap = some m → assoc v' c.valueMap = some m
      ∨ (v' = v ∧ m = { name := some n, number := v, oid := c.next } ∧ (declare c n v).next = c.next + 1) := by
    intro v' m h
    rw [assoc_declare] at h
    rcases Option.or_eq_some_iff.mp h with h1 | ⟨hv, h2⟩
    · exact .inl h1
    · split at h2
      · next e => exact .inr ⟨e, (Option.some.inj h2).symm, by unfold declare; rw [← e, hv]⟩
      · cases h2
  have num : ∀ v' m, assoc v' (declare c n v).valueMap = some m → m.number = v' := by
    intro v' m hm
    rcases old v' m hm with h1 | ⟨rfl, rfl, _⟩
    · exact h.num v' m h1
    · rfl
  refine ⟨num, fun v' m hm => ?_, fun v' m hm => ?_, fun v1 v2 m1 m2 hm1 hm2 ho => ?_, fun n' m hm => ?_⟩
  · rcases old v' m hm with h1 | ⟨_, rfl, _⟩
    · exact h.named v' m h1
    · rfl
  · rcases old v' m hm with h1 | ⟨_, rfl, e⟩
    · exact Nat.lt_of_lt_of_le (h.lt v' m h1) hle
    · rw [e]; exact Nat.lt_succ_self _
  · -- an old object was allocated before `c.next`, the new one is `c.next`
    rcases old v1 m1 hm1 with h1 | ⟨rfl, rfl, _⟩ <;> rcases old v2 m2 hm2 with h2 | ⟨rfl, rfl, _⟩
    · exact h.inj v1 v2 m1 m2 h1 h2 ho
    · exact absurd ho (Nat.ne_of_lt (h.lt v1 m1 h1))
    · exact absurd ho.symm (Nat.ne_of_lt (h.lt v2 m2 h2))
    · rfl
  · obtain ⟨m1, hv1, e⟩ := declare_memberMap c n v
    rw [e, assoc_append] at hm
    rcases Option.or_eq_some_iff.mp hm with hk | ⟨_, hk⟩
    · rw [assoc_declare, h.mem n' m hk]; rfl
    · obtain rfl : m = m1 := (Prod.mk.inj (List.mem_singleton.mp (assoc_mem n' m _ hk))).2
      rw [num v m hv1]; exact hv1

theorem build_inv (d : Decl ν) (c : Cls ν) (h : Inv c) : Inv (build c d) := by
  induction d generalizing c with
  | nil => exact h
  | cons hd tl ih =>
    obtain ⟨n1, v1⟩ := hd
    exact ih _ (declare_inv c n1 v1 h)

theorem mk_inv (d : Decl ν) : Inv (mk d) :=
  have no : ∀ {κ : Type} [DecidableEq κ] (k : κ) (m : Member ν), assoc k [] = some m → False := nofun
  build_inv d _ ⟨fun v m h => (no v m h).elim, fun v m h => (no v m h).elim, fun v m h => (no v m h).elim,
    fun v _ m _ h => (no v m h).elim, fun n m h => (no n m h).elim⟩

theorem mk_valueMap (d : Decl ν) (v : Int) :
    ∃ oid, assoc v (mk d).valueMap
      = (d.find? (·.2 == v)).map fun p => { name := some p.1, number := v, oid := oid } :=
  build_valueMap d {} v

theorem mk_valueMap_first (d : Decl ν) (v : Int) (n0 : ν) (hf : FirstName d v n0) :
    ∃ oid, assoc v (mk d).valueMap = some { name := some n0, number := v, oid := oid } := by
  obtain ⟨oid, e⟩ := mk_valueMap d v
  exact ⟨oid, e.trans (congrArg _ ((firstName_iff d v n0).mp hf))⟩

theorem mk_valueMap_none (d : Decl ν) (v : Int) (hu : ¬ Defined d v) : assoc v (mk d).valueMap = none := by
  obtain ⟨oid, e⟩ := mk_valueMap d v
  rw [defined_iff, Bool.not_eq_true, Option.isSome_eq_false_iff, Option.isNone_iff_eq_none] at hu
  exact e.trans (congrArg _ hu)

theorem mk_memberMap (d : Decl ν) (n : ν) :
    assoc n (mk d).memberMap = (assoc n d).bind fun v => assoc v (mk d).valueMap :=
  build_memberMap d {} n

theorem mk_memberMap_of_mem (d : Decl ν) (n : ν) (v : Int) (hnd : NamesNodup d = true) (hmem : (n, v) ∈ d) :
    assoc n (mk d).memberMap = assoc v (mk d).valueMap := by
  rw [mk_memberMap, assoc_of_mem d n v hnd hmem]; rfl

theorem mk_memberMap_decl (d : Decl ν) (n : ν) (v : Int) (hnd : NamesNodup d = true) (hmem : (n, v) ∈ d) :
    ∃ m, assoc n (mk d).memberMap = some m ∧ assoc v (mk d).valueMap = some m := by
  obtain ⟨n0, hf⟩ := defined_firstName d v ⟨n, hmem⟩
  obtain ⟨oid, ho⟩ := mk_valueMap_first d v n0 hf
  exact ⟨_, (mk_memberMap_of_mem d n v hnd hmem).trans ho, ho⟩

theorem mk_memberMap_none (d : Decl ν) (n : ν) (hu : ∀ p ∈ d, p.1 ≠ n) : assoc n (mk d).memberMap = none := by
  rw [mk_memberMap, assoc_none_of_forall n d hu]; rfl

theorem mk_names (d : Decl ν) : memberNames (mk d) = d.map (·.1) := by
  have := congrArg (List.map Prod.fst) (build_items d {})
  simpa [memberNames, mk, Function.comp_def] using this

theorem mk_iter (d : Decl ν) :
    (iter (mk d)).map some = d.map (fun p => assoc p.2 (mk d).valueMap) := by
  have := congrArg (List.map Prod.snd) (build_items d {})
  simpa [iter, mk, Function.comp_def] using this

theorem call_ok_iff (c : Cls ν) (v : Int) (m : Member ν) :
    call c v = .ok m ↔ assoc v c.valueMap = some m := by
  unfold call
  cases assoc v c.valueMap <;> simp

theorem call_of_none {c : Cls ν} {v : Int} (h : assoc v c.valueMap = none) : call c v = .error .value := by
  unfold call; rw [h]

theorem isCanonical_of_some {c : Cls ν} {m : Member ν} (h : assoc m.number c.valueMap = some m) :
    isCanonical c m = true := by
  unfold isCanonical; rw [(call_ok_iff c _ m).mpr h]; exact beq_self_eq_true m.oid

theorem tryValue_of_some {c : Cls ν} {v : Int} {m : Member ν} (h : assoc v c.valueMap = some m) :
    tryValue c v = (c, m) := by
  unfold tryValue; rw [h]

theorem tryValue_of_none {c : Cls ν} {v : Int} (h : assoc v c.valueMap = none) :
    tryValue c v = ({ c with next := c.next + 1 }, { name := none, number := v, oid := c.next }) := by
  unfold tryValue; rw [h]

/-- an operation can only allocate: no operation of the API — lookups, open values, iteration, membership
    tests, copies, pickling, the five kinds of mutation attempt — touches `_value_map_` or `_member_map_` -/
theorem step_state (c : Cls ν) (op : Op ν) : ∃ k, (step c op).1 = { c with next := c.next + k } := by
  have tv : ∀ v, ∃ k, (tryValue c v).1 = { c with next := c.next + k } := by
    intro v
    unfold tryValue
    split
    · exact ⟨0, rfl⟩
    · exact ⟨1, rfl⟩
  cases op
  case tryValue v | contains v | setattrMem v _ _ | delattrMem v _ | copy v | deepcopy v => exact tv v
  case pickle v =>
    obtain ⟨k, e⟩ := tv v
    exact ⟨k + 1, congrArg (fun c' : Cls ν => { c' with next := c'.next + 1 }) e⟩
  all_goals exact ⟨0, rfl⟩

theorem tryValue_number (c : Cls ν) (v : Int) (h : Inv c) : (tryValue c v).2.number = v := by
  unfold tryValue
  split
  · next m hm => exact h.num v m hm
  · rfl

/-- `_dump_enum` never yields null on a class built from a definition -/
theorem dump_ne_null (c : Cls ν) (v : Int) (h : Inv c) : dumpEnum c v ≠ none := by
  unfold dumpEnum
  cases hc : call c v with
  | error e => exact Option.some_ne_none _
  | ok m =>
    have := h.named v m ((call_ok_iff c v m).mp hc)
    show m.name.map JEnum.name ≠ none
    cases hn : m.name with
    | none => rw [hn] at this; cases this
    | some x => exact Option.some_ne_none _

end Bp.EnumM
