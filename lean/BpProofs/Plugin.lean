import BpModel.Plugin
import BpProofs.Lit
/-
  The regenerated tables of the field compiler (Gen/PluginTables.lean) against the hand-written specification tables.
  Every table is finite: agreement is checked row by row by kernel evaluation over the keys that occur, and a name
  outside the keys is handled by `not_key` (every lookup is `none`).
-/
namespace Bp.Plugin
open Bp Bp.Gen.Plugin

/-- The three string constants of the specification side, read once as characters.  A closed evaluation that reaches
    them through `validMsg`, `specOf` … exposes them with `delta` and rewrites with this before the kernel evaluates:
    `"…".toList` makes the kernel decode the literal, in full at the first character forced and again in every
    declaration. -/
theorem spec_tables :
    specWrappers =
      [(lit ".google.protobuf.DoubleValue", .double), (lit ".google.protobuf.FloatValue", .float),
       (lit ".google.protobuf.Int64Value", .int64), (lit ".google.protobuf.UInt64Value", .uint64),
       (lit ".google.protobuf.Int32Value", .int32), (lit ".google.protobuf.UInt32Value", .uint32),
       (lit ".google.protobuf.BoolValue", .bool), (lit ".google.protobuf.StringValue", .string),
       (lit ".google.protobuf.BytesValue", .bytes)]
    ∧ tsName = lit ".google.protobuf.Timestamp" ∧ durName = lit ".google.protobuf.Duration" :=
  have e : ∀ {a a' : Name} {p : PType} {r r' : List (Name × PType)}, a = a' → r = r' → (a, p) :: r = (a', p) :: r' :=
    fun h1 h2 => h1 ▸ h2 ▸ rfl
  ⟨e (lit_eq _ _) (e (lit_eq _ _) (e (lit_eq _ _) (e (lit_eq _ _) (e (lit_eq _ _) (e (lit_eq _ _) (e (lit_eq _ _)
    (e (lit_eq _ _) (e (lit_eq _ _) rfl)))))))), lit_eq _ _, lit_eq _ _⟩

theorem lookupN?_mem {β} {k : Nat} {v : β} : ∀ {l : List (Nat × β)}, lookupN? k l = some v → (k, v) ∈ l
  | [], h => by simp [lookupN?] at h
  | (a, b) :: r, h => by
    unfold lookupN? at h
    split at h
    · rename_i hk; cases h; subst hk; exact List.mem_cons_self
    · exact List.mem_cons_of_mem _ (lookupN?_mem h)

theorem lookup?_none {β} {k : Name} : ∀ {l : List (Name × β)}, k ∉ l.map Prod.fst → lookup? k l = none
  | [], _ => rfl
  | (a, b) :: r, h => by
    simp only [List.map_cons, List.mem_cons, not_or] at h
    unfold lookup?
    rw [if_neg (fun e => h.1 e.symm)]
    exact lookup?_none h.2

def constRow (r : Nat × PType) : Bool :=
  match lookupN? r.1 descTypeName with
  | some n => decide (lookup? n typeConsts = some r.2)
  | none => false

theorem constRow_all : ∀ r ∈ specTypeTable, constRow r = true := by decide +kernel

theorem const_facts {t : Nat} {p : PType} (h : specType t = some p) :
    ∃ n, lookupN? t descTypeName = some n ∧ lookup? n typeConsts = some p := by
  have := constRow_all _ (lookupN?_mem h)
  unfold constRow at this
  split at this
  · rename_i n hn; exact ⟨n, hn, by simpa using this⟩
  · cases this

def ctorRow (r : Nat × PType) : Bool :=
  match lookupN? r.1 fieldTypeStr with
  | some c => decide (lookup? c fieldCtors = some r.2) && ctorsWithOptional.contains c && ctorsWithGroup.contains c
              && (ctorsWithWraps.contains c == decide (r.2 = .message)) && decide (r.2 ≠ .map)
  | none => false

theorem ctorRow_all : ∀ r ∈ specTypeTable, ctorRow r = true := by decide +kernel

theorem ctor_facts {t : Nat} {p : PType} (h : specType t = some p) :
    ∃ c, lookupN? t fieldTypeStr = some c ∧ lookup? c fieldCtors = some p
      ∧ ctorsWithOptional.contains c = true ∧ ctorsWithGroup.contains c = true
      ∧ ctorsWithWraps.contains c = decide (p = .message) ∧ p ≠ .map := by
  have := ctorRow_all _ (lookupN?_mem h)
  unfold ctorRow at this
  split at this
  · rename_i c hc
    simp only [Bool.and_eq_true, decide_eq_true_eq, beq_iff_eq] at this
    obtain ⟨⟨⟨⟨h1, h2⟩, h3⟩, h4⟩, h5⟩ := this
    exact ⟨c, hc, h1, h2, h3, h4, h5⟩
  · cases this

def pyRow (r : Nat × PType) : Bool :=
  if r.2 = .message ∨ r.2 = .enum then
    decide (lookupN? r.1 scalarPyType = none) && messageTypes.contains r.1 && decide (specPy r.2 = none)
  else decide ((lookupN? r.1 scalarPyType).isSome) && decide (lookupN? r.1 scalarPyType = specPy r.2)

theorem pyRow_all : ∀ r ∈ specTypeTable, pyRow r = true := by decide +kernel

theorem pyType_ref {f : FieldP} {p : PType} (h : specType f.type = some p) (hp : p = .message ∨ p = .enum) :
    pyTypeOf f = some (typeRef f.typeName) ∧ specPy p = none := by
  have := pyRow_all _ (lookupN?_mem h)
  unfold pyRow at this
  simp only [hp, if_true, Bool.and_eq_true, decide_eq_true_eq] at this
  unfold pyTypeOf
  rw [this.1.1]
  simp only [this.1.2, if_true]
  exact ⟨trivial, this.2⟩

theorem pyType_scalar {f : FieldP} {p : PType} (h : specType f.type = some p) (h1 : p ≠ .message) (h2 : p ≠ .enum) :
    ∃ n, pyTypeOf f = some (.prim n) ∧ specPy p = some n := by
  have := pyRow_all _ (lookupN?_mem h)
  unfold pyRow at this
  simp only [h1, h2, or_self, if_false, Bool.and_eq_true, decide_eq_true_eq] at this
  obtain ⟨hs, he⟩ := this
  cases hl : lookupN? f.type scalarPyType with
  | none => rw [hl] at hs; cases hs
  | some n =>
    refine ⟨n, ?_, ?_⟩
    · unfold pyTypeOf; rw [hl]
    · rw [← he, hl]

theorem typeMessage_eq : typeMessage = 11 := by decide

theorem specType_message_iff (t : Nat) : specType t = some .message ↔ t = typeMessage := by
  rw [typeMessage_eq]
  constructor
  · intro h
    have hm := lookupN?_mem h
    have : ∀ r ∈ specTypeTable, r.2 = PType.message → r.1 = 11 := by decide
    exact this _ hm rfl
  · intro h; subst h; decide

def wktKeys : List Name :=
  fieldWraps.map Prod.fst ++ unwrapTable.map Prod.fst ++ specWrappers.map Prod.fst ++ [tsName, durName]

def wrapsRow (tn : Name) : Bool :=
  match wrapsOf tn with
  | none => decide (lookup? tn specWrappers = none)
  | some n => decide ((lookup? tn specWrappers).isSome) && decide (lookup? n typeConsts = lookup? tn specWrappers)

theorem not_key {tn : Name} (h : tn ∉ wktKeys) :
    lookup? tn fieldWraps = none ∧ lookup? tn unwrapTable = none ∧ lookup? tn specWrappers = none
      ∧ tn ≠ tsName ∧ tn ≠ durName := by
  unfold wktKeys at h
  simp only [List.mem_append, not_or, List.mem_cons, List.not_mem_nil, or_false] at h
  exact ⟨lookup?_none h.1.1.1, lookup?_none h.1.1.2, lookup?_none h.1.2, h.2.1, h.2.2⟩

def elemRow (tn : Name) : Bool := decide (some (elemOf (typeRef tn)) = specElemRef tn)

def mapValRow (tn : Name) : Bool :=
  (lookup? tn specWrappers).isSome || decide (elemOf (typeRef tn) = specElemMapValue tn)

/-- One evaluation for the three comparisons of a key, on the specification's constants as characters. -/
theorem rows_keys : ∀ tn ∈ wktKeys, (wrapsRow tn && elemRow tn && mapValRow tn) = true := by
  delta wktKeys wrapsRow elemRow mapValRow specElemRef specElemMapValue
  simp only [spec_tables.1, spec_tables.2.1, spec_tables.2.2]
  decide +kernel

theorem wrapsRow_all (tn : Name) : wrapsRow tn = true := by
  by_cases h : tn ∈ wktKeys
  · have := rows_keys tn h
    simp only [Bool.and_eq_true] at this
    exact this.1.1
  · obtain ⟨h1, _, h3, _, _⟩ := not_key h
    unfold wrapsRow wrapsOf
    rw [h1, h3]; rfl

theorem elem_ref (tn : Name) : some (elemOf (typeRef tn)) = specElemRef tn := by
  by_cases h : tn ∈ wktKeys
  · have := rows_keys tn h
    simp only [Bool.and_eq_true] at this
    simpa [elemRow] using this.1.2
  · obtain ⟨_, h2, h3, h4, h5⟩ := not_key h
    unfold typeRef specElemRef
    rw [h2, h3]; simp [h4, h5, elemOf]

theorem elem_mapValue (tn : Name) (hw : lookup? tn specWrappers = none) :
    elemOf (typeRef tn) = specElemMapValue tn := by
  by_cases h : tn ∈ wktKeys
  · have := rows_keys tn h
    simp only [Bool.and_eq_true] at this
    simpa [mapValRow, hw] using this.2
  · obtain ⟨_, h2, _, h4, h5⟩ := not_key h
    unfold typeRef specElemMapValue
    rw [h2]; simp [h4, h5, elemOf]

theorem typeRef_plain {tn : Name} (hw : lookup? tn specWrappers = none) (ht : tn ≠ tsName) (hd : tn ≠ durName) :
    typeRef tn = .ref tn := by
  have h1 := elem_ref tn
  unfold specElemRef at h1
  rw [hw] at h1
  simp only [ht, hd, if_false, Option.some.injEq] at h1
  cases h : typeRef tn <;> rw [h] at h1 <;> simp [elemOf] at h1
  rw [h1]

end Bp.Plugin
