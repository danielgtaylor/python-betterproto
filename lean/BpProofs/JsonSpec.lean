import BpModel.All
import BpModel.JsonSpec
import BpProofs.Json
/- C05: betterproto's leaf encoders are the canonical ones. -/
namespace Bp
open Gen

theorem dumpFloat_spec32 (b : Nat) : dumpFloat (.f32 b) = specFloat32 b := by
  unfold dumpFloat specFloat32
  by_cases h1 : (b == 0x7f800000) = true
  · have : b = 0x7f800000 := by simpa using h1
    subst this; rfl
  · by_cases h2 : (b == 0xff800000) = true
    · have : b = 0xff800000 := by simpa using h2
      subst this; rfl
    · simp only [h1, h2, if_false, Bool.false_eq_true]

theorem dumpFloat_spec64 (b : Nat) : dumpFloat (.f64 b) = specFloat64 b := by
  unfold dumpFloat specFloat64
  by_cases h1 : (b == 0x7ff0000000000000) = true
  · have : b = 0x7ff0000000000000 := by simpa using h1
    subst this; rfl
  · by_cases h2 : (b == 0xfff0000000000000) = true
    · have : b = 0xfff0000000000000 := by simpa using h2
      subst this; rfl
    · simp only [h1, h2, if_false, Bool.false_eq_true]

theorem dumpEnum_spec (e : EnumDef) (h : enumOk5 e = true) (v : Int) : dumpEnum e (.int v) = specEnum e v := by
  unfold specEnum
  simp only [dumpEnum]
  cases hm : enumByNum e v with
  | none => rfl
  | some m =>
    obtain ⟨_, hmem⟩ := enumByNum_num e v m hm
    unfold enumOk5 at h
    rw [List.all_eq_true] at h
    have := h m hmem
    simp only [beq_iff_eq] at this
    simp only [this]

/-- a value `to_dict` leaves as it is (the last alternative of `encItem`, a wrapper's value, a map value) is canonical
    when its type is one for which no alternative of `encItem` is: a 32-bit integer, bool, string -/
theorem rawJ_spec (e : EnumDef) (t : PType) (v : Val) (hv : valOfType t v = true)
    (ht : (isInt64 t || t == .bytes || t == .enum || t == .float || t == .double) = false) :
    rawJ v = specScalar e t v := by
  simp only [Bool.or_eq_false_iff] at ht
  rcases valOfType_cases _ _ hv with ⟨i, rfl⟩ | ⟨b, rfl, _⟩ | ⟨b, rfl, h⟩ | ⟨b, rfl, h⟩ | ⟨s, rfl, _⟩ | ⟨s, rfl, h⟩
  · simp [rawJ, specScalar, ht.1.1.1.1, ht.1.1.2]
  · rfl
  · simp [h] at ht
  · simp [h] at ht
  · rfl
  · simp [h] at ht

/-- **every scalar leaf betterproto writes is the canonical one** -/
theorem encItem_spec (E : Enums) (f : FieldD) (h5 : enumOk5 (enumOf E f) = true) (v : Val)
    (hv : valOfType f.ty v = true) : encItem E f v = specScalar (enumOf E f) f.ty v := by
  rcases encItem_cases E f v hv with ⟨h, i, rfl, e⟩ | ⟨h, i, rfl, e⟩ | ⟨h, b, rfl, e⟩ | ⟨h, e⟩ | ⟨h, hr, e⟩ <;> rw [e]
  · have : (f.ty == PType.enum) = false := beq_eq_false_iff_ne.mpr fun e => by rw [e] at h; cases h
    simp [specScalar, this, h]
  · simp only [specScalar, h, beq_self_eq_true, if_true]
    exact dumpEnum_spec _ h5 i
  · rfl
  · rcases h with h | h <;> rw [h] at hv <;> cases v <;> simp [valOfType] at hv
    · exact dumpFloat_spec32 _
    · exact dumpFloat_spec64 _
  · exact rawJ_spec _ _ v hv h

end Bp
