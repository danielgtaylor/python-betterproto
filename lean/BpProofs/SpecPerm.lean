import BpModel.All
import BpProofs.SpecWf
import BpProofs.SpecCore
/-
  C02: reordering.  Every record belongs to a class — the field it
  targets, or the oneof group of that field, or "unknown".  A decode step only reads and
  writes the footprint of its class (frame + locality), so the footprint of a class after
  decoding a record list depends only on the sub-list of that class.
-/
namespace Bp
open Gen

inductive Cls
  | unknown
  | field (i : Nat)
  | group (g : Nat)
  deriving DecidableEq, Repr

/-- the class of a record for the receiving message class `d` -/
def classOf (d : MsgD) (pf : PField) : Cls :=
  match findField d.fields pf.num with
  | Option.none => .unknown
  | some idx =>
    match d.fields[idx]? with
    | Option.none => .field idx
    | some f =>
      if !wireFits f pf.wt then .unknown
      else match f.group with
        | some g => .group g
        | Option.none => .field idx

/-- what a record of field `idx` = `f` may read or write: its own slot, and — for a oneof
    member — the selection of its group and the slots of all members of the group -/
def AgreeFoot (fs : List FieldD) (f : FieldD) (idx : Nat) (a b : MState) : Prop :=
  a.slots.getD idx .ph = b.slots.getD idx .ph ∧
  ∀ g, f.group = some g →
    a.cur.getD g Option.none = b.cur.getD g Option.none ∧
    ∀ k, grp fs k = some g → a.slots.getD k .ph = b.slots.getD k .ph

def SameShape (a b : MState) : Prop := a.slots.length = b.slots.length ∧ a.cur.length = b.cur.length

/-- agreement of two states on the footprint of a class -/
def AgreeOn (d : MsgD) : Cls → MState → MState → Prop
  | .unknown, _, _ => True
  | .field i, a, b => a.slots.getD i .ph = b.slots.getD i .ph
  | .group g, a, b =>
    a.cur.getD g Option.none = b.cur.getD g Option.none ∧
    ∀ k, grp d.fields k = some g → a.slots.getD k .ph = b.slots.getD k .ph

/-- classes that partition the state: a field outside every oneof, or a oneof group -/
def Legit (d : MsgD) : Cls → Prop
  | .field i => grp d.fields i = Option.none
  | _ => True

section Footprint
variable (S : Schema) (rec : Loader) (d : MsgD)

theorem classOf_targets (pf : PField) (idx : Nat) (f : FieldD) (h : Targets d pf idx f) :
    classOf d pf = (match f.group with | some g => Cls.group g | Option.none => Cls.field idx) := by
  obtain ⟨h1, h2, h3⟩ := h
  unfold classOf
  simp only [h1, h2, h3, Bool.not_true, Bool.false_eq_true, if_false]

theorem classOf_unknown (pf : PField) (h : isUnknownField d pf = true) : classOf d pf = .unknown := by
  unfold isUnknownField at h
  unfold classOf
  cases h1 : findField d.fields pf.num with
  | none => rfl
  | some idx =>
    rw [h1] at h
    simp only at h ⊢
    cases h2 : d.fields[idx]? with
    | none => rw [h2] at h; simp at h
    | some f => rw [h2] at h; simp only at h ⊢; simp [h]

theorem agreeOn_of_foot (f : FieldD) (idx : Nat) (a b : MState) (hf : d.fields[idx]? = some f) :
    AgreeOn d (match f.group with | some g => Cls.group g | Option.none => Cls.field idx) a b
      ↔ AgreeFoot d.fields f idx a b := by
  unfold AgreeFoot
  cases hg : f.group with
  | none => simp [AgreeOn]
  | some g =>
    simp only [AgreeOn]
    constructor
    · intro ⟨h1, h2⟩
      exact ⟨h2 idx (by rw [grp_of _ _ _ hf, hg]), fun g' e => by injection e with e; subst e; exact ⟨h1, h2⟩⟩
    · intro ⟨_, h2⟩
      exact h2 g rfl

/-- an assignment to slot `idx` touches that slot, and for a oneof member the slots and the
    selection of its group; nothing else -/
theorem commit_frame (a : MState) (idx : Nat) (f : FieldD) (u : Bool × Val)
    (hf : d.fields[idx]? = some f) (hu : u.1 = false → storedVal S u.2 = u.2) :
    (∀ k, k ≠ idx → ¬ (f.group.isSome ∧ grp d.fields k = f.group) →
        (commit S d a idx f u).slots.getD k .ph = a.slots.getD k .ph)
    ∧ (∀ g', f.group ≠ some g' → (commit S d a idx f u).cur.getD g' Option.none = a.cur.getD g' Option.none) := by
  refine ⟨fun k hk hg => ?_, fun g' hg => ?_⟩
  · rw [commit_slots_getD S d a idx f u hf hu k, if_neg (fun hh => hk hh.1),
      if_neg (fun hh => hg ⟨hh.2.1, hh.2.2.1⟩)]
  · rw [commit_cur_getD S d a idx f u hf g', if_neg (fun hh => hg hh.1)]

theorem applyField_other_class (a a' : MState) (pf : PField) (c : Cls)
    (hl : Legit d c) (hc : classOf d pf ≠ c) (h : applyField S rec d a pf = .ok a') : AgreeOn d c a' a := by
  rcases applyField_commit_ok S rec d a a' pf h with ⟨_, rfl⟩ | ⟨idx, f, v, u, ht, _, hu, rfl⟩
  · cases c <;> simp [AgreeOn]
  have hf := ht.2.1
  obtain ⟨fr1, fr2⟩ := commit_frame S d a idx f u hf (fun e => by
    obtain ⟨b, y⟩ := u; cases e; exact slotUpdate_stored S f _ v y hu)
  rw [classOf_targets d pf idx f ht] at hc
  cases c with
  | unknown => trivial
  | field i =>
    simp only [Legit] at hl
    simp only [AgreeOn]
    have hne : i ≠ idx := by
      intro e; subst e
      have : f.group = Option.none := by rw [← grp_of _ _ _ hf]; exact hl
      rw [this] at hc; exact hc rfl
    exact fr1 i hne (fun hh => by rw [hl] at hh; cases hg : f.group <;> simp [hg] at hh)
  | group g =>
    have hg : f.group ≠ some g := by
      intro e; rw [e] at hc; exact hc rfl
    simp only [AgreeOn]
    refine ⟨fr2 g hg, fun k hk => fr1 k ?_ ?_⟩
    · intro e; subst e; rw [grp_of _ _ _ hf] at hk; exact hg hk
    · intro hh; rw [hk] at hh; exact hg hh.2.symm

theorem hidden_agree (fs : List FieldD) (f : FieldD) (idx : Nat) (a b : MState) (h : AgreeFoot fs f idx a b) :
    hidden f idx a.cur = hidden f idx b.cur := by
  unfold hidden
  cases hg : f.group with
  | none => rfl
  | some g => simp only; rw [(h.2 g hg).1]

theorem agree_setAt (fs : List FieldD) (f : FieldD) (idx : Nat) (a b : MState) (x : Val)
    (hs : SameShape a b) (h : AgreeFoot fs f idx a b) :
    AgreeFoot fs f idx { a with slots := setAt a.slots idx x } { b with slots := setAt b.slots idx x } := by
  refine ⟨?_, fun g hg => ⟨(h.2 g hg).1, fun k hk => ?_⟩⟩
  · show (setAt a.slots idx x).getD idx .ph = (setAt b.slots idx x).getD idx .ph
    rw [setAt_getD, setAt_getD, hs.1, h.1]
  · show (setAt a.slots idx x).getD k .ph = (setAt b.slots idx x).getD k .ph
    rw [setAt_getD, setAt_getD, hs.1, (h.2 g hg).2 k hk]

theorem agree_setAttr (f : FieldD) (idx : Nat) (a b : MState) (x : Val)
    (hf : d.fields[idx]? = some f) (hs : SameShape a b) (h : AgreeFoot d.fields f idx a b) :
    AgreeFoot d.fields f idx (setAttr S d.fields a idx x) (setAttr S d.fields b idx x) := by
  refine ⟨?_, fun g hg => ⟨?_, fun k hk => ?_⟩⟩
  · rw [setAttr_slots_getD S d.fields a idx x f hf idx, setAttr_slots_getD S d.fields b idx x f hf idx, hs.1, h.1]
  · rw [setAttr_cur_getD S d.fields a idx x f hf g, setAttr_cur_getD S d.fields b idx x f hf g, hs.2, (h.2 g hg).1]
  · rw [setAttr_slots_getD S d.fields a idx x f hf k, setAttr_slots_getD S d.fields b idx x f hf k, hs.1,
      (h.2 g hg).2 k hk]

theorem agree_commit (f : FieldD) (idx : Nat) (a b : MState) (u : Bool × Val)
    (hf : d.fields[idx]? = some f) (hs : SameShape a b) (hag : AgreeFoot d.fields f idx a b) :
    AgreeFoot d.fields f idx (commit S d a idx f u) (commit S d b idx f u) := by
  unfold commit
  rw [hidden_agree d.fields f idx a b hag]
  split
  · exact agree_setAttr S d f idx a b _ hf hs hag
  · exact agree_setAt d.fields f idx a b _ hs hag

/-- what `getattr` returns, and hence the whole step, is read off the footprint -/
theorem applyField_local (a b a' : MState) (pf : PField) (idx : Nat) (f : FieldD)
    (ht : Targets d pf idx f) (hs : SameShape a b) (hag : AgreeFoot d.fields f idx a b)
    (h : applyField S rec d a pf = .ok a') :
    ∃ b', applyField S rec d b pf = .ok b' ∧ AgreeFoot d.fields f idx a' b' := by
  have hf := ht.2.1
  have hc : current S d a idx f = current S d b idx f := by
    rw [current_eq S d a idx f hf, current_eq S d b idx f hf, hs.1, hidden_agree d.fields f idx a b hag, hag.1]
  rw [applyField_commit S rec d a pf idx f ht] at h
  obtain ⟨v, hv, h⟩ := bind_inv h
  rw [applyField_commit S rec d b pf idx f ht, hv, bind_ok, ← hc]
  cases hu : slotUpdate f (current S d a idx f) v with
  | error e => rw [hu] at h; cases h
  | ok u => rw [hu] at h; cases h; exact ⟨_, rfl, agree_commit S d f idx a b u hf hs hag⟩

end Footprint

end Bp
