import BpProofs.Gen.SrcTime
import BpProofs.TimeArith
/-
  THE TIE between the Timestamp / Duration model and the translated source: what the intrinsics of
  BpProofs/PyPreludeTime.lean compute on the operands that occur in `Bp.Src.duration_* / timestamp_*`
  (BpProofs/Gen/SrcTime.lean, regenerated from the Python AST of `_Duration` / `_Timestamp` in
  src/betterproto/__init__.py on every run), on the arithmetic of BpProofs/TimeArith.lean.
  Props/C15Src.lean proves from them that each translated method computes exactly what the
  model function computes, for EVERY integer argument (no range bound: the methods are
  loop-free integer arithmetic); BpProofs/SrcTieLeaf.lean does the same for
  `timestamp_to_json` with the float lemmas at the end.  The C15 theorems are about the model
  functions, so together they hold of the code as written today, up to the semantics of the
  Python primitives fixed in BpProofs/PyPrelude.lean and BpProofs/PyPreludeTime.lean.
-/
namespace Bp.SrcTie
open Bp Bp.Py

/-- `delta // timedelta(microseconds=1)` is the microsecond count of `delta` -/
theorem tdFloorDiv_one_us (d : Int) : Py.tdFloorDiv d (Py.timedelta 0 0 1) = d := Int.ediv_one d

/-- the `offset_us` expression of `from_datetime` reassembles the timedelta it takes apart -/
theorem td_components (us : Int) :
    ((Py.tdDays us * 24 * 60 * 60 + Py.tdSeconds us) * 1000000 + Py.tdMicroseconds us) = us := by
  rw [Int.mul_assoc, Int.mul_assoc]
  exact TimeArith.components us 86400 1000000

/- `_Timestamp.timestamp_to_json`: the float operations on the nanos `u * 1000`, `u < 10^6`

  All values that occur lie in `[0, 10^9)`, far inside the exact range of `Py.fexact`. -/

theorem fexact_ok (v : Int) (h : -9007199254740992 < v ∧ v < 9007199254740992) : Py.fexact v = .ok v :=
  if_pos h

theorem fexact_small {v : Int} (h0 : 0 ≤ v) (h1 : v < 1000000000) : Py.fexact v = .ok v :=
  fexact_ok v ⟨Int.lt_of_lt_of_le (by decide) h0, Int.lt_trans h1 (by decide)⟩

theorem fmod_ok {x c r : Int} (hc : 0 < c) (hc' : c ≤ 1000000000) (e : x % c = r) : Py.fmod x c = .ok r :=
  e ▸ fexact_small (Int.emod_nonneg x (Int.ne_of_gt hc)) (Int.lt_of_lt_of_le (Int.emod_lt_of_pos x hc) hc')

theorem nanos_range {u : Nat} (h : u < 1000000) : 0 ≤ (u : Int) * 1000 ∧ (u : Int) * 1000 < 1000000000 := by
  omega

theorem ffloordiv_ok {u : Nat} (h : u < 1000000) {c r : Int} (hc : 0 < c) (e : (u : Int) * 1000 / c = r) :
    Py.ffloordiv ((u : Int) * 1000) c = .ok r :=
  have n := nanos_range h
  e ▸ fexact_small (Int.ediv_nonneg n.1 (Int.le_of_lt hc)) (Int.lt_of_le_of_lt (Int.ediv_le_self c n.1) n.2)

theorem fmul_us (u : Nat) (h : u < 1000000) : Py.fmul (u : Int) 1000 = .ok ((u : Int) * 1000) :=
  fexact_small (nanos_range h).1 (nanos_range h).2

theorem fmod_e9 (u : Nat) (h : u < 1000000) : Py.fmod ((u : Int) * 1000) 1000000000 = .ok ((u : Int) * 1000) :=
  fmod_ok (by decide) (by decide) (Int.emod_eq_of_lt (nanos_range h).1 (nanos_range h).2)

theorem fmod_e6 (u : Nat) :
    Py.fmod ((u : Int) * 1000) 1000000 = .ok (((u % 1000 : Nat) : Int) * 1000) :=
  fmod_ok (by decide) (by decide) (congrArg Prod.snd (TimeArith.scale_floor (u : Int) 1000 (k := 1000) (by decide))).symm

theorem fdiv_e6 (u : Nat) (h : u < 1000000) :
    Py.ffloordiv ((u : Int) * 1000) 1000000 = .ok ((u / 1000 : Nat) : Int) := by
  rw [Int.natCast_ediv]
  exact ffloordiv_ok h (by decide) (Int.mul_ediv_mul_of_pos_left (u : Int) 1000 (by decide))

theorem fmod_e3 (u : Nat) : Py.fmod ((u : Int) * 1000) 1000 = .ok 0 :=
  fmod_ok (by decide) (by decide) (Int.mul_emod_left _ _)

theorem fdiv_e3 (u : Nat) (h : u < 1000000) : Py.ffloordiv ((u : Int) * 1000) 1000 = .ok (u : Int) :=
  ffloordiv_ok h (by decide) (Int.mul_ediv_cancel _ (by decide))

end Bp.SrcTie
