import BpProofs.JsonRtInst
/-
  C04, JSON-text path: what `to_dict` returns for a message of the guarded domain is JSON
  serialisable (`isJson`), and `json.loads(json.dumps(d))` is `d` itself (`jsonText d = some d`),
  so `from_json(to_json(m))` is `from_dict(to_dict(m))`.
-/
namespace Bp
open Gen

def strKey : JKey → Bool
  | .str _ => true
  | _ => false

mutual
/-- no raw leaf, every key a string, every NaN the canonical one -/
def textOk : JVal → Bool
  | .raw _ => false
  | .fnum32 b => !isNaN32 b || b == 0x7fc00000
  | .fnum b => !isNaN64 b || b == 0x7ff8000000000000
  | .arr xs => textOkList xs
  | .obj ks vs => ks.all strKey && textOkList vs
  | _ => true
def textOkList : List JVal → Bool
  | [] => true
  | x :: xs => textOk x && textOkList xs
end

theorem strKeys_map (ks : List JKey) (h : ks.all strKey = true) (g : JKey → JKey) (hg : ∀ s, g (.str s) = .str s) :
    ks.map g = ks := by
  induction ks with
  | nil => rfl
  | cons k ks ih =>
    simp only [List.all_cons, Bool.and_eq_true] at h
    obtain ⟨h1, h2⟩ := h
    cases k <;> simp [strKey] at h1
    simp only [List.map_cons, hg, ih h2]

theorem strKeys_all (ks : List JKey) (h : ks.all strKey = true) (p : JKey → Bool) (hp : ∀ s, p (.str s) = true) :
    ks.all p = true := by
  induction ks with
  | nil => rfl
  | cons k ks ih =>
    simp only [List.all_cons, Bool.and_eq_true] at h
    obtain ⟨h1, h2⟩ := h
    cases k <;> simp [strKey] at h1
    simp only [List.all_cons, hp, ih h2, Bool.and_self]

mutual
theorem textOk_spec : ∀ (j : JVal), textOk j = true → jsonText j = some j ∧ isJson j = true
  | .raw _, h => by simp [textOk] at h
  | .fnum32 b, h => by
    simp only [textOk, Bool.or_eq_true, Bool.not_eq_true', beq_iff_eq] at h
    refine ⟨?_, by simp [isJson]⟩
    rw [jsonText]
    rcases h with h | h
    · simp [h]
    · subst h; simp
  | .fnum b, h => by
    simp only [textOk, Bool.or_eq_true, Bool.not_eq_true', beq_iff_eq] at h
    refine ⟨?_, by simp [isJson]⟩
    rw [jsonText]
    rcases h with h | h
    · simp [h]
    · subst h; simp
  | .arr xs, h => by
    rw [textOk] at h
    obtain ⟨a, b⟩ := textOkList_spec xs h
    rw [jsonText, isJson, a, b]; exact ⟨rfl, rfl⟩
  | .obj ks vs, h => by
    rw [textOk] at h
    simp only [Bool.and_eq_true] at h
    obtain ⟨a, b⟩ := textOkList_spec vs h.2
    rw [jsonText, isJson, a, b]
    refine ⟨?_, ?_⟩
    · simp only [Option.map_some]
      congr 2
      exact strKeys_map ks h.1 _ (fun _ => rfl)
    · simp only [Bool.and_true]
      exact strKeys_all ks h.1 _ (fun _ => rfl)
  | .null, _ | .bool _, _ | .num _, _ | .fstr _, _ | .str _, _ | .decStr _, _ | .b64 _, _ | .tsStr _, _
  | .durStr _, _ => by simp [jsonText, isJson]
theorem textOkList_spec : ∀ (xs : List JVal), textOkList xs = true → jsonTextList xs = some xs ∧ isJsonList xs = true
  | [], _ => by simp [jsonTextList, isJsonList]
  | x :: xs, h => by
    rw [textOkList] at h
    simp only [Bool.and_eq_true] at h
    obtain ⟨a, b⟩ := textOk_spec x h.1
    obtain ⟨c, d⟩ := textOkList_spec xs h.2
    rw [jsonTextList, isJsonList, a, b, c, d]; exact ⟨rfl, rfl⟩
end


section Kinds
variable (S : Schema) (E : Enums) (cs : KeyCase) (f : FieldD) (hid sel : Bool)

theorem textOk_rawJ (t : PType) (v : Val) (hv : valOfType t v = true) (hb : t ≠ PType.bytes) : textOk (rawJ v) = true := by
  rcases valOfType_cases _ _ hv with ⟨i, rfl⟩ | ⟨b, rfl, _⟩ | ⟨b, rfl, ht⟩ | ⟨b, rfl, ht⟩ | ⟨s, rfl, _⟩ | ⟨s, rfl, ht⟩
  · simp [rawJ, textOk]
  · simp [rawJ, textOk]
  · subst ht; simpa [rawJ, textOk, valOfType] using hv
  · subst ht; simpa [rawJ, textOk, valOfType] using hv
  · simp [rawJ, textOk]
  · exact absurd ht hb

/-- a NaN is written as the string "NaN": a float that is written as a number is none, whatever the bit pattern -/
theorem textOk_dumpFloat32 (b : Nat) : textOk (dumpFloat (.f32 b)) = true := by
  simp only [dumpFloat]
  split
  · rfl
  · split
    · rfl
    · split
      · rfl
      · rename_i hn; simp [textOk, hn]

theorem textOk_dumpFloat64 (b : Nat) : textOk (dumpFloat (.f64 b)) = true := by
  simp only [dumpFloat]
  split
  · rfl
  · split
    · rfl
    · split
      · rfl
      · rename_i hn; simp [textOk, hn]

theorem textOk_encItem (v : Val) (hv : valOfType f.ty v = true) :
    textOk (encItem E f v) = true := by
  rcases encItem_cases E f v hv with ⟨_, i, rfl, e⟩ | ⟨_, i, rfl, e⟩ | ⟨_, b, rfl, e⟩ | ⟨h, e⟩ | ⟨h, _, e⟩ <;> rw [e]
  · rfl
  · simp only [dumpEnum]; split <;> rfl
  · rfl
  · rcases h with h | h <;> rw [h] at hv <;> cases v <;> simp [valOfType] at hv
    · exact textOk_dumpFloat32 _
    · exact textOk_dumpFloat64 _
  · exact textOk_rawJ f.ty v hv (by intro e; simp [e] at h)

theorem textOkList_map (g : Val → JVal) (xs : List Val) (h : ∀ x ∈ xs, textOk (g x) = true) :
    textOkList (xs.map g) = true := by
  induction xs with
  | nil => rw [List.map_nil, textOkList]
  | cons x xs ih =>
    rw [List.map_cons, textOkList, h x (by simp), ih (fun y hy => h y (by simp [hy]))]; rfl


theorem keyJ_strKeys (ks : List Val) (h : ∀ k ∈ ks, ∃ s, k = Val.str s) : (ks.map keyJ).all strKey = true := by
  induction ks with
  | nil => rfl
  | cons k ks ih =>
    obtain ⟨s, rfl⟩ := h k (by simp)
    simp only [List.map_cons, List.all_cons, keyJ, strKey, Bool.true_and]
    exact ih (fun y hy => h y (by simp [hy]))


theorem kvs_strKeys (fs : List FieldD) (cur : List (Option Nat))
    (vs : List Val) (idx : Nat) : ((toDictKVs S E cs false fs cur idx vs).map (·.1)).all strKey = true := by
  induction vs generalizing idx with
  | nil => rw [toDictKVs]; rfl
  | cons v vs ih =>
    rw [toDictKVs]
    split
    · rfl
    · split
      · simp only [List.map_cons, List.all_cons, jsonKey, strKey, Bool.true_and]; exact ih (idx + 1)
      · exact ih (idx + 1)

end Kinds

/-- whatever `to_dict` writes is JSON text: for one slot, for the slots of a message, for a list of messages -/
def TxtAt (S : Schema) (E : Enums) (cs : KeyCase) : JAt → Prop
  | .slot f hid sel v => ∀ j, toDictSlot S E cs false f hid sel v = some j → textOk j = true
  | .slots fs cur idx vs => textOkList ((toDictKVs S E cs false fs cur idx vs).map (·.2)) = true
  | .msgs _ xs => textOkList (toDictList S E cs false xs) = true ∧ textOkList (toDictMapVals S E cs false xs) = true

theorem txt_walk (S : Schema) (E : Enums) (cs : KeyCase) {a : JAt} (h : JOk S a) : TxtAt S E cs a := by
  induction h with
  | @unset f _ hj ho => intro j hjj; rw [toDictSlot_ph, toDictDefault_none S E f hj] at hjj; cases hjj
  | @none f hr hmap ho => intro j hjj; rw [toDictSlot_none S E cs f hr hmap ho] at hjj; cases hjj
  | @wrapped f _ v w hm hw hb hr hv =>
    intro j hjj
    rw [toDictSlot_wrapped S E cs false f _ v w hm hw hv] at hjj
    injection hjj with hjj
    rw [← hjj]; exact textOk_rawJ w v hv hb
  | time hm hw hr hk =>
    intro j hjj
    rcases hk with ⟨_, us, rfl⟩ | ⟨_, us, rfl⟩ <;>
      (rw [toDictSlot_leaf _ _ _ _ _ _ _ _ rfl] at hjj
       simp only [Bool.false_eq_true, if_false, toDictPlain, hm, if_true] at hjj
       rw [some_of_ite hjj]; rfl)
  | @scalar f _ v hm hmap hr hv =>
    intro j hjj
    rw [toDictSlot_scalar S E cs f _ v hm hmap hr hv] at hjj
    rw [some_of_ite hjj]; exact textOk_encItem E f v hv
  | @times f xs hrep hm hk =>
    intro j hjj
    rw [toDictSlot_repeated_msg S E cs false f false xs hm hrep.nw hrep.rep] at hjj
    rcases hk with ⟨hk, hx⟩ | ⟨hk, hx⟩ <;>
    · rw [hk] at hjj
      rw [some_of_ite hjj, textOk]
      exact textOkList_map _ xs fun x h => by obtain ⟨us, rfl⟩ := hx x h; rfl
  | @scalars f xs hrep hm hv =>
    intro j hjj
    rw [toDictSlot_repeated_scalar S E cs false f false xs hm hrep.nmap hrep.rep] at hjj
    rw [some_of_ite hjj, textOk]
    exact textOkList_map _ xs (fun x hx => textOk_encItem E f x (hv x hx))
  | @items f xs c hrep hm hk _ ih =>
    intro j hjj
    rw [toDictSlot_repeated_msg S E cs false f false xs hm hrep.nw hrep.rep, hk] at hjj
    rw [some_of_ite hjj, textOk]
    exact ih.1
  | @mapS f ks vs hmf hv hl hks hvs =>
    intro j hjj
    have hraw : ∀ x ∈ vs, rawOk x = true := fun x hx => valOfType_rawOk _ x (hvs x hx) hmf.vb
    rw [toDictSlot_map S E cs false f false ks vs hmf.ty] at hjj
    rw [some_of_ite hjj, textOk, keyJ_strKeys ks hks, toDictMapVals_raw S E cs false vs hraw, rawJList_eq_map]
    exact textOkList_map _ vs (fun x hx => textOk_rawJ f.mapV x (hvs x hx) hmf.vb)
  | @mapM f ks vs c hmf hv hk hl hks _ ih =>
    intro j hjj
    rw [toDictSlot_map S E cs false f false ks vs hmf.ty] at hjj
    rw [some_of_ite hjj, textOk, keyJ_strKeys ks hks, ih.2]; rfl
  | @sub f sel c sl ow unk cur hm hw hr hk hgs hbody _ ih =>
    intro j hjj
    rw [toDictSlot_msg S E cs false f _ c sl ow unk cur hm hw hr] at hjj
    rw [some_of_ite hjj, mkObj, textOk, kvs_strKeys, ih]; rfl
  | nil => rw [TxtAt, toDictKVs]; rfl
  | @cons fs cur idx f a vs hf _ _ ih1 ih2 =>
    rw [TxtAt, toDictKVs, hf]
    simp only
    cases hts : toDictSlot S E cs false f (hidden f idx cur) (selectedInGroup f idx cur) a with
    | none => exact ih2
    | some j => simp only [List.map_cons]; rw [textOkList, ih2, ih1 j hts]; rfl
  | nilM => rw [TxtAt, toDictList, toDictMapVals]; exact ⟨rfl, rfl⟩
  | consM hbody _ _ ih1 ih2 =>
    rw [TxtAt, toDictList, toDictMapVals]
    simp only [mkObj]
    rw [textOkList, textOkList, textOk, kvs_strKeys, ih1, ih2.1, ih2.2]
    exact ⟨rfl, rfl⟩

theorem txt_slot (S : Schema) (E : Enums) (cs : KeyCase) (hS : SchemaOk S E cs) (f : FieldD) (hid sel : Bool)
    (hj : FJ f) (hs : HS f hid sel) :
    ∀ (v : Val), slotOk' S f hid sel v = true → ∀ j, toDictSlot S E cs false f hid sel v = some j → textOk j = true :=
  fun v h => txt_walk S E cs (jslot_of S (schema_field S E cs hS) f hid sel hj hs v h)

theorem txt_msgs (S : Schema) (E : Enums) (cs : KeyCase) (hS : SchemaOk S E cs) (c : Nat) :
    ∀ (xs : List Val), (∀ x ∈ xs, ∃ sl ow unk cur, x = Val.msg c sl ow unk cur ∧ bodyOk S c sl unk cur = true) →
      textOkList (toDictList S E cs false xs) = true ∧ textOkList (toDictMapVals S E cs false xs) = true :=
  fun xs h => txt_walk S E cs (jmsgs_of S (schema_field S E cs hS) c xs h)

theorem toDict_text (S : Schema) (E : Enums) (cs : KeyCase) (hS : SchemaOk S E cs) (c : Nat) (sl : List Val)
    (ow : Bool) (unk : Bytes) (cur : List (Option Nat)) (hwt : wellTyped' S (.msg c sl ow unk cur) = true) :
    isJson (toDict S E cs false (.msg c sl ow unk cur)) = true ∧
    jsonText (toDict S E cs false (.msg c sl ow unk cur)) = some (toDict S E cs false (.msg c sl ow unk cur)) := by
  rw [wellTyped_msg] at hwt
  have a : textOkList _ = true := txt_walk S E cs (jslots_of S (schema_field S E cs hS) _ cur (schema_field S E cs hS c) sl 0
    (bodyOk_spec S c sl unk cur hwt).2.2.2)
  have : textOk (toDict S E cs false (.msg c sl ow unk cur)) = true := by
    rw [toDict, mkObj, textOk, kvs_strKeys, a]; rfl
  obtain ⟨h1, h2⟩ := textOk_spec _ this
  exact ⟨h2, h1⟩

end Bp

#print axioms Bp.toDict_text
