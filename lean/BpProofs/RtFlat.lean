import BpModel.All
import BpProofs.Rt
import BpProofs.RtScalar
import BpProofs.RtPacked
import BpProofs.RtItem
/-
  C01: decoding the bytes of one slot restores it — for the flat fragment (scalar fields
  of every kind: singular, proto3-optional, oneof member, repeated packed / unpacked).
-/
namespace Bp
open Gen

/-- a field of the flat fragment -/
structure FlatField (f : FieldD) : Prop where
  sc : isScalarType f.ty = true
  nw : f.wraps = Option.none
  num : numOk f.num = true
  rep : f.repeated = true → f.optional = false ∧ f.group = Option.none

/-- a raw slot value that is well-typed for a flat field -/
def flatSlotOk (f : FieldD) : Val → Bool
  | .ph => !f.optional
  | .none => f.optional
  | .list xs => f.repeated && xs.all (scalarOk f.ty)
  | v => !f.repeated && scalarOk f.ty v

theorem flat_notmap (f : FieldD) (h : FlatField f) : (f.ty == PType.map) = false := by
  have := h.sc; unfold isScalarType at this; simp at this; simp [this.2]

theorem flat_defKind_singular (f : FieldD) (h : FlatField f) (hr : f.repeated = false) :
    f.defKind = (if f.optional then DefKind.none else scalarDef f.ty) := by
  have hs := h.sc; unfold isScalarType at hs; simp at hs
  unfold FieldD.defKind
  simp [hr, hs.1, hs.2, h.nw]

theorem scalarOk_plain (t : PType) (v : Val) (h : scalarOk t v = true) : isPlainVal v = true ∧ isMsgVal v = false := by
  cases v <;> simp [scalarOk] at h <;> simp [isPlainVal, isMsgVal]

/-- the codec of a scalar item, whatever its wire class: `scalar_record_roundtrip` -/
theorem itemRt_scalar (S : Schema) (rec : Loader) (f : FieldD) (x : Val) (hff : FlatField f)
    (hx : scalarOk f.ty x = true) : ItemRt S rec f (fun a b => a = b) x := by
  obtain ⟨hpl, hnm⟩ := scalarOk_plain f.ty x hx
  intro se a ha hne hl
  have ha' := ha
  rw [dumpRec_nonmsg S _ _ _ _ x hnm, hff.nw] at ha
  exact ⟨x, scalar_record_roundtrip S rec f x se a hff.num hff.sc hx hl ha hne, rfl, isItem_of_plain S x hpl,
    AsPresent.refl S x, ha'⟩

theorem slotStep_scalar (S : Schema) (rec : Loader) (d : MsgD) (k : Nat) (f : FieldD) (hid sel : Bool) (v : Val)
    (hd : NumsDistinct d.fields) (hk : d.fields[k]? = some f) (hff : FlatField f)
    (hr : f.repeated = false) (hv : scalarOk f.ty v = true)
    (R : FieldD → Val → Val → Prop) (hR : ∀ f v, R f v v) :
    SlotStep S rec d R k f hid sel v :=
  slotStep_one S rec d R (fun a b => a = b) k f hid sel v hd hk (flat_notmap f hff) hr
    (isItem_of_plain S v (scalarOk_plain f.ty v hv).1).one (itemRt_scalar S rec f v hff hv) fun _ e => e ▸ hR f v

theorem forall₂_eq (xs ys : List Val) (h : List.Forall₂ (fun a b => a = b) xs ys) : xs = ys := by
  induction h with
  | nil => rfl
  | cons h1 _ ih => rw [h1, ih]

/-- repeated scalar slot: packed (one record for the whole list) or not (string / bytes: one record per item) -/
theorem slotStep_repeated (S : Schema) (rec : Loader) (d : MsgD) (k : Nat) (f : FieldD) (sel : Bool) (xs : List Val)
    (hd : NumsDistinct d.fields) (hk : d.fields[k]? = some f) (hff : FlatField f)
    (hr : f.repeated = true) (hx : ∀ x ∈ xs, scalarOk f.ty x = true) (hsel : sel = false)
    (R : FieldD → Val → Val → Prop) (hR : ∀ f v, R f v v) :
    SlotStep S rec d R k f false sel (.list xs) := by
  obtain ⟨ho, hg⟩ := hff.rep hr
  by_cases hp : isPacked f.ty = true
  · refine slotStep_of_emitted S rec d R k f false sel (.list xs) (hR f _) fun st b hb hbe hbl hkl how hfresh _ _ => ?_
    subst hsel
    have hdk := defKind_rep f hr
    have hfr : st.slots.getD k .ph = Val.ph := by rw [hfresh]; simp [freshVal, ho]
    have hmat : materialize S f (st.slots.getD k .ph) = Val.list [] := by
      rw [hfr]; simp [materialize, defaultOf, hdk, defaultOfKind]
    rw [dumpSlot_many S f xs hr ho hg] at hb
    have hxe : xs ≠ [] := by
      intro hc; subst hc; injection hb with hb; exact hbe hb.symm
    rw [if_neg (by rw [List.isEmpty_iff]; exact hxe), if_pos hp] at hb
    obtain ⟨pfs, h1, h2, h3⟩ := fold_record S rec d st _ k f b (.list xs) hd hk
      (packed_record_roundtrip S rec f xs b hff.num hp hr hx hxe hbl hb)
      (store_repeated S d st k f [] (.list xs) hkl (flat_notmap f hff) hg hmat)
    refine ⟨pfs, h1, h2, ?_⟩
    rw [h3]
    simp [afterStore, hg, how]
  · exact slotStep_many S rec d k f sel xs (fun a b => a = b) R hd hk (flat_notmap f hff) (by simpa using hp) hr ho hg hsel
      (fun x hxm => itemRt_scalar S rec f x hff (hx x hxm)) fun ys h => by rw [← forall₂_eq xs ys h]; exact hR f _

end Bp
