import BpModel.All
import BpModel.Json
import BpProofs.Value
/-
  C04, the VALUE guard of the round-trip theorems.

  `wellTyped'` is `wellTyped` (BpModel/Json.lean, the guard the driver evaluates: `WF WT`) WITHOUT
  the clause "an absent plain sub-message equals a fresh one"

      ow || f.optional || sel || eqDefault S f.defKind (.msg c sl ow unk cur)

  of `slotOk`: a plain (not optional, not oneof) sub-message may be unmarked
  (`_serialized_on_wire` False) and yet differ from `Sub()` — the state `m.a.b.x = 1` /
  `m.a.items.append(1)` leaves `m.a` in (D46).  Everything else is the same, so
  `wellTyped S m = true → wellTyped' S m = true` (`wellTyped_weaken`): every input the driver's
  guard admits is in the domain of the theorems.

  Then what the two Boolean guards say: `fieldJsonOk` by name (`FJ`), `slotOk'` by kind of value.
-/
namespace Bp
open Gen

mutual
/-- message values in the domain of the round-trip theorems: no unknown fields, every slot typed
    as its field says, unselected oneof members unset, canonical NaN -/
def wellTyped' (S : Schema) : Val → Bool
  | .msg c sl _ unk cur =>
    unk.isEmpty && sl.length == (fieldsOf S c).length && cur.length == groupsOf S c &&
      slotsOk' S (fieldsOf S c) cur 0 sl
  | _ => false
def slotsOk' (S : Schema) (fs : List FieldD) (cur : List (Option Nat)) : Nat → List Val → Bool
  | _, [] => true
  | i, v :: vs =>
    (match fs[i]? with
     | some f => slotOk' S f (hidden f i cur) (selectedInGroup f i cur) v
     | Option.none => false) && slotsOk' S fs cur (i + 1) vs
def slotOk' (S : Schema) (f : FieldD) (hid sel : Bool) : Val → Bool
  | .ph => !sel && !f.optional
  | .none => f.group.isNone && (f.optional || f.wraps.isSome) && !f.repeated && f.ty != .map
  | .list xs => !hid && f.repeated && f.ty != .map && itemsOk' S f xs
  | .dict ks vs => !hid && f.ty == .map && ks.length == vs.length && ks.all (valOfType f.mapK) && mapValsOk' S f vs
  | .msg c sl _ unk cur =>
    !hid && f.ty == .message && f.wraps.isNone && !f.repeated && f.kind == .user c &&
      unk.isEmpty && sl.length == (fieldsOf S c).length && cur.length == groupsOf S c &&
      slotsOk' S (fieldsOf S c) cur 0 sl
  | v => !hid && !f.repeated && leafOk f v
def itemsOk' (S : Schema) (f : FieldD) : List Val → Bool
  | [] => true
  | x :: xs =>
    (match x with
     | .msg c sl _ unk cur =>
       f.ty == .message && f.wraps.isNone && f.kind == .user c &&
         unk.isEmpty && sl.length == (fieldsOf S c).length && cur.length == groupsOf S c &&
         slotsOk' S (fieldsOf S c) cur 0 sl
     | x => leafOk f x) && itemsOk' S f xs
def mapValsOk' (S : Schema) (f : FieldD) : List Val → Bool
  | [] => true
  | x :: xs =>
    (match x with
     | .msg c sl _ unk cur =>
       f.mapV == .message && f.mapVKind == .user c &&
         unk.isEmpty && sl.length == (fieldsOf S c).length && cur.length == groupsOf S c &&
         slotsOk' S (fieldsOf S c) cur 0 sl
     | x => f.mapV != .message && valOfType f.mapV x) && mapValsOk' S f xs
end


mutual
theorem slotsOk_weaken (S : Schema) (fs : List FieldD) (cur : List (Option Nat)) :
    ∀ (vs : List Val) (k : Nat), slotsOk S fs cur k vs = true → slotsOk' S fs cur k vs = true
  | [], _, _ => by rw [slotsOk']
  | v :: vs, k, h => by
    rw [slotsOk] at h
    rw [slotsOk']
    simp only [Bool.and_eq_true] at h ⊢
    refine ⟨?_, slotsOk_weaken S fs cur vs (k + 1) h.2⟩
    cases hf : fs[k]? with
    | none => have := h.1; rw [hf] at this; cases this
    | some f =>
      have := h.1
      rw [hf] at this
      exact slotOk_weaken S f _ _ v this
termination_by structural vs => vs

theorem slotOk_weaken (S : Schema) (f : FieldD) (hid sel : Bool) :
    ∀ (v : Val), slotOk S f hid sel v = true → slotOk' S f hid sel v = true
  | .msg c sl ow unk cur, h => by
    rw [slotOk] at h
    rw [slotOk']
    simp only [Bool.and_eq_true] at h ⊢
    obtain ⟨⟨⟨⟨⟨h1, _⟩, h3⟩, h4⟩, h5⟩, h6⟩ := h
    exact ⟨⟨⟨⟨h1, h3⟩, h4⟩, h5⟩, slotsOk_weaken S (fieldsOf S c) cur sl 0 h6⟩
  | .list xs, h => by
    rw [slotOk] at h
    rw [slotOk']
    · simp only [Bool.and_eq_true] at h ⊢
      exact ⟨h.1, itemsOk_weaken S f xs h.2⟩
    all_goals (intros; contradiction)
  | .dict ks vs, h => by
    rw [slotOk] at h
    rw [slotOk']
    simp only [Bool.and_eq_true] at h ⊢
    exact ⟨h.1, mapValsOk_weaken S f vs h.2⟩
  | .ph, h => by rw [slotOk] at h; rw [slotOk']; exact h
  | .none, h => by rw [slotOk] at h; rw [slotOk']; exact h
  | .int _, h | .bool _, h | .f32 _, h | .f64 _, h | .str _, h | .byt _, h | .ts _, h | .dur _, h => by
    rw [slotOk] at h
    rw [slotOk']
    · exact h
    all_goals (intros; contradiction)
termination_by structural v => v

theorem itemsOk_weaken (S : Schema) (f : FieldD) : ∀ (xs : List Val), itemsOk S f xs = true → itemsOk' S f xs = true
  | [], _ => by rw [itemsOk']
  | .msg c sl ow unk cur :: xs, h => by
    rw [itemsOk] at h
    rw [itemsOk']
    simp only [Bool.and_eq_true] at h ⊢
    exact ⟨⟨h.1.1, slotsOk_weaken S (fieldsOf S c) cur sl 0 h.1.2⟩, itemsOk_weaken S f xs h.2⟩
  | .ph :: xs, h | .none :: xs, h | .int _ :: xs, h | .bool _ :: xs, h | .f32 _ :: xs, h | .f64 _ :: xs, h
  | .str _ :: xs, h | .byt _ :: xs, h | .ts _ :: xs, h | .dur _ :: xs, h | .list _ :: xs, h | .dict _ _ :: xs, h => by
    rw [itemsOk] at h
    rw [itemsOk']
    · simp only [Bool.and_eq_true] at h ⊢
      exact ⟨h.1, itemsOk_weaken S f xs h.2⟩
    all_goals (intros; contradiction)
termination_by structural xs => xs

theorem mapValsOk_weaken (S : Schema) (f : FieldD) : ∀ (xs : List Val), mapValsOk S f xs = true → mapValsOk' S f xs = true
  | [], _ => by rw [mapValsOk']
  | .msg c sl ow unk cur :: xs, h => by
    rw [mapValsOk] at h
    rw [mapValsOk']
    simp only [Bool.and_eq_true] at h ⊢
    exact ⟨⟨h.1.1, slotsOk_weaken S (fieldsOf S c) cur sl 0 h.1.2⟩, mapValsOk_weaken S f xs h.2⟩
  | .ph :: xs, h | .none :: xs, h | .int _ :: xs, h | .bool _ :: xs, h | .f32 _ :: xs, h | .f64 _ :: xs, h
  | .str _ :: xs, h | .byt _ :: xs, h | .ts _ :: xs, h | .dur _ :: xs, h | .list _ :: xs, h | .dict _ _ :: xs, h => by
    rw [mapValsOk] at h
    rw [mapValsOk']
    · simp only [Bool.and_eq_true] at h ⊢
      exact ⟨h.1, mapValsOk_weaken S f xs h.2⟩
    all_goals (intros; contradiction)
termination_by structural xs => xs
end


theorem itemsOk'_cons (S : Schema) (f : FieldD) (x : Val) (xs : List Val) (h : itemsOk' S f (x :: xs) = true) :
    itemsOk' S f xs = true ∧
      ∀ c sl ow unk cur, x = Val.msg c sl ow unk cur → slotsOk' S (fieldsOf S c) cur 0 sl = true := by
  unfold itemsOk' at h
  simp only [Bool.and_eq_true] at h
  refine ⟨h.2, ?_⟩
  intro c sl ow unk cur e
  subst e
  have := h.1
  simp only [Bool.and_eq_true] at this
  exact this.2

theorem mapValsOk'_cons (S : Schema) (f : FieldD) (x : Val) (xs : List Val) (h : mapValsOk' S f (x :: xs) = true) :
    mapValsOk' S f xs = true ∧
      ∀ c sl ow unk cur, x = Val.msg c sl ow unk cur → slotsOk' S (fieldsOf S c) cur 0 sl = true := by
  unfold mapValsOk' at h
  simp only [Bool.and_eq_true] at h
  refine ⟨h.2, ?_⟩
  intro c sl ow unk cur e
  subst e
  have := h.1
  simp only [Bool.and_eq_true] at this
  exact this.2

/-- **the value guard of the theorems is weaker than the one the driver evaluates** -/
theorem wellTyped_weaken (S : Schema) (m : Val) (h : wellTyped S m = true) : wellTyped' S m = true := by
  cases m with
  | msg c sl ow unk cur =>
    rw [wellTyped] at h
    rw [wellTyped']
    simp only [Bool.and_eq_true] at h ⊢
    exact ⟨h.1, slotsOk_weaken S (fieldsOf S c) cur sl 0 h.2⟩
  | _ => simp [wellTyped] at h

/-- values that `toDictSlot` hands to `toDictPlain`: neither PLACEHOLDER, a container nor a message -/
def isLeafVal : Val → Bool
  | .ph | .list _ | .dict _ _ | .msg _ _ _ _ _ => false
  | _ => true

theorem valOfType_leaf (t : PType) (v : Val) (hv : valOfType t v = true) : isLeafVal v = true ∧ v ≠ .none := by
  cases v with
  | int _ | bool _ | f32 _ | f64 _ | str _ | byt _ => exact ⟨rfl, nofun⟩
  | _ => cases hv

section Slot
variable (S : Schema) (f : FieldD) (hid sel : Bool)

/-- `HS` ("hidden / selected"): `hid` / `sel` are flags that `to_dict` can compute for the field -/
def HS (f : FieldD) (hid sel : Bool) : Prop :=
  (f.group = Option.none → hid = false ∧ sel = false) ∧ (hid = true → sel = false)

theorem hs_slot (k : Nat) (cur : List (Option Nat)) : HS f (hidden f k cur) (selectedInGroup f k cur) := by
  rw [selectedInGroup_eq]
  exact ⟨fun hg => ⟨hidden_nogroup f k cur hg, by rw [hg]; rfl⟩, fun h => by rw [h, Bool.not_true, Bool.and_false]⟩

/-- `FJ f` ("field JSON-ok"): the facts `fieldJsonOk f = true` gives, by name (`fj_of`) -/
structure FJ (f : FieldD) : Prop where
  rep_opt : f.repeated = true → f.optional = false
  rep_grp : f.repeated = true → f.group = Option.none
  grp_opt : f.group.isSome = true → f.optional = false
  map_rep : (f.ty == PType.map) = true → f.repeated = false
  map_opt : (f.ty == PType.map) = true → f.optional = false
  map_grp : (f.ty == PType.map) = true → f.group = Option.none
  map_wr : (f.ty == PType.map) = true → f.wraps = Option.none
  map_k : (f.ty == PType.map) = true → f.mapK = PType.string
  map_vb : (f.ty == PType.map) = true → f.mapV ≠ PType.bytes
  map_vm : (f.ty == PType.map) = true → f.mapV ≠ PType.map
  map_vk : (f.ty == PType.map) = true → (f.mapV == PType.message) = true → ∃ c, f.mapVKind = .user c
  wr_msg : f.wraps.isSome = true → (f.ty == PType.message) = true
  wr_rep : f.wraps.isSome = true → f.repeated = false
  wr_opt : f.wraps.isSome = true → f.optional = false
  wr_b : f.wraps ≠ some PType.bytes

theorem fj_of (h : fieldJsonOk f = true) : FJ f := by
  unfold fieldJsonOk at h
  simp only [Bool.and_eq_true, Bool.not_eq_true', Bool.and_eq_false_iff] at h
  obtain ⟨⟨⟨h1, h2⟩, h3⟩, h4⟩ := h
  have hro : f.repeated = true → f.optional = false := fun hr => by
    rcases h1 with h | h
    · rw [hr] at h; cases h
    · exact h
  have hrg : f.repeated = true → f.group = Option.none := fun hr => by
    rcases h2 with h | h
    · rw [hr] at h; cases h
    · cases hg : f.group with
      | none => rfl
      | some g => rw [hg] at h; simp at h
  have hgo : f.group.isSome = true → f.optional = false := fun hg => by
    rcases h3 with h | h
    · exact h
    · rw [hg] at h; cases h
  by_cases hmap : (f.ty == PType.map) = true
  · rw [if_pos hmap] at h4
    simp only [Bool.and_eq_true, Bool.not_eq_true', bne_iff_ne, ne_eq, Option.isNone_iff_eq_none, beq_iff_eq,
      Bool.or_eq_true] at h4
    -- the conjuncts of the `map` branch of `fieldJsonOk`, in its order
    obtain ⟨⟨⟨⟨⟨⟨⟨hrep, hopt⟩, hgrp⟩, hwr⟩, hkey⟩, hvb⟩, hvm⟩, hvk⟩ := h4
    refine { rep_opt := hro, rep_grp := hrg, grp_opt := hgo, map_rep := fun _ => hrep, map_opt := fun _ => hopt,
             map_grp := fun _ => hgrp, map_wr := fun _ => hwr, map_k := fun _ => hkey, map_vb := fun _ => hvb,
             map_vm := fun _ => hvm, map_vk := ?_, wr_msg := ?_, wr_rep := ?_, wr_opt := ?_, wr_b := ?_ }
    · intro _ hv
      have hv' : f.mapV = PType.message := by simpa using hv
      rcases hvk with hvk | hvk
      · exact absurd hv' hvk
      · cases hk : f.mapVKind with
        | user c => exact ⟨c, rfl⟩
        | timestamp => rw [hk] at hvk; simp at hvk
        | duration => rw [hk] at hvk; simp at hvk
    · intro hw; rw [hwr] at hw; simp at hw
    · intro hw; rw [hwr] at hw; simp at hw
    · intro hw; rw [hwr] at hw; simp at hw
    · rw [hwr]; simp
  · rw [if_neg hmap] at h4
    -- not a map: the eight `map_*` fields hold vacuously, the four `wr_*` fields are left
    have nm : ∀ {P : Prop}, (f.ty == PType.map) = true → P := fun h => absurd h hmap
    have notMap (wr_msg : f.wraps.isSome = true → (f.ty == PType.message) = true)
        (wr_rep : f.wraps.isSome = true → f.repeated = false) (wr_opt : f.wraps.isSome = true → f.optional = false)
        (wr_b : f.wraps ≠ some PType.bytes) : FJ f :=
      { rep_opt := hro, rep_grp := hrg, grp_opt := hgo, map_rep := nm, map_opt := nm, map_grp := nm, map_wr := nm,
        map_k := nm, map_vb := nm, map_vm := nm, map_vk := nm, wr_msg, wr_rep, wr_opt, wr_b }
    by_cases hm : (f.ty == PType.message) = true
    · rw [if_pos hm] at h4
      cases hw : f.wraps with
      | none => refine notMap ?_ ?_ ?_ ?_ <;> simp [hw]
      | some w =>
        rw [hw] at h4
        simp only [Bool.and_eq_true, Bool.not_eq_true', bne_iff_ne, ne_eq] at h4
        refine notMap (fun _ => hm) (fun _ => h4.1.1.1) (fun _ => h4.1.1.2) ?_
        intro e; rw [hw] at e; injection e with e; exact h4.2 e
    · rw [if_neg hm] at h4
      have hw : f.wraps = Option.none := by simpa using h4
      refine notMap ?_ ?_ ?_ ?_ <;> simp [hw]

theorem FJ.opt_single {f : FieldD} (hj : FJ f) (ho : f.optional = true) :
    f.repeated = false ∧ (f.ty == PType.map) = false :=
  ⟨Bool.eq_false_iff.mpr fun hr => (by rw [hj.rep_opt hr] at ho; cases ho),
    Bool.eq_false_iff.mpr fun hm => (by rw [hj.map_opt hm] at ho; cases ho)⟩

/-- the body of `wellTyped'` -/
def bodyOk (S : Schema) (c : Nat) (sl : List Val) (unk : Bytes) (cur : List (Option Nat)) : Bool :=
  unk.isEmpty && sl.length == (fieldsOf S c).length && cur.length == groupsOf S c &&
    slotsOk' S (fieldsOf S c) cur 0 sl

theorem slotOk_ph : slotOk' S f hid sel .ph = (!sel && !f.optional) := by
  rw [slotOk']

theorem slotOk_none :
    slotOk' S f hid sel .none = (f.group.isNone && (f.optional || f.wraps.isSome) && !f.repeated && f.ty != .map) := by
  rw [slotOk']

theorem slotOk_list (xs : List Val) :
    slotOk' S f hid sel (.list xs) = (!hid && f.repeated && f.ty != .map && itemsOk' S f xs) := by
  rw [slotOk']

theorem slotOk_dict (ks vs : List Val) :
    slotOk' S f hid sel (.dict ks vs) =
      (!hid && f.ty == .map && ks.length == vs.length && ks.all (valOfType f.mapK) && mapValsOk' S f vs) := by
  rw [slotOk']

theorem slotOk_msg (c : Nat) (sl : List Val) (ow : Bool) (unk : Bytes)
    (cur : List (Option Nat)) :
    slotOk' S f hid sel (.msg c sl ow unk cur) =
      (!hid && f.ty == .message && f.wraps.isNone && !f.repeated && f.kind == .user c && bodyOk S c sl unk cur) := by
  rw [slotOk']; simp only [bodyOk, Bool.and_assoc]

theorem slotOk_leaf (v : Val) (hl : isLeafVal v = true) (hn : v ≠ .none) :
    slotOk' S f hid sel v = (!hid && !f.repeated && leafOk f v) := by
  cases v with
  | ph | list _ | dict _ _ | msg _ _ _ _ _ => cases hl
  | none => exact absurd rfl hn
  | _ => rw [slotOk']; all_goals (intros; contradiction)

theorem wellTyped_msg (c : Nat) (sl : List Val) (ow : Bool) (unk : Bytes) (cur : List (Option Nat)) :
    wellTyped' S (.msg c sl ow unk cur) = bodyOk S c sl unk cur := by
  rw [wellTyped']; rfl


theorem leafOk_cases (v : Val) (h : leafOk f v = true) :
    ((f.ty == PType.message) = true ∧ ∃ w, f.wraps = some w ∧ valOfType w v = true) ∨
    ((f.ty == PType.message) = true ∧ f.wraps = Option.none ∧
      ((f.kind = .timestamp ∧ ∃ us, v = .ts us) ∨ (f.kind = .duration ∧ ∃ us, v = .dur us))) ∨
    ((f.ty == PType.message) = false ∧ (f.ty == PType.map) = false ∧ valOfType f.ty v = true) := by
  unfold leafOk at h
  by_cases hm : (f.ty == PType.message) = true
  · simp only [hm, if_true] at h
    cases hw : f.wraps with
    | some w => rw [hw] at h; exact Or.inl ⟨hm, w, rfl, h⟩
    | none =>
      rw [hw] at h
      refine Or.inr (Or.inl ⟨hm, rfl, ?_⟩)
      cases hk : f.kind <;> rw [hk] at h <;> cases v <;> simp_all
  · simp only [hm, Bool.false_eq_true, if_false, Bool.and_eq_true, bne_iff_ne, ne_eq] at h
    exact Or.inr (Or.inr ⟨by simpa using hm, by simpa using h.1, h.2⟩)

theorem leafOk_leaf (x : Val) (h : leafOk f x = true) : isLeafVal x = true ∧ x ≠ .none := by
  rcases leafOk_cases f x h with ⟨_, w, _, hv⟩ | ⟨_, _, ⟨_, us, rfl⟩ | ⟨_, us, rfl⟩⟩ | ⟨_, _, hv⟩
  · exact valOfType_leaf w x hv
  · exact ⟨rfl, nofun⟩
  · exact ⟨rfl, nofun⟩
  · exact valOfType_leaf f.ty x hv

theorem itemsOk_cons_nonmsg (x : Val) (xs : List Val) (hx : isMsgVal x = false) :
    itemsOk' S f (x :: xs) = (leafOk f x && itemsOk' S f xs) := by
  cases x with
  | msg _ _ _ _ _ => cases hx
  | _ => rw [itemsOk']; all_goals (intros; contradiction)

theorem msg_or_not (a : Val) : (∃ c sl ow unk cur, a = Val.msg c sl ow unk cur) ∨ isMsgVal a = false := by
  cases a with
  | msg c sl ow unk cur => exact Or.inl ⟨c, sl, ow, unk, cur, rfl⟩
  | _ => exact Or.inr rfl

theorem itemsOk_leaf (xs : List Val)
    (hnu : ¬ ((f.ty == PType.message) = true ∧ f.wraps = Option.none ∧ ∃ c, f.kind = .user c))
    (h : itemsOk' S f xs = true) : ∀ x ∈ xs, leafOk f x = true := by
  induction xs with
  | nil => intro x hx; cases hx
  | cons a as ih =>
    rcases msg_or_not a with ⟨c, sl, ow, unk, cur, rfl⟩ | h'
    · rw [itemsOk'] at h
      simp only [Bool.and_eq_true, beq_iff_eq, Option.isNone_iff_eq_none] at h
      obtain ⟨⟨⟨⟨⟨⟨⟨hty, hwr⟩, hkc⟩, _⟩, _⟩, _⟩, _⟩, _⟩ := h
      exact absurd ⟨by simpa using hty, hwr, c, hkc⟩ hnu
    · rw [itemsOk_cons_nonmsg S f a as h'] at h
      have h' := h
      simp only [Bool.and_eq_true] at h'
      intro x hx
      rcases List.mem_cons.1 hx with rfl | hx
      · exact h'.1
      · exact ih h'.2 x hx

theorem itemsOk_user (c : Nat) (xs : List Val)
    (hm : (f.ty == PType.message) = true) (hw : f.wraps = Option.none) (hk : f.kind = .user c)
    (h : itemsOk' S f xs = true) : ∀ x ∈ xs, ∃ sl ow unk cur, x = Val.msg c sl ow unk cur ∧ bodyOk S c sl unk cur = true := by
  induction xs with
  | nil => intro x hx; cases hx
  | cons a as ih =>
    rcases msg_or_not a with ⟨c', sl, ow, unk, cur, rfl⟩ | h'
    · rw [itemsOk'] at h
      simp only [Bool.and_eq_true, beq_iff_eq, Option.isNone_iff_eq_none] at h
      obtain ⟨⟨⟨⟨⟨⟨⟨_, _⟩, hkc⟩, h1⟩, h2⟩, h3⟩, h4⟩, hrest⟩ := h
      rw [hk] at hkc
      injection hkc with hkc; subst hkc
      intro x hx
      rcases List.mem_cons.1 hx with rfl | hx
      · refine ⟨sl, ow, unk, cur, rfl, ?_⟩
        simp [bodyOk, h1, h2, h3, h4]
      · exact ih hrest x hx
    · rw [itemsOk_cons_nonmsg S f a as h'] at h
      simp only [Bool.and_eq_true] at h
      have := h.1
      unfold leafOk at this
      simp [hm, hw, hk] at this

theorem itemsOk_flat_cases (xs : List Val) (hw : f.wraps = Option.none)
    (hnu : ¬ ((f.ty == PType.message) = true ∧ f.wraps = Option.none ∧ ∃ c, f.kind = .user c))
    (h : itemsOk' S f xs = true) :
    ((f.ty == PType.message) = true ∧
      ((f.kind = .timestamp ∧ ∀ x ∈ xs, ∃ us, x = .ts us) ∨ (f.kind = .duration ∧ ∀ x ∈ xs, ∃ us, x = .dur us))) ∨
    ((f.ty == PType.message) = false ∧ ∀ x ∈ xs, valOfType f.ty x = true) := by
  have hleaf := itemsOk_leaf S f xs hnu h
  by_cases hm : (f.ty == PType.message) = true
  · have hitem : ∀ x ∈ xs, (f.kind = .timestamp ∧ ∃ us, x = .ts us) ∨ (f.kind = .duration ∧ ∃ us, x = .dur us) := by
      intro x hx
      rcases leafOk_cases f x (hleaf x hx) with ⟨_, w, hw', _⟩ | ⟨_, _, hk⟩ | ⟨hm', _, _⟩
      · rw [hw] at hw'; cases hw'
      · exact hk
      · rw [hm] at hm'; cases hm'
    refine Or.inl ⟨hm, ?_⟩
    cases hk : f.kind with
    | user c => exact absurd ⟨hm, hw, c, hk⟩ hnu
    | timestamp =>
      exact Or.inl ⟨rfl, fun x hx => (hitem x hx).elim (·.2) fun h => by rw [hk] at h; cases h.1⟩
    | duration =>
      exact Or.inr ⟨rfl, fun x hx => (hitem x hx).elim (fun h => by rw [hk] at h; cases h.1) (·.2)⟩
  · refine Or.inr ⟨by simpa using hm, fun x hx => ?_⟩
    rcases leafOk_cases f x (hleaf x hx) with ⟨hm', _⟩ | ⟨hm', _⟩ | ⟨_, _, hv⟩
    · exact absurd hm' hm
    · exact absurd hm' hm
    · exact hv

theorem list_common (xs : List Val) (hj : FJ f) (hs : HS f hid sel)
    (h : slotOk' S f hid sel (.list xs) = true) :
    hid = false ∧ sel = false ∧ f.repeated = true ∧ (f.ty == PType.map) = false ∧ f.optional = false ∧
      f.wraps = Option.none ∧ itemsOk' S f xs = true := by
  rw [slotOk_list] at h
  simp only [Bool.and_eq_true, Bool.not_eq_true', bne_iff_ne, ne_eq] at h
  obtain ⟨⟨⟨hh, hr⟩, hmap⟩, hit⟩ := h
  have hw : f.wraps = Option.none := by
    cases hw : f.wraps with
    | none => rfl
    | some w => have := hj.wr_rep (by simp [hw]); rw [hr] at this; cases this
  exact ⟨hh, (hs.1 (hj.rep_grp hr)).2, hr, by simpa using hmap, hj.rep_opt hr, hw, hit⟩

theorem mapValsOk_cons_nonmsg (x : Val) (xs : List Val) (hx : isMsgVal x = false) :
    mapValsOk' S f (x :: xs) = ((f.mapV != PType.message && valOfType f.mapV x) && mapValsOk' S f xs) := by
  cases x with
  | msg _ _ _ _ _ => cases hx
  | _ => rw [mapValsOk']; all_goals (intros; contradiction)

theorem mapValsOk_scalar (vs : List Val) (hv : (f.mapV == PType.message) = false)
    (h : mapValsOk' S f vs = true) : ∀ x ∈ vs, valOfType f.mapV x = true := by
  induction vs with
  | nil => intro x hx; cases hx
  | cons a as ih =>
    rcases msg_or_not a with ⟨c, sl, ow, unk, cur, rfl⟩ | h'
    · rw [mapValsOk'] at h
      simp only [Bool.and_eq_true] at h
      have := h.1.1.1.1.1.1
      rw [hv] at this; cases this
    · rw [mapValsOk_cons_nonmsg S f a as h'] at h
      simp only [Bool.and_eq_true] at h
      intro x hx
      rcases List.mem_cons.1 hx with rfl | hx
      · exact h.1.2
      · exact ih h.2 x hx

theorem mapValsOk_user (c : Nat) (vs : List Val) (hv : (f.mapV == PType.message) = true)
    (hk : f.mapVKind = .user c) (h : mapValsOk' S f vs = true) :
    ∀ x ∈ vs, ∃ sl ow unk cur, x = Val.msg c sl ow unk cur ∧ bodyOk S c sl unk cur = true := by
  induction vs with
  | nil => intro x hx; cases hx
  | cons a as ih =>
    rcases msg_or_not a with ⟨c', sl, ow, unk, cur, rfl⟩ | h'
    · rw [mapValsOk'] at h
      simp only [Bool.and_eq_true, beq_iff_eq] at h
      obtain ⟨⟨⟨⟨⟨⟨_, hkc⟩, h1⟩, h2⟩, h3⟩, h4⟩, hrest⟩ := h
      rw [hk] at hkc
      injection hkc with hkc; subst hkc
      intro x hx
      rcases List.mem_cons.1 hx with rfl | hx
      · refine ⟨sl, ow, unk, cur, rfl, ?_⟩
        simp [bodyOk, h1, h2, h3, h4]
      · exact ih hrest x hx
    · rw [mapValsOk_cons_nonmsg S f a as h'] at h
      simp only [Bool.and_eq_true, bne_iff_ne, ne_eq] at h
      exact absurd (by simpa using hv) h.1.1

theorem dict_common (ks vs : List Val) (hj : FJ f) (hs : HS f hid sel)
    (h : slotOk' S f hid sel (.dict ks vs) = true) :
    hid = false ∧ sel = false ∧ f.ty = PType.map ∧ (∀ k ∈ ks, ∃ s, k = Val.str s) ∧ mapValsOk' S f vs = true := by
  rw [slotOk_dict] at h
  simp only [Bool.and_eq_true, Bool.not_eq_true', beq_iff_eq, List.all_eq_true] at h
  obtain ⟨⟨⟨⟨hh, hty⟩, _⟩, hks⟩, hvs⟩ := h
  have hm : (f.ty == PType.map) = true := by simpa using hty
  refine ⟨hh, (hs.1 (hj.map_grp hm)).2, hty, ?_, hvs⟩
  intro k hk
  have := hks k hk
  rw [hj.map_k hm] at this
  cases k <;> simp [valOfType] at this
  exact ⟨_, rfl⟩

theorem bodyOk_spec (c : Nat) (sl : List Val) (unk : Bytes) (cur : List (Option Nat))
    (h : bodyOk S c sl unk cur = true) :
    unk = [] ∧ sl.length = (fieldsOf S c).length ∧ cur.length = groupsOf S c ∧
      slotsOk' S (fieldsOf S c) cur 0 sl = true := by
  unfold bodyOk at h
  simp only [Bool.and_eq_true, beq_iff_eq, List.isEmpty_iff] at h
  exact ⟨h.1.1.1, h.1.1.2, h.1.2, h.2⟩

end Slot

end Bp

#print axioms Bp.wellTyped_weaken
