import BpModel.All
import BpProofs.Encodable
/-
  Schema evolution, the "bystander" half: two schemas `S` and `S'` that agree on every class
  index except `c`, where no field of any class of `S` refers to class `c` (as sub-message
  class or as map-value class).  Then every well-typed value of a class other than `c` is
  well-typed under `S'` too, and encodes to the same bytes under both schemas.

  Structure:
    (1) the encoder reads the schema only through `fieldsOf S c'` for the class `c'` of a
        message VALUE it meets (and, for scalars, through `eqDefault S (scalarDef w) v` /
        `defaultOfKind S k` with a scalar `k`, where `S` is irrelevant).  So byte equality is a
        purely syntactic fact: it holds for every value in which no nested message value has
        class `c` (`clsFree`), whatever the typing (`dump_free`, by induction over the value);
    (2) a well-typed value in a `FieldFree` field is `clsFree` and well-typed under `S'`
        (`slotOk_tr`, …): the walk over `MsgOk` by shape of slot (BpProofs/OkView.lean), the
        result turned back into `SlotOk S'` by `SlotShape.slotOk`.
-/
namespace Bp
open Gen

def AgreeOff (c : Nat) (S S' : Schema) : Prop := ∀ c', c' ≠ c → S'[c']? = S[c']?

def FieldFree (c : Nat) (f : FieldD) : Prop :=
  (f.ty = PType.message → f.kind ≠ MsgKind.user c) ∧ (f.ty = PType.map → f.mapVKind ≠ MsgKind.user c)

def SchemaFree (c : Nat) (S : Schema) : Prop := ∀ d ∈ S, ∀ f ∈ d.fields, FieldFree c f

def fieldFreeB (c : Nat) (f : FieldD) : Bool :=
  (!(f.ty == PType.message) || !(f.kind == MsgKind.user c))
    && (!(f.ty == PType.map) || !(f.mapVKind == MsgKind.user c))

def schemaFreeB (c : Nat) (S : Schema) : Bool := S.all fun d => d.fields.all (fieldFreeB c)

theorem fieldFreeB_iff (c : Nat) (f : FieldD) : fieldFreeB c f = true ↔ FieldFree c f := by
  simp [fieldFreeB, FieldFree, imp_iff_not_or]

theorem schemaFreeB_iff (c : Nat) (S : Schema) : schemaFreeB c S = true ↔ SchemaFree c S := by
  simp only [schemaFreeB, SchemaFree, List.all_eq_true, fieldFreeB_iff]

theorem schemaFreeB_sound (c : Nat) (S : Schema) (h : schemaFreeB c S = true) : SchemaFree c S :=
  (schemaFreeB_iff c S).mp h

theorem schemaFreeB_complete (c : Nat) (S : Schema) (h : SchemaFree c S) : schemaFreeB c S = true :=
  (schemaFreeB_iff c S).mpr h

mutual
/-- no message value nested in the value (the value itself included) has class `c`;
    map keys are not inspected (they are written by `serializeScalar`, which ignores the schema) -/
def clsFree (c : Nat) : Val → Bool
  | .msg c' sl _ _ _ => c' != c && clsFreeL c sl
  | .list xs => clsFreeL c xs
  | .dict _ vs => clsFreeL c vs
  | _ => true
def clsFreeL (c : Nat) : List Val → Bool
  | [] => true
  | x :: xs => clsFree c x && clsFreeL c xs
end

theorem fieldsOf_agree (c : Nat) (S S' : Schema) (ha : AgreeOff c S S') (c' : Nat) (hc : c' ≠ c) :
    fieldsOf S' c' = fieldsOf S c' := by
  unfold fieldsOf
  rw [ha c' hc]

theorem groupsOf_agree (c : Nat) (S S' : Schema) (ha : AgreeOff c S S') (c' : Nat) (hc : c' ≠ c) :
    groupsOf S' c' = groupsOf S c' := by
  unfold groupsOf
  rw [ha c' hc]

theorem eqDefault_scalarDef (S S' : Schema) (w : PType) (v : Val) :
    eqDefault S' (scalarDef w) v = eqDefault S (scalarDef w) v := by
  cases v with
  | msg c sl ow unk cur => cases w <;> simp [eqDefault, scalarDef]
  | _ => simp [eqDefault]

theorem eqDefault_nonmsg (S S' : Schema) (k : DefKind) (v : Val) (h : isMsgVal v = false) :
    eqDefault S' k v = eqDefault S k v := by
  cases v with
  | msg c sl ow unk cur => simp [isMsgVal] at h
  | _ => simp [eqDefault]

theorem wrapperBytes_indep (S S' : Schema) : wrapperBytes S' = wrapperBytes S := by
  funext w v
  unfold wrapperBytes scalarIsDefault
  rw [eqDefault_scalarDef S S']

theorem prepScalar_indep (S S' : Schema) : prepScalar S' = prepScalar S := by
  funext t w v
  unfold prepScalar
  rw [wrapperBytes_indep S S']

theorem serializeScalar_indep (S S' : Schema) : serializeScalar S' = serializeScalar S := by
  funext n t v se w
  unfold serializeScalar
  rw [prepScalar_indep S S']

theorem prepPacked_indep (S S' : Schema) (t : PType) : ∀ xs : List Val, prepPacked S' t xs = prepPacked S t xs
  | [] => by rw [prepPacked, prepPacked]
  | x :: xs => by rw [prepPacked, prepPacked, prepScalar_indep S S', prepPacked_indep S S' t xs]

theorem dumpDefault_indep (S S' : Schema) (f : FieldD) (sel : Bool) : dumpDefault S' f sel = dumpDefault S f sel := by
  unfold dumpDefault
  rw [serializeScalar_indep S S']
  generalize f.defKind = k
  cases k <;> rfl

theorem eqDefault_msg_of (c : Nat) (S S' : Schema) (ha : AgreeOff c S S') (c' : Nat) (sl : List Val) (ow : Bool)
    (unk : Bytes) (cur : List (Option Nat)) (hc : c' ≠ c)
    (ih : ∀ fs, slotsEqFresh S' fs sl = slotsEqFresh S fs sl) (k : DefKind) :
    eqDefault S' k (.msg c' sl ow unk cur) = eqDefault S k (.msg c' sl ow unk cur) := by
  cases k with
  | msg c'' => simp only [eqDefault]; rw [fieldsOf_agree c S S' ha c' hc, ih]
  | _ => simp [eqDefault]

theorem clsFree_msg (c c' : Nat) (sl : List Val) (ow : Bool) (unk : Bytes) (cur : List (Option Nat))
    (h : clsFree c (.msg c' sl ow unk cur) = true) : c' ≠ c ∧ clsFreeL c sl = true := by
  rw [clsFree] at h
  simpa using h

theorem clsFreeL_cons (c : Nat) (x : Val) (xs : List Val) (h : clsFreeL c (x :: xs) = true) :
    clsFree c x = true ∧ clsFreeL c xs = true := by
  rw [clsFreeL] at h
  simpa using h

/-- on values without an instance of class `c`, `value == default` does not read class `c` -/
theorem eqDefault_free_both (c : Nat) (S S' : Schema) (ha : AgreeOff c S S') :
    (∀ v, clsFree c v = true → ∀ k, eqDefault S' k v = eqDefault S k v) ∧
    ∀ vs, clsFreeL c vs = true → ∀ fs, slotsEqFresh S' fs vs = slotsEqFresh S fs vs := by
  apply val_induction
  case atom => exact fun v hv _ k => eqDefault_nonmsg S S' k v (isAtom_nonmsg v hv)
  case list => exact fun xs _ _ k => eqDefault_nonmsg S S' k _ rfl
  case dict => exact fun ks vs _ _ _ k => eqDefault_nonmsg S S' k _ rfl
  case msg =>
    intro c' sl ow unk cur ih h k
    obtain ⟨hc, hsl⟩ := clsFree_msg c c' sl ow unk cur h
    exact eqDefault_msg_of c S S' ha c' sl ow unk cur hc (ih hsl) k
  case nil =>
    intro _ fs
    rw [slotsEqFresh_nil_right, slotsEqFresh_nil_right]
  case cons =>
    intro v vs ihv ihvs h fs
    obtain ⟨hv, hvs⟩ := clsFreeL_cons c v vs h
    cases fs with
    | nil => rw [slotsEqFresh_nil_left, slotsEqFresh_nil_left]
    | cons f fs =>
      have h1 := ihv hv f.defKind
      have h2 := ihvs hvs fs
      cases v <;> simp only [slotsEqFresh, h1, h2]

theorem eqDefault_free (c : Nat) (S S' : Schema) (ha : AgreeOff c S S') : ∀ (v : Val), clsFree c v = true →
    ∀ k, eqDefault S' k v = eqDefault S k v :=
  (eqDefault_free_both c S S' ha).1

theorem dumpSlot_one_free (S S' : Schema) (f : FieldD) (hid sel : Bool) (v : Val) (ho : isOneVal v = true)
    (he : ∀ k, eqDefault S' k v = eqDefault S k v)
    (hr : ∀ num t w se, dumpRec S' num t w se v = dumpRec S num t w se v) :
    dumpSlot S' f hid sel v = dumpSlot S f hid sel v := by
  rw [dumpSlot_one S' f hid sel v ho, dumpSlot_one S f hid sel v ho, he, hr]

/-- **on values without an instance of class `c` the encoder does not read class `c`**: the record of one value and
    a slot; a slot list, the items of a list, the values of a dict -/
theorem dump_free (c : Nat) (S S' : Schema) (ha : AgreeOff c S S') :
    (∀ v, clsFree c v = true →
      (∀ num t w se, dumpRec S' num t w se v = dumpRec S num t w se v)
      ∧ ∀ f hid sel, dumpSlot S' f hid sel v = dumpSlot S f hid sel v) ∧
    ∀ vs, clsFreeL c vs = true →
      (∀ F cur idx, dumpSlots S' F cur idx vs = dumpSlots S F cur idx vs)
      ∧ (∀ f, dumpItems S' f vs = dumpItems S f vs)
      ∧ ∀ f ks, dumpEntries S' f ks vs = dumpEntries S f ks vs := by
  have scalar : ∀ v, isMsgVal v = false → ∀ num t w se, dumpRec S' num t w se v = dumpRec S num t w se v :=
    fun v hv num t w se => by
      rw [dumpRec_nonmsg S' _ _ _ _ v hv, dumpRec_nonmsg S _ _ _ _ v hv, serializeScalar_indep S S']
  apply val_induction
  case atom =>
    intro v hv _
    refine ⟨scalar v (isAtom_nonmsg v hv), fun f hid sel => ?_⟩
    cases v with
    | list | dict | msg => cases hv
    | ph => rw [dumpSlot, dumpSlot, dumpDefault_indep S S']
    | none => rw [dumpSlot, dumpSlot]
    | _ => exact dumpSlot_one_free S S' f hid sel _ rfl (fun k => eqDefault_nonmsg S S' k _ rfl) (scalar _ rfl)
  case list =>
    intro xs ih h
    obtain ⟨_, hi, _⟩ := ih (by rw [clsFree] at h; exact h)
    refine ⟨scalar _ rfl, fun f hid sel => ?_⟩
    rw [dumpSlot, dumpSlot, eqDefault_nonmsg S S' _ (.list xs) rfl, prepPacked_indep S S', hi]
  case dict =>
    intro ks vs _ ih h
    obtain ⟨_, _, he⟩ := ih (by rw [clsFree] at h; exact h)
    refine ⟨scalar _ rfl, fun f hid sel => ?_⟩
    rw [dumpSlot, dumpSlot, eqDefault_nonmsg S S' _ (.dict ks vs) rfl, he]
  case msg =>
    intro c' sl ow unk cur ih h
    obtain ⟨hc, hsl⟩ := clsFree_msg c c' sl ow unk cur h
    have hr : ∀ num t w se, dumpRec S' num t w se (.msg c' sl ow unk cur) = dumpRec S num t w se (.msg c' sl ow unk cur) :=
      fun num t w se => by rw [dumpRec, dumpRec, fieldsOf_agree c S S' ha c' hc, (ih hsl).1]
    exact ⟨hr, fun f hid sel => dumpSlot_one_free S S' f hid sel _ rfl (eqDefault_free c S S' ha _ h) hr⟩
  case nil =>
    exact fun _ => ⟨fun _ _ _ => by rw [dumpSlots, dumpSlots], fun _ => rfl, fun f ks => by
      rw [dumpEntries_nil_right, dumpEntries_nil_right]⟩
  case cons =>
    intro x xs ihx ihxs h
    obtain ⟨hx, hxs⟩ := clsFreeL_cons c x xs h
    obtain ⟨hr, hs⟩ := ihx hx
    obtain ⟨h1, h2, h3⟩ := ihxs hxs
    refine ⟨fun F cur idx => ?_, fun f => by rw [dumpItems_cons', dumpItems_cons', hr, h2], fun f ks => ?_⟩
    · rw [dumpSlots, dumpSlots]
      cases F[idx]? with
      | none => rfl
      | some f => simp only []; rw [hs, h1]
    · cases ks with
      | nil => rw [dumpEntries_nil_left, dumpEntries_nil_left]
      | cons k ks => rw [dumpEntries_cons', dumpEntries_cons', serializeScalar_indep S S', hr, h3]

theorem dumpVal_free (c : Nat) (S S' : Schema) (ha : AgreeOff c S S') : ∀ (v : Val), clsFree c v = true →
    dumpVal S' v = dumpVal S v
  | .msg c' sl ow unk cur, h => by
    obtain ⟨hc, hsl⟩ := clsFree_msg c c' sl ow unk cur h
    rw [dumpVal_msg, dumpVal_msg, fieldsOf_agree c S S' ha c' hc, ((dump_free c S S' ha).2 sl hsl).1]
  | .ph, _ | .none, _ | .int _, _ | .bool _, _ | .f32 _, _ | .f64 _, _ | .str _, _ | .byt _, _
  | .ts _, _ | .dur _, _ | .list _, _ | .dict _ _, _ => by rw [dumpVal_nonmsg S' _ rfl, dumpVal_nonmsg S _ rfl]

theorem dumpSlots_free (c : Nat) (S S' : Schema) (ha : AgreeOff c S S') : ∀ (vs : List Val), clsFreeL c vs = true →
    ∀ (F : List FieldD) (cur : List (Option Nat)) (idx : Nat), dumpSlots S' F cur idx vs = dumpSlots S F cur idx vs :=
  fun vs h => ((dump_free c S S' ha).2 vs h).1

theorem dumpSlot_free (c : Nat) (S S' : Schema) (ha : AgreeOff c S S') : ∀ (v : Val), clsFree c v = true →
    ∀ (f : FieldD) (hid sel : Bool), dumpSlot S' f hid sel v = dumpSlot S f hid sel v :=
  fun v h => ((dump_free c S S' ha).1 v h).2

theorem dumpItems_free (c : Nat) (S S' : Schema) (ha : AgreeOff c S S') : ∀ (xs : List Val), clsFreeL c xs = true →
    ∀ (f : FieldD), dumpItems S' f xs = dumpItems S f xs :=
  fun xs h => ((dump_free c S S' ha).2 xs h).2.1

theorem dumpEntries_free (c : Nat) (S S' : Schema) (ha : AgreeOff c S S') : ∀ (vs : List Val), clsFreeL c vs = true →
    ∀ (f : FieldD) (ks : List Val), dumpEntries S' f ks vs = dumpEntries S f ks vs :=
  fun vs h => ((dump_free c S S' ha).2 vs h).2.2

theorem clsFreeL_of_all (c : Nat) : ∀ (xs : List Val), (∀ x ∈ xs, clsFree c x = true) → clsFreeL c xs = true
  | [], _ => by rw [clsFreeL]
  | x :: xs, h => by
    rw [clsFreeL, h x (by simp), clsFreeL_of_all c xs (fun y hy => h y (by simp [hy]))]
    rfl

theorem scalarOk_clsFree (c : Nat) (t : PType) (v : Val) (h : scalarOk t v = true) : clsFree c v = true := by
  cases v with
  | msg _ _ _ _ _ | list _ | dict _ _ => cases h
  | _ => rfl

theorem timeValOk_clsFree (c : Nat) (b : Bool) (v : Val) (h : timeValOk b v = true) : clsFree c v = true := by
  cases v with
  | msg _ _ _ _ _ | list _ | dict _ _ => cases h
  | _ => rfl

theorem subField_ne (c : Nat) (f : FieldD) (c' : Nat) (hf : FieldFree c f) (h : SubField f c') : c' ≠ c := by
  intro e
  subst e
  exact hf.1 h.ty h.kind

theorem mapFieldM_ne (c : Nat) (f : FieldD) (c' : Nat) (hf : FieldFree c f) (h : MapFieldM f c') : c' ≠ c := by
  intro e
  subst e
  exact hf.2 h.ty h.vk

section
variable (c : Nat) (S S' : Schema)

/-- what the walk proves of a message: if its class is not `c` it is well-typed under `S'` and free of `c` -/
def TrP (m : Val) : Prop :=
  ∀ c' sl ow unk cur, m = Val.msg c' sl ow unk cur → c' ≠ c → MsgOk S' m ∧ clsFree c m = true

theorem tr_item (K : ItemKind) (x : Val) (hK : ∀ c', K = .msg c' → c' ≠ c) (h : ItemOk S (TrP c S') K x) :
    ItemOk S' (fun _ => True) K x ∧ clsFree c x = true := by
  cases h with
  | scalar t _ hx => exact ⟨.scalar t x hx, scalarOk_clsFree c t x hx⟩
  | wrapped t _ hx => exact ⟨.wrapped t x hx, scalarOk_clsFree c t x hx⟩
  | time b _ hx => exact ⟨.time b x hx, timeValOk_clsFree c b x hx⟩
  | msg c' sl ow unk cur _ ih =>
    obtain ⟨a, b⟩ := ih c' sl ow unk cur rfl (hK c' rfl)
    exact ⟨.msg c' sl ow unk cur a trivial, b⟩

theorem tr_items (K : ItemKind) (xs : List Val) (hK : ∀ c', K = .msg c' → c' ≠ c)
    (h : ∀ x ∈ xs, ItemOk S (TrP c S') K x) :
    (∀ x ∈ xs, ItemOk S' (fun _ => True) K x) ∧ clsFreeL c xs = true :=
  ⟨fun x hx => (tr_item c S S' K x hK (h x hx)).1, clsFreeL_of_all c xs fun x hx => (tr_item c S S' K x hK (h x hx)).2⟩

/-- the messages a `FieldFree` field holds are not of class `c` -/
theorem msgKind_ne (f : FieldD) (K : ItemKind) (hf : FieldFree c f) (h : OneField f K ∨ ManyField f K ∨ MapField f K) :
    ∀ c', K = .msg c' → c' ≠ c := by
  rintro c' rfl
  rcases h with h | h | h
  · cases h with | msg _ hs _ => exact subField_ne c f c' hf hs
  · cases h with | msg _ hs _ => exact subField_ne c f c' hf hs
  · cases h with | msg _ hs => exact mapFieldM_ne c f c' hf hs

theorem tr_shape (f : FieldD) (v : Val) (hf : FieldFree c f) (h : SlotShape S (TrP c S') f v) :
    SlotShape S' (fun _ => True) f v ∧ clsFree c v = true := by
  cases h with
  | unset ho => exact ⟨.unset ho, rfl⟩
  | none h => exact ⟨.none h, rfl⟩
  | one K _ hk hv =>
    obtain ⟨a, b⟩ := tr_item c S S' K v (msgKind_ne c f K hf (.inl hk)) hv
    exact ⟨.one K v hk a, b⟩
  | many K xs hk hxs =>
    obtain ⟨a, b⟩ := tr_items c S S' K xs (msgKind_ne c f K hf (.inr (.inl hk))) hxs
    exact ⟨.many K xs hk a, by rw [clsFree]; exact b⟩
  | map K ks vs hk hl hks hvs hd =>
    obtain ⟨a, b⟩ := tr_items c S S' K vs (msgKind_ne c f K hf (.inr (.inr hk))) hvs
    exact ⟨.map K ks vs hk hl hks a hd, by rw [clsFree]; exact b⟩

theorem tr_shapes (fs : List FieldD) (vs : List Val) (h : List.Forall₂ (SlotShape S (TrP c S')) fs vs)
    (hf : ∀ f ∈ fs, FieldFree c f) : SlotsOk S' fs vs ∧ clsFreeL c vs = true := by
  induction h with
  | nil => exact ⟨.nil, by rw [clsFreeL]⟩
  | cons h1 _ ih =>
    obtain ⟨a, b⟩ := tr_shape c S S' _ _ (hf _ List.mem_cons_self) h1
    obtain ⟨a', b'⟩ := ih fun g hg => hf g (List.mem_cons_of_mem _ hg)
    exact ⟨.cons _ _ _ _ (a.slotOk S') a', by rw [clsFreeL, b, b']; rfl⟩

variable (ha : AgreeOff c S S') (hs : SchemaFree c S)
include ha hs

theorem msgOk_trP : ∀ m, MsgOk S m → TrP c S' m :=
  MsgOk.walk S fun c' d sl ow unk cur hd hm hsl => by
    intro c'' sl' ow' unk' cur' e hc
    cases e
    cases hm with
    | mk _ d' _ _ _ _ hd0 h1 h2 h3 h4 h5 h6 h7 _ hunk =>
      rw [hd] at hd0; cases hd0
      obtain ⟨a, b⟩ := tr_shapes c S S' d.fields sl hsl (hs d (List.mem_of_getElem? hd))
      exact ⟨.mk c' d sl ow unk cur (by rw [ha c' hc]; exact hd) h1 h2 h3 h4 h5 h6 h7 a hunk, by
        rw [clsFree, b]; simpa using hc⟩

theorem slotOk_tr (f : FieldD) (v : Val) (h : SlotOk S f v) (hf : FieldFree c f) :
    SlotOk S' f v ∧ clsFree c v = true :=
  let r := tr_shape c S S' f v hf (SlotOk.shape S (msgOk_trP c S S' ha hs) f v h)
  ⟨r.1.slotOk S', r.2⟩

theorem slotsOk_tr (vs : List Val) (fs : List FieldD) (h : SlotsOk S fs vs) (hf : ∀ f ∈ fs, FieldFree c f) :
    SlotsOk S' fs vs ∧ clsFreeL c vs = true :=
  tr_shapes c S S' fs vs (SlotsOk.shapes S (fun _ _ _ _ _ _ _ hm _ => msgOk_trP c S S' ha hs _ hm) fs vs h) hf

end

theorem msgsOk_tr (c : Nat) (S S' : Schema) (ha : AgreeOff c S S') (hs : SchemaFree c S) (c' : Nat) :
    ∀ (xs : List Val), MsgsOk S c' xs → c' ≠ c → MsgsOk S' c' xs ∧ clsFreeL c xs = true := fun xs h hc =>
  let r := tr_items c S S' (.msg c') xs (fun _ e => by cases e; exact hc) (MsgsOk.items S (msgOk_trP c S S' ha hs) c' xs h)
  ⟨msgsOk_of_items S' c' xs r.1, r.2⟩

theorem slotOk_transfer (c : Nat) (S S' : Schema) (ha : AgreeOff c S S') (hs : SchemaFree c S)
    (f : FieldD) (v : Val) (hf : FieldFree c f) (h : SlotOk S f v) :
    SlotOk S' f v ∧ ∀ hid sel, dumpSlot S' f hid sel v = dumpSlot S f hid sel v := by
  obtain ⟨a, b⟩ := slotOk_tr c S S' ha hs f v h hf
  exact ⟨a, fun hid sel => dumpSlot_free c S S' ha v b f hid sel⟩

theorem slotsOk_transfer (c : Nat) (S S' : Schema) (ha : AgreeOff c S S') (hs : SchemaFree c S)
    (fs : List FieldD) (vs : List Val) (hf : ∀ f ∈ fs, FieldFree c f) (h : SlotsOk S fs vs) :
    SlotsOk S' fs vs :=
  (slotsOk_tr c S S' ha hs vs fs h hf).1

theorem slotsOk_transfer_dump (c : Nat) (S S' : Schema) (ha : AgreeOff c S S') (hs : SchemaFree c S)
    (fs : List FieldD) (vs : List Val) (hf : ∀ f ∈ fs, FieldFree c f) (h : SlotsOk S fs vs)
    (F : List FieldD) (cur : List (Option Nat)) (idx : Nat) :
    dumpSlots S' F cur idx vs = dumpSlots S F cur idx vs :=
  dumpSlots_free c S S' ha vs (slotsOk_tr c S S' ha hs vs fs h hf).2 F cur idx

theorem slotOk_transfer_eqDefault (c : Nat) (S S' : Schema) (ha : AgreeOff c S S') (hs : SchemaFree c S)
    (f : FieldD) (v : Val) (hf : FieldFree c f) (h : SlotOk S f v) (k : DefKind) :
    eqDefault S' k v = eqDefault S k v :=
  eqDefault_free c S S' ha v (slotOk_tr c S S' ha hs f v h hf).2 k

theorem msgOk_transfer (c : Nat) (S S' : Schema) (ha : AgreeOff c S S') (hs : SchemaFree c S)
    (c' : Nat) (sl : List Val) (ow : Bool) (unk : Bytes) (cur : List (Option Nat)) (hc : c' ≠ c)
    (h : MsgOk S (.msg c' sl ow unk cur)) :
    MsgOk S' (.msg c' sl ow unk cur) ∧ dumpVal S' (.msg c' sl ow unk cur) = dumpVal S (.msg c' sl ow unk cur) := by
  obtain ⟨a, b⟩ := msgOk_trP c S S' ha hs _ h c' sl ow unk cur rfl hc
  exact ⟨a, dumpVal_free c S S' ha _ b⟩

end Bp

#print axioms Bp.slotOk_transfer
#print axioms Bp.slotsOk_transfer
#print axioms Bp.msgOk_transfer
#print axioms Bp.schemaFreeB_sound
#print axioms Bp.slotsOk_transfer_dump
#print axioms Bp.slotOk_transfer_eqDefault
