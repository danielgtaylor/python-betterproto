import BpModel.Importing
import BpProofs.Casing
import BpProofs.CasingClass
import BpProofs.Importing
import BpProofs.ImportingFast
/-
  On protoc's fully qualified names `.pkg.Outer.Inner` (package segments without capitals, type parts
  capitalised) `parse_source_type_name` returns package and type name (`parse_fullName`), `split(".")` undoes
  the dotted join, and the class name is that of the flattened type (`classOf_eq`).  With these
  `get_type_reference` on such a name is its dispatch `refCore` (`getTypeReference_false`,
  `getTypeReference_fullName`); the `unwrap` block in front of it only concerns names of google.protobuf.
-/
namespace Bp.Importing
open Bp.Casing Bp.Naming

theorem joinWith_append (sep : Char) : ∀ a b : List Str, a ≠ [] → b ≠ [] →
    joinWith sep (a ++ b) = joinWith sep a ++ sep :: joinWith sep b
  | [], _, h, _ => absurd rfl h
  | [x], b, _, hb => by
    cases b with
    | nil => exact absurd rfl hb
    | cons y b => simp [joinWith]
  | x :: y :: a, b, _, hb => by
    have ih := joinWith_append sep (y :: a) b (by simp) hb
    simp only [List.cons_append] at ih ⊢
    simp only [joinWith, ih, List.append_assoc, List.cons_append]

/- `r` with the equation `hr` instead of `X :: r'` in the statement: the caller's `r` is `dotted ty`, of which it knows
   the head only through an equation (`dotted_ty_head`), and the conclusion has to come back in terms of `dotted ty`. -/
theorem parseAux_run (r : Str) (X : Char) (r' : Str) (hr : r = X :: r') (hX : cls X = .up) :
    ∀ (s pre : Str) (best : Option (Str × Str)), (∀ c ∈ s, cls c ≠ .up) → pre ++ s ≠ [] →
      parseAux pre (s ++ '.' :: r) best = some (pre ++ s, r) := by
  intro s
  induction s with
  | nil =>
    intro pre best _ hne
    have hdot : cls '.' ≠ .up := by simp [cls_dot]
    have hpre : pre ≠ [] := by simpa using hne
    subst hr
    simp [parseAux, hdot, hpre, hX]
  | cons c s ih =>
    intro pre best hs hne
    have hc : cls c ≠ .up := hs c (List.mem_cons_self ..)
    simp only [List.cons_append, parseAux, hc, if_false]
    rw [ih (pre ++ [c]) _ (fun x hx => hs x (List.mem_cons_of_mem _ hx)) (by simp)]
    simp

theorem joinWith_chars (sep : Char) (P : Char → Prop) (hsep : P sep) :
    ∀ ws : List Str, (∀ w ∈ ws, ∀ c ∈ w, P c) → ∀ c ∈ joinWith sep ws, P c
  | [], _, c, hc => by simp [joinWith] at hc
  | [w], h, c, hc => h w (by simp) c (by simpa [joinWith] using hc)
  | w :: w2 :: ws, h, c, hc => by
    simp only [joinWith, List.mem_append, List.mem_cons] at hc
    rcases hc with hc | rfl | hc
    · exact h w (by simp) c hc
    · exact hsep
    · exact joinWith_chars sep P hsep (w2 :: ws) (fun x hx => h x (List.mem_cons_of_mem _ hx)) c hc

theorem segOk_chars {s : Str} (h : segOk s = true) : ∀ c ∈ s, cls c ≠ .up ∧ c ≠ '.' := by
  intro c hc
  simp only [segOk, Bool.and_eq_true, List.all_eq_true, bne_iff_ne, ne_eq] at h
  have := h.1.2 c hc
  refine ⟨this.2, ?_⟩
  rintro rfl
  have : identChar '.' = false := by simp [identChar, cls_dot]
  simp_all

theorem segOk_ne_nil {s : Str} (h : segOk s = true) : s ≠ [] := by
  intro e; subst e; simp [segOk] at h

theorem segOk_not_class {s : Str} (h : segOk s = true) : isClassName s = false := by
  simp only [segOk, Bool.and_eq_true, Bool.not_eq_true'] at h
  exact h.2

theorem tyPartOk_head {s : Str} (h : tyPartOk s = true) : ∃ X r, s = X :: r ∧ cls X = .up := by
  cases s with
  | nil => simp [tyPartOk] at h
  | cons X r =>
    simp only [tyPartOk, Bool.and_eq_true, decide_eq_true_eq] at h
    exact ⟨X, r, rfl, h.1⟩

theorem dotted_ty_head {ty : List Str} (h : typeOk ty = true) : ∃ X r, dotted ty = X :: r ∧ cls X = .up := by
  simp only [typeOk, Bool.and_eq_true, Bool.not_eq_true', List.all_eq_true] at h
  cases ty with
  | nil => simp at h
  | cons t ts =>
    obtain ⟨X, r, rfl, hX⟩ := tyPartOk_head (h.2 t (by simp))
    cases ts with
    | nil => exact ⟨X, r, by simp [dotted, joinWith], hX⟩
    | cons t2 ts => exact ⟨X, r ++ '.' :: joinWith '.' (t2 :: ts), by simp [dotted, joinWith], hX⟩

theorem parse_fullName (pkg : Pkg) (ty : List Str) (hp : pkgOk pkg = true) (ht : typeOk ty = true) :
    parseSourceTypeName (fullName pkg ty) = (dotted pkg, dotted ty) := by
  obtain ⟨X, r, hty, hX⟩ := dotted_ty_head ht
  have htyne : ty ≠ [] := by
    intro e; subst e; simp [typeOk] at ht
  simp only [pkgOk, List.all_eq_true] at hp
  cases hpk : pkg with
  | nil =>
    -- the name is `.X…` with `X` a capital.  The regex finds no split: with the leading dot consumed the scan stops
    -- at `X` at once (`hstop`); from the dot it passes the dot, which has nothing before it and is no candidate, and
    -- stops at `X` again (`hdot`).  What is returned is `("", name.lstrip("."))`.
    have hXdot : X ≠ '.' := fun e => by rw [e, cls_dot] at hX; cases hX
    have hd : cls '.' ≠ Cls.up := by rw [cls_dot]; decide
    have hstop : ∀ pre best, parseAux pre (X :: r) best = best := fun pre best => by rw [parseAux, if_pos hX]
    have hdot : parseAux [] ('.' :: X :: r) none = none := by
      rw [parseAux, if_neg hd, if_neg fun h => h.2.1 rfl, hstop]
    have hstrip : lstripDots ('.' :: X :: r) = X :: r := by
      rw [lstripDots, List.dropWhile_cons_of_pos (by simp), List.dropWhile_cons_of_neg (by simpa using hXdot)]
    have e : fullName [] ty = '.' :: X :: r := by rw [fullName, List.nil_append, hty]
    rw [e, hty]
    simp only [parseSourceTypeName, hstop, hdot, hstrip]
    rfl  -- `dotted [] = []`
  | cons p0 ps =>
    have hpkne : pkg ≠ [] := by rw [hpk]; simp
    have hchars : ∀ c ∈ dotted pkg, cls c ≠ .up := by
      apply joinWith_chars '.' (fun c => cls c ≠ .up) (by simp [cls_dot])
      intro w hw c hc
      exact (segOk_chars (hp w hw) c hc).1
    have hne : dotted pkg ≠ [] := dotted_ne_nil pkg hpkne (fun s hs => segOk_ne_nil (hp s hs))
    have hj : dotted (pkg ++ ty) = dotted pkg ++ '.' :: dotted ty := joinWith_append '.' pkg ty hpkne htyne
    have := parseAux_run (dotted ty) X r hty hX (dotted pkg) [] none hchars (by simpa using hne)
    rw [← hpk]
    simp only [parseSourceTypeName, fullName, hj, this, List.nil_append]

theorem splitOn_no_sep (sep : Char) : ∀ w : Str, sep ∉ w → splitOn sep w = [w]
  | [], _ => rfl
  | c :: w, h => by
    have hc : c ≠ sep := fun e => h (by simp [e])
    have ih := splitOn_no_sep sep w (fun hm => h (List.mem_cons_of_mem _ hm))
    simp [splitOn, hc, ih]

theorem splitOn_append (sep : Char) : ∀ (w rest : Str), sep ∉ w →
    splitOn sep (w ++ sep :: rest) = w :: splitOn sep rest
  | [], rest, _ => by simp [splitOn]
  | c :: w, rest, h => by
    have hc : c ≠ sep := fun e => h (by simp [e])
    have ih := splitOn_append sep w rest (fun hm => h (List.mem_cons_of_mem _ hm))
    simp [splitOn, hc, ih]

theorem splitOn_joinWith (sep : Char) : ∀ ws : List Str, ws ≠ [] → (∀ w ∈ ws, sep ∉ w) →
    splitOn sep (joinWith sep ws) = ws
  | [], h, _ => absurd rfl h
  | [w], _, hs => by simpa [joinWith] using splitOn_no_sep sep w (hs w (by simp))
  | w :: w2 :: ws, _, hs => by
    simp only [joinWith]
    rw [splitOn_append sep w _ (hs w (by simp)),
      splitOn_joinWith sep (w2 :: ws) (by simp) (fun x hx => hs x (List.mem_cons_of_mem _ hx))]

theorem splitPkg_dotted (pkg : Pkg) (hp : pkgOk pkg = true) : splitPkg (dotted pkg) = pkg := by
  simp only [pkgOk, List.all_eq_true] at hp
  cases hpk : pkg with
  | nil => rfl
  | cons p0 ps =>
    have hpkne : pkg ≠ [] := by rw [hpk]; simp
    have hne : dotted pkg ≠ [] := dotted_ne_nil pkg hpkne (fun s hs => segOk_ne_nil (hp s hs))
    rw [← hpk]
    unfold splitPkg
    simp only [List.isEmpty_iff, hne, if_false]
    exact splitOn_joinWith '.' pkg hpkne (fun w hw hm => (segOk_chars (hp w hw) '.' hm).2 rfl)

theorem tokens_joinWith_sym {a b : Char} (ha : cls a = .sym) (hb : cls b = .sym) :
    ∀ ws : List Str, go .sym (joinWith a ws) = go .sym (joinWith b ws)
  | [] => rfl
  | [w] => rfl
  | w :: w2 :: ws => by
    simp only [joinWith]
    rw [go_sym_split ha, go_sym_split hb, tokens_joinWith_sym ha hb (w2 :: ws)]

/-- the class the plugin generates for a type is the class name the reference uses -/
theorem classOf_eq (ty : List Str) : pythonizeClassName (dotted ty) = classOf ty := by
  unfold classOf pythonizeClassName pascal
  congr 2
  rw [tokens_cons_sym _ cls_underscore]
  exact tokens_joinWith_sym cls_dot cls_underscore ty

theorem classOf_isClassName (ty : List Str) (ht : typeOk ty = true) : isClassName (classOf ty) = true := by
  obtain ⟨X, r, hty, hX⟩ := dotted_ty_head ht
  rw [← classOf_eq]
  have hfl : firstAlnumIsLetter (dotted ty) = true := by
    rw [hty]
    have : (cls X = .sym) = False := by simp [hX]
    simp [firstAlnumIsLetter, List.dropWhile, hX, isLetter]
  obtain ⟨Y, r', e, hY⟩ := pascal_head hfl
  simp [pythonizeClassName, e, isClassName, hY]

theorem fullName_pkg_inj {p p' : Pkg} {ty ty' : List Str} (hp : pkgOk p = true) (hp' : pkgOk p' = true)
    (ht : typeOk ty = true) (ht' : typeOk ty' = true) (e : fullName p ty = fullName p' ty') : p = p' := by
  have h := congrArg (fun s => splitPkg (parseSourceTypeName s).1) e
  simpa only [parse_fullName, splitPkg_dotted, hp, hp', ht, ht'] using h

theorem fullName_no_newline (pkg : Pkg) (ty : List Str) (hp : pkgOk pkg = true) (ht : typeOk ty = true) :
    ∀ c ∈ fullName pkg ty, c ≠ '\n' := by
  have hid : ∀ c, identChar c = true → c ≠ '\n' := by
    rintro c hi rfl
    rw [identChar_fast] at hi
    revert hi; decide +kernel
  intro c hc
  rcases List.mem_cons.1 hc with rfl | hc
  · decide
  · refine joinWith_chars '.' (· ≠ '\n') (by decide) _ ?_ c hc
    intro w hw c hc
    rcases List.mem_append.1 hw with hw | hw
    · have h := List.all_eq_true.1 hp w hw
      simp only [segOk, Bool.and_eq_true, List.all_eq_true] at h
      exact hid c (h.1.2 c hc).1
    · simp only [typeOk, tyPartOk, Bool.and_eq_true, List.all_eq_true] at ht
      exact hid c ((ht.2 w hw).2 c hc)

theorem lookup_mem {k v : Str} {l : List (Str × Str)} (h : l.lookup k = some v) : (k, v) ∈ l := by
  obtain ⟨l₁, l₂, rfl, -⟩ := List.lookup_eq_some_iff.1 h
  simp

theorem lookup_isSome_of_mem {kv : Str × Str} {l : List (Str × Str)} (h : kv ∈ l) : (l.lookup kv.1).isSome = true :=
  List.lookup_isSome_iff.2 ⟨kv, h, by simp⟩

/- The branches of the `unwrap` block are stated over a variable source type: unfolding `getTypeReference`
   at a string literal makes the kernel decode the literal. -/
theorem getTypeReference_wrapper (p s : Str) (pyd : Bool) (ty : Str) (hl : wrapperTable.lookup s = some ty) :
    getTypeReference p s true pyd = { ref := .builtin (optionalText ty), imp := .none } := by
  unfold getTypeReference
  rw [if_pos rfl, hl]

theorem getTypeReference_duration (p s : Str) (pyd : Bool) (hl : wrapperTable.lookup s = none)
    (h : s = ".google.protobuf.Duration".toList) :
    getTypeReference p s true pyd = { ref := .builtin "timedelta".toList, imp := .none } := by
  unfold getTypeReference
  rw [if_pos rfl, hl]
  exact if_pos ⟨rfl, h⟩

theorem getTypeReference_timestamp (p s : Str) (pyd : Bool) (hl : wrapperTable.lookup s = none)
    (h1 : s ≠ ".google.protobuf.Duration".toList) (h2 : s = ".google.protobuf.Timestamp".toList) :
    getTypeReference p s true pyd = { ref := .builtin "datetime".toList, imp := .none } := by
  unfold getTypeReference
  rw [if_pos rfl, hl]
  exact (if_neg fun h => h1 h.2).trans (if_pos ⟨rfl, h2⟩)

theorem getTypeReference_unwrap_other (p s : Str) (pyd : Bool) (hl : wrapperTable.lookup s = none)
    (h1 : s ≠ ".google.protobuf.Duration".toList) (h2 : s ≠ ".google.protobuf.Timestamp".toList) :
    getTypeReference p s true pyd = getTypeReference p s false pyd := by
  unfold getTypeReference
  simp only [↓reduceIte, hl, true_and, false_and, Bool.false_eq_true, if_neg h1, if_neg h2]

/-- the source types the `unwrap` block handles -/
def unwrapped : List Str :=
  ".google.protobuf.Duration".toList :: ".google.protobuf.Timestamp".toList :: wrapperTable.map Prod.fst

/-- `getTypeReference_unwrap_other` with its three hypotheses as one: `s` is none of the names the block handles -/
theorem getTypeReference_not_unwrapped (p s : Str) (pyd : Bool) (h : s ∉ unwrapped) :
    getTypeReference p s true pyd = getTypeReference p s false pyd := by
  simp only [unwrapped, List.mem_cons, not_or] at h
  refine getTypeReference_unwrap_other p s pyd ?_ h.1 h.2.1
  cases hl : wrapperTable.lookup s with
  | none => rfl
  | some v => exact absurd (List.mem_map.2 ⟨_, lookup_mem hl, rfl⟩) h.2.2

theorem pkgOk_googleProtobuf : pkgOk googleProtobuf = true := by rw [pkgOk_fast]; decide +kernel

/-- 17 = `len(".google.protobuf.")` -/
theorem unwrapped_fullName :
    ∀ s ∈ unwrapped, typeOk [s.drop 17] = true ∧ s = fullName googleProtobuf [s.drop 17] := by
  rw [unwrapped, wrapperTable_fast, typeOk_fast]
  -- the two literals of `unwrapped` as character lists (BpProofs/Lit.lean)
  repeat rw [String.toList_ofList]
  decide +kernel

theorem getTypeReference_false (cur tgt : Pkg) (ty : List Str) (pydantic : Bool)
    (hc : pkgOk cur = true) (ht : pkgOk tgt = true) (hty : typeOk ty = true) :
    getTypeReference (dotted cur) (fullName tgt ty) false pydantic
      = refCore cur (redirect cur tgt pydantic) (classOf ty) := by
  simp [getTypeReference, parse_fullName tgt ty ht hty, splitPkg_dotted cur hc, splitPkg_dotted tgt ht, classOf_eq]

theorem getTypeReference_fullName (cur tgt : Pkg) (ty : List Str) (unwrap pydantic : Bool)
    (hc : pkgOk cur = true) (ht : pkgOk tgt = true) (hty : typeOk ty = true) (hg : tgt ≠ googleProtobuf) :
    getTypeReference (dotted cur) (fullName tgt ty) unwrap pydantic = refCore cur tgt (classOf ty) := by
  have hfalse := getTypeReference_false cur tgt ty pydantic hc ht hty
  rw [show redirect cur tgt pydantic = tgt by simp [redirect, hg]] at hfalse
  cases unwrap with
  | false => exact hfalse
  | true =>
    rw [getTypeReference_not_unwrapped, hfalse]
    intro hs
    obtain ⟨h1, h2⟩ := unwrapped_fullName _ hs
    exact hg (fullName_pkg_inj ht pkgOk_googleProtobuf hty h1 h2)

end Bp.Importing
