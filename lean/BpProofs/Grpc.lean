import BpModel.Grpc
/-
  Helper lemmas for C11: a route read back at its separators; `route` on strings; keyword resolution.
-/
namespace Bp.Grpc

theorem split_unique {c : Char} {x x' t t' : Str} (hx : c ∉ x) (hx' : c ∉ x')
    (ht : ∀ a ∈ t.head?, a = c) (ht' : ∀ a ∈ t'.head?, a = c) (h : x ++ t = x' ++ t') : x = x' ∧ t = t' := by
  have key : ∀ {x t : Str}, c ∉ x → (∀ a ∈ t.head?, a = c) → (x ++ t).takeWhile (· != c) = x := by
    intro x t hx ht
    rw [List.takeWhile_append_of_pos (fun a ha => bne_iff_ne.mpr fun (e : a = c) => hx (e ▸ ha))]
    cases t with
    | nil => simp
    | cons b t => simp [ht b rfl]
  obtain rfl : x = x' := by rw [← key hx ht, h, key hx' ht']
  exact ⟨rfl, List.append_cancel_left h⟩

theorem packagePart_inj {pkg pkg' : Str} (h : packagePart pkg = packagePart pkg') : pkg = pkg' := by
  cases pkg <;> cases pkg' <;> simp_all [packagePart]

/-- read from the right, a service name without a dot ends at the first dot -/
theorem split_package {pkg pkg' svc svc' : Str} (hs : '.' ∉ svc) (hs' : '.' ∉ svc')
    (h : packagePart pkg ++ svc = packagePart pkg' ++ svc') : pkg = pkg' ∧ svc = svc' := by
  have last (p : Str) : ∀ a ∈ (packagePart p).reverse.head?, a = '.' := by cases p <;> simp [packagePart]
  have h2 := congrArg List.reverse h
  rw [List.reverse_append, List.reverse_append] at h2
  obtain ⟨e1, e2⟩ := split_unique (by simpa using hs) (by simpa using hs') (last pkg) (last pkg') h2
  exact ⟨packagePart_inj (List.reverse_inj.mp e2), List.reverse_inj.mp e1⟩

theorem slash_not_mem_packagePart_append {pkg svc : Str} (hp : '/' ∉ pkg) (hs : '/' ∉ svc) :
    '/' ∉ packagePart pkg ++ svc := by
  cases pkg <;> simp_all [packagePart]

/-- on strings `route` is the f-string of `ServiceMethodCompiler.route` -/
theorem ofList_route (p s m : String) :
    String.ofList (route p.toList s.toList m.toList) = "/" ++ (if p = "" then "" else p ++ ".") ++ s ++ "/" ++ m := by
  rw [route, ← List.singleton_append, ← List.singleton_append (l := m.toList)]
  simp only [packagePart, List.isEmpty_iff, String.toList_eq_nil_iff, apply_ite String.ofList, String.ofList_append,
    String.ofList_toList, String.append_assoc]

/-- the route of three string literals from their characters: `apply` this, then `rfl` compares character lists.
    A literal unfolds to `String.ofList` of its characters for nothing, while `String.toList` makes the kernel decode
    its UTF-8 bytes; it must be `apply`: `exact` / `rw` check the instantiated equation once more, through the bytes. -/
theorem toList_eq_route {lx lp ls lm : Str} (h : lx = route lp ls lm) :
    (String.ofList lx).toList
      = route (String.ofList lp).toList (String.ofList ls).toList (String.ofList lm).toList := by
  simp only [String.toList_ofList, h]

theorem resolve_eq {α : Type} (d c : Option α) : resolve d c = if c.isSome then c else d := by
  cases c <;> rfl

end Bp.Grpc
