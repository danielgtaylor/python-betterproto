import BpModel.All
import BpProofs.SpecWf
/-
  C02: the slot typing invariant `WfState` (repeated scalar slots hold
  PLACEHOLDER or a list, singular scalar slots never hold a list), its preservation by every
  decode step, and what a record does to a repeated / a singular scalar field.
-/
namespace Bp
open Gen

def repOk (f : FieldD) (v : Val) : Bool :=
  if f.ty == .map || f.ty == .message then true
  else if f.repeated then isPhVal v || isListVal v
  else !isListVal v

/-- as many slots as declared fields, each holding a value of the right shape -/
def WfState (d : MsgD) (st : MState) : Prop :=
  st.slots.length = d.fields.length ∧ ∀ i f, d.fields[i]? = some f → repOk f (st.slots.getD i .ph) = true

theorem repOk_ph (f : FieldD) : repOk f .ph = true := by
  unfold repOk
  split
  · rfl
  · split
    · rfl
    · rfl

theorem repOk_list (f : FieldD) (xs : List Val) (h : f.repeated = true) : repOk f (.list xs) = true := by
  unfold repOk; split
  · rfl
  · simp [isListVal]

section Typing
variable (S : Schema) (rec : Loader) (d : MsgD)

theorem defaultOfKind_notList (k : DefKind) (h : k ≠ .list) : isListVal (defaultOfKind S k) = false := by
  cases k with
  | list => exact absurd rfl h
  | _ => rfl

theorem repOk_default (f : FieldD) : repOk f (defaultOf S f) = true := by
  unfold repOk
  split
  · rfl
  · rename_i h1
    simp only [Bool.or_eq_true, beq_iff_eq, not_or] at h1
    unfold defaultOf FieldD.defKind
    split
    · rename_i hr; simp [defaultOfKind, isListVal]
    · rename_i hr
      have hm : (f.ty == PType.map) = false := by simpa using h1.1
      have hmsg : (f.ty == PType.message) = false := by simpa using h1.2
      simp only [hm, hmsg, Bool.false_eq_true, if_false]
      split
      · simp [defaultOfKind, isListVal]
      · rw [defaultOfKind_notList S _ (scalarDef_ne_list _)]; rfl

theorem repOk_storedVal (f : FieldD) (v : Val) : repOk f (storedVal S v) = repOk f v := by
  cases v <;> try rfl
  simp only [storedVal]; split <;> rfl

theorem repOk_materialize (f : FieldD) (v : Val) (h : repOk f v = true) :
    repOk f (materialize S f v) = true := by
  cases v with
  | ph => exact repOk_default S f
  | _ => exact h

theorem wf_setAt (st : MState) (idx : Nat) (f : FieldD) (x : Val) (hf : d.fields[idx]? = some f)
    (hw : WfState d st) (hx : repOk f x = true) : WfState d { st with slots := setAt st.slots idx x } := by
  refine ⟨by simp [setAt_length, hw.1], ?_⟩
  intro i fi hfi
  show repOk fi ((setAt st.slots idx x).getD i .ph) = true
  rw [setAt_getD]
  split
  · rename_i hh
    obtain ⟨e, _⟩ := hh; subst e
    rw [hf] at hfi; injection hfi with e; subst e; exact hx
  · exact hw.2 i fi hfi

theorem wf_setAttr (st : MState) (idx : Nat) (f : FieldD) (x : Val)
    (hf : d.fields[idx]? = some f) (hw : WfState d st) (hx : repOk f x = true) :
    WfState d (setAttr S d.fields st idx x) := by
  refine ⟨by rw [setAttr_slots_length]; exact hw.1, ?_⟩
  intro i fi hfi
  rw [setAttr_slots_getD S d.fields st idx x f hf i]
  split
  · rename_i hh
    obtain ⟨e, _⟩ := hh; subst e
    rw [hf] at hfi; injection hfi with e; subst e
    rw [repOk_storedVal]; exact hx
  · split
    · exact repOk_ph fi
    · exact hw.2 i fi hfi

theorem wf_commit (st : MState) (idx : Nat) (f : FieldD) (u : Bool × Val)
    (hf : d.fields[idx]? = some f) (hw : WfState d st) (hx : repOk f u.2 = true) :
    WfState d (commit S d st idx f u) := by
  unfold commit
  split
  · exact wf_setAttr S d st idx f _ hf hw hx
  · exact wf_setAt d st idx f _ hf hw hx

theorem repOk_current (st : MState) (idx : Nat) (f : FieldD)
    (hf : d.fields[idx]? = some f) (hw : WfState d st) : repOk f (current S d st idx f) = true := by
  rw [current_eq S d st idx f hf]
  split
  · split
    · rw [repOk_storedVal]; exact repOk_default S f
    · exact repOk_materialize S f _ (hw.2 idx f hf)
  · exact repOk_ph f

theorem idx_lt_of_wf (st : MState) (idx : Nat) (f : FieldD) (hf : d.fields[idx]? = some f)
    (hw : WfState d st) : idx < st.slots.length := by
  rw [hw.1]
  have := List.getElem?_eq_some_iff.mp hf
  exact this.1

/-- what `getattr` returns for a repeated scalar field is a list: the slot's, or the empty one -/
theorem current_repeated_list (st : MState) (idx : Nat) (f : FieldD)
    (hf : d.fields[idx]? = some f) (hw : WfState d st) (hr : f.repeated = true)
    (hm : f.ty ≠ .map) (hmsg : f.ty ≠ .message) :
    ∃ xs, current S d st idx f = .list xs
      ∧ (hidden f idx st.cur = false → (st.slots.getD idx .ph = .ph ∧ xs = []) ∨ st.slots.getD idx .ph = .list xs) := by
  rw [current_eq S d st idx f hf, if_pos (idx_lt_of_wf d st idx f hf hw)]
  have hdef := defaultOf_repeated S f hr
  cases hh : hidden f idx st.cur with
  | true => exact ⟨[], by simp [hdef, storedVal], fun h => by simp at h⟩
  | false =>
    have hok := hw.2 idx f hf
    unfold repOk at hok
    have hm' : (f.ty == PType.map) = false := by simpa using hm
    have hmsg' : (f.ty == PType.message) = false := by simpa using hmsg
    simp only [hm', hmsg', Bool.or_self, Bool.false_eq_true, if_false, hr, if_true] at hok
    cases hv : st.slots.getD idx .ph with
    | ph => exact ⟨[], by simp [materialize, hdef], fun _ => Or.inl ⟨rfl, rfl⟩⟩
    | list xs => exact ⟨xs, by simp [materialize], fun _ => Or.inr rfl⟩
    | _ => rw [hv] at hok; simp [isPhVal, isListVal] at hok

theorem applyField_wf (st st' : MState) (pf : PField)
    (hw : WfState d st) (h : applyField S rec d st pf = .ok st') : WfState d st' := by
  rcases applyField_commit_ok S rec d st st' pf h with ⟨_, rfl⟩ | ⟨idx, f, v, u, ht, hv, hu, rfl⟩
  · exact hw
  obtain ⟨_, hf, hfit⟩ := ht
  apply wf_commit S d st idx f u hf hw
  rcases slotUpdate_ok_cases f _ v u hu with ⟨hm, _, _, _, _, _, _, rfl⟩ | ⟨_, xs, hc, rfl⟩ | ⟨hm, hc, rfl⟩
  · unfold repOk; simp [hm]
  · -- a list stays a list
    have hok := repOk_current S d st idx f hf hw
    rw [hc] at hok
    exact hok
  · by_cases hmsg : f.ty = .message
    · unfold repOk; simp [hmsg]
    · cases hr : f.repeated with
      | true =>
        obtain ⟨xs, hx, _⟩ := current_repeated_list S d st idx f hf hw hr hm hmsg
        exact absurd hx (hc xs)
      | false =>
        have := scalarVal_notList v (decodeValue_scalar S rec f pf v hr hfit hm hmsg hv)
        unfold repOk
        have hm' : (f.ty == PType.map) = false := by simpa using hm
        have hmsg' : (f.ty == PType.message) = false := by simpa using hmsg
        simp [hm', hmsg', hr, this]

theorem foldFields_wf (pfs : List PField) (st st' : MState)
    (hw : WfState d st) (h : foldFields S rec d st pfs = .ok st') : WfState d st' :=
  foldFields_induct S rec d (WfState d) pfs (fun a a' pf _ => applyField_wf S rec d a a' pf) st st' hw h

end Typing

/-- schema condition: a repeated field is not also marked proto3-optional (no valid .proto is) -/
def NoRepeatedOptional (d : MsgD) : Prop := ∀ f ∈ d.fields, f.repeated = true → f.optional = false

instance (d : MsgD) : Decidable (NoRepeatedOptional d) := by unfold NoRepeatedOptional; infer_instance

end Bp
