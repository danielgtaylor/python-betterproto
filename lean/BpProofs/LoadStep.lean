import BpModel.All
import BpProofs.Ops
/-
  One iteration of the loop of `Message.load`, said once.  A record is unknown to the class, or it
  targets a declared field (`Targets`); then it yields a value (`Decodes`: what `decodeValue` returns on
  a record whose wire type fits, by kind of field), and that value is put into the slot of the field by ONE
  assignment on the state before the step (`commit` of what `slotUpdate` computes from
  `current = getattr(self, name)`): the intermediate state `prepCurrent …` is seen by no user.
  `applyField_commit_ok` collects the three for a successful step; an invariant of the loop is an invariant
  of the steps (`foldFields_induct`).  The pointwise descriptions of `__setattr__` are in Ops.lean.
-/
namespace Bp
open Gen

theorem prepCurrent_cases (S : Schema) (d : MsgD) (st : MState) (idx : Nat) (f : FieldD) :
    (hidden f idx st.cur = true ∧ prepCurrent S d st idx f = setAttr S d.fields st idx (defaultOf S f))
    ∨ (hidden f idx st.cur = false ∧
        prepCurrent S d st idx f = { st with slots := setAt st.slots idx (materialize S f (st.slots.getD idx .ph)) }) := by
  unfold prepCurrent
  cases hidden f idx st.cur with
  | true => left; exact ⟨rfl, rfl⟩
  | false => right; exact ⟨rfl, rfl⟩

def isListVal : Val → Bool
  | .list _ => true
  | _ => false

def isPhVal : Val → Bool
  | .ph => true
  | _ => false

theorem isListVal_storedVal (S : Schema) (v : Val) : isListVal (storedVal S v) = isListVal v := by
  cases v <;> try rfl
  simp only [storedVal]; split <;> rfl

/-- the elements a decoded value contributes to a repeated field: a packed chunk all of
    its elements, anything else itself -/
def elemsOf : Val → List Val
  | .list ys => ys
  | y => [y]

section Fold
variable (S : Schema) (rec : Loader) (d : MsgD)

/-- an invariant of the decoder loop is one of its steps (on the records of the list) -/
theorem foldFields_induct (P : MState → Prop) (pfs : List PField)
    (hstep : ∀ st st' pf, pf ∈ pfs → P st → applyField S rec d st pf = .ok st' → P st')
    (st st' : MState) (h0 : P st) (h : foldFields S rec d st pfs = .ok st') : P st' := by
  induction pfs generalizing st with
  | nil => cases h; exact h0
  | cons pf pfs ih =>
    obtain ⟨s1, ha, h⟩ := bind_inv h
    exact ih (fun a a' q hq => hstep a a' q (List.mem_cons_of_mem _ hq)) s1
      (hstep st s1 pf (List.mem_cons_self ..) h0 ha) h

theorem foldFields_append_s (as bs : List PField) (st : MState) :
    foldFields S rec d st (as ++ bs) = (foldFields S rec d st as).bind fun s => foldFields S rec d s bs := by
  induction as generalizing st with
  | nil => rfl
  | cons a as ih =>
    simp only [List.cons_append, foldFields]
    cases applyField S rec d st a with
    | error e => rfl
    | ok s1 => simp only [bind_ok]; exact ih s1

end Fold

/-- `setattr` forgets what `current = getattr(...)` did to the slot -/
theorem setAttr_prepCurrent (S : Schema) (d : MsgD) (st : MState) (idx : Nat) (f : FieldD) (v : Val)
    (hf : d.fields[idx]? = some f) :
    setAttr S d.fields (prepCurrent S d st idx f) idx v = setAttr S d.fields st idx v := by
  rcases prepCurrent_cases S d st idx f with ⟨_, e⟩ | ⟨_, e⟩ <;> rw [e] <;> cases hg : f.group <;>
    simp only [setAttr_eq, hf, hg, setAt_setAt, List.set_set]
  -- left: a member of a group, whose siblings are reset twice; first hidden (`getattr` assigned the default), then visible
  · congr 1
    apply setAt_resetGroup_congr
    · simp [setAt_length, resetGroup_length]
    · intro k hk hgk
      rw [setAt_getD, resetGroup_getD]; simp [hk, hgk]
  · congr 1
    apply setAt_resetGroup_congr
    · simp [setAt_length]
    · intro k hk _
      rw [setAt_getD]; simp [hk]

/-- what `current = getattr(self, name)` is in the loop of `Message.load` -/
def current (S : Schema) (d : MsgD) (st : MState) (idx : Nat) (f : FieldD) : Val :=
  (prepCurrent S d st idx f).slots.getD idx .ph

/-- the new content of the slot, and whether it is assigned with `setattr` (`true`) or is the
    container `getattr` returned, enlarged in place (`false`) -/
def slotUpdate (f : FieldD) (c v : Val) : R (Bool × Val) :=
  if f.ty == .map then
    match c, v with
    | .dict ks vs, .dict [k] [x] => .ok (false, .dict (dictInsert ks vs k x).1 (dictInsert ks vs k x).2)
    | _, _ => .error .type
  else
    match c with
    | .list xs => .ok (false, .list (xs ++ elemsOf v))
    | _ => .ok (true, v)

/-- one assignment to slot `idx`: with `setattr` (also when `getattr` had to `setattr` the
    default of a hidden oneof member first), else in place -/
def commit (S : Schema) (d : MsgD) (st : MState) (idx : Nat) (f : FieldD) (u : Bool × Val) : MState :=
  if u.1 || hidden f idx st.cur then setAttr S d.fields st idx u.2
  else { st with slots := setAt st.slots idx u.2 }

theorem slotUpdate_assign (f : FieldD) (c v : Val) (hm : (f.ty == PType.map) = false) (hc : ∀ xs, c ≠ .list xs) :
    slotUpdate f c v = .ok (true, v) := by
  unfold slotUpdate
  rw [if_neg (by simp [hm])]
  cases c with
  | list xs => exact absurd rfl (hc xs)
  | _ => rfl

theorem slotUpdate_stored (S : Schema) (f : FieldD) (c v : Val) (y : Val) (h : slotUpdate f c v = .ok (false, y)) :
    storedVal S y = y := by
  unfold slotUpdate at h
  split at h
  · split at h
    · cases h; rfl
    · cases h
  · split at h <;> cases h
    rfl

/-- `storeValue` on ANY state: the new content of the slot is assigned with `setattr`, or is the container
    found in the slot, enlarged in place -/
theorem storeValue_eq (S : Schema) (d : MsgD) (st : MState) (idx : Nat) (f : FieldD) (v : Val) :
    storeValue S d st idx f v
      = (slotUpdate f (st.slots.getD idx .ph) v).map fun u =>
          if u.1 then setAttr S d.fields st idx u.2 else { st with slots := setAt st.slots idx u.2 } := by
  unfold storeValue slotUpdate
  dsimp only
  generalize st.slots.getD idx .ph = c
  by_cases hm : (f.ty == PType.map) = true
  · rw [if_pos hm, if_pos hm]
    split
    · rfl
    · rename_i hno
      split
      · exact (hno _ _ _ _ rfl rfl).elim
      · rfl
  · rw [if_neg hm, if_neg hm]
    cases c with
    | list xs => cases v <;> rfl
    | _ => rfl

theorem storeValue_prepCurrent (S : Schema) (d : MsgD) (st : MState) (idx : Nat) (f : FieldD) (v : Val)
    (hf : d.fields[idx]? = some f) :
    storeValue S d (prepCurrent S d st idx f) idx f v
      = (slotUpdate f (current S d st idx f) v).map (commit S d st idx f) := by
  rw [storeValue_eq]
  show (slotUpdate f (current S d st idx f) v).map _ = _
  cases hu : slotUpdate f (current S d st idx f) v with
  | error e => rfl
  | ok u =>
    obtain ⟨b, y⟩ := u
    simp only [map_ok, commit]
    cases b with
    | true => simp only [if_true, Bool.true_or, setAttr_prepCurrent S d st idx f y hf]
    | false =>
      -- in place: the slot `getattr` touched is overwritten, and a hidden member was assigned by `getattr`
      have hy := slotUpdate_stored S f _ v y hu
      simp only [Bool.false_eq_true, if_false, Bool.false_or]
      rcases prepCurrent_cases S d st idx f with ⟨hh, e⟩ | ⟨hh, e⟩ <;> rw [e, hh]
      · simp only [setAttr_eq, hf, if_true, hy]
        cases f.group <;> simp only [setAt_setAt]
      · simp only [setAt_setAt, Bool.false_eq_true, if_false]

theorem applyField_commit (S : Schema) (rec : Loader) (d : MsgD) (st : MState) (pf : PField) (idx : Nat) (f : FieldD)
    (ht : Targets d pf idx f) :
    applyField S rec d st pf
      = (decodeValue S rec f pf).bind fun v => (slotUpdate f (current S d st idx f) v).map (commit S d st idx f) := by
  rw [applyField_targets S rec d st pf idx f ht]
  simp only [storeValue_prepCurrent S d st idx _ _ ht.2.1]

theorem commit_lengths (S : Schema) (d : MsgD) (st : MState) (idx : Nat) (f : FieldD) (u : Bool × Val) :
    (commit S d st idx f u).slots.length = st.slots.length ∧ (commit S d st idx f u).cur.length = st.cur.length := by
  unfold commit
  split
  · exact ⟨setAttr_slots_length _ _ _ _ _, setAttr_cur_length _ _ _ _ _⟩
  · exact ⟨setAt_length _ _ _, rfl⟩

theorem commit_slots_getD (S : Schema) (d : MsgD) (st : MState) (idx : Nat) (f : FieldD) (u : Bool × Val)
    (hf : d.fields[idx]? = some f) (hu : u.1 = false → storedVal S u.2 = u.2) (k : Nat) :
    (commit S d st idx f u).slots.getD k .ph
      = if k = idx ∧ idx < st.slots.length then storedVal S u.2
        else if (u.1 || hidden f idx st.cur) = true ∧ f.group.isSome ∧ grp d.fields k = f.group ∧ k ≠ idx then Val.ph
        else st.slots.getD k .ph := by
  unfold commit
  cases hb : (u.1 || hidden f idx st.cur) with
  | true => simp only [if_true, true_and]; exact setAttr_slots_getD S d.fields st idx u.2 f hf k
  | false =>
    simp only [Bool.false_eq_true, if_false, false_and]
    show (setAt st.slots idx u.2).getD k .ph = _
    rw [setAt_getD, hu (by cases h1 : u.1 <;> simp_all)]

theorem commit_cur_getD (S : Schema) (d : MsgD) (st : MState) (idx : Nat) (f : FieldD) (u : Bool × Val)
    (hf : d.fields[idx]? = some f) (g' : Nat) :
    (commit S d st idx f u).cur.getD g' Option.none
      = if f.group = some g' ∧ g' < st.cur.length then some idx else st.cur.getD g' Option.none := by
  unfold commit
  split
  · exact setAttr_cur_getD S d.fields st idx u.2 f hf g'
  · rename_i hb
    simp only [Bool.or_eq_true, not_or, Bool.not_eq_true] at hb
    show st.cur.getD g' Option.none = _
    split
    · rename_i hg
      have := hb.2
      unfold hidden at this
      rw [hg.1] at this
      simpa using this
    · rfl

theorem commit_onWire (S : Schema) (d : MsgD) (st : MState) (idx : Nat) (f : FieldD) (u : Bool × Val)
    (hf : d.fields[idx]? = some f) (how : st.onWire = true) : (commit S d st idx f u).onWire = true := by
  unfold commit
  split
  · exact setAttr_onWire S d.fields st idx _ f hf
  · exact how

theorem current_eq (S : Schema) (d : MsgD) (st : MState) (idx : Nat) (f : FieldD) (hf : d.fields[idx]? = some f) :
    current S d st idx f
      = if idx < st.slots.length then
          (if hidden f idx st.cur then storedVal S (defaultOf S f) else materialize S f (st.slots.getD idx .ph))
        else .ph := by
  unfold current
  rcases prepCurrent_cases S d st idx f with ⟨hh, e⟩ | ⟨hh, e⟩ <;> rw [e, hh]
  · rw [setAttr_slots_getD S d.fields st idx _ f hf idx]
    by_cases hl : idx < st.slots.length
    · simp [hl]
    · simp [hl, List.getD_eq_getElem?_getD]
  · show (setAt st.slots idx _).getD idx .ph = _
    rw [setAt_getD]
    by_cases hl : idx < st.slots.length
    · simp [hl]
    · simp [hl, List.getD_eq_getElem?_getD]

theorem applyField_commit_ok (S : Schema) (rec : Loader) (d : MsgD) (st st' : MState) (pf : PField)
    (h : applyField S rec d st pf = .ok st') :
    (isUnknownField d pf = true ∧ st' = { st with unknown := st.unknown ++ pf.raw })
    ∨ ∃ idx f v u, Targets d pf idx f ∧ decodeValue S rec f pf = .ok v
        ∧ slotUpdate f (current S d st idx f) v = .ok u ∧ st' = commit S d st idx f u := by
  rcases record_cases d pf with hu | ⟨idx, f, ht⟩ | ⟨idx, h1, h2⟩
  · rw [applyField_unknown S rec d st pf hu] at h
    cases h; exact Or.inl ⟨hu, rfl⟩
  · rw [applyField_commit S rec d st pf idx f ht] at h
    obtain ⟨v, hv, hs⟩ := bind_inv h
    cases hu : slotUpdate f (current S d st idx f) v with
    | error e => rw [hu] at hs; cases hs
    | ok u => rw [hu] at hs; cases hs; exact Or.inr ⟨idx, f, v, u, ht, hv, hu, rfl⟩
  · rw [applyField_badtable S rec d st pf idx h1 h2] at h; cases h

theorem slotUpdate_ok_cases (f : FieldD) (c v : Val) (u : Bool × Val) (h : slotUpdate f c v = .ok u) :
    (f.ty = .map ∧ ∃ ks vs k x, c = .dict ks vs ∧ v = .dict [k] [x]
        ∧ u = (false, .dict (dictInsert ks vs k x).1 (dictInsert ks vs k x).2))
    ∨ (f.ty ≠ .map ∧ ∃ xs, c = .list xs ∧ u = (false, .list (xs ++ elemsOf v)))
    ∨ (f.ty ≠ .map ∧ (∀ xs, c ≠ .list xs) ∧ u = (true, v)) := by
  unfold slotUpdate at h
  split at h
  · rename_i hm
    left
    refine ⟨by simpa using hm, ?_⟩
    split at h
    · cases h; exact ⟨_, _, _, _, rfl, rfl, rfl⟩
    · cases h
  · rename_i hm
    have hm' : f.ty ≠ .map := by simpa using hm
    right
    split at h
    · cases h; exact Or.inl ⟨hm', _, rfl, rfl⟩
    · rename_i hc
      cases h; exact Or.inr ⟨hm', fun xs e => hc xs e, rfl⟩

theorem wireOf_cases (t : PType) :
    (wireOf t = some wireVarint ∧ wireVarintTypes.contains t = true ∧ isPacked t = true)
    ∨ ((wireOf t = some wireFixed32 ∨ wireOf t = some wireFixed64) ∧ isFixed t = true ∧ isPacked t = true)
    ∨ (wireOf t = some wireLenDelim ∧ isPacked t = false
        ∧ (t = .string ∨ t = .bytes ∨ t = .message ∨ t = .map)) := by
  obtain ⟨w, r, rfl | rfl | rfl | rfl⟩ := wire_row t
  · exact Or.inl ⟨r.wireOf, r.varint, r.packed⟩
  · exact Or.inr (Or.inl ⟨Or.inl r.wireOf, r.fixed, r.packed⟩)
  · exact Or.inr (Or.inl ⟨Or.inr r.wireOf, r.fixed, r.packed⟩)
  · exact Or.inr (Or.inr ⟨r.wireOf, r.packed, r.lenTy.mp rfl⟩)

/-- the value a record yields for a declared field whose type its wire type fits -/
inductive Decodes (S : Schema) (rec : Loader) (f : FieldD) (pf : PField) : Val → Prop
  | chunk (vs : List Val) : f.repeated = true → isPacked f.ty = true → pf.wt = wireLenDelim →
      decodePacked f.ty pf.payload = .ok vs → Decodes S rec f pf (.list vs)
  | varint : wireVarintTypes.contains f.ty = true → pf.wt = wireVarint →
      Decodes S rec f pf (postVarint f.ty pf.vint)
  | fixed (v : Val) : isFixed f.ty = true → isPacked f.ty = true → pf.wt ≠ wireLenDelim →
      postFixed f.ty pf.payload = .ok v → Decodes S rec f pf v
  | entry (est : MState) : f.ty = .map → rec (entryD f) (freshState (entryD f)) pf.payload = .ok est →
      Decodes S rec f pf (.dict [materialize S (keyFieldOf f) (est.slots.getD 0 .ph)]
                                [materialize S (valFieldOf f) (est.slots.getD 1 .ph)])
  | str : f.ty = .string → utf8Valid pf.payload = true → Decodes S rec f pf (.str pf.payload)
  | byt : f.ty = .bytes → Decodes S rec f pf (.byt pf.payload)
  | ts (st : MState) (sec n : Int) : f.ty = .message → f.kind = .timestamp →
      rec secNanosD (freshState secNanosD) pf.payload = .ok st →
      materialize S secNanosD.fields[0]! (st.slots.getD 0 .ph) = .int sec →
      materialize S secNanosD.fields[1]! (st.slots.getD 1 .ph) = .int n →
      tsMinUs ≤ tsJoin sec n ∧ tsJoin sec n ≤ tsMaxUs → Decodes S rec f pf (.ts (tsJoin sec n))
  | dur (st : MState) (sec n : Int) : f.ty = .message → f.kind = .duration →
      rec secNanosD (freshState secNanosD) pf.payload = .ok st →
      materialize S secNanosD.fields[0]! (st.slots.getD 0 .ph) = .int sec →
      materialize S secNanosD.fields[1]! (st.slots.getD 1 .ph) = .int n →
      durMinUs ≤ durJoin sec n ∧ durJoin sec n ≤ durMaxUs → Decodes S rec f pf (.dur (durJoin sec n))
  | wrap (c : Nat) (w : PType) (st : MState) : f.ty = .message → f.kind = .user c → f.wraps = some w →
      rec (wrapperD w) (freshState (wrapperD w)) pf.payload = .ok st →
      Decodes S rec f pf (materialize S (wrapperD w).fields[0]! (st.slots.getD 0 .ph))
  | sub (c : Nat) (d : MsgD) (st : MState) : f.ty = .message → f.kind = .user c → f.wraps = Option.none →
      S[c]? = some d → rec d (freshState d) pf.payload = .ok st →
      Decodes S rec f pf (.msg c st.slots true st.unknown st.cur)

theorem postLen_decodes (S : Schema) (rec : Loader) (f : FieldD) (pf : PField) (v : Val)
    (ht : f.ty = .string ∨ f.ty = .bytes ∨ f.ty = .message)
    (h : postLen S rec f pf.payload = .ok v) : Decodes S rec f pf v := by
  rcases ht with ht | ht | ht
  · rw [postLen_eq_string S rec f _ ht] at h
    by_cases hu : utf8Valid pf.payload = true
    · rw [if_pos hu] at h; cases h; exact .str ht hu
    · rw [if_neg hu] at h; cases h
  · rw [postLen_eq_bytes S rec f _ (by rw [ht]; decide) (by rw [ht]; decide)] at h
    cases h; exact .byt ht
  · unfold postLen at h
    simp only [ht, show (PType.message == PType.string) = false from rfl, Bool.false_eq_true, if_false,
      beq_self_eq_true, if_true] at h
    cases hk : f.kind with
    | timestamp =>
      simp only [hk] at h
      obtain ⟨st, hr, h⟩ := bind_inv h
      split at h
      · rename_i sec n h0 h1
        by_cases hrange : tsMinUs ≤ tsJoin sec n ∧ tsJoin sec n ≤ tsMaxUs
        · simp only [hrange, and_self, if_true] at h; cases h; exact .ts st sec n ht hk hr h0 h1 hrange
        · simp only [hrange, if_false] at h; cases h
      · cases h
    | duration =>
      simp only [hk] at h
      obtain ⟨st, hr, h⟩ := bind_inv h
      split at h
      · rename_i sec n h0 h1
        by_cases hrange : durMinUs ≤ durJoin sec n ∧ durJoin sec n ≤ durMaxUs
        · simp only [hrange, and_self, if_true] at h; cases h; exact .dur st sec n ht hk hr h0 h1 hrange
        · simp only [hrange, if_false] at h; cases h
      · cases h
    | user c =>
      cases hwr : f.wraps with
      | some w =>
        simp only [hk, hwr] at h
        obtain ⟨st, hr, h⟩ := bind_inv h
        cases h; exact .wrap c w st ht hk hwr hr
      | none =>
        simp only [hk, hwr] at h
        cases hd : S[c]? with
        | none => rw [hd] at h; cases h
        | some d =>
          rw [hd] at h
          obtain ⟨st, hr, h⟩ := bind_inv h
          cases h; exact .sub c d st ht hk hwr hd hr

theorem decodeValue_decodes (S : Schema) (rec : Loader) (f : FieldD) (pf : PField) (v : Val)
    (hfit : wireFits f pf.wt = true) (h : decodeValue S rec f pf = .ok v) : Decodes S rec f pf v := by
  rw [wireFits_eq] at hfit
  simp only [Bool.or_eq_true, Bool.and_eq_true, beq_iff_eq] at hfit
  have chunk : pf.wt = wireLenDelim → isPacked f.ty = true → f.repeated = true → Decodes S rec f pf v := by
    intro hwt hp hrep
    rw [decodeValue_eq_packed S rec f pf hwt hp] at h
    obtain ⟨vs, hd, hv⟩ := bind_inv h
    cases hv; exact .chunk vs hrep hp hwt hd
  rcases wireOf_cases f.ty with ⟨hw0, hv, hp⟩ | ⟨hw0, hfx, hp⟩ | ⟨hw0, hp, hl⟩
  · rcases hfit with hwt | ⟨⟨hwt, _⟩, hrep⟩
    · have hwt : pf.wt = wireVarint := (Option.some.inj (hw0.symm.trans hwt)).symm
      rw [decodeValue_eq_varint S rec f pf hwt] at h
      cases h; exact .varint hv hwt
    · exact chunk hwt hp hrep
  · rcases hfit with hwt | ⟨⟨hwt, _⟩, hrep⟩
    · have hwt : pf.wt = wireFixed32 ∨ pf.wt = wireFixed64 := by
        rcases hw0 with hw0 | hw0
        · exact Or.inl (Option.some.inj (hw0.symm.trans hwt)).symm
        · exact Or.inr (Option.some.inj (hw0.symm.trans hwt)).symm
      rw [decodeValue_eq_fixed S rec f pf hwt] at h
      exact .fixed v hfx hp (by rcases hwt with e | e <;> rw [e] <;> decide) h
    · exact chunk hwt hp hrep
  · have hwt : pf.wt = wireLenDelim := by
      rcases hfit with hwt | ⟨⟨_, hp'⟩, _⟩
      · exact (Option.some.inj (hw0.symm.trans hwt)).symm
      · rw [hp] at hp'; cases hp'
    rw [decodeValue_eq_len S rec f pf hwt hp] at h
    by_cases hmap : f.ty = .map
    · rw [if_pos (by rw [hmap]; rfl)] at h
      obtain ⟨est, hr, hv⟩ := bind_inv h
      cases hv; exact .entry est hmap hr
    · rw [if_neg (by simpa using hmap)] at h
      refine postLen_decodes S rec f pf v ?_ h
      rcases hl with hl | hl | hl | hl
      · exact Or.inl hl
      · exact Or.inr (Or.inl hl)
      · exact Or.inr (Or.inr hl)
      · exact absurd hl hmap

theorem commit_inv (S : Schema) (d : MsgD) (n : Nat) (st : MState) (idx : Nat) (f : FieldD) (u : Bool × Val)
    (hf : d.fields[idx]? = some f) (hw : WfGroups d.fields n) (h : Inv d.fields n st) :
    Inv d.fields n (commit S d st idx f u) := by
  unfold commit
  split
  · exact setAttr_inv S d.fields n st idx _ hw h
  · rename_i hb
    simp only [Bool.or_eq_true, not_or, Bool.not_eq_true] at hb
    exact setSlot_inv d.fields n st idx f _ hf hb.2 h

theorem applyField_inv (S : Schema) (rec : Loader) (d : MsgD) (n : Nat) (st st' : MState) (pf : PField)
    (hw : WfGroups d.fields n) (h : Inv d.fields n st) (ha : applyField S rec d st pf = .ok st') :
    Inv d.fields n st' := by
  rcases applyField_commit_ok S rec d st st' pf ha with ⟨_, rfl⟩ | ⟨idx, f, _, u, ht, _, _, rfl⟩
  · exact h
  · exact commit_inv S d n st idx f u ht.2.1 hw h

theorem foldFields_inv (S : Schema) (rec : Loader) (d : MsgD) (n : Nat) (pfs : List PField) (st st' : MState)
    (hw : WfGroups d.fields n) (h : Inv d.fields n st) (hf : foldFields S rec d st pfs = .ok st') :
    Inv d.fields n st' :=
  foldFields_induct S rec d (Inv d.fields n) pfs (fun a a' pf _ ha => applyField_inv S rec d n a a' pf hw ha) st st' h hf

theorem loadInto_inv (S : Schema) (fuel : Nat) (d : MsgD) (n : Nat) (st st' : MState) (bs : Bytes)
    (hw : WfGroups d.fields n) (h : Inv d.fields n st) (hl : loadInto S fuel d st bs = .ok st') :
    Inv d.fields n st' := by
  cases fuel with
  | zero => simp [loadInto] at hl
  | succ f =>
    rw [loadInto_succ] at hl
    obtain ⟨pfs, _, hl⟩ := bind_inv hl
    exact foldFields_inv S _ d n pfs { st with onWire := true } st' hw ⟨h.1, h.2⟩ hl

end Bp
