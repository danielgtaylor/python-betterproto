import BpModel.Importing
import BpProofs.CasingFast
/-
  A second way to EVALUATE the importing model (BpModel/Importing.lean), over `Casing.Fast`: in `Fast`, each function that
  reaches a character class, the keyword table or the wrapper table is written again word for word, the wrapper table
  and the two well-known type names `.google.protobuf.Duration` / `Timestamp` given by their characters (`lit`);
  `f_fast : f = Fast.f` is proved once (`boundName`, the first component of `Import.bind`, has no twin: the right side of
  `boundName_fast` is that component of `Fast.bind`).  What reaches no table
  (`referenceSibling / Descendent / Ancestor`, `redirect`, `splitPkg`, `denote`, `Import.render` …) is the model's.
  Use: `rw [getTypeReference_fast]; decide +kernel` on a closed call.  Nothing reasons about `Fast`.
-/
namespace Bp.Importing
open Bp.Casing Bp.Naming

namespace Fast

def parseAux : Str → Str → Option (Str × Str) → Option (Str × Str)
  | _, [], best => best
  | pre, c :: r, best =>
    if Casing.Fast.cls c = .up then best
    else parseAux (pre ++ [c]) r (if c = '.' ∧ pre ≠ [] ∧ r ≠ [] then some (pre, r) else best)

def parseSourceTypeName (s : Str) : Str × Str :=
  let first := match s with
    | '.' :: r => parseAux [] r none
    | _ => none
  match first with
  | some x => x
  | none =>
    match parseAux [] s none with
    | some x => x
    | none => ([], lstripDots s)

def referenceAbsolute (py : Pkg) (pyType : Str) : TypeRef :=
  let alias := Casing.Fast.safeSnake (dotted py)
  { ref := .qualified alias pyType, imp := .absolute py alias }

def referenceCousin (cur py : Pkg) (pyType : Str) : TypeRef :=
  let shared := commonPrefix cur py
  let d := cur.length - shared.length
  let rest := py.drop shared.length
  let alias := rep '_' d ++ Casing.Fast.safeSnake (dotted rest) ++ "__".toList
  { ref := .qualified alias pyType, imp := .from_ (d + 1) rest.dropLast (lastD py) (some alias) }

def refCore (cur py : Pkg) (pyType : Str) : TypeRef :=
  if py.take 1 = ["betterproto".toList] then referenceAbsolute py pyType
  else if py = cur then referenceSibling pyType
  else if py.take cur.length = cur then referenceDescendent cur py pyType
  else if cur.take py.length = py then referenceAncestor cur py pyType
  else referenceCousin cur py pyType

/-- `Bp.Gen.importWrappers` by its characters.  The table is regenerated from `WRAPPER_TYPES` by
    harness/extract_importing.py; if it ever differs, `wrapperTable_fast` below fails when this file is built, and this
    list is then to be brought in line by hand. -/
def wrapperTable : List (Str × Str) :=
  [(lit ".google.protobuf.DoubleValue", lit "float"), (lit ".google.protobuf.FloatValue", lit "float"),
   (lit ".google.protobuf.Int32Value", lit "int"), (lit ".google.protobuf.Int64Value", lit "int"),
   (lit ".google.protobuf.UInt32Value", lit "int"), (lit ".google.protobuf.UInt64Value", lit "int"),
   (lit ".google.protobuf.BoolValue", lit "bool"), (lit ".google.protobuf.StringValue", lit "str"),
   (lit ".google.protobuf.BytesValue", lit "bytes")]

def getTypeReference (package sourceType : Str) (unwrap pydantic : Bool) : TypeRef :=
  match (if unwrap then wrapperTable.lookup sourceType else Option.none) with
  | some ty => { ref := .builtin (optionalText ty), imp := .none }
  | Option.none =>
    if unwrap ∧ sourceType = lit ".google.protobuf.Duration" then
      { ref := .builtin "timedelta".toList, imp := .none }
    else if unwrap ∧ sourceType = lit ".google.protobuf.Timestamp" then
      { ref := .builtin "datetime".toList, imp := .none }
    else
      let (srcPkg, srcName) := parseSourceTypeName sourceType
      let cur := splitPkg package
      let py := splitPkg srcPkg
      refCore cur (redirect cur py pydantic) (Casing.Fast.pascal srcName)

def isClassName : Str → Bool
  | c :: _ => Casing.Fast.cls c = .up || Casing.Fast.cls c = .dg
  | [] => false

def bind (cur : Pkg) : Import → Option (Str × Obj)
  | .none => Option.none
  | .absolute path alias => some (alias, .module (.abs path))
  | .from_ dots path name alias =>
    match dots with
    | 0 => Option.none
    | k + 1 =>
      match up cur k with
      | Option.none => Option.none
      | some base =>
        let m := base ++ path
        some (alias.getD name, if isClassName name then .cls (.gen m) name else .module (.gen (m ++ [name])))

def classOf (ty : List Str) : Str := Casing.Fast.pascal ('_' :: joinWith '_' ty)

def segOk (s : Str) : Bool :=
  !s.isEmpty && s.all (fun c => Casing.Fast.identChar c && Casing.Fast.cls c != .up) && !isClassName s
def pkgOk (p : Pkg) : Bool := p.all segOk
def tyPartOk (s : Str) : Bool :=
  (match s with
   | c :: _ => Casing.Fast.cls c = .up
   | [] => false) && s.all Casing.Fast.identChar
def typeOk (ty : List Str) : Bool := !ty.isEmpty && ty.all tyPartOk
def simpleSeg (s : Str) : Bool :=
  (match s with
   | c :: _ => Casing.Fast.cls c = .lo
   | [] => false) && Casing.Fast.tokens s = [s] && Casing.Fast.lowerW s = s && !(Casing.Fast.kw.contains s)
def simplePkg (p : Pkg) : Bool := p.all simpleSeg

end Fast

theorem parseAux_fast : parseAux = Fast.parseAux := by
  funext pre s best
  induction s generalizing pre best with
  | nil => rfl
  | cons c r ih => simp only [parseAux, Fast.parseAux, ih, cls_fast]

theorem parseSourceTypeName_fast : parseSourceTypeName = Fast.parseSourceTypeName := by
  funext s; unfold parseSourceTypeName Fast.parseSourceTypeName; rw [parseAux_fast]; rfl

theorem referenceAbsolute_fast : referenceAbsolute = Fast.referenceAbsolute := by
  funext p t; rw [referenceAbsolute, safeSnake_fast]; rfl
theorem referenceCousin_fast : referenceCousin = Fast.referenceCousin := by
  funext c p t; rw [referenceCousin, safeSnake_fast]; rfl
theorem refCore_fast : refCore = Fast.refCore := by
  funext c p t; rw [refCore, referenceAbsolute_fast, referenceCousin_fast]; rfl

theorem wrapperTable_fast : wrapperTable = Fast.wrapperTable := by decide +kernel

theorem getTypeReference_fast : getTypeReference = Fast.getTypeReference := by
  funext p s u y
  rw [getTypeReference, wrapperTable_fast, parseSourceTypeName_fast, refCore_fast, pythonizeClassName_fast,
    lit_eq ".google.protobuf.Duration", lit_eq ".google.protobuf.Timestamp"]
  rfl

theorem isClassName_fast : isClassName = Fast.isClassName := by
  funext s; cases s <;> simp only [isClassName, Fast.isClassName, cls_fast]

theorem bind_fast : Import.bind = Fast.bind := by
  funext cur i
  cases i with
  | from_ d p n a =>
    cases d with
    | zero => rfl
    | succ k => simp only [Import.bind, Fast.bind, isClassName_fast]; cases up cur k <;> rfl
  | _ => rfl

theorem boundName_fast : boundName = fun cur r => (Fast.bind cur r.imp).map Prod.fst := by
  funext c r; rw [boundName, bind_fast]

theorem classOf_fast : classOf = Fast.classOf := by funext t; rw [classOf, pythonizeClassName_fast]; rfl
theorem segOk_fast : segOk = Fast.segOk := by funext s; rw [segOk, identChar_fast, cls_fast, isClassName_fast]; rfl
theorem pkgOk_fast : pkgOk = Fast.pkgOk := by funext p; rw [pkgOk, segOk_fast]; rfl
theorem tyPartOk_fast : tyPartOk = Fast.tyPartOk := by funext s; rw [tyPartOk.eq_def, identChar_fast, cls_fast]; rfl
theorem typeOk_fast : typeOk = Fast.typeOk := by funext p; rw [typeOk, tyPartOk_fast]; rfl
theorem simpleSeg_fast : simpleSeg = Fast.simpleSeg := by
  funext s; rw [simpleSeg.eq_def, tokens_fast, lowerW_fast, kw_fast, cls_fast]; rfl
theorem simplePkg_fast : simplePkg = Fast.simplePkg := by funext p; rw [simplePkg, simpleSeg_fast]; rfl

end Bp.Importing
