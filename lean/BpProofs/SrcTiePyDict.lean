import BpProofs.Gen.SrcPyDict
import BpProofs.SrcTieJson
import BpProofs.PyDictRt
/-
  `Bp.Src.to_pydict_field` (BpProofs/Gen/SrcPyDict.lean) is regenerated from the Python AST of the
  body of the field loop of `Message.to_pydict` on every run.  With `enc := toPyDict S cs incl`
  (the recursive `to_pydict` of the model), one iteration as written raises exactly when the model's
  `toPyDictSlot S cs incl f hid sel v` is an error (the same error), leaves the output dict as it is
  when it is `ok none`, and stores exactly the model's object under the model's key
  `jsonKey cs f.name` when it is `ok (some j)` — for every field descriptor, both casings, every
  flag combination and every raw slot value `v` inside the decidable guard `dynOkJ f v` of the
  `to_dict` tie (the value has a Python type the descriptor allows; BpProofs/SrcTieJson.lean) and,
  for a slot that reads as the field's default, the guard `DefaultOkP` (see there).
-/
namespace Bp.SrcTiePyDict
open Bp Bp.Py Gen Bp.SrcTieJson

/-- what one iteration does with the model's answer for the field -/
def putR (output : JDict) (k : JKey) (r : R (Option PVal)) : Res JDict :=
  (ofR r).bind fun o => .ok (putJ output k o)

@[simp] theorem putR_ok (o : JDict) (k : JKey) (x : Option PVal) : putR o k (.ok x) = .ok (putJ o k x) := rfl
@[simp] theorem putR_err (o : JDict) (k : JKey) (e : PyErr) : putR o k (.error e : R (Option PVal)) = .raise e := rfl
@[simp] theorem ofR_ok {α} (a : α) : ofR (Except.ok a : R α) = .ok a := rfl
@[simp] theorem ofR_err {α} (e : PyErr) : ofR (Except.error e : R α) = .raise e := rfl

theorem ofR_bind {α β} (r : R α) (g : α → R β) : ofR (r.bind g) = (ofR r).bind fun a => ofR (g a) := by
  cases r <;> rfl

section tie
-- every lemma of the section takes those of these parameters that its statement mentions, in this order, before its own; definitions bind theirs themselves
variable (S : Schema) (cs : KeyCase) (incl : Bool) (f : FieldD) (sel : Bool)

theorem toPyDict_msg (c : Nat) (sl : List Val) (ow : Bool)
    (unk : Bytes) (cur : List (Option Nat)) :
    toPyDict S cs incl (.msg c sl ow unk cur)
      = (toPyDictKVs S cs incl (fieldsOf S c) cur 0 sl).bind fun kvs => .ok (mkObj kvs) := by
  rw [toPyDict]

theorem toPyDict_nonmsg (v : Val) (h : isMsgVal v = false) :
    toPyDict S cs incl v = .error .attr := by
  cases v with
  | msg c sl ow unk cur => cases h
  | _ => rfl

theorem callToPyDict_eq (v : Val) :
    callToPyDict (toPyDict S cs incl) v = ofR (toPyDict S cs incl v) := by
  unfold callToPyDict
  by_cases h : isMsgVal v = true
  · rw [if_pos h]
  · rw [if_neg h, toPyDict_nonmsg S cs incl v (by simpa using h)]; rfl

theorem toPyDictList_cons (x : Val) (xs : List Val) :
    toPyDictList S cs incl (x :: xs)
      = (toPyDict S cs incl x).bind fun j => (toPyDictList S cs incl xs).bind fun js => .ok (j :: js) := by
  cases x with
  | msg c sl ow unk cur => rw [toPyDictList, toPyDict_msg]
  | _ => rw [toPyDictList, toPyDict_nonmsg _ _ _ _ rfl]; all_goals (intros; contradiction)

/-- the list comprehension `[i.to_pydict(...) for i in value]` -/
theorem mapM_callToPyDict : ∀ xs : List Val,
    Py.mapM (fun i => (callToPyDict (toPyDict S cs incl) i).bind fun t => Res.ok t) xs
      = ofR (toPyDictList S cs incl xs)
  | [] => by rw [toPyDictList]; rfl
  | x :: xs => by
    rw [Py.mapM, toPyDictList_cons, callToPyDict_eq, mapM_callToPyDict xs]
    simp only [Res.ofR_bind, Res.ofR_ok, Res.bind_ok]

/-- what `to_pydict` does to one map value -/
def mapValP (S : Schema) (cs : KeyCase) (incl : Bool) (x : Val) : R PVal :=
  if isMsgVal x then toPyDict S cs incl x else .ok (rawJ x)

theorem toPyDictMapVals_cons (x : Val) (xs : List Val) :
    toPyDictMapVals S cs incl (x :: xs)
      = (mapValP S cs incl x).bind fun j => (toPyDictMapVals S cs incl xs).bind fun js => .ok (j :: js) := by
  cases x with
  | msg c sl ow unk cur => rw [toPyDictMapVals, mapValP, toPyDict_msg]; rfl
  | _ =>
    rw [toPyDictMapVals]
    · rfl
    all_goals (intros; contradiction)

/-- `if c: output[key] = j` -/
def putIf (out : JDict) (k : JKey) (c : Bool) (j : PVal) : Res JDict :=
  putR out k (.ok (if c then some j else Option.none))

/-- the translated body on an attribute value, with every write in the form `putIf` -/
theorem src_field (enc : Val → R PVal) (cs : KeyCase) (incl : Bool) (f : FieldD) (sel : Bool) (v : Val)
    (out : JDict) :
    Src.to_pydict_field S enc cs incl f (.value v) sel out =
      if f.ty == .message then
        if isDatetime v then putIf out (jsonKey cs f.name) (neDatetimeZero v || incl || sel) (rawJ v)
        else if isTimedelta v then putIf out (jsonKey cs f.name) (neTimedeltaZero v || incl || sel) (rawJ v)
        else if f.wraps.isSome then putIf out (jsonKey cs f.name) (!isNone v || incl) (rawJ v)
        else if f.repeated then
          (iterItems v).bind fun xs => (Py.mapM (fun i => (callToPyDict enc i).bind fun t => Res.ok t) xs).bind fun items =>
            putIf out (jsonKey cs f.name) (!items.isEmpty || incl) (.arr items)
        else if isNone v then putIf out (jsonKey cs f.name) incl .null
        else (serializedOnWire v).bind fun ow =>
          if ow || incl || sel || !eqDefault S f.defKind v then
            (callToPyDict enc v).bind fun j => .ok (setItem out (jsonKey cs f.name) j)
          else .ok out
      else if f.ty == .map then
        (dictUnpack v).bind fun d => (iterItems v).bind fun ks =>
          (Src.to_pydict_field.loop1 S enc cs incl v ks d).bind fun items =>
            putIf out (jsonKey cs f.name) (truthyVal S v || incl) (mkObj items)
      else putIf out (jsonKey cs f.name) (!eqDefault S f.defKind v || incl || sel) (rawJ v) := by
  unfold Src.to_pydict_field
  simp only [putIf, putR_ok, ← ite_put]
  cases serializedOnWire v with
  | ok ow => simp only [Res.ok_bind, Res.ok_or, Bool.or_assoc]
  | _ => rfl

/-- the converted items of a map field, in order; the first conversion that raises ends it -/
def convItemsP (S : Schema) (cs : KeyCase) (incl : Bool) : List (Val × Val) → R (List (JKey × PVal))
  | [] => .ok []
  | kv :: rest =>
    (mapValP S cs incl kv.2).bind fun j => (convItemsP S cs incl rest).bind fun js => .ok ((keyJ kv.1, j) :: js)

theorem convItemsP_keys (S : Schema) (cs : KeyCase) (incl : Bool) : ∀ (kvs : List (Val × Val)) (js : List (JKey × PVal)),
    convItemsP S cs incl kvs = .ok js → js.map (·.1) = kvs.map fun p => keyJ p.1
  | [], js, h => by simp [convItemsP] at h; subst h; rfl
  | kv :: rest, js, h => by
    rw [convItemsP] at h
    cases hj : mapValP S cs incl kv.2 with
    | error e => rw [hj] at h; cases h
    | ok j =>
      cases hr : convItemsP S cs incl rest with
      | error e => rw [hj, hr] at h; cases h
      | ok js' =>
        rw [hj, hr] at h
        have : js = (keyJ kv.1, j) :: js' := by injection h with h; exact h.symm
        subst this
        simp [convItemsP_keys S cs incl rest js' hr]

theorem map_loopP (ks vs : List Val)
    (hn : ((ks.zip vs).map fun p => keyJ p.1).Nodup) :
    ∀ (suf pre : List (Val × Val)) (preC : JDict), ks.zip vs = pre ++ suf →
      preC.map (·.1) = pre.map (fun p => keyJ p.1) →
      Src.to_pydict_field.loop1 S (toPyDict S cs incl) cs incl (.dict ks vs) (suf.map (·.1))
        (preC ++ suf.map rawItem)
      = (ofR (convItemsP S cs incl suf)).bind fun sufC => .ok (preC ++ sufC)
  | [], pre, preC, h, hk => by simp [Src.to_pydict_field.loop1, convItemsP, Res.ok_bind]
  | kv :: suf, pre, preC, h, hk => by
    obtain ⟨k, v⟩ := kv
    have hn' := hn
    rw [h, List.map_append, List.nodup_append] at hn'
    obtain ⟨hnp, hns, hdis⟩ := hn'
    have hkpre : keyJ k ∉ pre.map (fun p => keyJ p.1) := fun hm => hdis _ hm _ (by simp) rfl
    have hksuf : keyJ k ∉ suf.map (fun p => keyJ p.1) := by
      simp only [List.map_cons, List.nodup_cons] at hns; exact hns.1
    have hget : getItem (.dict ks vs) k = .ok v := by
      simp only [getItem, lookupKey_zip, h, find_mid (keyJ k) pre suf (k, v) rfl hkpre, Option.map_some]
    have hA : keyJ k ∉ preC.map (·.1) := by rw [hk]; exact hkpre
    have hB : keyJ k ∉ (suf.map rawItem).map (·.1) := by
      simpa [rawItem, Function.comp_def] using hksuf
    simp only [List.map_cons, Src.to_pydict_field.loop1, hget, Res.ok_bind, hasToPyDict, setItemV, callToPyDict_eq, convItemsP]
    have ih := fun j => map_loopP ks vs hn suf (pre ++ [(k, v)]) (preC ++ [(keyJ k, j)]) (by rw [h]; simp)
      (by simp [hk])
    simp only [List.append_assoc, List.singleton_append] at ih
    rw [show rawItem (k, v) = (keyJ k, rawJ v) from rfl]
    -- a Message value is converted and written back under its key; any other value stays as `{**value}` put it
    by_cases hm : isMsgVal v = true
    · rw [if_pos hm, show mapValP S cs incl v = toPyDict S cs incl v by rw [mapValP, if_pos hm], Res.ofR_bind,
        Res.bind_assoc]
      refine Res.bind_congr fun j _ => ?_
      rw [setItem_mid _ _ _ _ _ hA hB, ih]
      simp only [Res.ofR_bind, Res.bind_assoc, Res.ofR_ok, Res.ok_bind]
    · rw [if_neg hm, show mapValP S cs incl v = .ok (rawJ v) by rw [mapValP, if_neg hm], ih]
      cases convItemsP S cs incl suf <;> rfl

theorem convItemsP_zip : ∀ (ks vs : List Val), ks.length = vs.length →
    convItemsP S cs incl (ks.zip vs)
      = (toPyDictMapVals S cs incl vs).bind fun pvs => .ok ((ks.map keyJ).zip pvs)
  | [], [], _ => by rw [toPyDictMapVals]; rfl
  | [], _ :: _, h => by simp at h
  | _ :: _, [], h => by simp at h
  | k :: ks, v :: vs, h => by
    have h' : ks.length = vs.length := by simpa using h
    rw [List.zip_cons_cons, convItemsP, toPyDictMapVals_cons, convItemsP_zip ks vs h']
    cases mapValP S cs incl v with
    | error e => rfl
    | ok j =>
      cases toPyDictMapVals S cs incl vs with
      | error e => rfl
      | ok js => rfl

theorem toPyDictMapVals_length : ∀ (vs : List Val) (pvs : List PVal),
    toPyDictMapVals S cs incl vs = .ok pvs → pvs.length = vs.length
  | [], pvs, h => by rw [toPyDictMapVals] at h; injection h with h; subst h; rfl
  | v :: vs, pvs, h => by
    rw [toPyDictMapVals_cons] at h
    cases hj : mapValP S cs incl v with
    | error e => rw [hj] at h; cases h
    | ok j =>
      cases hr : toPyDictMapVals S cs incl vs with
      | error e => rw [hj, hr] at h; cases h
      | ok js =>
        rw [hj, hr] at h
        have : pvs = j :: js := by injection h with h; exact h.symm
        subst this
        simp [toPyDictMapVals_length vs js hr]

theorem mkObj_zip (ks : List JKey) (pvs : List PVal) (h : ks.length = pvs.length) :
    mkObj (ks.zip pvs) = .obj ks pvs := by
  unfold mkObj
  rw [List.map_fst_zip (by omega), List.map_snd_zip (by omega)]

/-- **one iteration on an attribute VALUE** (anything `getattr` can return: never PLACEHOLDER), case by case of `Cell` -/
theorem field_value (v : Val) (out : JDict)
    (hph : v ≠ .ph) (hok : dynOkJ f v = true) :
    Src.to_pydict_field S (toPyDict S cs incl) cs incl f (.value v) sel out
      = putR out (jsonKey cs f.name) (toPyDictSlot S cs incl f false sel v) := by
  rw [src_field]
  cases Cell.of_dynOkJ f v hph hok with
  | ts us hm | dur us hm => rw [toPyDictSlot_leaf' _ _ _ _ _ _ _ rfl]; simp only [toPyDictPlain, hm, ↓reduceIte]; rfl
  | wrapped v hm hw hp =>
    cases v with
    | ph | list | dict | msg | ts | dur => cases hp
    | _ => rw [toPyDictSlot_leaf' _ _ _ _ _ _ _ rfl]; simp only [toPyDictPlain, hm, hw, ↓reduceIte]; rfl
  | wrappedList xs hm hw => rw [toPyDictSlot]; simp only [hm, hw, ↓reduceIte]; rfl
  | msgList xs hm hw hr =>
    rw [toPyDictSlot]
    simp only [hm, hw, hr, isDatetime, isTimedelta, iterItems, Res.ok_bind, mapM_callToPyDict, ↓reduceIte, Bool.false_eq_true]
    cases toPyDictList S cs incl xs <;> rfl
  | msgNone hm hw hr =>
    rw [toPyDictSlot_leaf' _ _ _ _ _ _ _ rfl]; simp only [toPyDictPlain, hm, hw, hr, ↓reduceIte, Bool.false_eq_true]; rfl
  | msg c sl ow unk cur hm hw hr =>
    rw [toPyDictSlot]
    simp only [hm, hw, hr, isDatetime, isTimedelta, isNone, serializedOnWire, Res.ok_bind, callToPyDict_eq,
      toPyDict_msg, Option.isSome_eq_false_iff.mp hw, ↓reduceIte, Bool.false_eq_true]
    by_cases hc : (ow || incl || sel || !eqDefault S f.defKind (.msg c sl ow unk cur)) = true
    · simp only [hc, ↓reduceIte]; cases toPyDictKVs S cs incl (fieldsOf S c) cur 0 sl <;> rfl
    · simp only [hc, ↓reduceIte, Bool.false_eq_true]; rfl
  | map ks vs hm hmap hlen hn =>
    have hl := map_loopP S cs incl ks vs hn (ks.zip vs) [] [] rfl rfl
    rw [zip_fst ks vs hlen, List.nil_append] at hl
    rw [toPyDictSlot]
    simp only [hm, hmap, dictUnpack, iterItems, truthyVal, Res.ok_bind, ↓reduceIte, Bool.false_eq_true]
    rw [show (ks.zip vs).map (fun kv => (keyJ kv.1, rawJ kv.2)) = (ks.zip vs).map rawItem from rfl, hl,
      convItemsP_zip S cs incl ks vs hlen]
    cases hp : toPyDictMapVals S cs incl vs with
    | error e => rfl
    | ok pvs =>
      simp only [Except.bind, Res.ofR_ok, Res.ok_bind, List.nil_append, putIf,
        mkObj_zip (ks.map keyJ) pvs (by rw [List.length_map, toPyDictMapVals_length S cs incl vs pvs hp, hlen])]
  | scalarList xs hm hmap hr => rw [toPyDictSlot]; simp only [hm, hmap, ↓reduceIte, Bool.false_eq_true]; rfl
  | scalar v hm hmap hl hrep =>
    rw [toPyDictSlot_leaf' _ _ _ _ _ _ _ hl]; simp only [toPyDictPlain, hm, hmap, ↓reduceIte, Bool.false_eq_true]; rfl

/-- The guard for a slot that reads as the default.  The source goes on with
    `self._get_field_default(field_name)` exactly as with any other value; the model has a separate
    function `toPyDictDefault`, which differs from that in one place: the default of a plain singular
    sub-message field is a fresh instance — with `include_default_values=True` the source expands ITS
    defaults recursively, the model does not ("not modelled", `raw ph`); so `incl = false` is required
    there, and that the fresh instance compares equal to the default and has an empty pydict (both
    follow from the schema guards: `defaultOkP_of_schema`). -/
def DefaultOkP (S : Schema) (cs : KeyCase) (incl : Bool) (f : FieldD) : Prop :=
  ∀ c, f.defKind = .msg c →
    incl = false ∧ eqDefault S (.msg c) (fresh S c) = true ∧ toPyDict S cs false (fresh S c) = .ok (.obj [] [])

theorem dynOkJ_defaultP (S : Schema) (f : FieldD) (h : (f.repeated && f.ty == .map) = false) :
    dynOkJ f (defaultOf S f) = true := dynOkJ_default S f h

theorem toPyDictSlot_default
    (hrm : (f.repeated && f.ty == .map) = false) (hd : DefaultOkP S cs incl f) :
    toPyDictSlot S cs incl f false sel (defaultOf S f) = toPyDictDefault S f sel incl := by
  unfold defaultOf toPyDictDefault
  rcases defKind_cases f with ⟨hr, hk⟩ | ⟨hr, ht, hk⟩ | ⟨hr, ht, ho, hk⟩ | ⟨hr, ht, ho, hw, hk⟩ | ⟨hr, ht, htm, ho, hw, hk⟩
  · have hmap : (f.ty == PType.map) = false := by simpa [hr] using hrm
    have hl : toPyDictList S cs incl [] = .ok [] := by rw [toPyDictList]
    rw [hk, defaultOfKind, toPyDictSlot]
    simp only [hr, hmap, hk, hl, ↓reduceIte, Bool.false_eq_true, rawJ_nil, eqDefault_list, List.isEmpty_nil, Bool.not_true,
      Bool.false_or]
    cases f.ty == PType.message <;> cases f.wraps.isSome <;> rfl
  · have hl : toPyDictMapVals S cs incl [] = .ok [] := by rw [toPyDictMapVals]
    rw [hk, defaultOfKind, toPyDictSlot, hl, ht]
    rfl
  · rw [hk, toPyDictSlot_leaf' _ _ _ _ _ _ _ rfl]; rfl
  · cases hkind : f.kind with
    | timestamp | duration => rw [hk, hkind, toPyDictSlot_leaf' _ _ _ _ _ _ _ rfl]; rfl
    | user c =>
      have hk : f.defKind = .msg c := by rw [hk, hkind]; rfl
      obtain ⟨hi, he, hf⟩ := hd c hk
      subst hi
      -- the fresh instance: its items are none, since its pydict is empty
      have hkv : toPyDictKVs S cs false (fieldsOf S c) (List.replicate (groupsOf S c) Option.none) 0
          ((fieldsOf S c).map fun f => if f.optional then Val.none else Val.ph) = .ok [] := by
        rw [fresh, toPyDict_msg] at hf
        cases hq : toPyDictKVs S cs false (fieldsOf S c) (List.replicate (groupsOf S c) Option.none) 0
            ((fieldsOf S c).map fun f => if f.optional then Val.none else Val.ph) with
        | error e => rw [hq] at hf; cases hf
        | ok kvs =>
          rw [hq] at hf
          cases kvs with
          | nil => rfl
          | cons a b => cases hf
      rw [fresh] at he
      rw [hk, defaultOfKind, fresh, toPyDictSlot, hk, he, hkv]
      simp only [ht, hw, hr, beq_self_eq_true, Option.isNone_none, Bool.not_false, Bool.and_self, ↓reduceIte,
        Bool.false_eq_true, Bool.false_or, Bool.not_true, Bool.or_false]
      cases sel <;> rfl
  · rw [hk]
    cases f.ty <;> (rw [toPyDictSlot_leaf' _ _ _ _ _ _ _ rfl]; rfl)

theorem toPyDictSlot_hid (v : Val) :
    toPyDictSlot S cs incl f true sel v = toPyDictDefault S f sel incl := by
  cases v with
  | ph => rw [toPyDictSlot]
  | list | dict | msg => rw [toPyDictSlot]; rfl
  | _ => rw [toPyDictSlot_leaf' _ _ _ _ _ _ _ rfl]; rfl

/-- the iteration of `to_pydict` as a `Tie` of SrcTieJson -/
def pyTie (S : Schema) (cs : KeyCase) (incl : Bool) : Tie S cs where
  body f g sel out := Src.to_pydict_field S (toPyDict S cs incl) cs incl f g sel out
  slot f hid sel v := toPyDictSlot S cs incl f hid sel v
  kvs := toPyDictKVs S cs incl
  Ok f _ v := dynOkJ f v = true
  DefOk f _ := DefaultOkP S cs incl f
  body_got f g sel out := by cases g <;> rfl
  value f sel v out hph hok := field_value S cs incl f sel v out hph hok
  default f sel out hD := by
    rw [toPyDictSlot]
    by_cases hrm : (f.repeated && f.ty == .map) = true
    · -- a repeated map field (no such descriptor exists): `{**[]}` is a TypeError, on both sides
      simp only [Bool.and_eq_true, beq_iff_eq] at hrm
      have hm : (f.ty == PType.message) = false := by rw [hrm.2]; rfl
      have hmap : (f.ty == PType.map) = true := by rw [hrm.2]; rfl
      unfold defaultOf toPyDictDefault
      rw [defKind_rep f hrm.1, defaultOfKind, src_field]
      simp only [hm, hmap, ↓reduceIte, Bool.false_eq_true]
      rfl
    · have hrm' : (f.repeated && f.ty == .map) = false := by simpa using hrm
      rw [field_value S cs incl f sel _ out (defaultOf_ne_ph S f) (dynOkJ_default S f hrm'),
        toPyDictSlot_default S cs incl f sel hrm' hD]
      rfl
  slot_hid f sel v := by rw [toPyDictSlot_hid, toPyDictSlot]
  kvs_nil fs cur idx := by rw [toPyDictKVs]
  kvs_cons fs cur idx v vs := by rw [toPyDictKVs]; rfl

theorem to_pydict_field_eq (hid sel : Bool) (v : Val)
    (out : JDict) (hok : readsDefault hid v = false → dynOkJ f v = true)
    (hd : readsDefault hid v = true → DefaultOkP S cs incl f) :
    Src.to_pydict_field S (toPyDict S cs incl) cs incl f (getattrField S f hid v) sel out
      = putR out (jsonKey cs f.name) (toPyDictSlot S cs incl f hid sel v) :=
  (pyTie S cs incl).field_eq f hid sel v out hok hd

theorem fresh_slot_noneP (hj : fieldJsonOk f = true) (hid : Bool) :
    toPyDictSlot S cs false f hid false (if f.optional then Val.none else Val.ph) = .ok Option.none := by
  have hj := fj_of f hj
  have hdef := toPyDictDefault_none S f hj
  by_cases ho : f.optional = true
  · rw [if_pos ho, toPyDictSlot_leaf' _ _ _ _ _ _ _ rfl]
    cases hid with
    | true => exact hdef
    | false =>
      obtain ⟨hr, hmap⟩ := hj.opt_single ho
      exact toPyDictPlain_none S f hr hmap (defKind_none f hr hmap (by rw [ho]; rfl))
  · rw [if_neg ho, toPyDictSlot]; exact hdef

theorem toPyDict_fresh (c : Nat)
    (hj : ∀ f ∈ fieldsOf S c, fieldJsonOk f = true) : toPyDict S cs false (fresh S c) = .ok (.obj [] []) := by
  have := (pyTie S cs false).kvs_fresh (groupsOf S c) (fieldsOf S c)
    (fun f hf hid => fresh_slot_noneP S cs f (hj f hf) hid) (fieldsOf S c) [] rfl
  rw [fresh, toPyDict_msg]; exact congrArg (fun r => r.bind fun kvs => .ok (mkObj kvs)) this

theorem defaultOkP_of_schema (hS : SchemaJsonOk S) : DefaultOkP S cs false f :=
  fun c _ => ⟨rfl, eqDefault_fresh S c (wfSchemaOpt_of S hS), toPyDict_fresh S cs c (hS c)⟩

/-- `for field_name, meta in self._betterproto.meta_by_field_name.items(): <translated body>`
    (hand-written fold; the body is the translated `Src.to_pydict_field`) -/
def srcLoopP (S : Schema) (cs : KeyCase) (incl : Bool) (fs : List FieldD) (cur : List (Option Nat)) :
    Nat → List Val → JDict → Res JDict
  | _, [], out => .ok out
  | idx, v :: vs, out =>
    match fs[idx]? with
    | Option.none => .ok out
    | some f =>
      (Src.to_pydict_field S (toPyDict S cs incl) cs incl f (getattrField S f (hidden f idx cur) v)
        (selectedInGroup f idx cur) out).bind fun out' => srcLoopP S cs incl fs cur (idx + 1) vs out'

/-- the guards of the tie, slot by slot -/
def SlotsTieOkP (S : Schema) (cs : KeyCase) (incl : Bool) (fs : List FieldD) (cur : List (Option Nat)) :
    Nat → List Val → Prop
  | _, [] => True
  | idx, v :: vs =>
    (∀ f, fs[idx]? = some f →
      (readsDefault (hidden f idx cur) v = false → dynOkJ f v = true) ∧
      (readsDefault (hidden f idx cur) v = true → DefaultOkP S cs incl f)) ∧
    SlotsTieOkP S cs incl fs cur (idx + 1) vs

def srcLoopP_loop (S : Schema) (cs : KeyCase) (incl : Bool) (fs : List FieldD) (cur : List (Option Nat)) :
    Loop (pyTie S cs incl) fs cur where
  L := srcLoopP S cs incl fs cur
  G := SlotsTieOkP S cs incl fs cur
  L_nil idx out _ := by rw [srcLoopP]
  L_cons idx v vs out _ := by rw [srcLoopP]; rfl
  G_cons idx v vs h := h

theorem srcLoopP_eq (fs : List FieldD) (cur : List (Option Nat))
    (hinj : KeysInj cs fs) (vs : List Val) (idx : Nat) (out : JDict) (h : SlotsTieOkP S cs incl fs cur idx vs)
    (hout : ∀ j fj, idx ≤ j → fs[j]? = some fj → jsonKey cs fj.name ∉ out.map (·.1)) :
    srcLoopP S cs incl fs cur idx vs out
      = (ofR (toPyDictKVs S cs incl fs cur idx vs)).bind fun kvs => .ok (out ++ kvs) :=
  (srcLoopP_loop S cs incl fs cur).eq hinj vs idx out h hout

theorem slotsTieOkP_of_typed (hS : SchemaJsonOk S) (fs : List FieldD) (cur : List (Option Nat)) :
    ∀ (vs : List Val) (idx : Nat), slotsOk' S fs cur idx vs = true → (∀ v ∈ vs, keysDistinct v = true) →
      SlotsTieOkP S cs false fs cur idx vs
  | [], _, _, _ => trivial
  | v :: vs, idx, h, hk => by
    rw [slotsOk'] at h
    simp only [Bool.and_eq_true] at h
    refine ⟨fun f hf => ⟨fun _ => ?_, fun _ => defaultOkP_of_schema S cs f hS⟩,
      slotsTieOkP_of_typed hS fs cur vs (idx + 1) h.2 (fun x hx => hk x (by simp [hx]))⟩
    have h1 := h.1
    rw [hf] at h1
    exact dynOkJ_of_slotOk' S f _ _ v h1 (hk v (by simp))

end tie

end Bp.SrcTiePyDict
