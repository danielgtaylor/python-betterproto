import BpModel.Importing
import BpProofs.Casing
import BpProofs.CasingClass
/-
  Lemmas about the model of compile/importing.py (BpModel/Importing.lean).  One per `reference_*` function (`bind_*`)
  gives the reference it returns and the (name, object) its import binds in the module of `cur`; `Shape` is what they
  have in common.  Resolution (`refCore_resolves`) and the alias algebra (ImportingAlias.lean) are both read off these.
-/
namespace Bp.Importing
open Bp.Casing Bp.Naming

theorem lastD_eq (l : Pkg) (h : l ≠ []) : lastD l = l.getLast h := by
  simp [lastD, List.getLast?_eq_some_getLast h]

theorem dropLast_lastD (l : Pkg) (h : l ≠ []) : l.dropLast ++ [lastD l] = l := by
  rw [lastD_eq l h]; exact List.dropLast_concat_getLast h

theorem lastD_mem (l : Pkg) (h : l ≠ []) : lastD l ∈ l := by
  rw [lastD_eq l h]; exact List.getLast_mem h

theorem lastD_append (a b : Pkg) (h : b ≠ []) : lastD (a ++ b) = lastD b := by
  simp [lastD, List.getLast?_append, List.getLast?_eq_some_getLast h]

theorem dotted_ne_nil : ∀ p : Pkg, p ≠ [] → (∀ s ∈ p, s ≠ []) → dotted p ≠ []
  | [], h, _ => absurd rfl h
  | [a], _, hs => by simpa [dotted, joinWith] using hs a (by simp)
  | a :: b :: l, _, hs => by
    have := hs a (by simp)
    simp [dotted, joinWith, this]

theorem up_zero (cur : Pkg) : up cur 0 = some cur := by simp [up]

theorem commonPrefix_prefix : ∀ a b : Pkg, commonPrefix a b <+: a ∧ commonPrefix a b <+: b
  | [], _ => by simp [commonPrefix]
  | _ :: _, [] => by simp [commonPrefix]
  | x :: a, y :: b => by
    by_cases h : x = y
    · subst h
      simpa [commonPrefix, List.cons_prefix_cons] using commonPrefix_prefix a b
    · simp [commonPrefix, h]

theorem commonPrefix_take_left (a b : Pkg) : a.take (commonPrefix a b).length = commonPrefix a b :=
  (List.prefix_iff_eq_take.1 (commonPrefix_prefix a b).1).symm

theorem commonPrefix_take_right (a b : Pkg) : b.take (commonPrefix a b).length = commonPrefix a b :=
  (List.prefix_iff_eq_take.1 (commonPrefix_prefix a b).2).symm

theorem commonPrefix_length_le_left (a b : Pkg) : (commonPrefix a b).length ≤ a.length :=
  (commonPrefix_prefix a b).1.length_le

theorem append_drop_of_take {α} {p l : List α} (h : l.take p.length = p) : p ++ l.drop p.length = l := by
  conv => rhs; rw [← List.take_append_drop p.length l, h]

theorem drop_ne_nil_of_take {α} {p l : List α} (h : l.take p.length = p) (hne : l ≠ p) : l.drop p.length ≠ [] := by
  intro e
  have := append_drop_of_take h
  rw [e, List.append_nil] at this
  exact hne this.symm

theorem up_sub (cur : Pkg) (n : Nat) : up cur (cur.length - n) = some (cur.take (min n cur.length)) := by
  unfold up
  rw [if_pos (Nat.sub_le ..)]
  congr 2
  omega

theorem up_eq_some {cur p : Pkg} {k : Nat} (h : up cur k = some p) : cur.take (cur.length - k) = p := by
  unfold up at h
  split at h
  · exact Option.some.inj h
  · cases h

theorem ancestor_up {cur tgt : Pkg} (hpre : cur.take tgt.length = tgt) (hne : tgt ≠ []) :
    up cur (cur.length - tgt.length + 1) = some tgt.dropLast := by
  have hlen : tgt.length ≤ cur.length := by
    have := congrArg List.length hpre
    simp at this
    omega
  have hpos : 0 < tgt.length := List.length_pos_iff.2 hne
  have h := up_sub cur (tgt.length - 1)
  rw [show cur.length - (tgt.length - 1) = cur.length - tgt.length + 1 by omega,
    Nat.min_eq_left (by omega)] at h
  rw [h, List.dropLast_eq_take, ← hpre, List.take_take, Nat.min_eq_left (by simp; omega)]

theorem cousin_up (cur tgt : Pkg) : up cur (cur.length - (commonPrefix cur tgt).length) = some (commonPrefix cur tgt) := by
  rw [up_sub, Nat.min_eq_left (commonPrefix_length_le_left cur tgt), commonPrefix_take_left]

theorem commonPrefix_append_drop (a b : Pkg) : commonPrefix a b ++ b.drop (commonPrefix a b).length = b :=
  append_drop_of_take (commonPrefix_take_right a b)

theorem drop_commonPrefix_ne_nil {cur tgt : Pkg} (h : cur.take tgt.length ≠ tgt) :
    tgt.drop (commonPrefix cur tgt).length ≠ [] :=
  drop_ne_nil_of_take (commonPrefix_take_right cur tgt) fun e => h (by
    have hL := commonPrefix_take_left cur tgt
    rwa [← e] at hL)

/-- `"__"`, the end of every ancestor and cousin alias -/
def dunder : Str := "__".toList

/-- `reference_descendent` with or without an `as` clause: the name bound is the `_`-join of the
    segments below `cur` in both cases -/
theorem referenceDescendent_eq (cur tgt : Pkg) (pyType : Str)
    (hpre : tgt.take cur.length = cur) (hne : tgt ≠ cur) (hseg : ∀ s ∈ tgt, s ≠ []) :
    ∃ alias, referenceDescendent cur tgt pyType =
        { ref := .qualified (joinWith '_' (tgt.drop cur.length)) pyType,
          imp := .from_ 1 (tgt.drop cur.length).dropLast (lastD (tgt.drop cur.length)) alias } ∧
      alias.getD (lastD (tgt.drop cur.length)) = joinWith '_' (tgt.drop cur.length) := by
  have hrest := drop_ne_nil_of_take hpre hne
  unfold referenceDescendent
  simp only
  split
  · next hemp =>
    have hfrm : (tgt.drop cur.length).dropLast = [] := Classical.byContradiction fun h =>
      dotted_ne_nil _ h (fun s hs => hseg s (List.mem_of_mem_drop (List.dropLast_subset _ hs)))
        (List.isEmpty_iff.1 hemp)
    have h1 := dropLast_lastD _ hrest
    rw [hfrm, List.nil_append] at h1
    -- no `as` clause: the one segment below `cur` is the name and the join
    refine ⟨Option.none, ?_, ?_⟩
    · rw [← h1]
      simp [joinWith, lastD]
    · rw [← h1]
      simp [joinWith, lastD]
  · exact ⟨some _, rfl, rfl⟩

theorem bind_descendent (cur tgt : Pkg) (pyType : Str)
    (hpre : tgt.take cur.length = cur) (hne : tgt ≠ cur)
    (hseg : ∀ s ∈ tgt, isClassName s = false ∧ s ≠ []) :
    (referenceDescendent cur tgt pyType).ref = .qualified (joinWith '_' (tgt.drop cur.length)) pyType ∧
    (referenceDescendent cur tgt pyType).imp.bind cur
      = some (joinWith '_' (tgt.drop cur.length), .module (.gen tgt)) := by
  have hrest := drop_ne_nil_of_take hpre hne
  obtain ⟨alias, e, ha⟩ := referenceDescendent_eq cur tgt pyType hpre hne (fun s hs => (hseg s hs).2)
  have hcls := (hseg _ (List.mem_of_mem_drop (lastD_mem _ hrest))).1
  have htgt : cur ++ (tgt.drop cur.length).dropLast ++ [lastD (tgt.drop cur.length)] = tgt := by
    rw [List.append_assoc, dropLast_lastD _ hrest, append_drop_of_take hpre]
  rw [e]
  simp [Import.bind, up_zero, hcls, ha, htgt]

theorem boundName_descendent (cur tgt : Pkg) (pyType : Str)
    (hpre : tgt.take cur.length = cur) (hne : tgt ≠ cur) (hseg : ∀ s ∈ tgt, s ≠ []) :
    boundName cur (referenceDescendent cur tgt pyType) = some (joinWith '_' (tgt.drop cur.length)) := by
  obtain ⟨alias, e, ha⟩ := referenceDescendent_eq cur tgt pyType hpre hne hseg
  rw [e]
  simp [boundName, Import.bind, up_zero, ha]

theorem bind_ancestor_root (cur : Pkg) (pyType : Str) (hty : isClassName pyType = true) :
    (referenceAncestor cur [] pyType).ref = .bare (rep '_' cur.length ++ (pyType ++ dunder)) ∧
    (referenceAncestor cur [] pyType).imp.bind cur
      = some (rep '_' cur.length ++ (pyType ++ dunder), .cls (.gen []) pyType) := by
  simp [referenceAncestor, Import.bind, up, hty, dunder]

theorem bind_ancestor (cur tgt : Pkg) (pyType : Str)
    (hpre : cur.take tgt.length = tgt) (hnonempty : tgt ≠ [])
    (hseg : ∀ s ∈ tgt, isClassName s = false ∧ s ≠ []) :
    (referenceAncestor cur tgt pyType).ref
      = .qualified (rep '_' (cur.length - tgt.length + 1) ++ (lastD tgt ++ dunder)) pyType ∧
    (referenceAncestor cur tgt pyType).imp.bind cur
      = some (rep '_' (cur.length - tgt.length + 1) ++ (lastD tgt ++ dunder), .module (.gen tgt)) := by
  have hcls := (hseg _ (lastD_mem tgt hnonempty)).1
  have hup := ancestor_up hpre hnonempty
  unfold referenceAncestor
  simp only [List.isEmpty_iff, hnonempty, if_false, Import.bind, hup, hcls, List.append_nil,
    Option.getD_some, dropLast_lastD tgt hnonempty]
  simp [rep, List.replicate_succ, dunder]

theorem bind_cousin (cur tgt : Pkg) (pyType : Str)
    (hnd : cur.take tgt.length ≠ tgt)
    (hseg : ∀ s ∈ tgt, isClassName s = false ∧ s ≠ []) :
    (referenceCousin cur tgt pyType).ref
      = .qualified (rep '_' (cur.length - (commonPrefix cur tgt).length)
                ++ (safeSnake (dotted (tgt.drop (commonPrefix cur tgt).length)) ++ dunder)) pyType ∧
    (referenceCousin cur tgt pyType).imp.bind cur
      = some (rep '_' (cur.length - (commonPrefix cur tgt).length)
                ++ (safeSnake (dotted (tgt.drop (commonPrefix cur tgt).length)) ++ dunder), .module (.gen tgt)) := by
  have hsplit := commonPrefix_append_drop cur tgt
  have hrest := drop_commonPrefix_ne_nil hnd
  have hlast : lastD tgt = lastD (tgt.drop (commonPrefix cur tgt).length) := by
    conv => lhs; rw [← hsplit]
    exact lastD_append _ _ hrest
  have hcls := (hseg _ (List.mem_of_mem_drop (lastD_mem _ hrest))).1
  have htgt : commonPrefix cur tgt ++ (tgt.drop (commonPrefix cur tgt).length).dropLast
      ++ [lastD (tgt.drop (commonPrefix cur tgt).length)] = tgt := by
    rw [List.append_assoc, dropLast_lastD _ hrest, hsplit]
  unfold referenceCousin
  simp only [Import.bind, cousin_up, hlast, hcls, Option.getD_some, htgt]
  simp [dunder]

theorem bind_absolute (cur py : Pkg) (pyType : Str) :
    (referenceAbsolute py pyType).ref = .qualified (safeSnake (dotted py)) pyType ∧
    (referenceAbsolute py pyType).imp.bind cur = some (safeSnake (dotted py), .module (.abs py)) := by
  simp [referenceAbsolute, Import.bind]

/-- what a reference and the import added with it look like: the bare name of a class of the module itself
    and no import; an alias-qualified name, the import binding the alias to the module `loc`; or a bare
    alias that the import binds to the class `T` of `loc` -/
def Shape (cur : Pkg) (r : TypeRef) (T : Str) (loc : Loc) : Prop :=
  (r.imp = .none ∧ r.ref = .bare T ∧ loc = .gen cur) ∨
  (∃ a, r.ref = .qualified a T ∧ r.imp.bind cur = some (a, .module loc)) ∨
  (∃ a, r.ref = .bare a ∧ r.imp.bind cur = some (a, .cls loc T))

theorem Shape.resolves {cur : Pkg} {r : TypeRef} {T : Str} {loc : Loc} (h : Shape cur r T loc) :
    denote cur (r.imp.bind cur) r.ref = some (loc, T) := by
  rcases h with ⟨hi, hr, rfl⟩ | ⟨a, hr, hb⟩ | ⟨a, hr, hb⟩
  · rw [hi, hr]; rfl
  · rw [hr, hb]; simp [denote]
  · rw [hr, hb]; simp [denote]

theorem absolute_shape (cur py : Pkg) (T : Str) : Shape cur (referenceAbsolute py T) T (.abs py) :=
  .inr (.inl ⟨_, bind_absolute cur py T⟩)

theorem refCore_shape (cur tgt : Pkg) (T : Str)
    (hseg : ∀ s ∈ tgt, isClassName s = false ∧ s ≠ [])
    (hbp : tgt.take 1 ≠ ["betterproto".toList])
    (hty : isClassName T = true) : Shape cur (refCore cur tgt T) T (.gen tgt) := by
  unfold refCore
  rw [if_neg hbp]
  by_cases h1 : tgt = cur
  · rw [if_pos h1, h1]
    exact .inl ⟨rfl, rfl, rfl⟩
  rw [if_neg h1]
  by_cases h2 : tgt.take cur.length = cur
  · rw [if_pos h2]
    exact .inr (.inl ⟨_, bind_descendent cur tgt T h2 h1 hseg⟩)
  rw [if_neg h2]
  by_cases h3 : cur.take tgt.length = tgt
  · rw [if_pos h3]
    by_cases h4 : tgt = []
    · subst h4
      exact .inr (.inr ⟨_, bind_ancestor_root cur T hty⟩)
    · exact .inr (.inl ⟨_, bind_ancestor cur tgt T h3 h4 hseg⟩)
  · rw [if_neg h3]
    exact .inr (.inl ⟨_, bind_cousin cur tgt T h3 hseg⟩)

theorem absolute_resolves (cur py : Pkg) (pyType : Str) :
    denote cur ((referenceAbsolute py pyType).imp.bind cur) (referenceAbsolute py pyType).ref = some (.abs py, pyType) :=
  (absolute_shape cur py pyType).resolves

theorem refCore_resolves (cur tgt : Pkg) (pyType : Str)
    (hseg : ∀ s ∈ tgt, isClassName s = false ∧ s ≠ [])
    (hbp : tgt.take 1 ≠ ["betterproto".toList])
    (hty : isClassName pyType = true) :
    denote cur ((refCore cur tgt pyType).imp.bind cur) (refCore cur tgt pyType).ref = some (.gen tgt, pyType) :=
  (refCore_shape cur tgt pyType hseg hbp hty).resolves

end Bp.Importing
