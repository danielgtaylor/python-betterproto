import BpModel.All
import BpModel.Spec
import BpProofs.SpecLinkStep
/-
  C02, link between the model of betterproto and the spec-level decoder: nesting
  (induction on the fuel) and the spec decoder's own fuel; schemas on which the input guard is void.
-/
namespace Bp.Link
open Bp Gen

/-- the spec's reader is `loadField` (`readRec_eq`): payload and rest are disjoint parts of the input -/
theorem readRec_len (bs : Bytes) (r : Spec.WireRec) (rest : Bytes) (h : Spec.readRec bs = some (r, rest)) :
    r.payload.length + rest.length < bs.length := by
  rw [readRec_eq] at h
  cases hl : loadField bs with
  | error e => rw [hl] at h; cases h
  | ok pr =>
    rw [hl] at h
    cases h
    have ok := loadField_ok _ _ _ hl
    have := congrArg List.length ok.raw_rest
    have := ok.payload_lt
    simp only [List.length_append, toRec] at *
    omega

theorem parseFuel_payload (fuel : Nat) (bs : Bytes) (rs : List Spec.WireRec) (h : Spec.parseFuel fuel bs = some rs) :
    ∀ r ∈ rs, r.payload.length < bs.length := by
  induction fuel generalizing bs rs with
  | zero => simp [Spec.parseFuel] at h
  | succ fuel ih =>
    cases bs with
    | nil => simp [Spec.parseFuel] at h; subst h; intro r hr; simp at hr
    | cons b bs =>
      simp only [Spec.parseFuel] at h
      cases hr : Spec.readRec (b :: bs) with
      | none => rw [hr] at h; simp at h
      | some rr =>
        obtain ⟨r0, rest⟩ := rr
        have hl := readRec_len _ r0 rest hr
        rw [hr] at h
        simp only at h
        cases hp : Spec.parseFuel fuel rest with
        | none => rw [hp] at h; simp at h
        | some rs' =>
          rw [hp] at h; simp at h; subst h
          intro r hr
          simp at hr
          rcases hr with rfl | hr
          · omega
          · have := ih rest rs' hp r hr
            omega

theorem parse_payload (bs : Bytes) (rs : List Spec.WireRec) (h : Spec.parse bs = some rs) :
    ∀ r ∈ rs, r.payload.length < bs.length := parseFuel_payload _ bs rs h

theorem recsSize_payload (rs : List Spec.WireRec) : ∀ r ∈ rs, r.payload.length < Spec.recsSize rs := by
  induction rs with
  | nil => intro r hr; simp at hr
  | cons r0 rs ih =>
    intro r hr
    simp at hr
    rcases hr with rfl | hr
    · simp [Spec.recsSize]; omega
    · have := ih r hr
      simp [Spec.recsSize]; omega

theorem stepRec_congr (S : Schema) (sub sub' : Spec.SubDecoder) (d : MsgD) (m : Spec.AbsMsg) (r : Spec.WireRec)
    (h : ∀ c d', sub c d' r.payload = sub' c d' r.payload) :
    Spec.stepRec S sub d m r = Spec.stepRec S sub' d m r := by
  unfold Spec.stepRec Spec.valueOf Spec.lenVal
  simp only [h]

theorem decodeRecs_congr (S : Schema) (sub sub' : Spec.SubDecoder) (c : Nat) (d : MsgD) (rs : List Spec.WireRec)
    (h : ∀ r ∈ rs, ∀ c d', sub c d' r.payload = sub' c d' r.payload) :
    Spec.decodeRecs S sub c d rs = Spec.decodeRecs S sub' c d rs := by
  unfold Spec.decodeRecs
  generalize Spec.emptyMsg c d = m0
  induction rs generalizing m0 with
  | nil => rfl
  | cons r rs ih =>
    simp only [List.foldl_cons]
    rw [stepRec_congr S sub sub' d m0 r (h r (by simp))]
    exact ih (fun x hx => h x (by simp [hx])) _

theorem subDecoder_fuel (S : Schema) (n : Nat) : ∀ (n' c : Nat) (d : MsgD) (p : Bytes), p.length < n → p.length < n' →
    Spec.subDecoder S n c d p = Spec.subDecoder S n' c d p := by
  induction n with
  | zero => intro n' c d p h; omega
  | succ n ih =>
    intro n' c d p h1 h2
    cases n' with
    | zero => omega
    | succ n' =>
      simp only [Spec.subDecoder]
      cases hp : Spec.parse p with
      | none => rfl
      | some rs =>
        simp only
        congr 1
        apply decodeRecs_congr
        intro r hr c' d'
        have := parse_payload p rs hp r hr
        exact ih n' c' d' r.payload (by omega) (by omega)

theorem decodeBytes_eq_sub (S : Schema) (c : Nat) (d : MsgD) (hd : S[c]? = some d) (bs : Bytes) :
    Spec.decodeBytes S c bs = Spec.subDecoder S (bs.length + 1) c d bs := by
  unfold Spec.decodeBytes
  simp only [Spec.subDecoder]
  cases hp : Spec.parse bs with
  | none => rfl
  | some rs =>
    simp only [Option.map_some, Spec.decode, hd]
    congr 1
    apply decodeRecs_congr
    intro r hr c' d'
    exact subDecoder_fuel S _ _ c' d' r.payload (recsSize_payload rs r hr) (parse_payload bs rs hp r hr)

theorem put_cls (m : Spec.AbsMsg) (fs : List FieldD) (idx : Nat) (f : FieldD) (v : Val) :
    (Spec.put m fs idx f v).cls = m.cls := by
  unfold Spec.put; split <;> rfl

theorem appendAll_cls (m : Spec.AbsMsg) (idx : Nat) (vs : List Val) : (Spec.appendAll m idx vs).cls = m.cls := by
  unfold Spec.appendAll; split <;> rfl

theorem insertEntry_cls (m : Spec.AbsMsg) (idx : Nat) (k v : Val) : (Spec.insertEntry m idx k v).cls = m.cls := by
  unfold Spec.insertEntry; split <;> rfl

theorem stepRec_cls (S : Schema) (sub : Spec.SubDecoder) (d : MsgD) (m : Spec.AbsMsg) (r : Spec.WireRec) :
    (Spec.stepRec S sub d m r).cls = m.cls := by
  cases h : Spec.lookupNum d.fields 0 r.num with
  | none => rw [stepRec_unknown S sub d m r h]
  | some p =>
    -- whichever branch is taken, the message is left alone or changed by one of the three updates
    rw [stepRec_known S sub d m r p.1 p.2 h]
    simp only [apply_ite Spec.AbsMsg.cls]
    cases sub 0 (entryD p.2) r.payload <;> cases Spec.valueOf S sub p.2 r <;>
      cases Spec.unpackElems p.2.ty (r.payload.length + 1) r.payload <;>
      simp only [put_cls, appendAll_cls, insertEntry_cls, ite_self]

theorem foldl_cls (S : Schema) (sub : Spec.SubDecoder) (d : MsgD) (rs : List Spec.WireRec) (m : Spec.AbsMsg) :
    (rs.foldl (Spec.stepRec S sub d) m).cls = m.cls := by
  induction rs generalizing m with
  | nil => rfl
  | cons r rs ih => simp only [List.foldl_cons]; rw [ih, stepRec_cls]

theorem loadField_vint (bs : Bytes) (pf : PField) (rest : Bytes) (h : loadField bs = .ok (pf, rest)) :
    pf.vint < 2 ^ 64 := (loadField_ok _ _ _ h).vint_lt

theorem sim_fresh (S : Schema) (c : Nat) (d : MsgD) :
    Sim S d { freshState d with onWire := true } (Spec.emptyMsg c d) := by
  refine ⟨⟨(freshState_typed false S d).1, (freshState_typed false S d).2⟩, ?_, ?_, ?_⟩
  · simp only [freshState, Spec.emptyMsg, nvs_eq_map, List.map_map]
    apply List.map_congr_left
    intro f _
    simp only [Function.comp]
    split <;> rfl
  · rfl
  · intro k
    simp only [Spec.emptyMsg, List.getD_eq_getElem?_getD, List.getElem?_map]
    cases d.fields[k]? <;> simp

theorem loadInto_sim (S : Schema) (hS : GoodSchema S) :
    ∀ (n : Nat) (p : Bytes), SubSim S (loadInto S n) (Spec.subDecoder S n) (narrow32U S n) p := by
  intro n
  induction n with
  | zero => intro p c d st' _ _ hr; simp [loadInto] at hr
  | succ n ih =>
    intro p c d st' hd hnb hr
    rw [loadInto_succ] at hr
    cases hp : loadFields p with
    | error e => rw [hp] at hr; simp at hr
    | ok pfs =>
      rw [hp] at hr
      simp only [bind_ok] at hr
      have hnb' : ∀ pf ∈ pfs, narrowFieldU S (narrow32U S n) d pf = true := by
        simp only [narrow32U, hp, List.all_eq_true] at hnb
        exact hnb
      have hparsed := loadFields_parsed p pfs hp
      have hsim := fold_sim S (loadInto S n) (Spec.subDecoder S n) (narrow32U S n)
        (loadInto_typed false S (goodSchema_wf S hS) n) hS d hd pfs
        (fun pf hpf => ⟨ih pf.payload, by
          obtain ⟨bs, rest, hb⟩ := hparsed pf hpf
          exact loadField_vint bs pf rest hb, hnb' pf hpf⟩)
        _ st' (Spec.emptyMsg c d) (sim_fresh S c d) hr
      refine ⟨_, ?_, ?_, hsim⟩
      · simp only [Spec.subDecoder, framing_ok p pfs hp]
        rfl
      · rw [foldl_cls]; rfl

def noNarrowFieldB (f : FieldD) : Bool :=
  !isNarrowTy f.ty && !isNarrowTy f.mapK && !isNarrowTy f.mapV &&
    (match f.wraps with
     | some w => !isNarrowTy w
     | Option.none => true)

/-- no field, map key / value or wrapper of type `uint32` / `sint32` anywhere in the schema -/
def noNarrowB (S : Schema) : Bool := S.all fun d => d.fields.all noNarrowFieldB

theorem narrow32_of_noNarrow (S : Schema) (hS : noNarrowB S = true) :
    ∀ (n : Nat) (d : MsgD) (bs : Bytes), (∀ f ∈ d.fields, noNarrowFieldB f = true) → narrow32 S n d bs = true := by
  intro n
  induction n with
  | zero => intro d bs _; rfl
  | succ n ih =>
    intro d bs hd
    simp only [narrow32]
    cases hp : loadFields bs with
    | error e => rfl
    | ok pfs =>
      simp only [List.all_eq_true]
      intro pf _
      apply narrowField_of_field
      intro idx f _ hfi
      have hfn := hd f (List.mem_of_getElem? hfi)
      unfold noNarrowFieldB at hfn
      simp only [Bool.and_eq_true, Bool.not_eq_true'] at hfn
      obtain ⟨⟨⟨h1, h2⟩, h3⟩, h4⟩ := hfn
      refine ⟨h1, fun d' hd' => ih d' _ ?_⟩
      rcases subDesc_cases S f d' hd' with ⟨_, rfl⟩ | ⟨_, w, hwr, rfl⟩ | ⟨_, _, c, _, hc⟩ | ⟨_, _, _, rfl⟩
      · intro g hg
        rw [entryD_fields] at hg
        simp at hg
        rcases hg with rfl | rfl
        · simp [noNarrowFieldB, keyFieldOf, h2, show isNarrowTy PType.int32 = false from rfl]
        · simp [noNarrowFieldB, valFieldOf, h3, show isNarrowTy PType.int32 = false from rfl]
      · rw [hwr] at h4
        simp only [Bool.not_eq_true'] at h4
        intro g hg
        simp [wrapperD] at hg
        subst hg
        simp [noNarrowFieldB, h4, show isNarrowTy PType.int32 = false from rfl]
      · unfold noNarrowB at hS
        simp only [List.all_eq_true] at hS
        exact hS d' (List.mem_of_getElem? hc)
      · intro g hg; simp [secNanosD] at hg
        rcases hg with rfl | rfl <;> rfl

theorem narrow32_of_noNarrow_class (S : Schema) (hS : noNarrowB S = true) (c : Nat) (d : MsgD) (hd : S[c]? = some d)
    (n : Nat) (bs : Bytes) : narrow32 S n d bs = true := by
  apply narrow32_of_noNarrow S hS
  unfold noNarrowB at hS
  simp only [List.all_eq_true] at hS
  exact hS d (List.mem_of_getElem? hd)

end Bp.Link
