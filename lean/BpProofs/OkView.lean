import BpProofs.NestedDefs
/-
  ONE walk over the domain `MsgOk` / `SlotOk` (BpProofs/NestedDefs.lean).

  The 22 rules of `SlotOk` are the combinations of
    * what ONE item of the field is (`ItemKind`, BpProofs/Presence.lean: a scalar of type `t`, a wrapped
      scalar, a datetime / timedelta, a message of class `c`), and
    * how many the slot holds (nothing: PLACEHOLDER or None; one; a list; the values of a dict).
  `SlotShape S P f v` says so in five rules, with `P` standing for what is already known of every
  nested message, and `MsgOk.walk` is the induction principle that hands each slot over in that form.
  A walk is then: one lemma by kind of item, one by shape of slot, one induction over `Forall₂`, and
  `MsgOk.walk`.  The rules of `SlotOk` are named here (`SlotOk.shape_step`, and the converse
  `SlotShape.slotOk`) and where the checker `msgOkB` is proved sound (OkSound.lean), nowhere else.
-/
namespace Bp
open Gen

theorem timeValOk_atom (b : Bool) (v : Val) (h : timeValOk b v = true) : isAtom v = true := by
  cases v with
  | list | dict | msg => cases h
  | _ => rfl

/-- one well-typed item of kind `K`; of a message, `P` holds -/
inductive ItemOk (S : Schema) (P : Val → Prop) : ItemKind → Val → Prop
  | scalar (t : PType) (x : Val) : scalarOk t x = true → ItemOk S P (.scalar t) x
  | wrapped (w : PType) (x : Val) : scalarOk w x = true → ItemOk S P (.wrapped w) x
  | time (isDur : Bool) (x : Val) : timeValOk isDur x = true → ItemOk S P (.time isDur) x
  | msg (c : Nat) (sl : List Val) (ow : Bool) (unk : Bytes) (cur : List (Option Nat)) :
      MsgOk S (.msg c sl ow unk cur) → P (.msg c sl ow unk cur) → ItemOk S P (.msg c) (.msg c sl ow unk cur)

theorem itemOk_oneVal (S : Schema) (P : Val → Prop) (K : ItemKind) (v : Val) (h : ItemOk S P K v) : isOneVal v = true := by
  cases h with
  | scalar t _ hx | wrapped t _ hx => cases v <;> first | rfl | cases hx
  | time b _ hx => cases v <;> first | rfl | cases hx
  | msg => rfl

/-- a singular field of item kind `K` -/
inductive OneField (f : FieldD) : ItemKind → Prop
  | scalar : FlatField f → f.repeated = false → OneField f (.scalar f.ty)
  | wrapped (w : PType) : WrapField f w → OneField f (.wrapped w)
  | time (isDur : Bool) : TimeField f isDur → OneField f (.time isDur)
  | msg (c : Nat) : SubField f c → f.repeated = false → OneField f (.msg c)

theorem OneField.plain {f : FieldD} {K : ItemKind} (h : OneField f K) :
    (f.ty == PType.map) = false ∧ f.repeated = false := by
  cases h with
  | scalar hf hr => exact ⟨flat_notmap f hf, hr⟩
  | wrapped w hf => exact ⟨by rw [hf.ty]; rfl, hf.rep⟩
  | time b hf => exact ⟨by rw [hf.ty]; rfl, hf.rep⟩
  | msg c hf hr => exact ⟨by rw [hf.ty]; rfl, hr⟩

/-- a repeated field of item kind `K` -/
inductive ManyField (f : FieldD) : ItemKind → Prop
  | scalar : FlatField f → f.repeated = true → ManyField f (.scalar f.ty)
  | wrapped (w : PType) : WrapsField f w → ManyField f (.wrapped w)
  | time (isDur : Bool) : TimesField f isDur → ManyField f (.time isDur)
  | msg (c : Nat) : SubField f c → f.repeated = true → ManyField f (.msg c)

/-- a map field with values of kind `K` -/
inductive MapField (f : FieldD) : ItemKind → Prop
  | scalar : MapFieldS f → MapField f (.scalar f.mapV)
  | time (isDur : Bool) : MapFieldT f isDur → MapField f (.time isDur)
  | msg (c : Nat) : MapFieldM f c → MapField f (.msg c)

/-- the five shapes of a well-typed slot -/
inductive SlotShape (S : Schema) (P : Val → Prop) (f : FieldD) : Val → Prop
  | unset : f.optional = false → SlotShape S P f .ph
  | none : f.optional = true ∨ (f.group = Option.none ∧ ∃ w, WrapField f w) → SlotShape S P f .none
  | one (K : ItemKind) (v : Val) : OneField f K → ItemOk S P K v → SlotShape S P f v
  | many (K : ItemKind) (xs : List Val) : ManyField f K → (∀ x ∈ xs, ItemOk S P K x) → SlotShape S P f (.list xs)
  | map (K : ItemKind) (ks vs : List Val) : MapField f K → ks.length = vs.length →
      (∀ k ∈ ks, scalarOk f.mapK k = true) → (∀ x ∈ vs, ItemOk S P K x) → KeysDistinct ks →
      SlotShape S P f (.dict ks vs)

theorem SlotShape.of_flat (S : Schema) (P : Val → Prop) (f : FieldD) (v : Val) (hf : FlatField f)
    (hv : flatSlotOk f v = true) : SlotShape S P f v := by
  cases v with
  | ph => exact .unset (by simpa [flatSlotOk] using hv)
  | none => exact .none (.inl (by simpa [flatSlotOk] using hv))
  | list xs =>
    simp only [flatSlotOk, Bool.and_eq_true, List.all_eq_true] at hv
    exact .many _ xs (.scalar hf hv.1) fun x hx => .scalar _ x (hv.2 x hx)
  | _ =>
    simp only [flatSlotOk, Bool.and_eq_true, Bool.not_eq_true'] at hv
    exact .one _ _ (.scalar hf hv.1) (.scalar _ _ hv.2)

section
variable (S : Schema) {P : Val → Prop}
  (step : ∀ (c : Nat) (d : MsgD) (sl : List Val) (ow : Bool) (unk : Bytes) (cur : List (Option Nat)),
    S[c]? = some d → MsgOk S (.msg c sl ow unk cur) → List.Forall₂ (SlotShape S P) d.fields sl →
    P (.msg c sl ow unk cur))
include step

theorem SlotOk.shape_step (f : FieldD) (v : Val) (h : SlotOk S f v) : SlotShape S P f v := by
  apply SlotOk.rec (motive_1 := fun f v _ => SlotShape S P f v) (motive_2 := fun m _ => P m)
    (motive_3 := fun fs vs _ => List.Forall₂ (SlotShape S P) fs vs)
    (motive_4 := fun c xs _ => ∀ x ∈ xs, ItemOk S P (.msg c) x) (t := h)
  case flat => exact fun f v hf hv => .of_flat S P f v hf hv
  case unsetAny | unsetSub | unsetTime | unsetWrap => intros; exact .unset ‹_›
  case unsetMapS => exact fun f hf => .unset hf.opt
  case unsetMapM => exact fun f c hf => .unset hf.opt
  case noneAny | noneSub | noneTime => intros; exact .none (.inl ‹_›)
  case noneWrap => exact fun f w hf hg => .none (.inr ⟨hg, w, hf⟩)
  case sub => exact fun f c sl ow unk cur hf hr hm ih => .one _ _ (.msg c hf hr) (.msg c sl ow unk cur hm ih)
  case subs => exact fun f c xs hf hr _ ih => .many _ xs (.msg c hf hr) ih
  case ts => exact fun f us hf hv => .one _ _ (.time false hf) (.time false _ (by simpa [timeValOk] using hv))
  case dur => exact fun f us hf hv => .one _ _ (.time true hf) (.time true _ (by simpa [timeValOk] using hv))
  case wrap => exact fun f w v hf hv => .one _ v (.wrapped w hf) (.wrapped w v hv)
  case wraps => exact fun f w xs hf hv => .many _ xs (.wrapped w hf) fun x hx => .wrapped w x (hv x hx)
  case tss => exact fun f xs hf hv => .many _ xs (.time false hf) fun x hx => .time false x (hv x hx)
  case durs => exact fun f xs hf hv => .many _ xs (.time true hf) fun x hx => .time true x (hv x hx)
  case mapS => exact fun f ks vs hf hl hk hv hd => .map _ ks vs (.scalar hf) hl hk (fun x hx => .scalar _ x (hv x hx)) hd
  case mapM => exact fun f c ks vs hf hl hk _ hd ih => .map _ ks vs (.msg c hf) hl hk ih hd
  case mapT => exact fun f isDur ks vs hf hl hk hv hd => .map _ ks vs (.time isDur hf) hl hk (fun x hx => .time isDur x (hv x hx)) hd
  case mk =>
    intro c d sl ow unk cur hd h1 h2 h3 h4 h5 h6 h7 hsl hunk ih
    exact step c d sl ow unk cur hd (.mk c d sl ow unk cur hd h1 h2 h3 h4 h5 h6 h7 hsl hunk) ih
  case nil => exact .nil   -- `SlotsOk`
  case cons => exact fun f v fs vs _ _ ih1 ih2 => .cons ih1 ih2
  case nil => exact fun _ _ hx => absurd hx List.not_mem_nil   -- `MsgsOk`
  case cons =>
    intro c sl ow unk cur xs hm _ ih1 ih2 x hx
    rcases List.mem_cons.mp hx with rfl | hx'
    · exact .msg c sl ow unk cur hm ih1
    · exact ih2 x hx'

theorem SlotsOk.shapes : ∀ (fs : List FieldD) (vs : List Val), SlotsOk S fs vs → List.Forall₂ (SlotShape S P) fs vs
  | _, _, .nil => .nil
  | _, _, .cons f v fs vs h1 h2 => .cons (SlotOk.shape_step S step f v h1) (SlotsOk.shapes fs vs h2)

/-- **The walk.** To prove `P` of every well-typed message it is enough to prove it of an instance
    whose slots have one of the five shapes, `P` holding of every message inside them. -/
theorem MsgOk.walk (m : Val) (h : MsgOk S m) : P m := by
  cases h with
  | mk c d sl ow unk cur hd h1 h2 h3 h4 h5 h6 h7 hsl hunk =>
    exact step c d sl ow unk cur hd (.mk c d sl ow unk cur hd h1 h2 h3 h4 h5 h6 h7 hsl hunk)
      (SlotsOk.shapes S step d.fields sl hsl)

end

/-- the slots of `MsgOk.walk` by index -/
theorem forall₂_get {α β : Type} {R : α → β → Prop} {as : List α} {bs : List β} (h : List.Forall₂ R as bs) :
    ∀ (i : Nat) (a : α) (b : β), as[i]? = some a → bs[i]? = some b → R a b := by
  induction h with
  | nil => intro i a b ha; cases ha
  | cons h1 _ ih =>
    intro i a b ha hb
    cases i with
    | zero => cases ha; cases hb; exact h1
    | succ i => exact ih i a b ha hb

/-- the shape of one slot, once `P` is known of every well-typed message -/
theorem SlotOk.shape (S : Schema) {P : Val → Prop} (hP : ∀ m, MsgOk S m → P m) (f : FieldD) (v : Val)
    (h : SlotOk S f v) : SlotShape S P f v :=
  SlotOk.shape_step S (fun _ _ _ _ _ _ _ hm _ => hP _ hm) f v h

theorem MsgsOk.items (S : Schema) {P : Val → Prop} (hP : ∀ m, MsgOk S m → P m) :
    ∀ (c : Nat) (xs : List Val), MsgsOk S c xs → ∀ x ∈ xs, ItemOk S P (.msg c) x
  | _, _, .nil _, _, hx => absurd hx List.not_mem_nil
  | _, _, .cons c sl ow unk cur xs hm hms, x, hx => by
    rcases List.mem_cons.mp hx with rfl | hx'
    · exact .msg c sl ow unk cur hm (hP _ hm)
    · exact MsgsOk.items S hP c xs hms x hx'

theorem msgsOk_of_items (S : Schema) (c : Nat) : ∀ xs : List Val, (∀ x ∈ xs, ItemOk S (fun _ => True) (.msg c) x) →
    MsgsOk S c xs
  | [], _ => .nil c
  | x :: xs, h => by
    have hr := msgsOk_of_items S c xs fun y hy => h y (List.mem_cons_of_mem _ hy)
    cases h x List.mem_cons_self with
    | msg _ sl ow unk cur hm _ => exact .cons c sl ow unk cur xs hm hr

/-- the converse of `SlotOk.shape`: the five shapes are all there is -/
theorem SlotShape.slotOk (S : Schema) (f : FieldD) (v : Val) (h : SlotShape S (fun _ => True) f v) : SlotOk S f v := by
  cases h with
  | unset ho => exact .unsetAny f ho
  | none h =>
    rcases h with ho | ⟨hg, w, hw⟩
    exacts [.noneAny f ho, .noneWrap f w hw hg]
  | one K _ hf hv =>
    cases hf with
    | scalar hf hr => cases hv with | scalar _ _ hx => exact .flat f v hf (by cases v <;> first | cases hx | simp [flatSlotOk, hr, hx])
    | wrapped w hf => cases hv with | wrapped _ _ hx => exact .wrap f w v hf hx
    | time b hf =>
      cases hv with
      | time _ _ hx =>
        cases b
        · obtain ⟨us, rfl, hu⟩ := timeValOk_ts v hx; exact .ts f us hf hu
        · obtain ⟨us, rfl, hu⟩ := timeValOk_dur v hx; exact .dur f us hf hu
    | msg c hf hr => cases hv with | msg _ sl ow unk cur hm _ => exact .sub f c sl ow unk cur hf hr hm
  | many K xs hf hxs =>
    cases hf with
    | scalar hf hr =>
      exact .flat f _ hf (by simp only [flatSlotOk, hr, Bool.true_and, List.all_eq_true]; intro x hx; cases hxs x hx; assumption)
    | wrapped w hf => exact .wraps f w xs hf fun x hx => by cases hxs x hx; assumption
    | time b hf =>
      cases b
      · exact .tss f xs hf fun x hx => by cases hxs x hx; assumption
      · exact .durs f xs hf fun x hx => by cases hxs x hx; assumption
    | msg c hf hr => exact .subs f c xs hf hr (msgsOk_of_items S c xs hxs)
  | map K ks vs hf hl hk hvs hd =>
    cases hf with
    | scalar hf => exact .mapS f ks vs hf hl hk (fun x hx => by cases hvs x hx; assumption) hd
    | time b hf => exact .mapT f b ks vs hf hl hk (fun x hx => by cases hvs x hx; assumption) hd
    | msg c hf => exact .mapM f c ks vs hf hl hk (msgsOk_of_items S c vs hvs) hd

/-- the shape of one slot, nothing said of the messages in it -/
theorem SlotOk.view {S : Schema} {f : FieldD} {v : Val} (h : SlotOk S f v) : SlotShape S (fun _ => True) f v :=
  SlotOk.shape S (fun _ _ => trivial) f v h

/-- `MsgOk` admits PLACEHOLDER only as the raw value of a non-optional field -/
theorem SlotShape.ph_nonopt {S : Schema} {P : Val → Prop} {f : FieldD} (h : SlotShape S P f .ph) : f.optional = false := by
  cases h with
  | unset ho => exact ho
  | one K _ _ hv => cases itemOk_oneVal S P K _ hv

theorem SlotOk.ph_nonopt {S : Schema} {f : FieldD} (h : SlotOk S f .ph) : f.optional = false :=
  h.view.ph_nonopt

theorem OneField.carries {f : FieldD} {K : ItemKind} (h : OneField f K) : Carries f.ty f.wraps K := by
  cases h with
  | scalar hf _ => rw [hf.nw]; exact .scalar _ hf.sc
  | wrapped w hf => rw [hf.ty, hf.wr]; exact .wrapped w hf.wty
  | time b hf => rw [hf.ty, hf.nw]; exact .time b
  | msg c hf _ => rw [hf.ty, hf.nw]; exact .msg c

theorem ManyField.carries {f : FieldD} {K : ItemKind} (h : ManyField f K) : Carries f.ty f.wraps K := by
  cases h with
  | scalar hf _ => rw [hf.nw]; exact .scalar _ hf.sc
  | wrapped w hf => rw [hf.ty, hf.wr]; exact .wrapped w hf.wty
  | time b hf => rw [hf.ty, hf.nw]; exact .time b
  | msg c hf _ => rw [hf.ty, hf.nw]; exact .msg c

theorem MapField.carries {f : FieldD} {K : ItemKind} (h : MapField f K) :
    Carries f.mapV Option.none K ∧ f.ty = PType.map ∧ isMapKeyType f.mapK = true := by
  cases h with
  | scalar hf => exact ⟨.scalar _ hf.vty, hf.ty, hf.kty⟩
  | time b hf => rw [hf.vty]; exact ⟨.time b, hf.ty, hf.kty⟩
  | msg c hf => rw [hf.vty]; exact ⟨.msg c, hf.ty, hf.kty⟩

end Bp
