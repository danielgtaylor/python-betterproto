import BpProofs.Gen.SrcImporting
import BpProofs.Importing
/-
  The tie between the translated source of importing.py and the hand-written model (C13).
  `Bp.Src.reference_*` and `Bp.Src.get_type_reference_dispatch` (BpProofs/Gen/SrcImporting.lean) are
  regenerated from the Python AST of src/betterproto/compile/importing.py on every run.  The theorems
  below say that each of them returns exactly the text `Ref.render` / adds exactly the text
  `Import.render` of the model function of BpModel/Importing.lean, for ALL package paths, type names and
  prior contents of the imports set, under exactly the hypotheses Python needs not to raise (that it
  raises otherwise: `src_reference_descendent_raises`, `src_reference_cousin_raises` of Props/C13Src.lean).
  What is trusted is the meaning of the Python primitives fixed in BpProofs/PyPrelude.lean and
  BpProofs/PyPreludeStr.lean.
-/
set_option linter.unusedSimpArgs false
namespace Bp.SrcTieImp
open Bp Bp.Py Bp.Importing Bp.Casing Bp.Naming

/-- what `imports.add` is called with: nothing for a sibling, otherwise the one import line -/
def added : Import → List Str
  | .none => []
  | i => [i.render]

theorem commonprefix2_eq : ∀ a b : Pkg, Py.commonprefix2 a b = commonPrefix a b
  | [], _ => by simp [Py.commonprefix2, commonPrefix]
  | _ :: _, [] => by simp [Py.commonprefix2, commonPrefix]
  | a :: as, b :: bs => by
    simp only [Py.commonprefix2, commonPrefix, commonprefix2_eq as bs]

theorem strMul_char (c : Char) (n : Int) : Py.strMul [c] n = rep c n.toNat := by
  unfold Py.strMul rep
  induction n.toNat with
  | zero => rfl
  | succ k ih => simp [List.replicate_succ, ih]

theorem llen_sub_toNat {α β : Type} (a : List α) (b : List β) : (Py.llen a - Py.llen b).toNat = a.length - b.length := by
  unfold Py.llen; omega

theorem clamp_nat (len m : Nat) : Py.clamp len (m : Int) = min m len := by
  unfold Py.clamp
  have : ¬ ((m : Int) < 0) := by omega
  simp [this]

theorem clamp_neg_one (len : Nat) : Py.clamp len (-1) = len - 1 := by
  unfold Py.clamp
  simp only [show ((-1 : Int) < 0) from by decide, if_true]
  omega

theorem sliceFrom_llen {α β : Type} (xs : List α) (ys : List β) : Py.sliceFrom xs (Py.llen ys) = xs.drop ys.length := by
  unfold Py.sliceFrom Py.llen
  rw [clamp_nat, ← List.drop_eq_drop_min]

theorem sliceTo_llen {α β : Type} (xs : List α) (ys : List β) : Py.sliceTo xs (Py.llen ys) = xs.take ys.length := by
  unfold Py.sliceTo Py.llen
  rw [clamp_nat, ← List.take_eq_take_min]

theorem sliceTo_one {α : Type} (xs : List α) : Py.sliceTo xs 1 = xs.take 1 := by
  unfold Py.sliceTo
  rw [show (1 : Int) = ((1 : Nat) : Int) from rfl, clamp_nat, ← List.take_eq_take_min]

theorem sliceTo_neg_one {α : Type} (xs : List α) : Py.sliceTo xs (-1) = xs.dropLast := by
  unfold Py.sliceTo
  rw [clamp_neg_one, List.dropLast_eq_take]

theorem slice_llen_neg_one {α β : Type} (xs : List α) (ys : List β) :
    Py.slice xs (Py.llen ys) (-1) = (xs.drop ys.length).dropLast := by
  unfold Py.slice Py.llen
  rw [clamp_neg_one, clamp_nat, List.dropLast_eq_take, List.length_drop]
  by_cases h : ys.length ≤ xs.length
  · rw [Nat.min_eq_left h, List.drop_take]
    congr 1; omega
  · have e : xs.drop ys.length = [] := List.drop_eq_nil_of_le (by omega)
    rw [Nat.min_eq_right (by omega), e, List.take_nil]
    apply List.drop_eq_nil_of_le
    rw [List.length_take]; omega

theorem index_neg_one_nil {α : Type} : Py.index ([] : List α) (-1) = .raise .key := by
  simp [Py.index]

theorem index_neg_one (xs : Pkg) (h : xs ≠ []) : Py.index xs (-1) = .ok (lastD xs) := by
  unfold Py.index lastD
  have hl : 0 < xs.length := List.length_pos_iff.mpr h
  simp only [show ((-1 : Int) < 0) from by decide, if_true]
  have h1 : ¬ ((-1 : Int) + ((xs.length : Nat) : Int) < 0) := by omega
  have h2 : ((-1 : Int) + ((xs.length : Nat) : Int)).toNat = xs.length - 1 := by omega
  rw [if_neg h1, h2, List.getLast?_eq_getElem?]
  have : xs.length - 1 < xs.length := by omega
  rw [List.getElem?_eq_getElem this]
  rfl

theorem rep_succ (c : Char) (n : Nat) : rep c (n + 1) = c :: rep c n := rfl
theorem rep_zero (c : Char) : rep c 0 = [] := rfl
theorem rep_comm (c : Char) (n : Nat) (rest : Str) : rep c n ++ c :: rest = c :: (rep c n ++ rest) := by
  induction n with
  | zero => rfl
  | succ k ih => rw [rep_succ, List.cons_append, ih, List.cons_append]

/- `Import.render` clause by clause (`simp only [Import.render]` is slow: its equation lemmas are generated
   through the string constants) -/
theorem render_none : Import.none.render = [] := rfl
theorem render_absolute (path : Pkg) (a : Str) :
    (Import.absolute path a).render = "import ".toList ++ dotted path ++ " as ".toList ++ a := rfl
theorem render_from_as (d : Nat) (path : Pkg) (n a : Str) :
    (Import.from_ d path n (some a)).render
      = "from ".toList ++ rep '.' d ++ dotted path ++ " import ".toList ++ n ++ (" as ".toList ++ a) := rfl
theorem render_from (d : Nat) (path : Pkg) (n : Str) :
    (Import.from_ d path n none).render = "from ".toList ++ rep '.' d ++ dotted path ++ " import ".toList ++ n := by
  show _ ++ [] = _
  rw [List.append_nil]
theorem render_bare (n : Str) : (Ref.bare n).render = '"' :: n ++ ['"'] := rfl
theorem render_qualified (a n : Str) : (Ref.qualified a n).render = '"' :: a ++ '.' :: n ++ ['"'] := rfl

/-- normal form of the texts: string constants become character lists, appends are re-associated to the
    right, the model's `render` functions are unfolded -/
macro "norm_imports" : tactic => `(tactic| simp only [String.reduceToList, render_none, render_absolute, render_from_as, render_from, render_bare,
  render_qualified, dotted, rep_succ,
  rep_zero, List.cons_append, List.nil_append, List.append_nil, List.append_assoc, List.isEmpty_cons,
  List.isEmpty_nil, Bool.not_true, Bool.not_false, if_true, if_false, Bool.false_eq_true, reduceCtorEq, Res.bind])

theorem reference_absolute_eq (fuel : Nat) (imports py : List Str) (ty : Str) :
    Src.reference_absolute fuel imports py ty
      = .ok ((referenceAbsolute py ty).ref.render, imports ++ [(referenceAbsolute py ty).imp.render]) := by
  unfold Src.reference_absolute referenceAbsolute
  norm_imports

theorem reference_sibling_eq (fuel : Nat) (ty : Str) :
    Src.reference_sibling fuel ty = .ok (referenceSibling ty).ref.render := by
  unfold Src.reference_sibling referenceSibling
  norm_imports

/-- `reference_descendent` as written is `referenceDescendent` whenever `py_package` is longer than
    `current_package` (Python: `importing_descendent[-1]` exists) -/
theorem reference_descendent_eq (fuel : Nat) (cur imports py : List Str) (ty : Str) (h : py.drop cur.length ≠ []) :
    Src.reference_descendent fuel cur imports py ty
      = .ok ((referenceDescendent cur py ty).ref.render, imports ++ [(referenceDescendent cur py ty).imp.render]) := by
  unfold Src.reference_descendent referenceDescendent
  simp only [sliceFrom_llen, sliceTo_neg_one]
  rw [index_neg_one _ h]
  simp only [Res.bind, dotted]
  by_cases he : joinWith '.' (py.drop cur.length).dropLast = []
  · simp only [he]
    norm_imports
    simp only [he, List.nil_append]
  · have hb : (joinWith '.' (py.drop cur.length).dropLast).isEmpty = false := by
      rw [List.isEmpty_eq_false_iff]; exact he
    simp only [hb]
    norm_imports

theorem reference_ancestor_eq (fuel : Nat) (cur imports py : List Str) (ty : Str) :
    Src.reference_ancestor fuel cur imports py ty
      = .ok ((referenceAncestor cur py ty).ref.render, imports ++ [(referenceAncestor cur py ty).imp.render]) := by
  unfold Src.reference_ancestor referenceAncestor
  have e1 : ("_".toList : Str) = ['_'] := rfl
  have e2 : (".".toList : Str) = ['.'] := rfl
  simp only [e1, e2, strMul_char, llen_sub_toNat]
  by_cases he : py = []
  · subst he
    simp only [List.isEmpty_nil]
    norm_imports
    simp only [joinWith, List.nil_append]
  · have hb : py.isEmpty = false := by rw [List.isEmpty_eq_false_iff]; exact he
    simp only [hb, index_neg_one _ he]
    norm_imports
    simp only [joinWith, List.nil_append]

/-- `reference_cousin` as written is `referenceCousin` whenever `py_package` is not empty
    (Python: `py_package[-1]` exists) -/
theorem reference_cousin_eq (fuel : Nat) (cur imports py : List Str) (ty : Str) (h : py ≠ []) :
    Src.reference_cousin fuel cur imports py ty
      = .ok ((referenceCousin cur py ty).ref.render, imports ++ [(referenceCousin cur py ty).imp.render]) := by
  unfold Src.reference_cousin referenceCousin
  have e1 : ("_".toList : Str) = ['_'] := rfl
  have e2 : (".".toList : Str) = ['.'] := rfl
  simp only [e1, e2, strMul_char, commonprefix2_eq, llen_sub_toNat, slice_llen_neg_one, sliceFrom_llen,
    index_neg_one _ h]
  norm_imports

theorem splitPkg_eq (s : Str) : (if (!s.isEmpty) = true then splitOn '.' s else ([] : List Str)) = splitPkg s := by
  unfold splitPkg
  cases s <;> rfl

theorem redirect_eq (cur py : Pkg) (pydantic : Bool) :
    (if (decide (py = ["google".toList, "protobuf".toList]) && !decide (cur = ["google".toList, "protobuf".toList])) = true then
        (["betterproto".toList, "lib".toList] ++ (if pydantic = true then ["pydantic".toList] else ([] : List Str))) ++ py
      else py) = redirect cur py pydantic := by
  unfold redirect googleProtobuf
  generalize ["google".toList, "protobuf".toList] = G
  generalize ["betterproto".toList, "lib".toList] = B
  by_cases h1 : py = G <;> by_cases h2 : cur = G <;>
    simp only [h1, h2, decide_true, decide_false, Bool.not_true, Bool.not_false, Bool.and_true, Bool.and_false,
      Bool.true_and, Bool.false_and, if_true, if_false, ne_eq, not_true_eq_false, not_false_eq_true, and_true,
      and_false, true_and, false_and, Bool.false_eq_true]

theorem dispatch_core (fuel : Nat) (cur py imports : List Str) (ty : Str) :
    (if decide (Py.sliceTo py 1 = ["betterproto".toList]) = true then
        (Src.reference_absolute fuel imports py ty).bind fun (t, imports) => Res.ok (t, imports)
      else if decide (py = cur) = true then
        (Src.reference_sibling fuel ty).bind fun t => Res.ok (t, imports)
      else if decide (Py.sliceTo py (Py.llen cur) = cur) = true then
        (Src.reference_descendent fuel cur imports py ty).bind fun (t, imports) => Res.ok (t, imports)
      else if decide (Py.sliceTo cur (Py.llen py) = py) = true then
        (Src.reference_ancestor fuel cur imports py ty).bind fun (t, imports) => Res.ok (t, imports)
      else
        (Src.reference_cousin fuel cur imports py ty).bind fun (t, imports) => Res.ok (t, imports))
      = .ok ((refCore cur py ty).ref.render, imports ++ added (refCore cur py ty).imp) := by
  unfold refCore
  simp only [sliceTo_one, sliceTo_llen, decide_eq_true_eq]
  by_cases c1 : py.take 1 = ["betterproto".toList]
  · rw [if_pos c1, if_pos c1, reference_absolute_eq]; rfl
  · rw [if_neg c1, if_neg c1]
    by_cases c2 : py = cur
    · rw [if_pos c2, if_pos c2, reference_sibling_eq]
      simp [Res.bind, referenceSibling, added]
    · rw [if_neg c2, if_neg c2]
      by_cases c3 : py.take cur.length = cur
      · rw [if_pos c3, if_pos c3]
        rw [reference_descendent_eq _ _ _ _ _ (drop_ne_nil_of_take c3 c2)]
        unfold referenceDescendent
        by_cases he : (dotted (py.drop cur.length).dropLast).isEmpty = true <;> simp [he, Res.bind, added]
      · rw [if_neg c3, if_neg c3]
        by_cases c4 : cur.take py.length = py
        · rw [if_pos c4, if_pos c4, reference_ancestor_eq]
          unfold referenceAncestor
          by_cases he : py.isEmpty = true <;> simp [he, Res.bind, added]
        · rw [if_neg c4, if_neg c4]
          have hp : py ≠ [] := by
            intro h; subst h; exact c4 (by simp)
          rw [reference_cousin_eq _ _ _ _ _ hp]
          simp [Res.bind, referenceCousin, added]

end Bp.SrcTieImp
