import BpProofs.SrcTieLoad
import BpProofs.Props.C02
/-
  C02, tied to the SOURCE: the body of the record loop of `Message.load` — the lookup of the field by
  number, the wire-type test, the packed-chunk loop, `_postprocess_single`, the current value
  (`getattr` / default + `setattr`), map insert / list extend / list append / `setattr` — is translated
  from the Python AST on every run (harness/extract_srcload.py → BpProofs/Gen/SrcLoad.lean,
  `Src.load_record`) and proved EQUAL to the model's `applyField`, which the theorems of Props/C02.lean
  (and C06 / C07 / C08 / C17 where they speak about decoding) are about.  The corollaries restate some of
  those theorems of the source as written.  If the loop body changes what it does to the instance,
  `src_load_record` stops checking.

  Reading: `Src.load_record fuel S rec d st pf` is one iteration of `for parsed in load_fields(stream):`
  for the record `pf` on the instance state `st` (raw slots, `_serialized_on_wire`, `_unknown_fields`,
  `_group_current`) of class `d`; `rec` is `<Cls>().parse` for nested payloads; `fuel` bounds the
  `while` loop over a packed payload.  `loadLoop` is the loop around it.  What the dynamic Python
  operations mean on `MState` / `Val` / `FieldD` is fixed in BpProofs/PyPreludeLoad.lean (trusted).
  Guard `RecOk fuel pf` (decidable): the payload is made of bytes (< 256) and `fuel ≥ len(payload) + 12`;
  it holds of every record the framing yields (`src_records_ok`).  No guard on the schema, on the state
  or on `rec`.
-/
namespace Bp.C02
open Bp Bp.Py Gen Bp.SrcTieLoad

/-- **the per-record step of `Message.load` as written is the model's `applyField`**: for every schema,
    class, instance state, nested loader and record (guard: the payload consists of bytes and the fuel
    covers it), one iteration of the record loop leaves exactly the state `applyField` computes, or raises
    exactly the exception it raises; in particular it never diverges. -/
theorem src_load_record (S : Schema) (rec : Loader) (d : MsgD) (st : MState) (pf : PField) (fuel : Nat)
    (hok : RecOk fuel pf) :
    Src.load_record fuel S rec d st pf = Py.ofR (applyField S rec d st pf) :=
  load_record_eq S rec d st pf hok.1 fuel hok.2

/-- **the whole record loop as written is the model's `foldFields`** -/
theorem src_load_loop (S : Schema) (rec : Loader) (d : MsgD) (st : MState) (pfs : List PField) (fuel : Nat)
    (hok : ∀ pf ∈ pfs, RecOk fuel pf) :
    loadLoop fuel S rec d st pfs = Py.ofR (foldFields S rec d st pfs) :=
  loadLoop_eq S rec d fuel pfs hok st

/-- the guard of `src_load_record` holds of every record the framing yields for an input made of bytes
    (with fuel `len(input) + 12`), and such a record carries either a decoded varint (wire type 0) or
    payload bytes, never both: reading `parsed.value` by the wire type (`Py.parsedValue`) loses nothing -/
theorem src_records_ok (bs : Bytes) (hw : WfBytes bs) (pfs : List PField) (h : loadFields bs = .ok pfs) :
    ∀ pf ∈ pfs, RecOk (bs.length + 12) pf ∧ (pf.wt = wireVarint → pf.payload = []) ∧ (pf.wt ≠ wireVarint → pf.vint = 0) :=
  loadFields_payload_wf bs hw pfs h

/-- **a packed chunk, or a single unpacked element, EXTENDS the list** (source as written): after one
    iteration for a record of a repeated packable scalar field the slot holds the old elements followed by
    the elements the record carries — a packed chunk does not replace the list -/
theorem src_chunk_extends (S : Schema) (rec : Loader) (d : MsgD) (idx : Nat) (f : FieldD) (hr : IsRepScalar f)
    (pf : PField) (st : MState) (hw : WfState d st) (ht : Targets d pf idx f) (es : List Val)
    (he : elemsOfRecs S rec f [pf] = .ok es) (fuel : Nat) (hok : RecOk fuel pf) :
    ∃ st', Src.load_record fuel S rec d st pf = .ok st' ∧ st'.slots.getD idx .ph = .list (curList st idx ++ es) := by
  obtain ⟨st', h1, h2⟩ := load_pack_value S rec d idx f hr [pf] st hw (by simp) (by simpa using ht) es he
  refine ⟨st', ?_, h2⟩
  rw [src_load_record S rec d st pf fuel hok]
  simp only [foldFields] at h1
  cases ha : applyField S rec d st pf with
  | error e => rw [ha] at h1; cases h1
  | ok s => rw [ha] at h1; exact congrArg Py.ofR h1

/-- **the last occurrence of a singular scalar wins** (source as written): whatever records the loop has
    processed before, after a record of a singular scalar field the slot holds that record's value -/
theorem src_last_wins (S : Schema) (rec : Loader) (d : MsgD) (st st' : MState) (earlier : List PField)
    (pf : PField) (idx : Nat) (f : FieldD) (v : Val) (hw : WfState d st)
    (ht : Targets d pf idx f) (hrep : f.repeated = false) (hm : f.ty ≠ .map) (hmsg : f.ty ≠ .message)
    (hv : decodeValue S rec f pf = .ok v) (fuel : Nat) (hok : ∀ q ∈ earlier ++ [pf], RecOk fuel q)
    (h : loadLoop fuel S rec d st (earlier ++ [pf]) = .ok st') : st'.slots.getD idx .ph = v := by
  rw [src_load_loop S rec d st _ fuel hok] at h
  exact load_last_wins S rec d st st' earlier pf idx f v hw ht hrep hm hmsg hv (Res.ofR_eq_ok h)

/-- **the last occurrence of a oneof member wins** (source as written): after a record of member `idx` of
    group `g`, that member is the selected one and every other member of the group is unset, whatever
    members earlier records selected -/
theorem src_last_wins_oneof (S : Schema) (rec : Loader) (d : MsgD) (st st' : MState) (earlier : List PField)
    (pf : PField) (idx : Nat) (f : FieldD) (g : Nat)
    (hwg : WfGroups d.fields d.nGroups) (hinv : Inv d.fields d.nGroups st)
    (ht : Targets d pf idx f) (hg : f.group = some g) (fuel : Nat) (hok : ∀ q ∈ earlier ++ [pf], RecOk fuel q)
    (h : loadLoop fuel S rec d st (earlier ++ [pf]) = .ok st') :
    st'.cur.getD g Option.none = some idx
    ∧ ∀ j fj, d.fields[j]? = some fj → fj.group = some g → j ≠ idx → SentinelAt fj (st'.slots.getD j .ph) := by
  rw [src_load_loop S rec d st _ fuel hok] at h
  exact load_last_wins_oneof S rec d st st' earlier pf idx f g hwg hinv ht hg (Res.ofR_eq_ok h)

/-- non-vacuity: one iteration of the translated body on the test schema of Props/C02.lean — a packed chunk
    `12 02 06 08` (sint32 3, 4) on a fresh instance, then the list is `[3, 4]` -/
example : (Src.load_record 20 T (loadInto T 3) T[0] (freshState T[0])
      { num := 2, wt := 2, vint := 0, payload := [6, 8], raw := [0x12, 2, 6, 8] }).bind (fun st => .ok (st.slots.getD 1 .ph))
    = .ok (.list [.int 3, .int 4]) := by decide +kernel

end Bp.C02
