import BpModel.All
import BpProofs.Presence
import BpProofs.Ops
/-
  C06 — proto3 defaults and field presence are encoded and recovered correctly.
-/
namespace Bp.C06
open Bp Gen

/-- **a freshly constructed message reads every (non-oneof) field as its proto3 default**:
    None for proto3-optional fields, otherwise `_get_field_default` ([] / {} for repeated /
    map fields, None for wrapper fields, a fresh sub-message for message fields, the zero
    value for scalars); oneof members raise AttributeError (C07) -/
theorem fresh_default (S : Schema) (c : Nat) (i : Nat) (f : FieldD)
    (hf : (fieldsOf S c)[i]? = some f) (hg : f.group = Option.none) :
    ∃ st', getAttr S (fieldsOf S c) (freshState { fields := fieldsOf S c, nGroups := groupsOf S c }) i
      = .ok (if f.optional then Val.none else defaultOf S f, st') := by
  rw [getAttr_visible S _ _ i f hf (by unfold hidden; rw [hg])]
  have hv : materialize S f ((freshState { fields := fieldsOf S c, nGroups := groupsOf S c }).slots.getD i Val.ph)
      = if f.optional then Val.none else defaultOf S f := by
    simp only [freshState, List.getD_eq_getElem?_getD, List.getElem?_map, hf, Option.map_some, Option.getD_some]
    by_cases ho : f.optional = true <;> simp [ho, materialize]
  rw [hv]
  exact ⟨_, rfl⟩

/-- **… and encodes to zero bytes** -/
theorem fresh_empty (S : Schema) (c : Nat) : dumpVal S (fresh S c) = .ok [] := dump_fresh S c

/-- **an implicit-presence field holding its default value is never emitted**: plain
    (no oneof, not optional) field, any scalar / string / bytes / datetime / timedelta
    value equal to the default — and likewise an empty list, an empty map -/
theorem implicit_default_skipped (S : Schema) (f : FieldD) (v : Val)
    (hg : f.group = Option.none) (ho : f.optional = false) (hp : isPlainVal v = true)
    (hd : eqDefault S f.defKind v = true) :
    dumpSlot S f (hidden f 0 []) false v = .ok [] := by
  have hh : hidden f 0 [] = false := hidden_nogroup _ _ _ hg
  rw [hh, dumpSlot_plain S f false false v hp]
  simp [hg, ho, hd]

theorem implicit_empty_list_skipped (S : Schema) (f : FieldD)
    (hg : f.group = Option.none) (ho : f.optional = false) (hk : f.defKind = .list) :
    dumpSlot S f false false (.list []) = .ok [] := by
  rw [dumpSlot]
  have : eqDefault S .list (.list []) = true := by rw [eqDefault]; rfl
  simp [hg, ho, hk, this]

/-- what the framing emits when it must emit: the field's tag first -/
theorem frame_emits (num : Nat) (t : PType) (pre out : Bytes) (se w : Bool) (hse : (se || w) = true)
    (h : frame num t pre se w = .ok out) :
    ∃ wt rest, wireOf t = some wt ∧ out = encNat (num * 8 + wt) ++ rest := by
  obtain ⟨wt, hw, e⟩ := frame_eq num t pre se w
  rw [e] at h; cases h
  exact ⟨wt, _, hw, if_neg fun hc => by rw [hse] at hc; cases hc.2.2⟩

/-- **a proto3-optional field, a selected oneof member or a wrapper-typed field that was
    set — even to its default value — is emitted**: whenever the encoder succeeds on such
    a slot the output starts with the field's own tag -/
theorem explicit_emitted (S : Schema) (f : FieldD) (sel : Bool) (v : Val) (out : Bytes)
    (hp : isPlainVal v = true)
    (hexp : f.optional = true ∨ (f.group.isSome = true ∧ sel = true) ∨ f.wraps.isSome = true)
    (h : dumpSlot S f false sel v = .ok out) :
    ∃ wt rest, wireOf f.ty = some wt ∧ out = encNat (f.num * 8 + wt) ++ rest := by
  rw [dumpSlot_plain S f false sel v hp] at h
  simp only [Bool.false_eq_true, if_false] at h
  -- a wrapper field's default is None, so a plain value never equals it
  have hskip : (eqDefault S f.defKind v && !((f.group.isSome || f.optional) || sel)) = false := by
    rcases hexp with h1 | h1 | h1
    · simp [h1]
    · simp [h1.1, h1.2]
    · have hk : f.defKind = .list ∨ f.defKind = .dict ∨ f.defKind = .none := by
        rcases defKind_cases f with ⟨_, e⟩ | ⟨_, _, e⟩ | ⟨_, _, _, e⟩ | ⟨_, _, _, hw, _⟩ | ⟨_, _, _, _, hw, _⟩
        · exact .inl e
        · exact .inr (.inl e)
        · exact .inr (.inr e)
        · rw [hw] at h1; cases h1
        · rw [hw] at h1; cases h1
      rw [eqDefault_plain_false S _ v hp hk, Bool.false_and]
  simp only [hskip, Bool.false_eq_true, if_false] at h
  unfold serializeScalar at h
  obtain ⟨pre, _, h⟩ := bind_inv h
  refine frame_emits _ _ _ _ _ _ ?_ h
  rcases hexp with h1 | h1 | h1
  · simp [h1]
  · simp [h1.1]
  · simp [h1]

/-- **a plain sub-message field is emitted exactly when `serialized_on_wire` reports it**
    (as long as it still equals a fresh instance; a sub-message with content is always emitted) -/
theorem submsg_emitted_iff_onwire (S : Schema) (f : FieldD) (c : Nat) (sl : List Val) (ow : Bool) (unk : Bytes)
    (cur : List (Option Nat)) (hg : f.group = Option.none) (ho : f.optional = false)
    (hd : eqDefault S f.defKind (.msg c sl ow unk cur) = true) (out : Bytes)
    (h : dumpSlot S f false false (.msg c sl ow unk cur) = .ok out) :
    (out = [] ↔ ow = false) := by
  rw [dumpSlot] at h
  simp only [Bool.false_eq_true, if_false, hg, ho, hd, Option.isSome_none, Bool.or_false, Bool.false_or,
    Bool.true_and] at h
  cases ow with
  | false => simp at h; simp [h]
  | true =>
    simp only [Bool.not_true, Bool.false_eq_true, if_false] at h
    obtain ⟨body, _, h⟩ := bind_inv h
    split at h
    · obtain ⟨wt, rest, _, e⟩ := frame_emits _ _ _ _ _ _ (by simp) h
      constructor
      · intro hc
        exact absurd (List.append_eq_nil_iff.mp (hc ▸ e).symm).1 (encNat_ne_nil _)
      · intro hc; simp at hc
    · simp at h

/-! non-vacuity -/
def S3 : Schema := [{ fields := [{ name := "o", num := 1, ty := .int32, optional := true },
                                  { name := "p", num := 2, ty := .int32 },
                                  { name := "w", num := 3, ty := .message, wraps := some .bool }] }]
example : dumpVal S3 (.msg 0 [.int 0, .int 0, .bool false] true [] []) = .ok [0x08, 0x00, 0x1a, 0x00] := by decide +kernel
example : dumpVal S3 (.msg 0 [.none, .ph, .none] false [] []) = .ok [] := by decide +kernel

end Bp.C06
