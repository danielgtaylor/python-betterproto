import BpProofs.SrcTieMetaInit
import BpProofs.SrcTieObj
import BpProofs.Props.C07
import BpProofs.Props.C06
/-
  C07, tied to the SOURCE, the construction half: "`__post_init__` derives the selection from constructor
  arguments".  `Cls(**kw)` is the generated dataclass `__init__` + `Message.__setattr__` + `Message.__post_init__`
  as translated from the Python AST of the working tree (harness/extract_srcmeta.py → BpProofs/Gen/SrcMeta.lean;
  tie to the model's `construct`: BpProofs/SrcTieMetaInit.lean).

  What the source does when a constructor call names SEVERAL members of one group (outside the domain of the
  history theorems of Props/C07.lean — `inv_construct` needs `AtMostOne`; DESIGN §8 D26): `__post_init__` walks
  `meta_by_field_name` in declaration order and stores the name of every non-sentinel member under its group, so
  the LAST such member in DECLARATION order (not in argument order) ends up selected; exactly one member is
  selected, reading any other member raises AttributeError.  (The raw values of the other named members stay in
  their slots: the invariant `Inv` of C07 does not hold of such an instance.)
-/
namespace Bp.C07
open Bp Bp.PyMeta Bp.SrcTieMeta
open Bp.Py (Res ofR)

/- what PyPreludeObj.lean assumes of `self._betterproto`, proved of the translated tables -/

/-- the tie file's `membersFrom` is PyPreludeObj's (SrcTieMeta.lean imports no other prelude, so that it can be used
    together with either of the two families of ties) -/
theorem membersFrom_eq (g : Nat) : ∀ (fs : List FieldD) (j : Nat), SrcTieMeta.membersFrom g fs j = Py.membersFrom g fs j
  | [], _ => rfl
  | f :: fs, j => by simp [SrcTieMeta.membersFrom, Py.membersFrom, membersFrom_eq g fs (j + 1)]

/-- **the metadata the object-method ties (`src_setattr`, `src_getattribute`, `src_which_one_of`, `src_eq`, `src_copy` …)
    ASSUME is what `ProtoClassMetadata(cls)` as written builds**: `oneof_group_by_field.get(name)` is
    `Py.oneofGroupByField`, `oneof_field_by_group[g]` is `Py.oneofFieldByGroup` (the members in declaration order;
    KeyError exactly for a group without members), `meta_by_field_name[name]` is `Py.metaByFieldName`, iterating
    `meta_by_field_name` gives `Py.fieldNames`, `sorted_field_names` is a permutation of `Py.sortedFieldNames` (for
    pairwise distinct numbers), and `_get_field_default(name)` as written is `Py.getFieldDefault` — for every class -/
theorem src_tables_as_object_methods_assume (S : Schema) (fs : List FieldD) :
    ∃ M, SrcMeta.ProtoClassMetadata.init fs = .ok M
      ∧ (∀ name, PyEnum.dictGet M.oneof_group_by_field name = Py.oneofGroupByField fs name)
      ∧ (∀ g, PyEnum.dictItem M.oneof_field_by_group g =
            match Py.oneofFieldByGroup fs g with
            | [] => .raise .key
            | m :: ms => .ok (m :: ms))
      ∧ (∀ name, PyEnum.dictItem M.meta_by_field_name name = Py.metaByFieldName fs name)
      ∧ M.meta_by_field_name.map (·.1) = Py.fieldNames fs
      ∧ (numsDistinctB fs = true → M.sorted_field_names.Perm (Py.sortedFieldNames fs))
      ∧ (∀ self name, (∀ f, fs[name]? = some f → mapNotRepeated f = true) →
            SrcMeta.get_field_default (fun c => constructVal S c []) fs self name = Py.getFieldDefault S fs name) := by
  refine ⟨tables fs, init_eq fs, tables_group_by_field fs, ?_, ?_, ?_, tables_sorted_perm fs, ?_⟩
  · intro g
    have h := tables_field_by_group fs g
    rw [membersFrom_eq] at h
    unfold Py.oneofFieldByGroup
    cases hm : Py.membersFrom g fs 0 with
    | nil => rw [hm] at h; exact dictItem_none _ _ h
    | cons m ms => rw [hm] at h; exact dictItem_some _ _ _ h
  · intro k
    unfold Py.metaByFieldName
    cases h : fs[k]? with
    | none => simp [dictItem_none _ _ (by rw [tables_meta_by_field_name, h])]
    | some f => simp [dictItem_some _ _ f (by rw [tables_meta_by_field_name, h])]
  · exact dataclassFields_keys fs
  · intro self k hg
    rw [get_field_default_eq S _ (constructVal_nil S) fs self k hg]
    rfl

/-- **the C06 sentence "a freshly constructed message reads every field as its proto3 default", everything as
    written**: `Cls()` (translated `__init__` / `__setattr__` / `__post_init__`), then `getattr` (translated
    `__getattribute__`, Gen/SrcObj.lean) on a field outside any oneof returns None for a proto3-optional field and
    otherwise the model's default, which is also what the translated `_get_field_default` returns -/
theorem src_fresh_getattr_default (S : Schema) (c : Nat) (i : Nat) (f : FieldD)
    (hf : (fieldsOf S c)[i]? = some f) (hg : f.group = Option.none) (hmr : mapNotRepeated f = true) :
    ∃ m cst, constructVal S c [] = .ok m ∧ stateOf m = some cst ∧ cst.1 = c
      ∧ (∃ st', Src.getattribute S (fieldsOf S c) cst.2 i = .ok (if f.optional then Val.none else defaultOf S f, st'))
      ∧ ∀ self, SrcMeta.get_field_default (fun c' => constructVal S c' []) (fieldsOf S c) self i = .ok (defaultOf S f) := by
  refine ⟨fresh S c, (c, freshState { fields := fieldsOf S c, nGroups := groupsOf S c }), constructVal_nil S c, rfl, rfl, ?_, ?_⟩
  · obtain ⟨hi, hfi⟩ := List.getElem?_eq_some_iff.mp hf
    obtain ⟨st', h⟩ := C06.fresh_default S c i f hf hg
    refine ⟨st', ?_⟩
    rw [SrcTieObj.getattribute_eq S _ _ i hi (by intro g e; rw [hfi, hg] at e; cases e), h]
    rfl
  · exact fun self => get_field_default_at S _ (constructVal_nil S) _ self i f hf hmr

/-- the last member of group `g` (in declaration order) whose raw slot is not a sentinel, as a left fold:
    `acc` is the answer so far, `i` the index of the head of the lists -/
def lastSet (g : Nat) : List FieldD → List Val → Nat → Option Nat → Option Nat
  | f :: fs, v :: vs, i, acc => lastSet g fs vs (i + 1) (if f.group == some g && !isSentinel f v then some i else acc)
  | _, _, _, acc => acc

theorem initCur_lastSet (g : Nat) : ∀ (fs : List FieldD) (vs : List Val) (i : Nat) (cur : List (Option Nat)), g < cur.length →
    (initCur fs vs i cur).getD g Option.none = lastSet g fs vs i (cur.getD g Option.none)
  | [], _, _, _, _ => rfl
  | f :: fs, [], _, _, _ => rfl
  | f :: fs, v :: vs, i, cur, hl => by
    rw [initCur_cons, lastSet, initCur_lastSet g fs vs (i + 1) _ (by rw [initStep_length]; exact hl), initStep_getD]
    congr 1
    by_cases hg : f.group = some g <;> cases isSentinel f v <;> simp [hg, hl]

/-- what `lastSet` returns (from nothing) is a non-sentinel member of the group, and every later member of the
    group is a sentinel -/
theorem lastSet_spec (g : Nat) : ∀ (fs : List FieldD) (vs : List Val) (i : Nat) (acc : Option Nat) (j : Nat),
    lastSet g fs vs i acc = some j →
    (acc = some j ∧ ∀ k f, fs[k]? = some f → f.group = some g → k < vs.length → isSentinel f (vs.getD k .ph) = true)
    ∨ (∃ k f, j = i + k ∧ fs[k]? = some f ∧ f.group = some g ∧ isSentinel f (vs.getD k .ph) = false
        ∧ ∀ k' f', k < k' → fs[k']? = some f' → f'.group = some g → k' < vs.length → isSentinel f' (vs.getD k' .ph) = true)
  | [], _, _, acc, j, h => by
    left
    cases ‹List Val› <;> simp [lastSet] at h <;> exact ⟨h, by simp⟩
  | f :: fs, [], _, acc, j, h => by
    left; simp [lastSet] at h; exact ⟨h, by simp⟩
  | f :: fs, v :: vs, i, acc, j, h => by
    rw [lastSet] at h
    rcases lastSet_spec g fs vs (i + 1) _ j h with ⟨hacc, hall⟩ | ⟨k, f', hj, hf', hg', hs', hlater⟩
    · by_cases hc : (f.group == some g && !isSentinel f v) = true
      · right
        simp only [hc, if_true, Option.some.injEq] at hacc
        have hc' := hc
        simp only [Bool.and_eq_true, beq_iff_eq, Bool.not_eq_true'] at hc'
        refine ⟨0, f, by omega, rfl, hc'.1, by simpa using hc'.2, ?_⟩
        intro k' f' hk' hf' hg' hl'
        cases k' with
        | zero => omega
        | succ k' => exact hall k' f' hf' hg' (Nat.lt_of_succ_lt_succ hl')
      · left
        simp only [hc, Bool.false_eq_true, if_false] at hacc
        refine ⟨hacc, ?_⟩
        intro k f' hf' hg' hl'
        cases k with
        | zero =>
          have e : f = f' := by simpa using hf'
          rw [← e] at hg' ⊢
          have : (f.group == some g) = true := by simp [hg']
          simp only [this, Bool.true_and, Bool.not_eq_true', Bool.not_eq_false] at hc
          simpa using hc
        | succ k => exact hall k f' hf' hg' (Nat.lt_of_succ_lt_succ hl')
    · right
      refine ⟨k + 1, f', by omega, hf', hg', hs', ?_⟩
      intro k' f'' hk' hf'' hg'' hl'
      cases k' with
      | zero => omega
      | succ k' => exact hlater k' f'' (by omega) hf'' hg'' (Nat.lt_of_succ_lt_succ hl')

/-- **after a construction as written that names any members of any groups — several of one group included —
    `which_one_of` names, for every group, the LAST member in DECLARATION order that received a non-sentinel
    argument, or nothing**: the selection is `lastSet` of the raw slots (one value per group: at most one member
    is selected), the selected member is a member of the group that was given a value, and every later member of
    the group was not.  Guards: the arguments name fields of the class; the group is one of the class's. -/
theorem src_construct_selects_last_declared (S : Schema) (c : Nat) (kw : List (Nat × Val))
    (hkw : ∀ p ∈ kw, p.1 < (fieldsOf S c).length) (g : Nat) (hg : g < groupsOf S c) :
    ∃ m, constructVal S c kw = .ok m
      ∧ whichOneOf m g = lastSet g (fieldsOf S c) ((List.range (fieldsOf S c).length).map (slotOf m)) 0 Option.none
      ∧ ∀ j, whichOneOf m g = some j →
          ∃ f, (fieldsOf S c)[j]? = some f ∧ f.group = some g ∧ isSentinel f (slotOf m j) = false
            ∧ ∀ j' f', j < j' → (fieldsOf S c)[j']? = some f' → f'.group = some g → isSentinel f' (slotOf m j') = true := by
  refine ⟨construct S c kw, constructVal_eq S c kw hkw, ?_⟩
  set fs := fieldsOf S c with hfs
  set slots := initSlots fs (kw.map fun (p : Nat × Val) => (p.1, markEmpty S p.2)) 0 fs with hslots
  have hlen : slots.length = fs.length := initSlots_length _ _ _ _
  have hm : construct S c kw = .msg c slots (anyNonSentinel fs slots) [] (initCur fs slots 0 (List.replicate (groupsOf S c) Option.none)) := rfl
  have hslot : (List.range fs.length).map (slotOf (construct S c kw)) = slots := by
    rw [hm]
    apply List.ext_getElem?
    intro j
    simp only [List.getElem?_map]
    by_cases hj : j < fs.length
    · simp [List.getElem?_range hj, slotOf, List.getD_eq_getElem?_getD, List.getElem?_eq_getElem (hlen ▸ hj)]
    · have h1 : (List.range fs.length)[j]? = none := by simp [hj]
      have h2 : slots[j]? = none := by simp [hlen]; omega
      simp [h1, h2]
  have hw : whichOneOf (construct S c kw) g = lastSet g fs slots 0 Option.none := by
    rw [hm]
    simp only [whichOneOf]
    rw [initCur_lastSet g fs slots 0 _ (by simpa using hg)]
    simp [List.getD_eq_getElem?_getD, hg]
  refine ⟨by rw [hslot]; exact hw, ?_⟩
  intro j hj
  rw [hw] at hj
  rcases lastSet_spec g fs slots 0 Option.none j hj with ⟨h, _⟩ | ⟨k, f, hjk, hf, hgf, hs, hlater⟩
  · cases h
  · have hjk' : j = k := by omega
    subst hjk'
    have hso : ∀ i, slotOf (construct S c kw) i = slots.getD i .ph := fun i => by rw [hm]; rfl
    refine ⟨f, hf, hgf, by rw [hso]; exact hs, ?_⟩
    intro j' f' hlt hf' hg'
    rw [hso]
    obtain ⟨hj', _⟩ := List.getElem?_eq_some_iff.mp hf'
    exact hlater j' f' hlt hf' hg' (by omega)

/-- **… and reading any other member of the group raises AttributeError**: `getattr` as written
    (Gen/SrcObj.lean) on the instance the construction as written leaves, for every member of the group other than
    the one `which_one_of` names — whatever was passed for it -/
theorem src_construct_other_members_raise (S : Schema) (c : Nat) (kw : List (Nat × Val))
    (hkw : ∀ p ∈ kw, p.1 < (fieldsOf S c).length) (g : Nat) (hg : g < groupsOf S c) (i : Nat) (f : FieldD)
    (hf : (fieldsOf S c)[i]? = some f) (hgf : f.group = some g) :
    ∃ m cst, constructVal S c kw = .ok m ∧ stateOf m = some cst
      ∧ (whichOneOf m g ≠ some i → Src.getattribute S (fieldsOf S c) cst.2 i = .raise .attr) := by
  refine ⟨construct S c kw, (c, _), constructVal_eq S c kw hkw, rfl, ?_⟩
  intro hsel
  obtain ⟨hi, hfi⟩ := List.getElem?_eq_some_iff.mp hf
  rw [SrcTieObj.getattribute_eq S _ _ i hi (by
    intro g' e
    rw [hfi, hgf] at e; injection e with e; subst e
    simp only [initCur_length, List.length_replicate]; exact hg)]
  rw [other_member_raises S _ _ i f g hf hgf (by simpa [whichOneOf, construct] using hsel)]
  rfl

/-! non-vacuity and the declaration-order rule on a concrete call: group {a, b}; `Cls(b="h", a=0)` and
    `Cls(a=0, b="h")` both select `b`, the later DECLARED member, and `a` raises -/
example : whichOneOf (construct S2 0 [(1, .str [104]), (0, .int 0)]) 0 = some 1 := by decide +kernel
example : whichOneOf (construct S2 0 [(0, .int 0), (1, .str [104])]) 0 = some 1 := by decide +kernel
example : constructVal S2 0 [(1, .str [104]), (0, .int 0)]
    = .ok (.msg 0 [.int 0, .str [104]] true [] [some 1]) := rfl
example : Src.getattribute S2 (fieldsOf S2 0) { slots := [.int 0, .str [104]], onWire := true, unknown := [], cur := [some 1] } 0
    = .raise .attr := rfl

/-- the invariant of C07 does NOT hold of that instance (the raw value of `a` stays): why `inv_construct` has the
    guard `AtMostOne` -/
example : ¬ InvVal S2 (construct S2 0 [(1, .str [104]), (0, .int 0)]) := by
  intro h
  have := h.2 0 { name := "a", num := 1, ty := .int32, group := some 0 } 0 rfl rfl (by decide)
  rcases this with h | h
  · cases h
  · exact absurd h.1 (by decide)

end Bp.C07
