import BpModel.All
import BpModel.Spec
import BpProofs.SpecCore
import BpProofs.SpecPack
import BpProofs.SpecEnc
import BpProofs.SpecPerm2
import BpProofs.SpecPerm3
import BpProofs.SpecLinkNarrow
/-
  C02 — wire interoperability with the reference protobuf implementation.

  The reference (`google.protobuf`) cannot be brought into Lean: it is the oracle of the
  differential part of the check.  What is proved here is that the MODEL OF THE DECODER
  (`loadFields` + `foldFields`/`applyField`, i.e. `load_fields` + the loop of `Message.load`)
  is insensitive to exactly the re-encodings the property lists — for all schemas, all record
  lists / byte strings, every starting state and every loader `rec` of nested payloads, by
  induction over record lists; no bounds.

  "The decoded message" is `core st`: field values, oneof selection, presence — the state
  without the raw bytes retained for unknown fields.  Hypotheses are decidable predicates:
  `Targets d pf idx f` (the record's number is declared by field `idx` = `f` of the class and
  its wire type fits), `IsRepScalar f`, `WfState d st` (slot typing; holds for a fresh
  instance, `wf_fresh`, and is kept by every decode step, `wf_step`).

  LINK TO THE INDEPENDENT SPEC DECODER (`BpModel/Spec.lean`; section at the end of this file,
  helper files `BpProofs/SpecLink*.lean`):
    * `framing_agree` / `framing_accepts`: `Spec.parse` and `loadFields` accept the same byte
      strings and yield the same records — all inputs, no hypothesis, no exception;
    * `load_complete`: for every schema with `GoodSchema S` (decidable) and every byte string
      with `narrow32` (decidable: no over-wide uint32 / sint32 varint) that the model decoder
      accepts, `Spec.decodeBytes` gives the abstraction of the model's message — ALL field
      kinds (scalars singular / optional / oneof / repeated / packed, nested messages to any
      depth, maps, wrappers, Timestamp / Duration);
    * `dump_sound` is in `BpProofs/Props/C02Dump.lean` (it rests on C01's round trip).
-/
namespace Bp.C02
open Bp Gen

/-- a fresh instance satisfies the slot typing invariant (for every class in which no
    repeated field is also marked optional — true of every class generated from a .proto) -/
theorem wf_fresh (d : MsgD) (hd : NoRepeatedOptional d) : WfState d (freshState d) := by
  refine ⟨by simp [freshState], ?_⟩
  intro i f hf
  simp only [freshState, List.getD_eq_getElem?_getD, List.getElem?_map, hf, Option.map_some, Option.getD_some]
  split
  · -- None in an optional slot
    rename_i ho
    have hmem : f ∈ d.fields := List.mem_of_getElem? hf
    unfold repOk
    split
    · rfl
    · split
      · rename_i hr; have := hd f hmem hr; rw [ho] at this; simp at this
      · rfl
  · exact repOk_ph f

/-- … and every record, known or unknown, well-typed or not, keeps it -/
theorem wf_step (S : Schema) (rec : Loader) (d : MsgD) (pfs : List PField) (st st' : MState)
    (hw : WfState d st) (h : foldFields S rec d st pfs = .ok st') : WfState d st' :=
  foldFields_wf S rec d pfs st st' hw h

/-- **interleaved unknown fields** — "… and interleaved unknown fields": two record lists
    whose known records (numbers the class declares, with a fitting wire type) are the
    same sequence decode to the same message; unknown records may be added, dropped or
    moved to any position, of any of the four wire types.  Failure is preserved too. -/
theorem load_unknown_interleave (S : Schema) (rec : Loader) (d : MsgD) (st : MState) (pfs pfs' : List PField)
    (h : (pfs.filter fun pf => !isUnknownField d pf) = (pfs'.filter fun pf => !isUnknownField d pf)) :
    (foldFields S rec d st pfs).map core = (foldFields S rec d st pfs').map core := by
  rw [foldFields_core_filter, foldFields_core_filter S rec d pfs', h]


/-- **any field order** — the reordering the wire format permits without changing the
    meaning.  Every record has a class for the receiving message class `d` (`classOf`): the
    declared field its number denotes (if the wire type fits and the field is in no oneof),
    the oneof group of that field, or "unknown".  If two record lists contain, for every
    field and every oneof group, the same records of that class in the same relative order,
    they decode to the same field values, oneof selection and presence — records of
    different fields that are not members of one oneof group may be interleaved in ANY way,
    and unknown records may stand anywhere (or be missing).  If the first list decodes, so
    does the second.  `st.onWire = true` is what `Message.load` establishes before its loop.

    Proof: frame (`applyField_other_class`: a record leaves the footprint of every other
    class untouched) + locality (`applyField_local`: its effect on its own footprint depends
    on that footprint only) ⟹ the footprint of a class after the whole list is the footprint
    after the sub-list of that class (`proj_fold`), by induction over the record list. -/
theorem load_perm_classes (S : Schema) (rec : Loader) (d : MsgD) (pfs pfs' : List PField) (st st1 : MState)
    (how : st.onWire = true)
    (hsame : ∀ c, Legit d c → c ≠ Cls.unknown → pfs.filter (ofClass d c) = pfs'.filter (ofClass d c))
    (h : foldFields S rec d st pfs = .ok st1) :
    ∃ st2, foldFields S rec d st pfs' = .ok st2 ∧ core st2 = core st1 :=
  foldFields_perm S rec d pfs pfs' st st1 how hsame h


/-- **any field order**, in the words of the property: ANY permutation of the records that
    keeps the relative order of the records with the same field number and of the records
    belonging to members of the same oneof group gives the same decoded field values, oneof
    selection and presence.  (This is all the reordering the wire format itself permits without
    changing the meaning: records of one repeated field, occurrences of one singular field and
    members of one oneof are order-sensitive by the specification.)  The hypothesis `hperm`
    is not even needed by the proof: the two order conditions already determine the known
    records; unknown records may be permuted freely, added or dropped. -/
theorem load_perm (S : Schema) (rec : Loader) (d : MsgD) (pfs pfs' : List PField) (st st1 : MState)
    (how : st.onWire = true) (_hperm : pfs.Perm pfs')
    (hnum : ∀ n, pfs.filter (fun pf => pf.num == n) = pfs'.filter (fun pf => pf.num == n))
    (hgrp : ∀ g, pfs.filter (inGroup d g) = pfs'.filter (inGroup d g))
    (h : foldFields S rec d st pfs = .ok st1) :
    ∃ st2, foldFields S rec d st pfs' = .ok st2 ∧ core st2 = core st1 :=
  foldFields_perm S rec d pfs pfs' st st1 how (classes_of_numbers d pfs pfs' hnum hgrp) h

/-- byte-level form: the records may be any records the framing produces; re-assembled in the
    permuted order they are framed into exactly the permuted list (`loadFields_join`), so the
    permuted BYTES decode to the same message -/
theorem load_perm_bytes (S : Schema) (fuel : Nat) (d : MsgD) (bs : Bytes) (pfs pfs' : List PField) (st st1 : MState)
    (hp : loadFields bs = .ok pfs) (hperm : pfs.Perm pfs')
    (hnum : ∀ n, pfs.filter (fun pf => pf.num == n) = pfs'.filter (fun pf => pf.num == n))
    (hgrp : ∀ g, pfs.filter (inGroup d g) = pfs'.filter (inGroup d g))
    (h : loadInto S (fuel + 1) d st bs = .ok st1) :
    ∃ st2, loadInto S (fuel + 1) d st (joinRaw pfs') = .ok st2 ∧ core st2 = core st1 := by
  have hparsed : ∀ pf ∈ pfs', Parsed pf := fun pf hpf => loadFields_parsed bs pfs hp pf (hperm.mem_iff.mpr hpf)
  rw [loadInto_succ, hp] at h
  simp only [bind_ok] at h
  rw [loadInto_succ, loadFields_join pfs' hparsed]
  simp only [bind_ok]
  exact load_perm S _ d pfs pfs' _ st1 rfl hperm hnum hgrp h

/-- the two-record case (the commutation lemma): records of different classes commute -/
theorem load_swap (S : Schema) (rec : Loader) (d : MsgD) (before after : List PField) (p q : PField) (st st1 : MState)
    (how : st.onWire = true) (hpq : classOf d p ≠ classOf d q)
    (h : foldFields S rec d st (before ++ p :: q :: after) = .ok st1) :
    ∃ st2, foldFields S rec d st (before ++ q :: p :: after) = .ok st2 ∧ core st2 = core st1 := by
  apply foldFields_perm S rec d _ _ st st1 how _ h
  intro c _ _
  simp only [List.filter_append, List.filter_cons]
  by_cases h1 : ofClass d c p = true <;> by_cases h2 : ofClass d c q = true
  · exfalso
    simp only [ofClass, decide_eq_true_eq] at h1 h2
    exact hpq (h1.trans h2.symm)
  · simp [h1, h2]
  · simp [h1, h2]
  · simp [h1, h2]

/-- **packed or unpacked repeated scalars, a packed field split into several chunks, in any
    mix**: for a repeated field of a packable scalar type, two non-empty runs of records —
    each record a packed chunk (LEN) or a single unpacked element, in any combination —
    that carry the same elements in the same order leave the SAME state, wherever the run
    stands in the message (`before`, `after` arbitrary: other fields, unknown fields, further
    records of the same field). -/
theorem load_pack_mix (S : Schema) (rec : Loader) (d : MsgD) (idx : Nat) (f : FieldD) (hr : IsRepScalar f)
    (before after run run' : List PField) (st : MState) (hw : WfState d st)
    (hne : run ≠ []) (hne' : run' ≠ [])
    (hall : ∀ pf ∈ run, Targets d pf idx f) (hall' : ∀ pf ∈ run', Targets d pf idx f)
    (es : List Val) (he : elemsOfRecs S rec f run = .ok es) (he' : elemsOfRecs S rec f run' = .ok es) :
    foldFields S rec d st (before ++ run ++ after) = foldFields S rec d st (before ++ run' ++ after) := by
  rw [List.append_assoc, List.append_assoc, foldFields_append_s, foldFields_append_s S rec d before]
  cases hb : foldFields S rec d st before with
  | error e => rfl
  | ok s1 =>
    simp only [bind_ok]
    have hw1 := foldFields_wf S rec d before st s1 hw hb
    rw [foldFields_append_s, foldFields_append_s S rec d run',
      foldFields_repeated S rec d idx f hr run hne hall s1 hw1 es he,
      foldFields_repeated S rec d idx f hr run' hne' hall' s1 hw1 es he']

/-- what the list is afterwards: the old elements followed by the run's elements -/
theorem load_pack_value (S : Schema) (rec : Loader) (d : MsgD) (idx : Nat) (f : FieldD) (hr : IsRepScalar f)
    (run : List PField) (st : MState) (hw : WfState d st) (hne : run ≠ [])
    (hall : ∀ pf ∈ run, Targets d pf idx f) (es : List Val) (he : elemsOfRecs S rec f run = .ok es) :
    ∃ st', foldFields S rec d st run = .ok st' ∧ st'.slots.getD idx .ph = .list (curList st idx ++ es) := by
  refine ⟨_, foldFields_repeated S rec d idx f hr run hne hall st hw es he, ?_⟩
  have hl := idx_lt_of_wf d st idx f (hall _ (List.getLast_mem hne)).2.1 hw
  simp only [appendAt]
  rw [setAt_getD]; simp [hl]


/-- concrete instance of `load_pack_mix` — **one packed record holding `xs ++ ys`, two packed
    records holding `xs` and `ys` (a packed field split into chunks; any number of chunks,
    an empty chunk included), and the unpacked records of the same elements decode alike**.
    `chunks`, `chunks'`: two ways of cutting the same element sequence into packed records;
    elements are 4 / 8-byte values or varints written minimally or padded (`ValidElem`). -/
theorem load_chunk_split (S : Schema) (rec : Loader) (d : MsgD) (idx : Nat) (f : FieldD) (hr : IsRepScalar f)
    (before after : List PField) (st : MState) (hw : WfState d st) (num : Nat)
    (chunks chunks' : List (List Bytes)) (raws raws' : List Bytes → Bytes)
    (hne : chunks ≠ []) (hne' : chunks' ≠ []) (hsame : chunks.flatten = chunks'.flatten)
    (hv : ∀ c ∈ chunks, ∀ e ∈ c, ValidElem f.ty e) (hv' : ∀ c ∈ chunks', ∀ e ∈ c, ValidElem f.ty e)
    (ht : ∀ p raw, Targets d (packedRec num p raw) idx f)
    (vs : List Val) (hd : decodeElems f.ty chunks.flatten = .ok vs) :
    foldFields S rec d st (before ++ (chunks.map fun c => packedRec num c.flatten (raws c)) ++ after)
      = foldFields S rec d st (before ++ (chunks'.map fun c => packedRec num c.flatten (raws' c)) ++ after) := by
  apply load_pack_mix S rec d idx f hr before after _ _ st hw (mt List.map_eq_nil_iff.mp hne)
    (mt List.map_eq_nil_iff.mp hne') (List.forall_mem_map.mpr fun _ _ => ht _ _)
    (List.forall_mem_map.mpr fun _ _ => ht _ _) vs
  · exact elemsOfRecs_chunks S rec f hr.2.1 num chunks raws hv vs hd
  · exact elemsOfRecs_chunks S rec f hr.2.1 num chunks' raws' hv' vs (by rw [← hsame]; exact hd)

/-- concrete instance of `load_pack_mix` — **packed ↔ unpacked**: the packed chunks of an
    element sequence and the unpacked records of the same elements (one VARINT / I32 / I64
    record each) decode alike. -/
theorem load_pack_toggle (S : Schema) (rec : Loader) (d : MsgD) (idx : Nat) (f : FieldD) (hr : IsRepScalar f)
    (before after : List PField) (st : MState) (hw : WfState d st) (num : Nat)
    (chunks : List (List Bytes)) (raws : List Bytes → Bytes) (raws' : Bytes → Bytes)
    (hne : chunks ≠ []) (hne' : chunks.flatten ≠ [])
    (hv : ∀ c ∈ chunks, ∀ e ∈ c, ValidElem f.ty e)
    (ht : ∀ p raw, Targets d (packedRec num p raw) idx f)
    (ht' : ∀ e raw, Targets d (unpackedRec num f.ty e raw) idx f)
    (vs : List Val) (hd : decodeElems f.ty chunks.flatten = .ok vs) (hnl : ∀ v ∈ vs, isListVal v = false) :
    foldFields S rec d st (before ++ (chunks.map fun c => packedRec num c.flatten (raws c)) ++ after)
      = foldFields S rec d st (before ++ (chunks.flatten.map fun e => unpackedRec num f.ty e (raws' e)) ++ after) := by
  apply load_pack_mix S rec d idx f hr before after _ _ st hw (mt List.map_eq_nil_iff.mp hne)
    (mt List.map_eq_nil_iff.mp hne') (List.forall_mem_map.mpr fun _ _ => ht _ _)
    (List.forall_mem_map.mpr fun _ _ => ht' _ _) vs
  · exact elemsOfRecs_chunks S rec f hr.2.1 num chunks raws hv vs hd
  · exact elemsOfRecs_unpacked S rec f num chunks.flatten raws' vs hd hnl

/-- **non-minimal varints, framing**: a byte string assembled from records whose tag, length
    and value varints are each written in ANY well-shaped way of at most 10 bytes (minimal or
    padded with redundant continuation groups) is split into exactly the records those
    varints denote (`C16.load_padded` lifted to whole messages). -/
theorem framing_padded (rs : List EncRec) (hv : ∀ r ∈ rs, r.Valid) :
    loadFields (rs.map EncRec.bytes).flatten = .ok (rs.map EncRec.toPField) := by
  induction rs with
  | nil => rfl
  | cons r rs ih =>
    simp only [List.map_cons, List.flatten_cons]
    obtain ⟨h1, h2⟩ := loadField_encRec r (hv r (by simp)) (rs.map EncRec.bytes).flatten
    rw [loadFields_cons _ _ _ h2 h1, ih (fun x hx => hv x (by simp [hx]))]
    rfl

/-- **non-minimal varints**: replacing any varints — tags, lengths, values — of the records
    of a message by other well-shaped encodings (≤ 10 bytes) of the same numbers does not
    change the decoded message (nor whether decoding fails), for every class, every starting
    state and every nesting budget.  (The raw bytes retained for UNKNOWN records do keep
    their padding; they are not part of `core`.) -/
theorem load_varint_padding (S : Schema) (fuel : Nat) (d : MsgD) (st : MState) (rs rs' : List EncRec)
    (hv : ∀ r ∈ rs, r.Valid) (hv' : ∀ r ∈ rs', r.Valid) (hsame : List.Forall₂ EncRec.SamePad rs rs') :
    (loadInto S (fuel + 1) d st (rs.map EncRec.bytes).flatten).map core
      = (loadInto S (fuel + 1) d st (rs'.map EncRec.bytes).flatten).map core := by
  rw [loadInto_succ, loadInto_succ, framing_padded rs hv, framing_padded rs' hv']
  simp only [bind_ok]
  exact foldFields_sameMeaning S _ d _ _
    (forall₂_map_map _ _ EncRec.toPField rs rs' (fun a b h => samePad_sameMeaning S _ d a b h) hsame) _ _ rfl

/-- … inside a packed chunk: the elements may be padded too -/
theorem load_varint_padding_packed (S : Schema) (rec : Loader) (f : FieldD) (hp : isPacked f.ty = true) (num : Nat)
    (es es' : List Bytes) (raw raw' : Bytes) (hv : ∀ e ∈ es, ValidElem f.ty e) (hv' : ∀ e ∈ es', ValidElem f.ty e)
    (hsame : decodeElems f.ty es = decodeElems f.ty es') :
    decodeValue S rec f (packedRec num es.flatten raw) = decodeValue S rec f (packedRec num es'.flatten raw') := by
  rw [decodeValue_packedRec S rec f num _ _ hp, decodeValue_packedRec S rec f num _ _ hp,
    decodePacked_elems f.ty es hv, decodePacked_elems f.ty es' hv', hsame]

/-- … inside a nested message / map entry: if the nested loader reads the re-padded payload
    like the original one (this theorem one level down), so does the enclosing record.
    Together with `load_same_meaning` this propagates padding invariance level by level. -/
theorem load_varint_padding_nested (S : Schema) (rec : Loader) (f : FieldD) (num : Nat) (p p' raw raw' : Bytes)
    (hty : f.ty = .message ∨ f.ty = .map) (h : ∀ d' st', rec d' st' p = rec d' st' p') :
    decodeValue S rec f (packedRec num p raw) = decodeValue S rec f (packedRec num p' raw') := by
  have hp : isPacked f.ty = false := by rcases hty with e | e <;> rw [e] <;> rfl
  rw [decodeValue_eq_len S rec f _ rfl hp, decodeValue_eq_len S rec f _ rfl hp]
  rcases hty with e | e
  · rw [if_neg (by rw [e]; decide), if_neg (by rw [e]; decide)]
    unfold postLen
    have e1 : (f.ty == PType.string) = false := by rw [e]; rfl
    have e2 : (f.ty == PType.message) = true := by rw [e]; rfl
    simp only [e1, e2, Bool.false_eq_true, if_false, if_true, packedRec, h]
  · rw [if_pos (by rw [e]; rfl), if_pos (by rw [e]; rfl)]
    simp only [packedRec, h]

/-- records that mean the same (same number and wire type, same decoded value for the field
    they target) are interchangeable, one by one, anywhere in a message -/
theorem load_same_meaning (S : Schema) (rec : Loader) (d : MsgD) (st : MState) (pfs pfs' : List PField)
    (hs : List.Forall₂ (SameMeaning S rec d) pfs pfs') :
    (foldFields S rec d st pfs).map core = (foldFields S rec d st pfs').map core :=
  foldFields_sameMeaning S rec d pfs pfs' hs st st rfl

/-- **repeated occurrences of a singular scalar (last one wins)**: whatever records came
    before — earlier occurrences of the same field with other values included — after a
    record of a singular scalar field the field holds exactly that record's value. -/
theorem load_last_wins (S : Schema) (rec : Loader) (d : MsgD) (st st' : MState) (earlier : List PField)
    (pf : PField) (idx : Nat) (f : FieldD) (v : Val) (hw : WfState d st)
    (ht : Targets d pf idx f) (hrep : f.repeated = false) (hm : f.ty ≠ .map) (hmsg : f.ty ≠ .message)
    (hv : decodeValue S rec f pf = .ok v)
    (h : foldFields S rec d st (earlier ++ [pf]) = .ok st') : st'.slots.getD idx .ph = v := by
  rw [foldFields_append_s] at h
  obtain ⟨s1, hb, h⟩ := bind_inv h
  obtain ⟨s2, ha, h⟩ := bind_inv h
  cases h
  exact applyField_singular S rec d s1 _ pf idx f v ht hrep hm hmsg
    (foldFields_wf S rec d earlier st s1 hw hb) hv ha

/-- **repeated occurrences of oneof members (last one wins)**: whatever records came before
    — other members of the group, or the same member — after a record of member `idx` of
    group `g` that member is the selected one, and every other member of the group is unset
    (PLACEHOLDER, or None for an optional member), so reading it raises AttributeError and it
    is not re-encoded.  Scalar or message member alike. -/
theorem load_last_wins_oneof (S : Schema) (rec : Loader) (d : MsgD) (st st' : MState) (earlier : List PField)
    (pf : PField) (idx : Nat) (f : FieldD) (g : Nat)
    (hwg : WfGroups d.fields d.nGroups) (hinv : Inv d.fields d.nGroups st)
    (ht : Targets d pf idx f) (hg : f.group = some g)
    (h : foldFields S rec d st (earlier ++ [pf]) = .ok st') :
    st'.cur.getD g Option.none = some idx
    ∧ ∀ j fj, d.fields[j]? = some fj → fj.group = some g → j ≠ idx → SentinelAt fj (st'.slots.getD j .ph) := by
  have hinv' := foldFields_inv S rec d d.nGroups _ st st' hwg hinv h
  rw [foldFields_append_s] at h
  obtain ⟨s1, hb, h⟩ := bind_inv h
  obtain ⟨s2, ha, h⟩ := bind_inv h
  cases h
  have hgn : g < d.nGroups := hwg f (List.mem_of_getElem? ht.2.1) g hg
  have hl : g < s1.cur.length := by
    rw [(foldFields_lengths S rec d earlier st s1 hb).2, hinv.1]; exact hgn
  have hsel := applyField_selects S rec d s1 _ pf idx f g ht hg hl ha
  refine ⟨hsel, ?_⟩
  intro j fj hfj hgj hne
  exact hinv'.2 j fj g hfj hgj (by rw [hsel]; intro e; injection e with e; exact hne e.symm)

/-- the value part for scalar members of a oneof -/
theorem load_last_wins_oneof_value (S : Schema) (rec : Loader) (d : MsgD) (st st' : MState) (earlier : List PField)
    (pf : PField) (idx : Nat) (f : FieldD) (v : Val) (hw : WfState d st)
    (ht : Targets d pf idx f) (hrep : f.repeated = false) (hm : f.ty ≠ .map) (hmsg : f.ty ≠ .message)
    (hv : decodeValue S rec f pf = .ok v)
    (h : foldFields S rec d st (earlier ++ [pf]) = .ok st') : st'.slots.getD idx .ph = v :=
  load_last_wins S rec d st st' earlier pf idx f v hw ht hrep hm hmsg hv h


/-! ### non-vacuity: concrete instances, evaluated on the model (`decide`) -/

def T : Schema := [{ fields := [{ name := "a", num := 1, ty := .int32 },
                                 { name := "r", num := 2, ty := .sint32, repeated := true },
                                 { name := "x", num := 3, ty := .bytes, group := some 0 },
                                 { name := "y", num := 4, ty := .int64, group := some 0 }], nGroups := 1 }]

example : NoRepeatedOptional T[0] := by decide +kernel
example : IsRepScalar { name := "r", num := 2, ty := .sint32, repeated := true } := by decide +kernel
-- D11's witness: 1, 2 unpacked + packed [3, 4] + 5 unpacked decodes like one packed record of five
example : (parse T 0 [0x10, 0x02, 0x10, 0x04, 0x12, 0x02, 0x06, 0x08, 0x10, 0x0a]).bind (dumpVal T)
    = .ok [0x12, 0x05, 0x02, 0x04, 0x06, 0x08, 0x0a] := by decide +kernel
-- padded tag (3 bytes), padded value (4 bytes): same message as the minimal encoding 08 05
example : (parse T 0 [0x88, 0x80, 0x00, 0x85, 0x80, 0x80, 0x00]).bind (dumpVal T) = .ok [0x08, 0x05] := by decide +kernel
-- last wins: a = 7 then a = 5; oneof: x = b"A" then y = 9 leaves y selected and x unset
example : (parse T 0 [0x08, 0x07, 0x08, 0x05]).bind (dumpVal T) = .ok [0x08, 0x05] := by decide +kernel
example : (parse T 0 [0x1a, 0x01, 0x41, 0x20, 0x09]).bind (dumpVal T) = .ok [0x20, 0x09] := by decide +kernel
-- order: (y = 9, a = 5) decodes like (a = 5, y = 9); an unknown record (#9) in between changes nothing known
example : (parse T 0 [0x20, 0x09, 0x08, 0x05]).bind (dumpVal T) = .ok [0x08, 0x05, 0x20, 0x09] := by decide +kernel
example : (parse T 0 [0x20, 0x09, 0x48, 0x01, 0x08, 0x05]).bind (dumpVal T) = .ok [0x08, 0x05, 0x20, 0x09, 0x48, 0x01] := by decide +kernel
-- the spec-level parser accepts padded varints and yields the same records
example : Spec.parse [0x88, 0x80, 0x00, 0x85, 0x80, 0x80, 0x00] = Spec.parse [0x08, 0x05] := by decide +kernel
example : (Spec.decodeBytes T 0 [0x1a, 0x01, 0x41, 0x20, 0x09]).map (·.sel) = some [some 3] := by decide +kernel


open Bp.Link in
/-- **FRAMING AGREEMENT.**  For every list of naturals `bs` (no `WfBytes` needed), the
    spec-level splitter `Spec.parse`, written from the encoding document, accepts `bs` iff the
    model of `load_fields` does, and then the records correspond one to one: same field
    number, wire type, varint value (low 64 bits of a 1..10-byte varint, padded or not) and
    payload.  There is no input on which they differ: groups (wire types 3 / 4), wire types
    6 / 7, field number 0, truncated input and varints of more than 10 bytes are rejected by
    both (witnesses below). -/
theorem framing_agree (bs : Bytes) :
    Spec.parse bs = okOpt ((loadFields bs).map fun pfs => pfs.map toRec) := Bp.framing_agree bs

theorem framing_accepts (bs : Bytes) : (Spec.parse bs).isSome = (loadFields bs).isOk := Bp.framing_accepts bs

open Bp.Link in
/-- **`load_complete`: the model decoder agrees with the spec decoder.**

    For every schema `S` with `GoodSchema S` and every byte string `bs` with
    `narrow32 S (bs.length + 1) d bs`: if `Cls().parse(bs)` (model) returns `v`, then
    `Spec.decodeBytes S c bs` returns an abstract message `a` whose normal form is the
    abstraction of `v` — same class, same value in every declared field (at every nesting
    depth), same oneof selection.  The spec decoder never fails where the model succeeds.

    Field kinds covered: ALL — scalar fields of the 16 scalar types, singular, proto3-optional,
    oneof members, repeated (unpacked, packed, mixed, split chunks); nested messages singular /
    optional / oneof member / repeated, to any depth, recursive classes included; maps (scalar,
    message, Timestamp / Duration values); wrappers; Timestamp / Duration.

    Guards (both decidable, `Bool`-valued):
    * `GoodSchema S` = `wfSchemaTB S` (C17: repeated fields not `optional`, message fields name
      existing classes, wrappers wrap scalars, map keys scalar, map values not maps) ∧ distinct
      field numbers per class ∧ `goodFieldB` (repeated / map fields in no oneof; a wrapper
      annotation only on a plain message field).  Outside it the decoders DO differ: `WX1`–`WX3`.
    * `narrow32`: no `uint32` / `sint32` position holds a varint ≥ 2^32, at any depth.  Outside
      it the decoders DO differ (`WX0`): the spec — like the reference — keeps the low 32
      bits, betterproto keeps all 64.  Not a legal encoding of a 32-bit value; no encoder
      produces it.
    Abstraction (`nv`, applied to both sides): `None` of an unset proto3-optional field = `ph`
    ("nothing on the wire"); float32 up to NaN quieting (`WX4`); retained unknown bytes dropped.
    Inputs the model REJECTS but the spec decodes (by ignoring the record) are outside the
    statement: invalid UTF-8, malformed nested / packed payloads, out-of-range Timestamp /
    Duration (`WX5`; C17's topic). -/
theorem load_complete (S : Schema) (hS : GoodSchema S) (c : Nat) (d : MsgD) (hd : S[c]? = some d)
    (bs : Bytes) (v : Val) (hn : narrow32 S (bs.length + 1) d bs = true) (h : parse S c bs = .ok v) :
    ∃ a, Spec.decodeBytes S c bs = some a ∧ a.nrm = absOf v :=
  load_complete_bytes S hS c d hd bs v hn h

open Bp.Link in
/-- `load_complete` with NO guard on the input, for every schema that uses `uint32` / `sint32`
    nowhere (field, map key / value, wrapper: `noNarrowB`, decidable): every byte string the
    model decoder accepts is decoded by the spec decoder to the same message -/
theorem load_complete_all_inputs (S : Schema) (hS : GoodSchema S) (hN : noNarrowB S = true)
    (c : Nat) (d : MsgD) (hd : S[c]? = some d) (bs : Bytes) (v : Val) (h : parse S c bs = .ok v) :
    ∃ a, Spec.decodeBytes S c bs = some a ∧ a.nrm = absOf v :=
  load_complete_bytes S hS c d hd bs v (narrow32_of_noNarrow_class S hN c d hd _ bs) h

open Bp.Link in
/-- the same at the level of one message class and one nested decoder pair, with the model's
    fuel `n` arbitrary: what `load_complete` is proved from (nested payloads included) -/
theorem load_complete_fuel (S : Schema) (hS : GoodSchema S) (n c : Nat) (d : MsgD) (hd : GoodD S d)
    (bs : Bytes) (st : MState) (hn : narrow32 S n d bs = true) (h : loadInto S n d (freshState d) bs = .ok st) :
    ∃ a, Spec.subDecoder S n c d bs = some a ∧ a.nrm = absState c st := by
  obtain ⟨m, hm1, hm2, hsim⟩ := loadInto_sim S hS n bs c d st hd (narrow32U_of_narrow32 S n d bs hn) h
  exact ⟨m, hm1, by simp only [Spec.AbsMsg.nrm, absState, hm2, hsim.slots, hsim.sel]⟩

/-! ### witnesses: the guards are needed, the abstraction is needed (kernel evaluation) -/

section Witnesses
open Bp.Link

-- non-vacuity: the schema `T` above meets the guard; a message with every kind of `T`
example : GoodSchema T := by decide +kernel
example : noNarrowB [{ fields := [{ name := "a", num := 1, ty := .int32 }, { name := "s", num := 2, ty := .string, repeated := true }] }] = true := by decide +kernel
example : narrow32 T 11 T[0] [0x08, 0x05, 0x10, 0x02, 0x12, 0x02, 0x06, 0x08, 0x1a, 0x01, 0x41] = true := by decide +kernel
example : (parse T 0 [0x08, 0x05, 0x10, 0x02, 0x12, 0x02, 0x06, 0x08, 0x1a, 0x01, 0x41]).map absOf
    = .ok { cls := 0, fields := [.int 5, .list [.int 1, .int 3, .int 4], .byt [0x41], .ph], sel := [some 2] } := by decide +kernel
example : (Spec.decodeBytes T 0 [0x08, 0x05, 0x10, 0x02, 0x12, 0x02, 0x06, 0x08, 0x1a, 0x01, 0x41]).map (·.nrm)
    = some { cls := 0, fields := [.int 5, .list [.int 1, .int 3, .int 4], .byt [0x41], .ph], sel := [some 2] } := by decide +kernel

/-- nested message, map, wrapper, Timestamp, optional: a schema inside the guard -/
def TN : Schema :=
  [{ fields := [{ name := "sub", num := 1, ty := .message, kind := .user 1 },
                { name := "m", num := 2, ty := .map, mapK := .string, mapV := .message, mapVKind := .user 1 },
                { name := "w", num := 3, ty := .message, wraps := some .uint32 },
                { name := "t", num := 4, ty := .message, kind := .timestamp },
                { name := "o", num := 5, ty := .sint32, optional := true }] },
   { fields := [{ name := "v", num := 1, ty := .uint32, optional := true }] }]
example : GoodSchema TN := by decide +kernel
-- sub = {v = 7}; m = {"k": Sub()} (entry without value); w = 9; t = 1 s; o unset
def bsN : Bytes := [0x0a, 0x02, 0x08, 0x07, 0x12, 0x03, 0x0a, 0x01, 0x6b, 0x1a, 0x02, 0x08, 0x09, 0x22, 0x02, 0x08, 0x01]
example : narrow32 TN (bsN.length + 1) TN[0] bsN = true := by decide +kernel
example : (parse TN 0 bsN).map absOf
    = .ok { cls := 0, fields := [.msg 1 [.int 7] true [] [], .dict [.str [0x6b]] [.msg 1 [.ph] false [] []],
                                 .int 9, .ts 1000000, .ph], sel := [] } := by decide +kernel
example : (Spec.decodeBytes TN 0 bsN).map (·.nrm)
    = some { cls := 0, fields := [.msg 1 [.int 7] true [] [], .dict [.str [0x6b]] [.msg 1 [.ph] false [] []],
                                  .int 9, .ts 1000000, .ph], sel := [] } := by decide +kernel
-- … where the abstraction matters: the spec's default for the missing map value is `Cls()`
-- with its optional slot `None`, the model's slot after decoding `o` unset is `None` too
example : (Spec.decodeBytes TN 0 bsN).map (·.fields.getD 1 .ph) = some (.dict [.str [0x6b]] [.msg 1 [.none] false [] []]) := by decide +kernel

/-- WX0 — DISAGREEMENT outside `narrow32`: an over-wide `uint32` varint (2^32, 5 bytes) -/
def WX0 : Schema := [{ fields := [{ name := "u", num := 1, ty := .uint32 }] }]
example : GoodSchema WX0 := by decide +kernel
example : narrow32 WX0 7 WX0[0] [8, 128, 128, 128, 128, 16] = false := by decide +kernel
example : parse WX0 0 [8, 128, 128, 128, 128, 16] = .ok (.msg 0 [.int 4294967296] true [] []) := by decide +kernel
example : Spec.decodeBytes WX0 0 [8, 128, 128, 128, 128, 16] = some { cls := 0, fields := [.int 0], sel := [] } := by decide +kernel

/-- WX1 — DISAGREEMENT outside `GoodSchema` (duplicate field number): betterproto's
    `field_name_by_number` keeps the LAST declaration, the spec takes the first -/
def WX1 : Schema := [{ fields := [{ name := "a", num := 1, ty := .int32 }, { name := "b", num := 1, ty := .string }] }]
example : ¬ GoodSchema WX1 := by decide +kernel
example : parse WX1 0 [8, 1] = .ok (.msg 0 [.ph, .ph] true [8, 1] []) := by decide +kernel
example : Spec.decodeBytes WX1 0 [8, 1] = some { cls := 0, fields := [.int 1, .ph], sel := [] } := by decide +kernel

/-- WX2 — outside `GoodSchema` (a repeated field inside a oneof, which protobuf forbids):
    betterproto's `__setattr__` selects it, the spec leaves the selection alone -/
def WX2 : Schema := [{ fields := [{ name := "r", num := 1, ty := .int32, repeated := true, group := some 0 }], nGroups := 1 }]
example : ¬ GoodSchema WX2 := by decide +kernel
example : parse WX2 0 [8, 1] = .ok (.msg 0 [.list [.int 1]] true [] [some 0]) := by decide +kernel
example : Spec.decodeBytes WX2 0 [8, 1] = some { cls := 0, fields := [.list [.int 1]], sel := [none] } := by decide +kernel

/-- WX3 — outside `GoodSchema` (a wrapper annotation on a Timestamp field): betterproto looks
    at the class first (datetime), the spec at the annotation first (wrapped int32) -/
def WX3 : Schema := [{ fields := [{ name := "t", num := 1, ty := .message, kind := .timestamp, wraps := some .int32 }] }]
example : ¬ GoodSchema WX3 := by decide +kernel
example : parse WX3 0 [10, 2, 8, 5] = .ok (.msg 0 [.ts 5000000] true [] []) := by decide +kernel
example : Spec.decodeBytes WX3 0 [10, 2, 8, 5] = some { cls := 0, fields := [.int 5], sel := [] } := by decide +kernel

/-- WX4 — absorbed by the abstraction: a float32 signalling NaN (0x7F800001) comes back from
    `struct.unpack` as the quiet NaN 0x7FC00001; the spec keeps the wire bits -/
def WX4 : Schema := [{ fields := [{ name := "f", num := 1, ty := .float }] }]
example : parse WX4 0 [13, 1, 0, 128, 127] = .ok (.msg 0 [.f32 0x7FC00001] true [] []) := by decide +kernel
example : Spec.decodeBytes WX4 0 [13, 1, 0, 128, 127] = some { cls := 0, fields := [.f32 0x7F800001], sel := [] } := by decide +kernel
example : (Spec.decodeBytes WX4 0 [13, 1, 0, 128, 127]).map (·.nrm) = some { cls := 0, fields := [.f32 0x7FC00001], sel := [] } := by decide +kernel

/-- WX5 — the model REJECTS, the spec ignores the record (outside the statement): invalid UTF-8 -/
def WX5 : Schema := [{ fields := [{ name := "s", num := 1, ty := .string }] }]
example : parse WX5 0 [10, 1, 255] = .error .unicode := by decide +kernel
example : Spec.decodeBytes WX5 0 [10, 1, 255] = some { cls := 0, fields := [.ph], sel := [] } := by decide +kernel

-- framing: both reject groups, wire type 6, field number 0, truncated input, an 11-byte varint
example : Spec.parse [0x0b] = none ∧ (loadFields [0x0b]).isOk = false := by decide +kernel
example : Spec.parse [0x0e] = none ∧ (loadFields [0x0e]).isOk = false := by decide +kernel
example : Spec.parse [0x00, 0x00] = none ∧ (loadFields [0x00, 0x00]).isOk = false := by decide +kernel
example : Spec.parse [0x0a, 0x02, 0x01] = none ∧ (loadFields [0x0a, 0x02, 0x01]).isOk = false := by decide +kernel
example : Spec.parse [0x08, 128, 128, 128, 128, 128, 128, 128, 128, 128, 128, 0] = none
    ∧ (loadFields [0x08, 128, 128, 128, 128, 128, 128, 128, 128, 128, 128, 0]).isOk = false := by decide +kernel
-- … and both read a "byte" ≥ 256 the same way (no `WfBytes` needed)
example : Spec.parse [0x08, 300, 1] = some [{ num := 1, wt := 0, vint := 172, payload := [] }] := by decide +kernel
example : (loadFields [0x08, 300, 1]).map (·.map toRec) = .ok [{ num := 1, wt := 0, vint := 172, payload := [] }] := by decide +kernel

end Witnesses

end Bp.C02

#print axioms Bp.C02.framing_agree
#print axioms Bp.C02.load_complete
#print axioms Bp.C02.load_complete_fuel
#print axioms Bp.C02.load_complete_all_inputs
