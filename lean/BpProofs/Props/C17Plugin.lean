import BpProofs.Props.C03Plugin
import BpProofs.Props.C17
import BpProofs.Props.C01
/-
  C17 — the link `WfSchemaT` ↔ plugin output.

  `Props/C17.lean` proves "decoding … returns a message in which every field holds a value of its
  declared Python type and which can be encoded again" for every schema `S` with `WfSchemaT S`.
  Here: the runtime schema of the classes the plugin generates (`toSchema`, BpModel/PluginSchema.lean)
  from files all of whose messages are protoc-valid (outside the D30 / D31 regions) IS such a
  schema — so the C17 theorems, and the C01 round trip, apply to every class the plugin generates
  from a valid proto.  Lemmas: BpProofs/PluginSchemaWf.lean, PluginSchemaPkg.lean.
-/
namespace Bp.C17
open Bp Bp.Plugin

/-- **the generated schema is well formed**: no repeated field is `optional`, every message
    field and message-valued map names an existing class (or `datetime` / `timedelta`), every
    wrapper wraps a scalar type, every map has a scalar key and a non-map value -/
theorem plugin_schema_wellformed (nm : Naming) (pkg : Name) (files : List FileP) (cs : List Class) (S : Schema)
    (hv : validPackage files = true) (hc : compilePackage nm files = some cs)
    (hS : toSchema nm pkg cs = some S) : WfSchemaT S :=
  toSchema_wf nm pkg files cs S hv hc hS

/-- **`ok_welltyped` for generated classes**: for every class `c` the plugin generates from a
    valid proto and every input, whatever `parse` returns is a typed message -/
theorem plugin_ok_welltyped (nm : Naming) (pkg : Name) (files : List FileP) (cs : List Class) (S : Schema)
    (hv : validPackage files = true) (hc : compilePackage nm files = some cs)
    (hS : toSchema nm pkg cs = some S) (c : Nat) (bs : Bytes) (m : Val)
    (h : parse S c bs = .ok m) : MsgTyped S m :=
  ok_welltyped S (plugin_schema_wellformed nm pkg files cs S hv hc hS) c bs m h

/-- **`ok_reencodes` for generated classes**: … and it can be encoded again -/
theorem plugin_ok_reencodes (nm : Naming) (pkg : Name) (files : List FileP) (cs : List Class) (S : Schema)
    (hv : validPackage files = true) (hc : compilePackage nm files = some cs)
    (hS : toSchema nm pkg cs = some S) (c : Nat) (bs : Bytes) (hb : WfBytes bs) (m : Val)
    (h : parse S c bs = .ok m) : ∃ bs', dumpVal S m = .ok bs' :=
  ok_reencodes S (plugin_schema_wellformed nm pkg files cs S hv hc hS) c bs hb m h

/-- every typed message over a generated schema whose leaves are in the encoder's domain encodes -/
theorem plugin_encodable_dumps (nm : Naming) (pkg : Name) (files : List FileP) (cs : List Class) (S : Schema)
    (hv : validPackage files = true) (hc : compilePackage nm files = some cs)
    (hS : toSchema nm pkg cs = some S) (m : Val) (h : MsgEnc S m) : ∃ bs', dumpVal S m = .ok bs' :=
  encodable_dumps S (plugin_schema_wellformed nm pkg files cs S hv hc hS) m h

/-- **the C01 round trip over a generated schema** (C01's hypothesis `MsgOk S m` is on the value
    and carries its own per-field conditions; it is instantiated, not weakened): the encoding
    exists, and if shorter than 2^64 bytes it parses back to a message equal under `==` with the
    same encoding -/
theorem plugin_roundtrip (nm : Naming) (pkg : Name) (cs : List Class) (S : Schema)
    (_hS : toSchema nm pkg cs = some S)
    (c : Nat) (sl : List Val) (ow : Bool) (unk : Bytes) (cur : List (Option Nat))
    (hm : MsgOk S (.msg c sl ow unk cur)) :
    ∃ bs, dumpVal S (.msg c sl ow unk cur) = .ok bs ∧
      (bs.length < 2 ^ 64 → ∃ m', parse S c bs = .ok m' ∧ msgEq S (.msg c sl ow unk cur) m' = true
        ∧ msgEq S m' (.msg c sl ow unk cur) = true ∧ dumpVal S m' = .ok bs) :=
  Bp.C01.roundtrip_equal_total S c sl ow unk cur hm

/-! ### non-vacuity on the schema generated for `Props/C03Plugin.lean`'s `demoFile`
    (nested message, map, oneof, optional, wrapper, Timestamp, Duration, enum, self reference) -/

/-- `toSchema (compilePackage [demoFile])`, written out -/
def demoS : Schema := [
  { fields := [
      { name := "id", num := 1, ty := .int64 },
      { name := "tags", num := 2, ty := .string, repeated := true },
      { name := "opt", num := 3, ty := .uint32, optional := true },
      { name := "a", num := 4, ty := .bytes, group := some 0 },
      { name := "b", num := 5, ty := .message, kind := .timestamp, group := some 0 },
      { name := "w", num := 6, ty := .message, wraps := some .uint64 },
      { name := "d", num := 7, ty := .message, kind := .duration, repeated := true },
      { name := "e", num := 8, ty := .enum, enumRef := some 0 },
      { name := "m", num := 9, ty := .map, mapK := .sint32, mapV := .message, mapVKind := .user 0 },
      { name := "self", num := 10, ty := .message, kind := .user 0 },
      { name := "in", num := 11, ty := .message, kind := .user 1, repeated := true } ], nGroups := 1 },
  { fields := [
      { name := "up", num := 1, ty := .message, kind := .user 0 },
      { name := "k", num := 2, ty := .enum, enumRef := some 0 } ] } ]

example : ((compilePackage Bp.C03.idNaming [Bp.C03.demoFile]).bind (toSchema Bp.C03.idNaming (Bp.C03.ch "p"))).map
    (fun S => (Bp.C03.schemaKey S, S.map fun d => d.fields.map (·.name)))
    = some (Bp.C03.schemaKey demoS, demoS.map fun d => d.fields.map (·.name)) := by decide +kernel

example : WfSchemaT demoS := by decide +kernel

/-- id = 150; opt = 7 (proto3 optional); b = Timestamp 1 s (oneof `choice`); w = UInt64Value 7;
    m = {-1: Demo{}}; in = [Inner{}] -/
def demoBytes : Bytes :=
  [0x08, 0x96, 0x01,  0x18, 0x07,  0x2a, 0x02, 0x08, 0x01,  0x32, 0x02, 0x08, 0x07,
   0x4a, 0x02, 0x08, 0x01,  0x5a, 0x00]

example : WfBytes demoBytes := by decide +kernel
example : ((parse demoS 0 demoBytes).bind fun m => .ok (msgTypedB false demoS m, msgTypedB true demoS m))
    = .ok (true, true) := by decide +kernel
example : (parse demoS 0 demoBytes).bind (dumpVal demoS) = .ok demoBytes := by decide +kernel

/-- … and the parsed value meets C01's hypothesis, so `plugin_roundtrip` applies to it -/
example : ((parse demoS 0 demoBytes).bind fun m => .ok (msgOkB demoS m)) = .ok true := by decide +kernel

end Bp.C17
