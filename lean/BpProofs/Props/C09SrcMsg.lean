import BpProofs.SrcTieMsg
import BpProofs.SrcTie
import BpProofs.Props.C09
/-
  C09, tied to the SOURCE, whole methods: `Message.__bytes__`, `Message.__len__` and
  `Message.dump(stream, SIZE_DELIMITED)` as written — the parts around the field loops (the
  `delimit == SIZE_DELIMITED` prefix, the loop over `meta_by_field_name.items()` with its `getattr` /
  `except AttributeError: continue`, `_include_default_value_for_oneof`, the unknown fields, the
  `BytesIO`) are translated from the Python AST of the working tree on every run
  (harness/extract_srcmsg.py → BpProofs/Gen/SrcMsg.lean); the loops call the translated loop bodies
  of C09Src.lean; `bytes(<nested Message>)` inside the intrinsics is the translated `__bytes__`
  itself (`Src.value_bytes`, nesting budget `depth`).

  Guards (BpProofs/SrcTieMsg.lean): `msgDynOk S m` (decidable: one raw slot per field and the guard
  `dynOk` of the loop-body tie at every nesting level; implied by the typing judgement,
  `msgDynOk_of_typed`), `WfSchemaOpt S`, `depthOf m < depth`, and fuel for the `while` loop of
  `dump_varint` where a varint is written.
-/
namespace Bp.C09
open Bp Bp.Py Bp.SrcTieMsg

/-- **`bytes(m)` as written is the model's `dumpVal`** (the function every C01 / C02 / C06 / C07 / C08 /
    C09 theorem about the encoder is stated of), for every schema and every guarded value; it raises
    exactly when the model raises, with the same exception -/
theorem src_bytes (S : Schema) (hS : WfSchemaOpt S) (fuel depth : Nat) (m : Val)
    (hg : msgDynOk S m = true) (hd : depthOf m < depth) :
    Src.value_bytes fuel S depth m = Py.ofR (dumpVal S m) :=
  value_bytes_eq S hS fuel depth m hg hd

/-- **`len(m)` as written is the model's `lenVal`** -/
theorem src_len (S : Schema) (hS : WfSchemaOpt S) (fuel depth : Nat) (m : Val)
    (hg : msgDynOk S m = true) (hd : depthOf m < depth) :
    Src.value_len fuel S depth m = Py.ofR ((lenVal S m).map fun (n : Nat) => (n : Int)) :=
  value_len_eq S hS fuel depth m hg (by omega)

/-- **`m.dump(stream)` as written appends `bytes(m)`** to whatever the stream holds -/
theorem src_dump (S : Schema) (hS : WfSchemaOpt S) (fuel depth : Nat) (m : Val) (stream : Bytes)
    (hg : msgDynOk S m = true) (hd : depthOf m < depth) :
    Src.value_dump fuel S depth m stream 0 = Py.ofR ((dumpVal S m).map fun b => stream ++ b) :=
  value_dump_eq S hS fuel depth m stream hg (by omega)

/-- **`m.dump(stream, SIZE_DELIMITED)` as written appends the model's `dumpDelimited`** -/
theorem src_dump_delimited (S : Schema) (hS : WfSchemaOpt S) (fuel depth : Nat) (m : Val) (stream : Bytes)
    (hg : msgDynOk S m = true) (hd : depthOf m < depth)
    (hf : ∀ bs, dumpVal S m = .ok bs → bs.length + 2 ^ 64 < fuel) :
    Src.value_dump fuel S depth m stream (-1) = Py.ofR ((dumpDelimited S m).map fun b => stream ++ b) :=
  value_dump_delimited_eq S hS fuel depth m stream hg (by omega) hf

/-- **C09 of the SOURCE FUNCTIONS ONLY, first half: `len(m)` as written equals `len(bytes(m))` as
    written** — whenever `bytes(m)` as written returns, `len(m)` as written returns the number of
    bytes it returned; when it raises, `len(m)` raises the same exception (through the model theorem
    `len_eq`) -/
theorem src_len_is_len_of_bytes (S : Schema) (hS : WfSchemaOpt S) (fuel depth : Nat) (m : Val)
    (hg : msgDynOk S m = true) (hd : depthOf m < depth) :
    Src.value_len fuel S depth m =
      (Src.value_bytes fuel S depth m).bind fun bs => .ok ((bs.length : Nat) : Int) := by
  rw [src_len S hS fuel depth m hg hd, src_bytes S hS fuel depth m hg hd, len_eq]
  cases dumpVal S m <;> rfl

/-- **… second half: `m.dump(stream, SIZE_DELIMITED)` as written writes the varint (as
    `encode_varint` as written produces it) of that length, followed by `bytes(m)` as written** — and
    raises what `bytes(m)` raises when that raises (through the model theorem `dump_delimited`) -/
theorem src_dump_delimited_is_prefixed_bytes (S : Schema) (hS : WfSchemaOpt S) (fuel depth : Nat) (m : Val) (stream : Bytes)
    (hg : msgDynOk S m = true) (hd : depthOf m < depth)
    (hfs : ∀ bs, Src.value_bytes fuel S depth m = .ok bs → bs.length + 2 ^ 64 < fuel) :
    Src.value_dump fuel S depth m stream (-1) =
      (Src.value_bytes fuel S depth m).bind fun bs =>
        (Src.encode_varint fuel ((bs.length : Nat) : Int)).bind fun pre => .ok (stream ++ (pre ++ bs)) := by
  have hf : ∀ bs, dumpVal S m = .ok bs → bs.length + 2 ^ 64 < fuel := by
    intro bs hbs; apply hfs; rw [src_bytes S hS fuel depth m hg hd, hbs]; rfl
  rw [src_dump_delimited S hS fuel depth m stream hg hd hf, src_bytes S hS fuel depth m hg hd]
  cases hb : dumpVal S m with
  | error e => rw [dump_delimited_error S m e hb]; rfl
  | ok bs =>
    have hfuel := hf bs hb
    rw [dump_delimited S m bs hb]
    simp only [SrcTieDump.ofR_ok, SrcTieDump.res_bind_ok]
    rw [SrcTie.encode_varint_eq _ fuel (by simpa using hfuel), dumpVarint_nat]
    rfl

/-- `SerializeToString()`, `__getstate__()` and the argument `__reduce__()` hands to `FromString`
    are, as written, `bytes(self)` -/
theorem src_aliases (fuel : Nat) (S : Schema) (k : Nat) (m : Val) :
    Src.value_serialize_to_string fuel S k m = Src.value_bytes fuel S (k + 1) m
    ∧ Src.value_getstate fuel S k m = Src.value_bytes fuel S (k + 1) m
    ∧ Src.value_reduce fuel S k m = Src.value_bytes fuel S (k + 1) m := by
  -- each of the three methods is `bytes(self)` followed by `return`: on a Message instance compare the two on the
  -- outcome of `__bytes__`, on any other value both sides are the same exception
  rw [Src.value_bytes]
  unfold Src.value_serialize_to_string Src.value_getstate Src.value_reduce Src.msg_serialize_to_string Src.msg_getstate
    Src.msg_reduce
  cases m with
  | msg c sl ow unk cur =>
    simp only [Msg.onMessage]
    cases Src.msg_bytes fuel S _ _ _ <;> exact ⟨rfl, rfl, rfl⟩
  | _ => simp only [Msg.onMessage, and_self]

/-! non-vacuity: the repaired D01 witness on the translated whole methods — an optional string set
    to "" is two bytes, `len` says two, the delimited form is `02 0a 00`; and a nested message -/
example : Src.value_bytes 0 wS 2 (.msg 0 [.str []] true [] []) = .ok [10, 0] := by decide +kernel
example : Src.value_len 0 wS 2 (.msg 0 [.str []] true [] []) = .ok 2 := by decide +kernel
def wN : Schema := [{ fields := [{ name := "i", num := 1, ty := .int32 }] },
                    { fields := [{ name := "sub", num := 2, ty := .message, kind := .user 0 }] }]
def mN : Val := .msg 1 [.msg 0 [.int 5] true [] []] true [] []
example : msgDynOk wN mN = true ∧ depthOf mN = 2 := by decide +kernel
example : Src.value_bytes 0 wN 3 mN = .ok [18, 2, 8, 5] := by decide +kernel
example : dumpVal wN mN = .ok [18, 2, 8, 5] := by decide +kernel

end Bp.C09
