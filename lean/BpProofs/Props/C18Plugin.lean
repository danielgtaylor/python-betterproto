import BpProofs.PluginSchemaPyd
import BpProofs.Props.C18
import BpProofs.Props.C03Plugin
import BpModel.Json
import BpProofs.JsonOneof
/-
  C18 — "… defines the same classes with the same field numbers, types, groups … as the default
  configuration.  For identical field values the classes generated under any configuration encode
  to identical bytes and identical JSON" — at the level of the RUNTIME schema (`toSchema`,
  BpModel/PluginSchema.lean), the object `dumpVal` (bytes) and `toDict` (JSON) are functions of.

  * typing.direct / typing.root / typing.310: `toSchema` has no typing-compiler parameter at all — a
    `CField` carries the *denotation* of its annotation (`Ann`), and `Props/C18.lean`
    (`annotation_agree`, `metadata_config_independent`) proves that the texts all three compilers
    write denote that same type and that the `betterproto.<x>_field(…)` call is the same text.
    Hence the three typing variants have literally the same `Schema`, the same `dumpVal`, the same `toDict`.
  * pydantic: `PydanticOneOfFieldCompiler` gives oneof members `optional=True` and an `Optional[…]`
    annotation.  Proved below: this is the ONLY difference in the runtime schema
    (`pydantic_schema`: every `FieldD` equal, except `optional := true` on oneof members), and the
    per-field encoder `dumpSlot` / `toDictSlot` of a SET member does not look at that flag.
    Whole-value equality of `dumpVal` / `toDict` between the two schemas is NOT proved (it needs an
    induction through nested values whose fresh defaults differ: `None` vs PLACEHOLDER); concrete
    instances are decided below.
  * FINDING (replayed on the real code, docs/p29-notes.md): with `include_default_values=True` the
    JSON is NOT identical: an unselected oneof member is written as its type default (`"a": 0`) by
    the standard classes and as `null` by the pydantic classes (`pydantic_json_differs_with_defaults`).
-/
namespace Bp.C18
open Bp Bp.Plugin

/-- **one field**: the `FieldD` the runtime derives from the line the pydantic variant writes is
    the standard one with `optional` set iff the field is a oneof member -/
theorem pydantic_field_schema {nm : Naming} {m : MsgP} {f : FieldP} {c : CField} (env : Env) (gs : List Name)
    (h : compileField nm m f = some c) :
    cfieldD env gs (pydanticField c) = (cfieldD env gs c).map markOptionalMember :=
  cfieldD_pydantic env gs c (compileField_optional_ok h)

/-- **the package**: for EVERY descriptor set on which the plugin does not raise (no validity
    hypothesis), the runtime schema of the pydantic variant's classes is the standard schema with
    the oneof members marked optional: same classes, same field numbers, types, cardinalities,
    map types, groups, wrappers, class references -/
theorem pydantic_schema (nm : Naming) (pkg : Name) (files : List FileP) (cs : List Class)
    (hc : compilePackage nm files = some cs) :
    toSchema nm pkg (cs.map pydanticClass) = (toSchema nm pkg cs).map (List.map markMsg) :=
  toSchema_pydantic nm pkg cs (compilePackage_okOpt nm files cs hc)

/-- … in particular one is defined iff the other is, and they have the same number of classes -/
theorem pydantic_schema_defined (nm : Naming) (pkg : Name) (files : List FileP) (cs : List Class)
    (hc : compilePackage nm files = some cs) :
    (toSchema nm pkg (cs.map pydanticClass)).isSome = (toSchema nm pkg cs).isSome := by
  rw [pydantic_schema nm pkg files cs hc]; cases toSchema nm pkg cs <;> rfl

/-- what `markOptionalMember` preserves: everything but `optional` -/
theorem markOptionalMember_same (f : FieldD) :
    (markOptionalMember f).num = f.num ∧ (markOptionalMember f).ty = f.ty ∧ (markOptionalMember f).repeated = f.repeated
    ∧ (markOptionalMember f).group = f.group ∧ (markOptionalMember f).wraps = f.wraps ∧ (markOptionalMember f).kind = f.kind
    ∧ (markOptionalMember f).mapK = f.mapK ∧ (markOptionalMember f).mapV = f.mapV
    ∧ (markOptionalMember f).mapVKind = f.mapVKind ∧ (markOptionalMember f).enumRef = f.enumRef
    ∧ (markOptionalMember f).name = f.name ∧ (f.group = none → markOptionalMember f = f) := by
  unfold markOptionalMember
  cases hg : f.group <;> simp [hg]

/-- **bytes, one field**: for every field (oneof member or not) and every value a set field can
    hold, the per-field encoder gives the same bytes in both variants -/
theorem pydantic_slot_bytes (S : Schema) (f : FieldD) (hid sel : Bool) (v : Val)
    (hv : v ≠ .ph) (hl : ∀ xs, v ≠ .list xs) (hd : ∀ ks vs, v ≠ .dict ks vs) :
    dumpSlot S (markOptionalMember f) hid sel v = dumpSlot S f hid sel v := by
  cases hg : f.group with
  | none => rw [(markOptionalMember_same f).2.2.2.2.2.2.2.2.2.2.2 hg]
  | some g =>
    have : markOptionalMember f = markOptional f := by simp [markOptionalMember, markOptional, hg]
    rw [this]
    exact dump_invariant_under_optional_members S f hid sel v (by rw [hg]; rfl) hv hl hd

/-- **JSON, one field**: a SET oneof member (`hid = false`, `sel = true`) or any non-member:
    `to_dict`'s per-field step gives the same JSON in both variants, for every value but the
    PLACEHOLDER (which a pydantic-variant member never holds: its default is `None`) -/
theorem pydantic_slot_json (S : Schema) (E : Enums) (cs : KeyCase) (incl : Bool) (f : FieldD) (v : Val)
    (hv : v ≠ .ph) :
    toDictSlot S E cs incl (markOptionalMember f) false (f.group.isSome) v
      = toDictSlot S E cs incl f false (f.group.isSome) v := by
  cases hg : f.group with
  | none => rw [(markOptionalMember_same f).2.2.2.2.2.2.2.2.2.2.2 hg]
  | some g =>
    rw [show markOptionalMember f = { f with optional := true } by simp [markOptionalMember, hg]]
    -- the slot is selected: every reading of `optional`, directly or through `defKind`, stands in a disjunction with `sel`
    by_cases hl : isLeafVal v = true
    · rw [toDictSlot_leaf _ _ _ _ _ _ _ _ hl, toDictSlot_leaf _ _ _ _ _ _ _ _ hl]
      simp only [Bool.false_eq_true, if_false, toDictPlain, Option.isSome_some, Bool.or_true, if_true]
      rfl
    · cases v with
      | ph => exact absurd rfl hv
      | list xs =>
        rw [toDictSlot, toDictSlot]
        simp only [Bool.false_eq_true, if_false, Option.isSome_some, Bool.or_true, if_true]
        rfl
      | dict ks vs => rw [toDictSlot, toDictSlot]; simp only [Bool.false_eq_true, if_false]
      | msg c sl ow unk cur =>
        rw [toDictSlot, toDictSlot]
        simp only [Bool.false_eq_true, if_false, Option.isSome_some, Bool.or_true, Bool.true_or, if_true]
      | _ => cases hl rfl

/-! ### decided instances and the finding -/

/-- `message A { oneof g { int32 a = 1; string b = 2; } }`: standard and pydantic schema -/
def S0 : Schema := [{ fields := [{ name := "a", num := 1, ty := .int32, group := some 0 },
                                 { name := "b", num := 2, ty := .string, group := some 0 }], nGroups := 1 }]
def S1 : Schema := S0.map markMsg

def isNullJ : JVal → Bool | .null => true | _ => false
def isZeroJ : JVal → Bool | .num 0 => true | _ => false
def valsJ : JVal → List JVal | .obj _ vs => vs | _ => []

/-- `A(b="x")`: the unselected member is PLACEHOLDER (standard) / `None` (pydantic) -/
def a0 : Val := .msg 0 [.ph, .str [120]] false [] [some 1]
def a1 : Val := .msg 0 [.none, .str [120]] false [] [some 1]

/-- identical bytes -/
theorem pydantic_bytes_instance : dumpVal S0 a0 = .ok [18, 1, 120] ∧ dumpVal S1 a1 = .ok [18, 1, 120] := by decide +kernel

/-- identical JSON without `include_default_values` -/
theorem pydantic_json_instance :
    ((valsJ (toDict S0 [] .camel false a0)).length, (valsJ (toDict S1 [] .camel false a1)).length) = (1, 1) := by decide +kernel

/-- **finding**: with `include_default_values=True` the unselected member `a` is `0` in the
    standard variant and `null` in the pydantic variant — replayed on the real code:
    `A(b="x").to_json(include_default_values=True)` = `{"a": 0, "b": "x"}` vs `{"a": null, "b": "x"}` -/
theorem pydantic_json_differs_with_defaults :
    (valsJ (toDict S0 [] .camel true a0)).map isZeroJ = [true, false]
    ∧ (valsJ (toDict S1 [] .camel true a1)).map isNullJ = [true, false] := by decide +kernel

/-- the one model state on which the per-field ENCODER looks at the flag: a selected member still
    holding the PLACEHOLDER.  Not reachable through the constructor / `__setattr__` of the real
    classes (a pydantic-variant member defaults to `None`, and selecting a member stores a value) -/
theorem ph_member_is_the_only_sensitivity :
    dumpSlot S0 { num := 1, ty := .int32, group := some 0 } false true .ph = .ok [8, 0]
    ∧ dumpSlot S0 (markOptionalMember { num := 1, ty := .int32, group := some 0 }) false true .ph = .ok [] := by decide +kernel

/-- non-vacuity of `pydantic_schema` on the nested demo schema of `Props/C03Plugin.lean` (map,
    oneof, optional, wrapper, Timestamp): the pydantic variant's schema is defined and differs from
    the standard one exactly in the `optional` flag of the two members of `choice` -/
example :
    ((compilePackage Bp.C03.idNaming [Bp.C03.demoFile]).bind fun cs =>
      toSchema Bp.C03.idNaming (Bp.C03.ch "p") (cs.map pydanticClass)).map
        (fun S => S.map fun d => d.fields.map (·.optional))
    = some [[false, false, true, true, true, false, false, false, false, false, false], [false, false]] := by decide +kernel

end Bp.C18
