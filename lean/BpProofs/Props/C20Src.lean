import BpProofs.SrcTieEnum
import BpProofs.Props.C20
/-
  C20, tied to the SOURCE: the member loop of `EnumType.__new__` and the methods `__call__`,
  `__getitem__`, `__iter__`, `__reversed__`, `__len__`, `__contains__`, `__setattr__`, `__delattr__` of
  `EnumType` and `try_value`, `from_string`, `__copy__`, `__deepcopy__`, `__getnewargs_ex__`,
  `__setattr__`, `__delattr__` of `Enum` (src/betterproto/enum.py), as regenerated from the Python AST
  of the working tree on every run (harness/extract_srcenum.py → BpProofs/Gen/SrcEnum.lean), ARE the
  model functions of BpModel/EnumM.lean the C20 theorems are about — for ALL declaration lists, class
  states and arguments — and the C20 theorems therefore hold of the source as written.

  A class object `PyEnum.ClsObj ν` is the model's class state `st` (`_value_map_`, `_member_map_`,
  allocation count) plus `vars`, the attributes the loop binds on the per-enum metaclass.  A translated
  method returns `Py.Res result`; one that allocates an object or stores into a dict of the class returns
  `Py.Res (result × class object afterwards)` — so that `__call__`, `__getitem__`, `from_string`,
  `__iter__`, `__len__`, `__contains__` and the four `__setattr__` / `__delattr__` do not change the class
  is already their TYPE; a method annotated `-> Never` returns `Py.Res Empty`.  `obj c` is the class
  object of the model state `c`.

  Not translated (still validated by the correspondence run / the oracles only): which entries of the
  class namespace become `members` (the dict comprehension over `namespace.items()`), `Enum.__new__`
  (`int.__new__` + two `object.__setattr__`; parameter list checked), `__members__` (`MappingProxyType`),
  `__repr__` / `__str__`, exception messages; TypeError for an unhashable argument is outside the model.
  Trusted: BpProofs/PyPrelude.lean (`Py.Res`), BpProofs/PyPreludeEnum.lean (dicts as association lists,
  `cls.__new__` as allocation of a fresh object, `try` / `except`, `isinstance`, unpickling through
  `__getnewargs_ex__`).
-/
namespace Bp.C20
open Bp Bp.Py Bp.EnumM Bp.PyEnum Bp.SrcTieEnum
set_option linter.unusedSectionVars false

variable {ν : Type} [DecidableEq ν]

/-- **one turn of the member loop as written is the model's `declare`**: the canonical member of an
    already declared number is reused (an alias — of number 0 too — gets no object of its own), a new
    number gets a new object entered under it; for every class state in which `name` is not yet a key
    of `_member_map_` (always so in the loop: `members` is a dict) -/
theorem src_declare (c : Cls ν) (n : ν) (v : Int) (h : assoc n c.memberMap = none) :
    Src.EnumType.new_step (obj c) n v = .ok (obj (declare c n v)) :=
  new_step_eq c n v h

/-- … and for EVERY class state, a repeated name included: `_value_map_` and the allocation count after
    the turn are `declare`'s, the store `value_map[value] = member` is never a replace (the member found
    under `value` afterwards is the one `declare` appends to `_member_map_`), and `member_map[name] =
    member` is the dict store where the model appends (the two differ only when `name` is a key already) -/
theorem src_declare_general (cls : ClsObj ν) (n : ν) (v : Int) :
    ∃ cls' m, Src.EnumType.new_step cls n v = .ok cls'
      ∧ cls'.st.valueMap = (declare cls.st n v).valueMap ∧ cls'.st.next = (declare cls.st n v).next
      ∧ assoc v cls'.st.valueMap = some m
      ∧ (declare cls.st n v).memberMap = cls.st.memberMap ++ [(n, m)]
      ∧ cls'.st.memberMap = dictSet cls.st.memberMap n m ∧ cls'.vars = dictSet cls.vars n m := by
  obtain ⟨m, h1, h2, e⟩ := new_step_general cls n v
  exact ⟨_, m, e, rfl, rfl, h1, h2, rfl, rfl⟩

/-- **the member loop as written is the model's `build`** on every declaration list with distinct names
    that are not keys of `_member_map_` yet, from every class state -/
theorem src_new_loop (d : Decl ν) (c : Cls ν) (hnd : NamesNodup d = true)
    (hfresh : ∀ p ∈ d, assoc p.1 c.memberMap = none) :
    Src.EnumType.new_loop (obj c) d = .ok (obj (build c d)) :=
  new_loop_eq d c hnd hfresh

/-- **`EnumType.__new__` as written builds the model's class `mk d`** (and binds each declared name as
    a class attribute to the member `_member_map_` holds for it), for every definition -/
theorem src_new (d : Decl ν) (hnd : NamesNodup d = true) :
    Src.EnumType.new d = .ok (obj (mk d)) ∧ Reach d (obj (mk d)).st ∧ (obj (mk d)).vars = (mk d).memberMap := by
  refine ⟨?_, reach_mk d, rfl⟩
  show (Src.EnumType.new_loop (obj {}) d).bind _ = _
  rw [new_loop_eq d {} hnd fun _ _ => rfl]; rfl

/-- `cls(value)` (`EnumType.__call__`) as written is the model's `call`: the member `_value_map_` holds,
    ValueError otherwise -/
theorem src_call (cls : ClsObj ν) (v : Int) : Src.EnumType.call cls v = ofR (call cls.st v) :=
  call_eq cls v

/-- `cls[name]` (`EnumType.__getitem__`) as written is the model's `getitem`: KeyError otherwise -/
theorem src_getitem (cls : ClsObj ν) (n : ν) : Src.EnumType.getitem cls n = ofR (getitem cls.st n) :=
  getitem_eq cls n

/-- `cls.from_string(name)` as written is the model's `fromString`: ValueError otherwise -/
theorem src_from_string (cls : ClsObj ν) (n : ν) : Src.Enum.from_string cls n = ofR (fromString cls.st n) :=
  from_string_eq cls n

/-- `cls.try_value(value)` as written is the model's `tryValue`: result and class state afterwards;
    it never raises -/
theorem src_try_value (cls : ClsObj ν) (v : Int) :
    Src.Enum.try_value cls v = .ok ((tryValue cls.st v).2, { cls with st := (tryValue cls.st v).1 }) :=
  try_value_eq cls v

/-- `list(cls)`, `list(reversed(cls))`, `len(cls)` as written are the model's `iter`, `reversed`, `len` -/
theorem src_iter_len (cls : ClsObj ν) :
    Src.EnumType.iter cls = .ok (iter cls.st) ∧ Src.EnumType.reversed cls = .ok (reversed cls.st)
      ∧ Src.EnumType.len cls = .ok ((len cls.st : Nat) : Int) :=
  ⟨rfl, rfl, rfl⟩

/-- `x in cls` as written is the model's `contains` for an object of the class and `containsInt`
    (False) for a plain int; it never raises -/
theorem src_contains (cls : ClsObj ν) (m : Member ν) (i : Int) :
    Src.EnumType.contains cls (.member m) = .ok (contains cls.st m)
      ∧ Src.EnumType.contains cls (.int i) = .ok (containsInt cls.st i) :=
  ⟨contains_member_eq cls m, rfl⟩

/-- **`EnumType.__setattr__` / `__delattr__` and `Enum.__setattr__` / `__delattr__` as written always
    raise AttributeError**: for every class, member (open values included), attribute name — a member
    name or not — and value; none of them can return and none has access to a way of changing the class
    (their translations do not even thread it) -/
theorem src_setattr_raises (cls : ClsObj ν) (m : Member ν) (n : ν) (x : AnyVal) :
    Src.EnumType.setattr cls n x = .raise .attr ∧ Src.EnumType.delattr cls n = .raise .attr
      ∧ Src.Enum.setattr m n x = .raise .attr ∧ Src.Enum.delattr m x = .raise .attr :=
  ⟨rfl, rfl, rfl, rfl⟩

/-- `__copy__` / `__deepcopy__` as written return the object they were given -/
theorem src_copy (m : Member ν) (memo : AnyVal) :
    Src.Enum.copy m = .ok m ∧ Src.Enum.deepcopy m memo = .ok m :=
  ⟨rfl, rfl⟩

/-- `__getnewargs_ex__` as written hands pickle the name and the number of the member — not a request
    to look the number up (an open value could not be unpickled through `cls(value)`) -/
theorem src_getnewargs (m : Member ν) :
    Src.Enum.getnewargs_ex m = .ok { name := m.name, value := m.number } :=
  rfl

/-- **every operation of a lock-step run, carried out with the methods as written, gives the class
    state and the result of the model's `step`** (all operations except assignment through
    `__members__`, which no code of enum.py handles) -/
theorem src_step (attr : Attr → ν) (cls : ClsObj ν) (op : EnumM.Op ν) (hv : cls.vars = cls.st.memberMap)
    (r : Res (ClsObj ν × Out ν)) (h : srcStep attr cls op = some r) :
    r = .ok ({ cls with st := (step cls.st op).1 }, (step cls.st op).2) := by
  rcases srcStep_eq attr cls op hv with e | e <;> rw [e] at h
  · cases h
  · exact (Option.some.inj h).symm

/-- **sentence 1 of the source as written — looking a member up by number or by name returns the one
    canonical member object.**  For every definition `d`, the class `EnumType.__new__` as written
    builds from it and every later state of that class, and every declaration `(n, v)` of `d`:
    `cls[n]`, `getattr(cls, n)`, `cls.from_string(n)`, `cls(v)` and `cls.try_value(v)` — all as
    written — return the SAME object; its number is `v`, its name the first name declared with `v`;
    `try_value` leaves the class as it is. -/
theorem src_lookup_canonical (d : Decl ν) (hnd : NamesNodup d = true) (cls : ClsObj ν)
    (hr : Reach d cls.st) (hv : cls.vars = cls.st.memberMap) (n : ν) (v : Int) (hmem : (n, v) ∈ d) :
    ∃ m n0, Src.EnumType.getitem cls n = .ok m ∧ classVar cls n = .ok m
      ∧ Src.Enum.from_string cls n = .ok m ∧ Src.EnumType.call cls v = .ok m
      ∧ Src.Enum.try_value cls v = .ok (m, cls)
      ∧ m.number = v ∧ m.name = some n0 ∧ FirstName d v n0 := by
  obtain ⟨m, n0, h1, h2, h3, h4, h5, h6, h7, _⟩ := lookup_canonical d hnd cls.st hr n v hmem
  refine ⟨m, n0, (src_getitem cls n).trans (congrArg ofR h1), ?_, (src_from_string cls n).trans (congrArg ofR h3),
    (src_call cls v).trans (congrArg ofR h4), ?_, h5, h6, h7⟩
  · rw [eq_obj cls hv, classVar_eq, h2]; rfl
  · rw [src_try_value, tryValue_of_some ((call_ok_iff _ v m).mp h4)]

/-- … and that class exists: `EnumType.__new__` as written returns a class object in a state
    `Reach d`, with the declared names bound as attributes -/
theorem src_new_reach (d : Decl ν) (hnd : NamesNodup d = true) :
    ∃ cls, Src.EnumType.new d = .ok cls ∧ Reach d cls.st ∧ cls.vars = cls.st.memberMap :=
  ⟨obj (mk d), (src_new d hnd).1, reach_mk d, rfl⟩

/-- **sentence 2 of the source as written — `try_value` of a number the enum does not define returns a
    nameless member equal to that integer and does not change the class**: the returned value has that
    number, name None, equals exactly that integer; `_value_map_` and `_member_map_` afterwards are what
    they were (nothing is memoised: the state is still `Reach d`), `cls(v)` as written still raises
    ValueError and `value in cls` as written is False. -/
theorem src_try_value_open (d : Decl ν) (cls : ClsObj ν) (hr : Reach d cls.st) (v : Int)
    (hun : ¬ Defined d v) :
    ∃ m cls', Src.Enum.try_value cls v = .ok (m, cls') ∧ m.number = v ∧ m.name = none
      ∧ (∀ i : Int, m.eqInt i = true ↔ i = v)
      ∧ cls'.st.valueMap = cls.st.valueMap ∧ cls'.st.memberMap = cls.st.memberMap ∧ cls'.vars = cls.vars
      ∧ Reach d cls'.st
      ∧ Src.EnumType.call cls' v = .raise .value
      ∧ Src.EnumType.contains cls' (.member m) = .ok false := by
  obtain ⟨c', m, e, h1, h2, h3, h4, h5, _, h7⟩ := try_value_open d cls.st hr v hun
  exact ⟨m, { cls with st := c' }, by rw [src_try_value, e], h1, h2, h3,
    h4.1.trans hr.1.symm, h4.2.1.trans hr.2.1.symm, rfl, h4,
    (src_call _ v).trans (congrArg ofR h7), (src_contains _ m 0).1.trans (congrArg Res.ok h5)⟩

/-- **sentence 3 of the source as written — every mutation attempt raises** and changes nothing: each
    of the four kinds of mutation attempt enum.py handles (`setattr` / `delattr` on the class,
    `setattr` / `delattr` on a member or open value), carried out with the methods as written, ends in
    an exception, and afterwards every lookup as written — by number, by name, `from_string`,
    iteration, `len` — gives what it gave before. -/
theorem src_immutable (attr : Attr → ν) (cls : ClsObj ν) (hv : cls.vars = cls.st.memberMap)
    (op : EnumM.Op ν) (hm : op.isMutation = true) (r : Res (ClsObj ν × Out ν))
    (h : srcStep attr cls op = some r) :
    ∃ cls' e, r = .ok (cls', .err e)
      ∧ (∀ v, Src.EnumType.call cls' v = Src.EnumType.call cls v)
      ∧ (∀ n, Src.EnumType.getitem cls' n = Src.EnumType.getitem cls n
            ∧ Src.Enum.from_string cls' n = Src.Enum.from_string cls n)
      ∧ Src.EnumType.iter cls' = Src.EnumType.iter cls ∧ Src.EnumType.len cls' = Src.EnumType.len cls := by
  have hs := src_step attr cls op hv r h
  obtain ⟨⟨e, he⟩, _⟩ := immutable cls.st op hm
  -- the state afterwards differs in the allocation count only, which none of these methods reads
  obtain ⟨k, ek⟩ := step_state cls.st op
  rw [he, ek] at hs
  exact ⟨_, e, hs, fun _ => rfl, fun _ => ⟨rfl, rfl⟩, rfl, rfl⟩

/-- pickling with the methods as written (`try_value`, `__getnewargs_ex__`, `cls.__new__(cls, **kwargs)`)
    gives a new object with the name and the number of the pickled one, for members, aliases and open
    values (`pickle_preserves`) -/
theorem src_pickle_preserves (attr : Attr → ν) (d : Decl ν) (cls : ClsObj ν) (hr : Reach d cls.st)
    (hv : cls.vars = cls.st.memberMap) (v : Int) (r : Res (ClsObj ν × Out ν))
    (h : srcStep attr cls (.pickle v) = some r) :
    ∃ cls' m' m, r = .ok (cls', .copied m' m) ∧ m'.name = m.name ∧ m'.number = m.number ∧ m'.number = v
      ∧ m'.same m = false ∧ Reach d cls'.st := by
  have hs := src_step attr cls (.pickle v) hv r h
  obtain ⟨c', m', m, e, _, h1, h2, h3, h4⟩ := pickle_preserves d cls.st hr v
  refine ⟨_, m', m, by rw [hs, e], h1, h2, h3, h4, ?_⟩
  have := reach_step d cls.st (.pickle v) hr
  rw [e] at this; exact this

/-! ### non-vacuity: the translated methods run on the definition `exD` of Props/C20.lean
    (`A = 1; NEG = -5; ALIAS = 1; ZERO = 0; MIN = -2**31`) -/

/-- the class `EnumType.__new__` as written builds from `exD` -/
def exCls : ClsObj Nat := obj (mk exD)

example : (Src.EnumType.new exD).bind (fun c => .ok (c.st.valueMap, c.st.memberMap, c.st.next))
    = .ok ((mk exD).valueMap, (mk exD).memberMap, 4) := by decide +kernel
example : Src.EnumType.getitem exCls 2 = .ok ⟨some 0, 1, 0⟩ ∧ Src.EnumType.call exCls 1 = .ok ⟨some 0, 1, 0⟩ := by decide +kernel
example : Src.EnumType.call exCls 7 = .raise .value ∧ Src.EnumType.getitem exCls 9 = .raise .key
    ∧ Src.Enum.from_string exCls 9 = .raise .value := by decide +kernel
example : (Src.Enum.try_value exCls 7).bind (fun p => .ok (p.1, p.2.st.valueMap.length, p.2.st.next))
    = .ok (⟨none, 7, 4⟩, 4, 5) := by decide +kernel
example : Src.EnumType.contains exCls (.member ⟨none, 7, 4⟩) = .ok false
    ∧ Src.EnumType.contains exCls (.member ⟨some 0, 1, 0⟩) = .ok true
    ∧ Src.EnumType.contains exCls (.int 1) = .ok false := by decide +kernel
example : Src.EnumType.len exCls = .ok 5 := by decide +kernel
/-- a repeated name (impossible for a dict) is where the dict store and the model's append differ -/
example : (Src.EnumType.new_loop (obj {}) [(0, 1), (0, 2)]).bind (fun c => .ok c.st.memberMap.length) = .ok 1
    ∧ (build {} [((0 : Nat), (1 : Int)), (0, 2)]).memberMap.length = 2 := by decide +kernel

end Bp.C20
