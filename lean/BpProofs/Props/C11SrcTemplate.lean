import BpProofs.SrcTieTemplate
import BpProofs.Props.C11
/-
  C11 ("a call made through the generated client stub … invokes exactly the handler for the same RPC … for all four
  streaming cardinalities … A method not overridden answers UNIMPLEMENTED"), the part the TEMPLATE decides, tied to
  the source of src/betterproto/templates/template.py.j2 as regenerated on every run (harness/extract_srctemplate.py →
  BpProofs/Gen/SrcTemplate.lean; `Tpl.template_eq`: the template as written IS the named parts of
  BpProofs/TemplateModel.lean, by `rfl`).  What `Gen/StubTable.lean` reads off a RENDERED probe service under six option
  sets is derived here from the template's syntax tree, for EVERY service, method, name, type and typing compiler:

    * per service one `…Stub` class and one `…Base` class; per RPC, in the order of `service.methods`: one stub
      method, one default method, one `__rpc_*` adapter and one `__mapping__` row (`src_stub_class`, `src_base_class`);
    * the stub method calls the helper `Grpc.helperOf client_streaming server_streaming` with the route, the request
      (iterator), the request type iff client streaming, the response type; it is an async generator (`yield
      response`) iff server streaming (`src_stub_body`);
    * the `__mapping__` row: key = the SAME `method.route`, handler = `self.__rpc_<py_name>` of the SAME method,
      cardinality `Grpc.mappingCardOf …` = the cardinality that helper passes to `channel.request`
      (`src_mapping_row`, `src_cardinalities_agree`), request / reply types;
    * the adapter reads one request (`recv_message`) or takes the stream iterator, and calls `self.<py_name>` of the
      same method, sending one response or handing over to `_call_rpc_handler_server_stream` (`src_rpc_adapter`);
    * the default body of EVERY Base method raises `GRPCError(Status.UNIMPLEMENTED)` as its first statement and, iff
      the RPC is server streaming, contains the unreachable `yield` that makes it an async generator
      (`src_default_unimplemented`).
  Trusted: BpProofs/PyPreludeTemplate.lean, Jinja's lexer / parser, the translator.
-/
namespace Bp.C11
open Bp Bp.Tpl Bp.Grpc

/-! ## one of each per RPC, in order -/

/-- the Stub class of a service: the class line, the comment (or `pass` when there is neither comment nor method),
    then one stub method per RPC in the order of `service.methods` -/
theorem src_stub_class (tc : TypingCompiler) (s : Service) :
    stubClass tc s
      = [Piece.lit "class ", Piece.expr "output_file.services[].py_name" s.py_name, Piece.lit "Stub(betterproto.ServiceStub):\n"]
        ++ (if s.comment ≠ [] then [Piece.expr "output_file.services[].comment" s.comment, Piece.lit "\n\n"]
            else if s.methods = [] then [Piece.lit "    pass\n"] else [])
        ++ s.methods.flatMap (stubMethod tc s.py_name) := by
  unfold stubClass passIfEmpty
  cases hc : s.comment <;> cases hm : s.methods <;> simp

/-- the Base class of a service: one default method per RPC, then one `__rpc_*` adapter per RPC, then the
    `__mapping__` with one row per RPC — all three in the order of `service.methods` -/
theorem src_base_class (tc : TypingCompiler) (s : Service) :
    baseClass tc s
      = [Piece.lit "class ", Piece.expr "output_file.services[].py_name" s.py_name, Piece.lit "Base(ServiceBase):\n"]
        ++ optComment "output_file.services[].comment" s.comment ++ [Piece.lit "\n"]
        ++ s.methods.flatMap (baseMethod tc) ++ [Piece.lit "\n"]
        ++ s.methods.flatMap rpcMethod ++ mappingHead tc ++ s.methods.flatMap mappingRow
        ++ [Piece.lit "        }\n\n"] := by
  simp only [baseClass, nl, List.append_eq, List.append_assoc]

/-- one Stub and one Base per service of the file, in order -/
theorem src_service_classes (c : OutputFile) :
    stubsBlock c = c.services.flatMap (stubClass c.typing_compiler) ∧
    basesBlock c = c.services.flatMap (baseClass c.typing_compiler) := ⟨rfl, rfl⟩

/-! ## the stub method body: the four-way choice -/

/-- the call a stub method makes, written with the model's `helperOf` -/
def stubCall (m : Method) : List Piece :=
  [Piece.lit ((if m.server_streaming then "        async for response in self." else "        return await self.")
     ++ helperOf m.client_streaming m.server_streaming ++ "(\n            \""),
   Piece.expr "output_file.services[].methods[].route" m.route, Piece.lit "\",\n            ",
   Piece.expr "output_file.services[].methods[].py_input_message_param" m.py_input_message_param]
  ++ (if m.client_streaming then
        [Piece.lit "_iterator,\n            ", Piece.expr "output_file.services[].methods[].py_input_message_type" m.py_input_message_type]
      else [])
  ++ [Piece.lit ",\n            ",
      Piece.expr "output_file.services[].methods[].py_output_message_type.strip('\"')" (Py.strStrip m.py_output_message_type "\"".toList),
      Piece.lit (",\n            timeout=timeout,\n            deadline=deadline,\n            metadata=metadata,\n        )"
        ++ (if m.server_streaming then ":\n            yield response\n" ++ (if m.client_streaming then "" else "\n")
            else "\n"))]

/-- **the stub body is that call**, for every method: helper by the two flags, route first, request (the
    `_iterator` parameter and the request type iff client streaming), response type, the three keyword arguments
    forwarded; `yield response` per response iff server streaming, `return await` otherwise -/
theorem src_stub_body (m : Method) : stubBody m = stubCall m := by
  unfold stubBody stubCall
  cases m.client_streaming <;> cases m.server_streaming <;> simp [helperOf, qt]

/-- the whole stub method: signature, docstring, deprecation warning, then that call -/
theorem src_stub_method (tc : TypingCompiler) (svc : Tpl.Str) (m : Method) :
    ∃ signature : List Piece, stubMethod tc svc m
      = signature ++ optComment "output_file.services[].methods[].comment" m.comment ++ stubDeprecation svc m ++ stubCall m
        ++ [Piece.lit "\n"] := by
  refine ⟨[Piece.lit "    async def ", Piece.expr "output_file.services[].methods[].py_name" m.py_name, Piece.lit "(self"]
    ++ stubParam tc m ++ stubKwargs tc ++ stubReturn tc m ++ [Piece.lit "\":\n"], ?_⟩
  rw [← src_stub_body]
  simp only [stubMethod, nl, List.append_eq, List.append_assoc]

/-! ## the `__mapping__` row and the adapter -/

/-- **the row of an RPC**: keyed by the same `method.route` the stub passes, bound to the `__rpc_*` adapter of the same
    python name, with the cardinality of the two flags and the request / reply classes -/
theorem src_mapping_row (m : Method) :
    mappingRow m
      = [Piece.lit "        \"", Piece.expr "output_file.services[].methods[].route" m.route,
         Piece.lit "\": grpclib.const.Handler(\n            self.__rpc_", Piece.expr "output_file.services[].methods[].py_name" m.py_name,
         Piece.lit ",\n",
         Piece.lit ("            grpclib.const.Cardinality." ++ mappingCardOf m.client_streaming m.server_streaming ++ ",\n"),
         Piece.lit "            ", Piece.expr "output_file.services[].methods[].py_input_message_type" m.py_input_message_type,
         Piece.lit ",\n            ", Piece.expr "output_file.services[].methods[].py_output_message_type" m.py_output_message_type,
         Piece.lit ",\n        ),\n"] := by
  unfold mappingRow cardinality
  cases m.client_streaming <;> cases m.server_streaming <;> simp [mappingCardOf]

/-- the cardinality in the row is the model's, and it is the one the helper chosen by the stub passes to
    `channel.request` (grpclib_client.py, `Gen.helperCardinality`), forwarding the resolved keyword arguments -/
theorem src_cardinalities_agree (cs ss : Bool) :
    mappingCardOf cs ss = cardName (cardOf cs ss) ∧ lookup3 (helperOf cs ss) = some (mappingCardOf cs ss, true) := by
  cases cs <;> cases ss <;> decide

/-- **the adapter of an RPC**: `__rpc_<py_name>`; one request by `recv_message` or the stream's iterator; calls
    `self.<py_name>` — the default / overridden method of the SAME RPC — and sends its one response, or hands the
    async generator to `_call_rpc_handler_server_stream` -/
theorem src_rpc_adapter (m : Method) :
    rpcMethod m
      = [Piece.lit "    async def __rpc_", Piece.expr "output_file.services[].methods[].py_name" m.py_name,
         Piece.lit "(self, stream: \"grpclib.server.Stream[",
         Piece.expr "output_file.services[].methods[].py_input_message_type" m.py_input_message_type, Piece.lit ", ",
         Piece.expr "output_file.services[].methods[].py_output_message_type" m.py_output_message_type, Piece.lit "]\") -> None:\n"]
        ++ (if m.client_streaming then [Piece.lit "        request = stream.__aiter__()\n"]
            else [Piece.lit "        request = await stream.recv_message()\n"])
        ++ (if m.server_streaming then
              [Piece.lit "        await self._call_rpc_handler_server_stream(\n            self.",
               Piece.expr "output_file.services[].methods[].py_name" m.py_name,
               Piece.lit ",\n            stream,\n            request,\n        )\n"]
            else
              [Piece.lit "        response = await self.", Piece.expr "output_file.services[].methods[].py_name" m.py_name,
               Piece.lit "(request)\n        await stream.send_message(response)\n"])
        ++ [Piece.lit "\n"] := by
  unfold rpcMethod rpcRecv rpcSend nl
  cases m.client_streaming <;> cases m.server_streaming <;> simp

/-- **"a method not overridden answers UNIMPLEMENTED"**, for every method of every service: after the signature
    and the docstring the default body's first statement is the `raise`; the unreachable `yield <reply type>()`
    follows iff the RPC is server streaming (the default is then an async generator, which the adapter iterates) -/
theorem src_default_unimplemented (tc : TypingCompiler) (m : Method) :
    ∃ signature : List Piece, baseMethod tc m
      = signature ++ optComment "output_file.services[].methods[].comment" m.comment
        ++ [Piece.lit "        raise grpclib.GRPCError(grpclib.const.Status.UNIMPLEMENTED)\n"]
        ++ (if m.server_streaming then
              [Piece.lit "        yield ", Piece.expr "output_file.services[].methods[].py_output_message_type" m.py_output_message_type,
               Piece.lit "()\n"]
            else [])
        ++ [Piece.lit "\n"] := by
  refine ⟨[Piece.lit "    async def ", Piece.expr "output_file.services[].methods[].py_name" m.py_name, Piece.lit "(self"]
    ++ baseParam tc m ++ [Piece.lit ") -> "] ++ baseReturn tc m ++ [Piece.lit ":\n"], ?_⟩
  simp only [baseMethod, nl, raiseUnimplemented, unreachableYield, List.append_eq, List.append_assoc]

-- the 170 characters of the expected text, as a list, nest deeper than the default recursion depth
set_option maxRecDepth 20000 in
/-- non-vacuity: the rendered default of a server-streaming method -/
example :
    let m : Method := {
      py_name := "watch".toList, comment := [], route := "/p.S/Watch".toList, client_streaming := false,
      server_streaming := true, py_input_message_param := "req".toList, py_input_message_type := "In".toList,
      py_output_message_type := "Out".toList, proto_obj := { options := { deprecated := false } } }
    let tc : TypingCompiler := {
      optional := id, dict := fun a _ => a, union := fun a _ => a, iterable := id,
      async_iterable := id, async_iterator := fun t => "AsyncIterator[\"".toList ++ t ++ "\"]".toList,
      imports := [], import_lines := [] }
    String.ofList (text (baseMethod tc m))
      = "    async def watch(self, req: \"In\") -> AsyncIterator[\"Out\"]:\n        raise grpclib.GRPCError(grpclib.const.Status.UNIMPLEMENTED)\n        yield Out()\n\n" := by
  -- the literal is `String.ofList` of its characters: the character lists are compared, not the encoded strings
  show String.ofList _ = String.ofList _
  exact congrArg String.ofList (by decide +kernel)

end Bp.C11
