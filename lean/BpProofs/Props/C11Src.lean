import BpProofs.SrcTieGrpc
import BpProofs.Props.C11Call
/-
  C11, call protocol, tied to the SOURCE as regenerated on every run (harness/extract_srcgrpc.py →
  BpProofs/Gen/SrcGrpc.lean): the five client helpers + `_send_messages` of grpclib_client.py,
  `_call_rpc_handler_server_stream` of grpclib_server.py, and — rendered through the working tree's plugin +
  template.py.j2 for the probe service under all six option sets — the four stub methods, the four default Base
  methods, the four `__rpc_*` adapters and `__mapping__`.  Each translated definition IS the model definition the
  theorems of Props/C11Call.lean / Props/C11.lean are about; the end-to-end sentence is restated over the translated
  definitions only.  `channel.request(route, Cardinality.X, req_type, resp_type, **kwargs)` is part of the
  translated term: another Cardinality constant, another type argument, other kwargs break an equation below.

  Trusted: BpProofs/PyPreludeGrpc.lean (what the accepted Python constructs mean), the translator, the model of the
  grpclib stream (head of BpModel/GrpcCall.lean).
-/
namespace Bp.C11
open Bp Bp.Grpc Bp.GrpcCall Bp.SrcGrpc Bp.SrcTieGrpc Bp.Gen

variable {Req Resp α : Type}

/-- `ServiceStub.__resolve_request_kwargs` as written is `resolveKw` (the `kw_precedence` theorems are about it) -/
theorem src_resolve_request_kwargs (self : Kw α) (timeout deadline metadata : Option α) :
    SrcGrpc.resolve_request_kwargs self timeout deadline metadata = resolveKw self ⟨timeout, deadline, metadata⟩ := by
  simp only [SrcGrpc.resolve_request_kwargs, ite_isNone_eq_resolve]
  rfl

/-- … so, of the source: a per-call value wins, without one the stub default is used -/
theorem src_kw_precedence (self : Kw α) (timeout deadline metadata : Option α) :
    (SrcGrpc.resolve_request_kwargs self timeout deadline metadata).timeout
        = (if timeout.isSome then timeout else self.timeout)
    ∧ (SrcGrpc.resolve_request_kwargs self timeout deadline metadata).deadline
        = (if deadline.isSome then deadline else self.deadline)
    ∧ (SrcGrpc.resolve_request_kwargs self timeout deadline metadata).metadata
        = (if metadata.isSome then metadata else self.metadata) := by
  rw [src_resolve_request_kwargs]; exact kw_precedence self ⟨timeout, deadline, metadata⟩

/-- `_send_messages` as written — both branches of `isinstance(messages, AsyncIterable)` — sends every message
    of the source in order with `end=False`, then calls `stream.end()` -/
theorem src_send_messages (src : PyG.Source Req) : SrcGrpc.send_messages src = sendMessages src.items := by
  simp [SrcGrpc.send_messages, PyG.forEach, sendMessages, ← List.map_eq_flatMap]

/-- `_unary_unary` as written: `channel.request(route, UNARY_UNARY, type(request), response_type, **resolved)`,
    `send_message(request, end=True)`, `recv_message()`, leave, `assert`, `return` -/
theorem src_unary_unary (self : Kw α) (route : Str) (request : Req) (response_type : PyG.Ty)
    (timeout deadline metadata : Option α) :
    (SrcGrpc.unary_unary self route request response_type timeout deadline metadata).prog
        = unaryUnary route (resolveKw self ⟨timeout, deadline, metadata⟩) request
    ∧ (SrcGrpc.unary_unary self route request response_type timeout deadline metadata).opened.reqTy = .req
    ∧ (SrcGrpc.unary_unary self route request response_type timeout deadline metadata).opened.respTy = response_type := by
  rw [← src_resolve_request_kwargs]; exact ⟨rfl, rfl, rfl⟩

theorem src_unary_stream (self : Kw α) (route : Str) (request : Req) (response_type : PyG.Ty)
    (timeout deadline metadata : Option α) :
    (SrcGrpc.unary_stream self route request response_type timeout deadline metadata).prog
        = unaryStream route (resolveKw self ⟨timeout, deadline, metadata⟩) request
    ∧ (SrcGrpc.unary_stream self route request response_type timeout deadline metadata).opened.reqTy = .req
    ∧ (SrcGrpc.unary_stream self route request response_type timeout deadline metadata).opened.respTy = response_type := by
  rw [← src_resolve_request_kwargs]; exact ⟨rfl, rfl, rfl⟩

theorem src_stream_unary (self : Kw α) (route : Str) (src : PyG.Source Req) (request_type response_type : PyG.Ty)
    (timeout deadline metadata : Option α) :
    (SrcGrpc.stream_unary self route src request_type response_type timeout deadline metadata).prog
        = streamUnary route (resolveKw self ⟨timeout, deadline, metadata⟩) src.items
    ∧ (SrcGrpc.stream_unary self route src request_type response_type timeout deadline metadata).opened.reqTy = request_type
    ∧ (SrcGrpc.stream_unary self route src request_type response_type timeout deadline metadata).opened.respTy = response_type := by
  simp [SrcGrpc.stream_unary, PyG.asyncWith, PyG.Helper.prog, PyG.channelRequest, PyG.Cardinality.STREAM_UNARY,
    PyG.awaitInline, streamUnary, src_resolve_request_kwargs, src_send_messages]

theorem src_stream_stream (self : Kw α) (route : Str) (src : PyG.Source Req) (request_type response_type : PyG.Ty)
    (timeout deadline metadata : Option α) :
    (SrcGrpc.stream_stream self route src request_type response_type timeout deadline metadata).prog
        = streamStream route (resolveKw self ⟨timeout, deadline, metadata⟩) src.items
    ∧ (SrcGrpc.stream_stream self route src request_type response_type timeout deadline metadata).opened.reqTy = request_type
    ∧ (SrcGrpc.stream_stream self route src request_type response_type timeout deadline metadata).opened.respTy = response_type := by
  rw [← src_resolve_request_kwargs, streamStream, ← src_send_messages]; exact ⟨rfl, rfl, rfl⟩

/-- `ServiceBase._call_rpc_handler_server_stream` as written, followed by the adapter's return -/
theorem src_call_rpc_handler_server_stream (h : Handler Req Resp) (request : PyG.ReqArg Req) :
    SrcGrpc.call_rpc_handler_server_stream h request PyG.adapterReturn = callServerStream h request.isIter request.val := by
  rw [callServerStream, ← genLoop_send]; rfl

/-- the four rendered `__rpc_*` adapters are the model's server programs of the four cardinalities -/
theorem src_rpc_adapters (h : Handler Req Resp) :
    SrcGrpc.rpc_uu h = serverProg (rpcShape .unaryUnary) h
    ∧ SrcGrpc.rpc_us h = serverProg (rpcShape .unaryStream) h
    ∧ SrcGrpc.rpc_su h = serverProg (rpcShape .streamUnary) h
    ∧ SrcGrpc.rpc_ss h = serverProg (rpcShape .streamStream) h := by
  simp only [SrcGrpc.rpc_uu, SrcGrpc.rpc_us, SrcGrpc.rpc_su, SrcGrpc.rpc_ss, PyG.recvMessage, awaitHandler_eq,
    src_call_rpc_handler_server_stream]
  exact ⟨rfl, rfl, rfl, rfl⟩

/-- the four rendered default methods: `raise GRPCError(UNIMPLEMENTED)`, an async generator (the unreachable
    `yield`) exactly for the server-streaming ones -/
theorem src_default_methods :
    (SrcGrpc.base_uu : Handler Req Resp) = unimplementedHandler .unaryUnary
    ∧ (SrcGrpc.base_us : Handler Req Resp) = unimplementedHandler .unaryStream
    ∧ (SrcGrpc.base_su : Handler Req Resp) = unimplementedHandler .streamUnary
    ∧ (SrcGrpc.base_ss : Handler Req Resp) = unimplementedHandler .streamStream := ⟨rfl, rfl, rfl, rfl⟩

/-- the route of the probe's RPC `m`, by the model's `route` -/
def probeRoute (m : String) : Str := route probePackage.toList probeService.toList m.toList

theorem probe_routes :
    "/probe.v1.ProbeSvc/UnaryUnary".toList = probeRoute "UnaryUnary"
    ∧ "/probe.v1.ProbeSvc/UnaryStream".toList = probeRoute "UnaryStream"
    ∧ "/probe.v1.ProbeSvc/StreamUnary".toList = probeRoute "StreamUnary"
    ∧ "/probe.v1.ProbeSvc/StreamStream".toList = probeRoute "StreamStream" := by
  refine ⟨?_, ?_, ?_, ?_⟩ <;> apply toList_eq_route <;> rfl

/-- the rendered stub method of the unary-unary RPC: it calls the helper of its cardinality (`helperProg`) with the
    route of its RPC, its own request argument, the reply class, and the caller's three keywords -/
theorem src_stub_uu (self : Kw α) (req : Req) (t d m : Option α) :
    (SrcGrpc.stub_uu self req t d m).prog
        = helperProg .unaryUnary (probeRoute "UnaryUnary") (resolveKw self ⟨t, d, m⟩) [req]
    ∧ ((SrcGrpc.stub_uu self req t d m).opened.reqTy, (SrcGrpc.stub_uu self req t d m).opened.respTy) = (.req, .resp) := by
  simp only [SrcGrpc.stub_uu, PyG.returnAwait, src_unary_unary, helperProg, probe_routes.1]; simp

theorem src_stub_us (self : Kw α) (req : Req) (t d m : Option α) :
    (SrcGrpc.stub_us self req t d m).prog
        = helperProg .unaryStream (probeRoute "UnaryStream") (resolveKw self ⟨t, d, m⟩) [req]
    ∧ ((SrcGrpc.stub_us self req t d m).opened.reqTy, (SrcGrpc.stub_us self req t d m).opened.respTy) = (.req, .resp) := by
  simp only [SrcGrpc.stub_us, PyG.asyncForYield, src_unary_stream, helperProg, probe_routes.2.1]; simp

theorem src_stub_su (self : Kw α) (src : PyG.Source Req) (t d m : Option α) :
    (SrcGrpc.stub_su self src t d m).prog
        = helperProg .streamUnary (probeRoute "StreamUnary") (resolveKw self ⟨t, d, m⟩) src.items
    ∧ ((SrcGrpc.stub_su self src t d m).opened.reqTy, (SrcGrpc.stub_su self src t d m).opened.respTy) = (.req, .resp) := by
  simp only [SrcGrpc.stub_su, PyG.returnAwait, src_stream_unary, helperProg, probe_routes.2.2.1]; simp

theorem src_stub_ss (self : Kw α) (src : PyG.Source Req) (t d m : Option α) :
    (SrcGrpc.stub_ss self src t d m).prog
        = helperProg .streamStream (probeRoute "StreamStream") (resolveKw self ⟨t, d, m⟩) src.items
    ∧ ((SrcGrpc.stub_ss self src t d m).opened.reqTy, (SrcGrpc.stub_ss self src t d m).opened.respTy) = (.req, .resp) := by
  simp only [SrcGrpc.stub_ss, PyG.asyncForYield, src_stream_stream, helperProg, probe_routes.2.2.2]; simp

/-- the rendered `__mapping__`: one entry per RPC, keyed by the route the stub method of the same RPC sends, bound
    to the adapter of the same position, with the Cardinality of the helper that stub method calls and the request /
    reply classes the stub passes -/
theorem src_mapping :
    SrcGrpc.mapping =
      [(probeRoute "UnaryUnary", 0, .unaryUnary, .req, .resp), (probeRoute "UnaryStream", 1, .unaryStream, .req, .resp),
       (probeRoute "StreamUnary", 2, .streamUnary, .req, .resp), (probeRoute "StreamStream", 3, .streamStream, .req, .resp)] := by
  simp only [SrcGrpc.mapping, probe_routes]
  rfl

/-- the call of the probe's RPC of each cardinality AS WRITTEN: the translated stub method (which calls the
    translated helper, which calls the translated `__resolve_request_kwargs` / `_send_messages`) against the
    translated `__rpc_*` adapter (which calls the translated `_call_rpc_handler_server_stream`) bound to `h` -/
def srcCall (card : Card) (self : Kw α) (h : Handler Req Resp) (src : PyG.Source Req) (t d m : Option α) :
    Outcome Req Resp :=
  match card, src.items with
  | .unaryUnary, r :: _ => callProg (SrcGrpc.stub_uu self r t d m).prog (SrcGrpc.rpc_uu h)
  | .unaryStream, r :: _ => callProg (SrcGrpc.stub_us self r t d m).prog (SrcGrpc.rpc_us h)
  | .streamUnary, _ => callProg (SrcGrpc.stub_su self src t d m).prog (SrcGrpc.rpc_su h)
  | .streamStream, _ => callProg (SrcGrpc.stub_ss self src t d m).prog (SrcGrpc.rpc_ss h)
  | _, [] => ⟨0, [], false, [], .hang⟩

/-- it is the model's `call`, whatever the stub defaults, the per-call keywords and the kind of source -/
theorem src_call_is_call (card : Card) (self : Kw α) (h : Handler Req Resp) (src : PyG.Source Req) (t d m : Option α)
    (hr : reqsFit card src.items = true) : srcCall card self h src t d m = call card h src.items := by
  obtain ⟨a1, a2, a3, a4⟩ := src_rpc_adapters h
  obtain ⟨b, items⟩ := src
  -- each closing `rfl`: the run looks at neither the route nor the keywords of the client program
  cases card with
  | unaryUnary => match items, hr with | [r], _ => simp only [srcCall, (src_stub_uu self r t d m).1, a1]; rfl
  | unaryStream => match items, hr with | [r], _ => simp only [srcCall, (src_stub_us self r t d m).1, a2]; rfl
  | streamUnary => simp only [srcCall, (src_stub_su self _ t d m).1, a3]; rfl
  | streamStream => simp only [srcCall, (src_stub_ss self _ t d m).1, a4]; rfl

/-- **the sentence over the code as written**, every cardinality, every request list, every handler of the declared
    kind, every combination of stub-level and per-call keywords, both kinds of request source: the translated stub
    method against the translated adapter starts the handler's body exactly once, gives it the sent request(s),
    and the caller gets exactly its responses in order and its return value / its GRPCError -/
theorem src_call_delivers (card : Card) (self : Kw α) (h : Handler Req Resp) (src : PyG.Source Req) (t d m : Option α)
    (hk : h.isGen = ssOf card) (hr : reqsFit card src.items = true) :
    srcCall card self h src t d m =
      { calls := 1,
        hIn := if csOf card then (handlerRun card h src.items).given else [src.items.head?],
        served := true,
        yielded := if ssOf card then (handlerRun card h src.items).yields else [],
        result := if ssOf card then genResult (handlerRun card h src.items).fin
                  else coroResult (handlerRun card h src.items).fin } := by
  rw [src_call_is_call card self h src t d m hr, call_delivers card h src.items hk hr]

/-- the translated default method of each cardinality -/
def srcBase (card : Card) : Handler Req Resp :=
  match card with
  | .unaryUnary => SrcGrpc.base_uu
  | .unaryStream => SrcGrpc.base_us
  | .streamUnary => SrcGrpc.base_su
  | .streamStream => SrcGrpc.base_ss

/-- **"a method not overridden answers UNIMPLEMENTED"** over the code as written: the translated stub method
    against the translated adapter bound to the translated DEFAULT method — status 12, no response -/
theorem src_unimplemented_answers (card : Card) (self : Kw α) (src : PyG.Source Req) (t d m : Option α)
    (hr : reqsFit card src.items = true) :
    (srcCall (Resp := Resp) card self (srcBase card) src t d m).result = .grpcError ⟨12, none⟩
    ∧ (srcCall (Resp := Resp) card self (srcBase card) src t d m).yielded = [] := by
  have hb : (srcBase card : Handler Req Resp) = unimplementedHandler card := by cases card <;> rfl
  obtain ⟨h1, h2, _⟩ := unimplemented_answers (Resp := Resp) card src.items hr
  rw [hb, src_call_is_call card self _ src t d m hr]
  exact ⟨h1, h2⟩

/-- **"per-call timeout / deadline / metadata take precedence"** where it matters: the keywords the translated stub
    method hands to `channel.request` -/
theorem src_channel_request_kwargs (self : Kw α) (req : Req) (src : PyG.Source Req) (t d m : Option α) :
    (SrcGrpc.stub_uu self req t d m).opened.kw = resolveKw self ⟨t, d, m⟩
    ∧ (SrcGrpc.stub_us self req t d m).opened.kw = resolveKw self ⟨t, d, m⟩
    ∧ (SrcGrpc.stub_su self src t d m).opened.kw = resolveKw self ⟨t, d, m⟩
    ∧ (SrcGrpc.stub_ss self src t d m).opened.kw = resolveKw self ⟨t, d, m⟩ := by
  -- `h.opened.kw` is `h.prog.kw`, and the program is the helper's
  exact ⟨congrArg ClientProg.kw (src_stub_uu self req t d m).1, congrArg ClientProg.kw (src_stub_us self req t d m).1,
    congrArg ClientProg.kw (src_stub_su self src t d m).1, congrArg ClientProg.kw (src_stub_ss self src t d m).1⟩

/-! ### non-vacuity -/

example : srcCall (α := Nat) .streamStream ⟨some 1, none, none⟩
      ⟨true, fun _ => .recv fun a => .yield (a.getD 0 + 1) (.recv fun _ => .ret none)⟩ ⟨true, [5]⟩ none (some 2) none
    = ⟨1, [some 5, none], true, [6], .returned none⟩ := by decide +kernel
example : (SrcGrpc.stub_uu (α := Nat) ⟨some 1, some 2, none⟩ (7 : Nat) none (some 3) none).opened.kw
    = ⟨some 1, some 3, none⟩ := by decide +kernel

end Bp.C11
