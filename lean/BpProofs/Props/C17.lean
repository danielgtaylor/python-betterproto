import BpModel.All
import BpProofs.Load
import BpProofs.Typed
/-
  C17 — malformed or truncated input is rejected or isolated, never mis-decoded.
  (Model of the decoder after the D09/D11/D21 repairs.)
-/
namespace Bp.C17
open Bp Gen

/-- **decoding terminates** on every byte string: `parse` is a total function by
    construction (structural recursion on explicit fuel); the framing loop never runs
    out of the fuel it is given (`bs.length + 1`): any larger fuel gives the same result -/
theorem framing_fuel_adequate (f g : Nat) (bs : Bytes) (hf : bs.length < f) (hg : bs.length < g) :
    loadFieldsFuel f bs = loadFieldsFuel g bs := loadFieldsFuel_fuel f g bs hf hg

/-- whatever the framing accepts is a sequence of well-formed records that covers the
    input exactly: positive field numbers, wire types 0/1/2/5 only, fixed payloads of
    exactly 8 / 4 bytes, length-delimited payloads of exactly the announced length -/
theorem accepted_is_wellformed (bs : Bytes) (pfs : List PField) (h : loadFields bs = .ok pfs) :
    joinRaw pfs = bs ∧ AllFieldsOk pfs := loadFields_raw bs pfs h

/-- **a proper prefix that cuts a field in the middle is rejected** (and a prefix that
    ends at a field boundary is the message consisting of the fields before it): for
    every accepted input and every cut point -/
theorem prefix_classification (bs : Bytes) (pfs : List PField) (h : loadFields bs = .ok pfs) (n : Nat)
    (hn : n ≤ bs.length) :
    (∃ j, n = (joinRaw (pfs.take j)).length ∧ loadFields (bs.take n) = .ok (pfs.take j))
    ∨ loadFields (bs.take n) = .error .eof := loadFields_trunc bs pfs h n hn

theorem midfield_prefix_rejected (S : Schema) (m : Val) (bs : Bytes) (pfs : List PField)
    (h : loadFields bs = .ok pfs) (n : Nat) (hn : n ≤ bs.length)
    (hmid : ∀ j, n ≠ (joinRaw (pfs.take j)).length) :
    ∃ e, parseInto S m (bs.take n) = .error e := by
  rcases loadFields_trunc bs pfs h n hn with ⟨j, hj, _⟩ | herr
  · exact absurd hj (hmid j)
  · exact parseInto_fields_err S m _ _ herr

/-- **field number 0 and wire types 3, 4, 6, 7 are rejected** wherever the tag stands -/
theorem invalid_tag_rejected (bs : Bytes) (nw k : Nat) (h : loadVarint bs = .ok (nw, k))
    (hbad : nw / 8 = 0 ∨ nw % 8 = 3 ∨ nw % 8 = 4 ∨ nw % 8 = 6 ∨ nw % 8 = 7) :
    loadField bs = .error .value := by
  unfold loadField
  rw [h]
  dsimp only
  by_cases h0 : nw / 8 = 0
  · simp [h0]
  · have hw := hbad.resolve_left h0
    have e0 : (nw / 8 == 0) = false := by simpa using h0
    simp only [e0, Bool.false_eq_true, if_false]
    have : loadPayload (nw % 8) (bs.drop k) = .error .value := by
      unfold loadPayload
      rcases hw with h | h | h | h <;> rw [h] <;> rfl
    rw [this]

theorem invalid_tag_rejected_anywhere (S : Schema) (m : Val) (pfs : List PField) (hp : ∀ pf ∈ pfs, Parsed pf)
    (bs : Bytes) (nw k : Nat) (h : loadVarint bs = .ok (nw, k))
    (hbad : nw / 8 = 0 ∨ nw % 8 = 3 ∨ nw % 8 = 4 ∨ nw % 8 = 6 ∨ nw % 8 = 7) :
    ∃ e, parseInto S m (joinRaw pfs ++ bs) = .error e := by
  have hne : bs ≠ [] := by
    intro hc; subst hc; exact loadVarint_nil_ne_ok _ _ h
  have hb := invalid_tag_rejected bs nw k h hbad
  have : loadFields (joinRaw pfs ++ bs) = .error .value := by
    rw [loadFields_append pfs hp, loadFields_cons_err bs _ hne hb]; rfl
  exact parseInto_fields_err S m _ _ this

/-- **a known field number with a wire type that does not fit the declared type is kept
    as an unknown field**: the only effect of such a record on the message is that its
    raw bytes are appended to the unknown fields — no field value, no oneof selection,
    no presence flag changes (proto2 groups never get this far: wire types 3/4 are
    rejected by `invalid_tag_rejected`) -/
theorem mismatch_is_unknown (S : Schema) (rec : Loader) (d : MsgD) (st : MState) (pf : PField)
    (idx : Nat) (f : FieldD) (hidx : findField d.fields pf.num = some idx) (hf : d.fields[idx]? = some f)
    (hmis : wireFits f pf.wt = false) :
    applyField S rec d st pf = .ok { st with unknown := st.unknown ++ pf.raw } := by
  apply applyField_unknown
  unfold isUnknownField
  simp [hidx, hf, hmis]

/-- what "fits" means, row by row of the regenerated `WIRE_TYPE_BY_PROTO_TYPE` table:
    a type's own wire type, plus LEN for repeated packable scalars -/
theorem wireFits_table :
    ∀ t ∈ PType.all, ∀ rep : Bool, ∀ wt ∈ [0, 1, 2, 5],
      wireFits { num := 1, ty := t, repeated := rep } wt
        = (wireOf t == some wt || (wt == 2 && isPacked t && rep)) :=
  fun _ _ _ wt _ => wireFits_eq _ wt

/-! non-vacuity / the repaired D09 witnesses, evaluated on the model -/
def T : Schema := [{ fields := [{ name := "i", num := 2, ty := .int32 }, { name := "b", num := 5, ty := .bytes }] }]
example : (parse T 0 [0x2a, 0x05, 0x68, 0x65]).isOk = false := by decide +kernel            -- b'hello' cut after 'he'
example : (parse T 0 [0x00, 0x01]).isOk = false := by decide +kernel                        -- field number 0
example : (parse T 0 [0x13, 0x10, 0x05, 0x14]).isOk = false := by decide +kernel            -- a proto2 group
example : (parse T 0 [0x10, 0x05, 0x80]).isOk = false := by decide +kernel                  -- tag cut inside its varint
example : (parse T 0 [0x12, 0x02, 0x01, 0x02]).bind (dumpVal T) = .ok [0x12, 0x02, 0x01, 0x02] := by decide +kernel  -- LEN on a singular int32: kept as unknown
example : (parse T 0 [0x28, 0x07]).bind (dumpVal T) = .ok [0x28, 0x07] := by decide +kernel   -- varint on a bytes field: kept as unknown

/-! ### "… or returns a message in which every field holds a value of its declared Python
    type and which can be encoded again"

  Definitions (all Bool-valued, kernel-evaluable): BpModel/Typed.lean — `slotTypedB`,
  `msgTypedB`, `wfSchemaTB`.  `PyTyped S f v` / `MsgTyped S m` are the *Python type* reading
  (`int` for every integer and enum type whatever its magnitude, `bool`, `float`, valid-UTF-8
  `str`, `bytes`, `datetime`, `timedelta`, the wrapped scalar or `None` for wrapper fields,
  an instance of the declared class with typed slots, `list` / `dict` of these; PLACEHOLDER
  anywhere, `None` only where the dataclass default is `None`); `MsgEnc S m` adds that every
  leaf lies in the encoder's domain.  Proofs: BpProofs/Typed.lean (induction on the fuel of
  `loadInto` with the fold-state invariant `StTyped`; the encoder is total on `MsgEnc`).

  `WfSchemaT S` is a condition on the schema only (`wfFieldB`): a repeated field is not
  `optional`; a plain message field / message-valued map names an existing class; a
  wrapper wraps a scalar type; map keys are scalars and map values are not maps.  The
  plugin cannot emit anything else (proto3 `optional` is singular; `wraps` comes from the
  wrapper table; protoc restricts map key / value types; a dangling class reference does
  not import). -/

/-- **C17, "returns a message in which every field holds a value of its declared Python
    type"**: for every input — any list of numbers, bytes or not — whatever `parse` returns
    is a typed message: its class exists, it has one slot per field and one selection cell
    per oneof group, every slot is `PyTyped` (`msgTyped_iff`), recursively -/
theorem ok_welltyped (S : Schema) (hS : WfSchemaT S) (c : Nat) (bs : Bytes) (m : Val)
    (h : parse S c bs = .ok m) : MsgTyped S m := parse_msgTyped S hS c bs m h

/-- the same with every leaf in the encoder's domain, for an input made of bytes
    (`WfBytes bs`: every element < 256 — the model's `Bytes` are `List Nat`) -/
theorem ok_encodable (S : Schema) (hS : WfSchemaT S) (c : Nat) (bs : Bytes) (hb : WfBytes bs) (m : Val)
    (h : parse S c bs = .ok m) : MsgEnc S m := parse_msgEnc S hS c bs m hb h

/-- **C17, "and which can be encoded again"**: for every byte string, whatever `parse`
    returns is accepted by the encoder.  (The hypothesis `WfBytes bs` only excludes lists
    that are not byte strings; see `reencode_needs_bytes` below.) -/
theorem ok_reencodes (S : Schema) (hS : WfSchemaT S) (c : Nat) (bs : Bytes) (hb : WfBytes bs) (m : Val)
    (h : parse S c bs = .ok m) : ∃ bs', dumpVal S m = .ok bs' := parse_reencodes S hS c bs m hb h

/-- every typed message of the encoder's domain can be encoded, decoded or not -/
theorem encodable_dumps (S : Schema) (hS : WfSchemaT S) (m : Val) (h : MsgEnc S m) :
    ∃ bs', dumpVal S m = .ok bs' := dumpVal_total S hS m h

/-- the encoder's domain is part of the Python typing -/
theorem encodable_typed (S : Schema) (m : Val) (h : MsgEnc S m) : MsgTyped S m := msgTyped_weaken S m h

/-! non-vacuity: nested / repeated / map / oneof / wrapper / Timestamp / optional fields -/
def X : Schema := [
  { fields := [
      { name := "i", num := 1, ty := .int32 },
      { name := "sub", num := 2, ty := .message, kind := .user 1 },
      { name := "subs", num := 3, ty := .message, kind := .user 1, repeated := true },
      { name := "m", num := 4, ty := .map, mapK := .string, mapV := .message, mapVKind := .user 1 },
      { name := "a", num := 5, ty := .string, group := some 0 },
      { name := "b", num := 6, ty := .message, kind := .user 1, group := some 0 },
      { name := "w", num := 7, ty := .message, kind := .user 0, wraps := some .int32 },
      { name := "t", num := 8, ty := .message, kind := .timestamp },
      { name := "fl", num := 9, ty := .float, repeated := true },
      { name := "o", num := 10, ty := .uint32, optional := true } ], nGroups := 1 },
  { fields := [
      { name := "x", num := 1, ty := .sint64 },
      { name := "s", num := 2, ty := .string, repeated := true },
      { name := "self", num := 3, ty := .message, kind := .user 1, optional := true } ] } ]

example : WfSchemaT X := by decide +kernel

/-- i = 150; sub = {x = -2}; subs = [{}, {s = ["hi"]}]; m = {"k": {x = -1}}; b = {} (oneof);
    w = 7; t = 1 s past the epoch; fl = [1.0] (packed); o = 2^34 - 1 (a 34-bit varint on a
    `uint32` field: the decoder does not truncate, the Python type is still `int`) -/
def accepted : Bytes :=
  [0x08, 0x96, 0x01,  0x12, 0x02, 0x08, 0x03,  0x1a, 0x00,  0x1a, 0x04, 0x12, 0x02, 0x68, 0x69,
   0x22, 0x07, 0x0a, 0x01, 0x6b, 0x12, 0x02, 0x08, 0x01,  0x32, 0x00,  0x3a, 0x02, 0x08, 0x07,
   0x42, 0x02, 0x08, 0x01,  0x4a, 0x04, 0x00, 0x00, 0x80, 0x3f,  0x50, 0xff, 0xff, 0xff, 0xff, 0x3f]

example : WfBytes accepted := by decide +kernel
example : (parse X 0 accepted).isOk = true := by decide +kernel
example : ((parse X 0 accepted).bind fun m => .ok (msgTypedB false X m, msgTypedB true X m)) = .ok (true, true) := by
  decide +kernel
example : (parse X 0 accepted).bind (dumpVal X) = .ok accepted := by decide +kernel

/-- the `uint32` slot holds 34 bits -/
example : ((parse X 0 [0x50, 0xff, 0xff, 0xff, 0xff, 0x3f]).bind fun m =>
    match m with
    | .msg _ sl _ _ _ => (match sl.getD 9 .ph with | .int i => .ok i | _ => .error .type)
    | _ => .error .type) = .ok 17179869183 := by decide +kernel

/-- the typing is not trivial: a `str` in an `int32` slot, a bare element in a repeated
    slot, an instance of the wrong class are rejected -/
example : slotTypedB false X { num := 1, ty := .int32 } (.str []) = false := by decide +kernel
example : slotTypedB false X { num := 9, ty := .float, repeated := true } (.f32 0) = false := by decide +kernel
example : slotTypedB false X { num := 2, ty := .message, kind := .user 1 } (fresh X 0) = false := by decide +kernel
example : slotTypedB false X { num := 2, ty := .message, kind := .user 1 } (fresh X 1) = true := by decide +kernel

/-- why `ok_reencodes` asks for a *byte* string: a list with an element ≥ 256 is decoded
    to a float32 pattern of more than 32 bits, which `struct.pack` (the model's `packFixed`)
    rejects.  An artefact of modelling bytes as `List Nat`, not a behaviour of the code:
    no such input exists in Python.  The result is still `MsgTyped`. -/
theorem reencode_needs_bytes :
    (parse X 0 [0x4d, 4294967296, 0, 0, 0]).isOk = true
    ∧ (parse X 0 [0x4d, 4294967296, 0, 0, 0]).bind (dumpVal X) = .error .struct := by decide +kernel

end Bp.C17
