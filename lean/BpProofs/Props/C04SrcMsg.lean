import BpProofs.SrcTieJsonMsg
import BpProofs.SrcTieJsonMsgTyped
import BpProofs.SrcTieJsonMsgLoad
import BpProofs.Props.C04
/-
  C04 (JSON / dict round trip), tied to the SOURCE, WHOLE METHODS: `Message.to_dict`, `_from_dict_init`,
  both forms of `from_dict`, `to_json` and `from_json` are translated from the Python AST on every run —
  everything AROUND the loop bodies by harness/extract_srcjsonmsg.py → BpProofs/Gen/SrcJsonMsg.lean, the loop
  bodies themselves by extract_srcjson.py / extract_srcfromdict.py (Props/C04Src.lean, C04SrcFromDict.lean) —
  and the RECURSION into sub-messages (a nested message field, the items of a repeated message field, message
  map values) is the translated method itself, one nesting level down (`Src.value_to_dict`, `Src.class_from_dict`:
  a fixed template with a budget on the nesting depth).  The theorems here prove them equal to the model's
  `toDict`, `fromDictC`, `fromDictI` for every nesting depth, by induction on the budget from the one-level lemmas
  of BpProofs/SrcTieJsonMsg.lean and SrcTieJsonMsgLoad.lean; `src_json_roundtrip` restates C04's sentence of the
  source functions only.

  Reading.  `Src.value_to_dict S E d cs incl m` is `m.to_dict(casing, include_default_values)` as written, with
  nesting budget `d` (`.diverge` when it runs out); `Src.value_to_json S E d m indent incl cs` is `m.to_json(…)`;
  `Src.class_from_dict S E d c j` is `Cls.from_dict(j)`, `Src.value_from_dict S E d m j` is `m.from_dict(j)`,
  `Src.value_from_json S E d m text` is `m.from_json(text)`.  A JSON text is abstract (`JText`: the object it was
  dumped from; `json.loads` of it is the model's `jsonText`), as in the model.  `forget` forgets WHICH exception
  is raised (as in Props/C04SrcFromDict.lean).

  Guards (decidable, BpProofs/SrcTieJsonMsg*.lean): `vOkAt S k m` — at every nesting level of the value one raw
  slot per field and the value guard `dynOkJ` of the per-field tie, at most `k` nested levels of Message
  instances; `jOkAt S k j` — at every nesting level of the JSON-side value the guard `dictOk` of the per-level
  reader tie (dict values well-formed, no two keys that denote the same field), for every class, at most `k`
  levels.  The budgets are universally quantified: any budget above the depth of the value works.
-/
namespace Bp.C04
open Bp Bp.Py Bp.SrcTieJson Bp.SrcTieFromDict Bp.SrcTieJsonMsg Bp.SrcTieJsonMsgLoad

/-- **`m.to_dict(casing, include_default_values)` as written — the whole method, sub-messages nested to any
    depth — is the model's `toDict`**: for both casings, every `include_default_values` inside the default
    guard, every value inside the value guard at every level, and every nesting budget above its depth -/
theorem src_to_dict (S : Schema) (E : Enums) (cs : KeyCase) (incl : Bool) (hW : WfSchemaOpt S)
    (hD : ∀ c, ∀ f ∈ fieldsOf S c, DefaultOkJ S E cs incl f) (hK : ∀ c, KeysInj cs (fieldsOf S c))
    (k : Nat) (m : Val) (h : vOkAt S k m = true) :
    Src.value_to_dict S E (k + 1) cs incl m = .ok (toDict S E cs incl m) := by
  induction k generalizing m with
  | zero => simp [vOkAt] at h
  | succ k ih =>
    cases m with
    | msg c sl ow unk cur =>
      simp only [vOkAt, Bool.and_eq_true, beq_iff_eq, List.all_eq_true] at h
      obtain ⟨hlen, hall⟩ := h
      have hpair : ∀ (j : Nat) (f : FieldD) (v : Val), (fieldsOf S c)[j]? = some f → sl[j]? = some v →
          (f, v) ∈ (fieldsOf S c).zip sl := by
        intro j f v hf hv
        exact List.mem_of_getElem? (List.getElem?_zip_eq_some.mpr ⟨hf, hv⟩)
      refine value_to_dict_step S E cs incl (k + 1) c sl ow unk cur hlen (hK c)
        (slotsTieOk_of S E cs incl _ cur (hD c) sl 0 (fun j f v hf hv =>
          (hall (f, v) (hpair j f v (by simpa using hf) hv)).1)) ?_
      intro i f w hf hw x hx hm _
      by_cases hrd : readsDefault (hidden f i cur) w = true
      · rw [if_pos hrd] at hx
        obtain ⟨c', hk, _, _, hx'⟩ := subs_default S f x hx
        obtain ⟨hi, _⟩ := (hD c f (List.mem_of_getElem? hf)).2 c' hk
        subst hi hx'
        simp only [encAt, value_to_dict_fresh S E cs hW hD hK k c', JsonMsg.toJ]
      · rw [if_neg hrd] at hx
        have hv := (hall (f, w) (hpair i f w hf hw)).2 x hx
        simp only [hm, Bool.not_true, Bool.false_or] at hv
        simp only [encAt, ih x hv, JsonMsg.toJ]
    | _ => simp [vOkAt] at h

/-- … in particular for every schema inside C04's guard `jsonOk`, without `include_default_values` -/
theorem src_to_dict_schema (S : Schema) (E : Enums) (cs : KeyCase) (hS : jsonOk S E cs = true) (k : Nat) (m : Val)
    (h : vOkAt S k m = true) :
    Src.value_to_dict S E (k + 1) cs false m = .ok (toDict S E cs false m) := by
  obtain ⟨hW, hD, hK⟩ := guards_of_jsonOk S E cs hS
  exact src_to_dict S E cs false hW hD hK k m h

/-- **the class form `Cls.from_dict(j)` as written — `_from_dict_init` with its key loop, the nested
    `sub_cls.from_dict(item)` calls to any depth, `cls(**…)`, `_serialized_on_wire = True` — is the model's
    `fromDictC`**, raising exactly when it raises -/
theorem src_from_dict_cls_whole (S : Schema) (E : Enums) (k c : Nat) (j : JVal) (h : jOkAt S k j = true) :
    forget (Src.class_from_dict S E k c j) = forget (ofR (fromDictC S E c j)) := by
  induction k generalizing c j with
  | zero => simp [jOkAt] at h
  | succ k ih =>
    rw [Src.class_from_dict]
    exact from_dict_cls_eq S c _ _ (init_eq S E k c j h ih)

/-- **the instance form `m.from_dict(j)` as written is the model's `fromDictI`** on every message instance -/
theorem src_from_dict_inst_whole (S : Schema) (E : Enums) (k c : Nat) (sl : List Val) (ow : Bool) (unk : Bytes)
    (cur : List (Option Nat)) (j : JVal) (h : jOkAt S (k + 1) j = true) :
    forget (Src.value_from_dict S E k (.msg c sl ow unk cur) j) = forget (ofR (fromDictI S E (.msg c sl ow unk cur) j)) := by
  unfold Src.value_from_dict Src.json_from_dict_inst
  simp only [JsonMsg.onInstance]
  exact from_dict_inst_eq S c sl ow unk cur _ _ (init_eq S E k c j h (src_from_dict_cls_whole S E k))

/-- **`m.to_json(indent, include_default_values, casing)` as written is `json.dumps(…, indent=indent)` of the
    model's `toDict`** (TypeError exactly when that dict is not JSON serialisable) -/
theorem src_to_json (S : Schema) (E : Enums) (cs : KeyCase) (incl : Bool) (hW : WfSchemaOpt S)
    (hD : ∀ c, ∀ f ∈ fieldsOf S c, DefaultOkJ S E cs incl f) (hK : ∀ c, KeysInj cs (fieldsOf S c))
    (k : Nat) (m : Val) (indent : JsonMsg.Indent) (h : vOkAt S k m = true) :
    Src.value_to_json S E k m indent incl cs = JsonMsg.jsonDumps (toDict S E cs incl m) indent := by
  have hv := src_to_dict S E cs incl hW hD hK k m h
  cases m with
  | msg c sl ow unk cur =>
    rw [value_to_dict_msg] at hv
    unfold Src.value_to_json Src.json_to_json
    simp only [JsonMsg.onMessage]
    rw [show (fun c i x => JsonMsg.toJ x (Src.value_to_dict S E k c i x)) = encAt S E k from rfl, hv]
    simp only [Res.ok_bind]
    cases JsonMsg.jsonDumps (toDict S E cs incl (Val.msg c sl ow unk cur)) indent <;> rfl
  | _ => cases k <;> cases h

/-- **`m.from_json(text)` as written is the model's `fromDictI` of `json.loads(text)`** -/
theorem src_from_json (S : Schema) (E : Enums) (k c : Nat) (sl : List Val) (ow : Bool) (unk : Bytes)
    (cur : List (Option Nat)) (text : JsonMsg.JText) (h : ∀ j, JsonMsg.jsonLoads text = .ok j → jOkAt S (k + 1) j = true) :
    forget (Src.value_from_json S E k (.msg c sl ow unk cur) text)
      = forget ((JsonMsg.jsonLoads text).bind fun j => ofR (fromDictI S E (.msg c sl ow unk cur) j)) := by
  unfold Src.value_from_json Src.json_from_json
  simp only [JsonMsg.onInstance, Res.bind_ok]
  exact bind_sim _ _ _ fun j hl => src_from_dict_inst_whole S E k c sl ow unk cur j (h j hl)

/-- **C04's sentence, of the source functions only**: for every schema inside the guards, both casings and
    every well-typed message `m` (inside the guards of the ties at every level), `m.to_dict(casing)` AS WRITTEN
    returns a dict `d`, `m.to_json(indent, casing=casing)` AS WRITTEN returns a text, and `Cls.from_dict(d)`,
    `Cls().from_dict(d)` and `Cls().from_json(text)` AS WRITTEN all return one and the same message `m'`, which is
    equivalent to `m` and encodes to the same bytes — for every nesting budget above the depth of `m` / `d` -/
theorem src_json_roundtrip (S : Schema) (E : Enums) (cs : KeyCase) (c : Nat) (sl : List Val) (ow : Bool) (unk : Bytes)
    (cur : List (Option Nat)) (k kd : Nat) (indent : JsonMsg.Indent)
    (hjson : jsonOk S E cs = true) (hgroups : groupsOk S = true)
    (hwt : wellTyped' S (.msg c sl ow unk cur) = true) (hsel : selOk S (.msg c sl ow unk cur) = true)
    (hv : vOkAt S k (.msg c sl ow unk cur) = true)
    (hd : jOkAt S (kd + 1) (toDict S E cs false (.msg c sl ow unk cur)) = true) :
    ∃ d text m',
      Src.value_to_dict S E (k + 1) cs false (.msg c sl ow unk cur) = .ok d ∧
      Src.value_to_json S E k (.msg c sl ow unk cur) indent false cs = .ok text ∧
      Src.class_from_dict S E (kd + 1) c d = .ok m' ∧
      Src.value_from_dict S E kd (fresh S c) d = .ok m' ∧
      Src.value_from_json S E kd (fresh S c) text = .ok m' ∧
      DEqv S (.msg c sl ow unk cur) m' ∧ dumpVal S m' = dumpVal S (.msg c sl ow unk cur) := by
  obtain ⟨_, htxt, m', hc, hi, _, _, he, hb⟩ := roundtrip_all S E cs c sl ow unk cur hjson hgroups hwt hsel
  obtain ⟨hW, hD, hK⟩ := guards_of_jsonOk S E cs hjson
  have hdumps : JsonMsg.jsonDumps (toDict S E cs false (.msg c sl ow unk cur)) indent
      = .ok ⟨toDict S E cs false (.msg c sl ow unk cur)⟩ := by
    unfold JsonMsg.jsonDumps; rw [htxt]
  have hloads : JsonMsg.jsonLoads ⟨toDict S E cs false (.msg c sl ow unk cur)⟩
      = .ok (toDict S E cs false (.msg c sl ow unk cur)) := by
    unfold JsonMsg.jsonLoads; simp only [htxt]
  refine ⟨_, ⟨toDict S E cs false (.msg c sl ow unk cur)⟩, m', src_to_dict S E cs false hW hD hK k _ hv, ?_, ?_, ?_, ?_, he, hb⟩
  · rw [src_to_json S E cs false hW hD hK k _ indent hv, hdumps]
  · apply forget_eq_ok
    rw [src_from_dict_cls_whole S E (kd + 1) c _ hd, hc]; rfl
  · apply forget_eq_ok
    have hi' := hi
    unfold fresh at hi' ⊢
    rw [src_from_dict_inst_whole S E kd c _ _ _ _ _ hd, hi']; rfl
  · apply forget_eq_ok
    have hi' := hi
    unfold fresh at hi' ⊢
    rw [src_from_json S E kd c _ _ _ _ _ (fun j hj => by rw [hloads] at hj; injection hj with hj; subst hj; exact hd),
      hloads, Res.ok_bind, hi']; rfl

/-- the value guard `vOkAt` of the writer tie holds of every message that is typed (`wellTyped'`, C04's judgement),
    whose dicts have pairwise distinct keys at every level and whose Message instances nest at most `k` levels
    deep (`kOkAt k m`, decidable: what a Python dict is, plus the depth bound) -/
theorem src_value_guard_of_typed (S : Schema) (k : Nat) (m : Val) (hwt : wellTyped' S m = true) (hk : kOkAt k m = true) :
    vOkAt S k m = true := by
  induction k generalizing m with
  | zero => simp [kOkAt] at hk
  | succ k ih =>
    cases m with
    | msg c sl ow unk cur =>
      rw [wellTyped'] at hwt
      simp only [Bool.and_eq_true, beq_iff_eq] at hwt
      obtain ⟨⟨⟨_, hlen⟩, _⟩, hsl⟩ := hwt
      simp only [kOkAt, List.all_eq_true, Bool.and_eq_true, Bool.or_eq_true, Bool.not_eq_true'] at hk
      simp only [vOkAt, Bool.and_eq_true, beq_iff_eq, List.all_eq_true, Bool.or_eq_true, Bool.not_eq_true']
      refine ⟨hlen.symm, fun p hp => ?_⟩
      obtain ⟨j, hj⟩ := List.mem_iff_getElem?.mp hp
      obtain ⟨hf, hv⟩ := List.getElem?_zip_eq_some.mp (show ((fieldsOf S c).zip sl)[j]? = some (p.1, p.2) from hj)
      have hslot := slotsOk'_get S _ cur sl 0 hsl j p.1 p.2 (by simpa using hf) hv
      simp only [Nat.zero_add] at hslot
      obtain ⟨hkd, hsub⟩ := hk p.2 (List.mem_of_getElem? hv)
      refine ⟨dynOkJ_of_slotOk' S p.1 _ _ p.2 hslot hkd, fun x hx => ?_⟩
      cases hm : isMsgVal x with
      | false => exact Or.inl rfl
      | true =>
        refine Or.inr (ih x (subs_typed S p.1 _ _ p.2 hslot x hx hm) ?_)
        rcases hsub x hx with h | h
        · rw [hm] at h; cases h
        · exact h
    | _ => simp [kOkAt] at hk

/-- `src_json_roundtrip` with the value guard discharged by the typing judgement: what is left besides C04's own
    hypotheses is the Python-dict invariant + depth bound `kOkAt` on `m` and the reader guard `jOkAt` on the dict -/
theorem src_json_roundtrip_typed (S : Schema) (E : Enums) (cs : KeyCase) (c : Nat) (sl : List Val) (ow : Bool) (unk : Bytes)
    (cur : List (Option Nat)) (k kd : Nat) (indent : JsonMsg.Indent)
    (hjson : jsonOk S E cs = true) (hgroups : groupsOk S = true)
    (hwt : wellTyped' S (.msg c sl ow unk cur) = true) (hsel : selOk S (.msg c sl ow unk cur) = true)
    (hk : kOkAt k (.msg c sl ow unk cur) = true)
    (hd : jOkAt S (kd + 1) (toDict S E cs false (.msg c sl ow unk cur)) = true) :
    ∃ d text m',
      Src.value_to_dict S E (k + 1) cs false (.msg c sl ow unk cur) = .ok d ∧
      Src.value_to_json S E k (.msg c sl ow unk cur) indent false cs = .ok text ∧
      Src.class_from_dict S E (kd + 1) c d = .ok m' ∧
      Src.value_from_dict S E kd (fresh S c) d = .ok m' ∧
      Src.value_from_json S E kd (fresh S c) text = .ok m' ∧
      DEqv S (.msg c sl ow unk cur) m' ∧ dumpVal S m' = dumpVal S (.msg c sl ow unk cur) :=
  src_json_roundtrip S E cs c sl ow unk cur k kd indent hjson hgroups hwt hsel (src_value_guard_of_typed S k _ hwt hk) hd

/-! non-vacuity: the guards hold of C04's own nested instance `m3` (recursive class, oneof, optional sub-message
    set to its default, repeated sub-messages, `map<string, Node>`) and of the flat instance `m1`; the translated
    whole method, run on closed inputs, returns the nested dict -/
def Ssub2 : Schema := [{ fields := [{ name := "sub", num := 1, ty := .message, kind := .user 1 }] },
  { fields := [{ name := "x", num := 1, ty := .int32 }] }]
example : kOkAt 4 m3 = true ∧ vOkAt S3 4 m3 = true ∧ jOkAt S3 5 (toDict S3 [] .camel false m3) = true :=
  ⟨by decide +kernel, by decide +kernel, jOkAt_m3⟩
example : vOkAt S1 1 m1 = true ∧ jOkAt S1 2 (toDict S1 E1 .camel false m1) = true
    ∧ jOkAt S1 2 (toDict S1 E1 .snake false m1) = true :=
  ⟨by decide +kernel, jOkAt_m1_camel, jOkAt_m1_snake⟩
example : Src.value_to_dict Ssub2 [] 2 .camel false (.msg 0 [.msg 1 [.int 7] true [] []] true [] [])
    = .ok (.obj [.str [115, 117, 98]] [.obj [.str [120]] [.num 7]]) := by decide +kernel
example : Src.value_to_dict Ssub2 [] 1 .camel false (.msg 0 [.msg 1 [.int 7] true [] []] true [] []) ≠
    .ok (toDict Ssub2 [] .camel false (.msg 0 [.msg 1 [.int 7] true [] []] true [] [])) := by
  intro h; cases h

end Bp.C04
