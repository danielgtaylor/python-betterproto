import BpProofs.SrcTie
import BpProofs.SrcTieLoad
import BpProofs.Props.C17
/-
  C17, tied to the SOURCE: `load_fields` (the framing generator every decode path goes
  through) and `_read_exact` as regenerated from the Python AST of the working tree
  (harness/extract_src.py → BpProofs/Gen/SrcCodec.lean) are the model's `loadFields`.
  A generator is translated as the function that runs it to the end: it returns the list
  of values yielded and what is left of the stream, or raises.
  The per-record step of `Message.load` (harness/extract_srcload.py → BpProofs/Gen/SrcLoad.lean,
  `Src.load_record`, proved equal to the model's `applyField` in BpProofs/SrcTieLoad.lean; see
  Props/C02Src.lean for the reading) gives the source-level form of `mismatch_is_unknown`.
-/
namespace Bp.C17
open Bp Bp.Py Gen

/-- `_read_exact` as written: a short read raises EOFError, otherwise exactly `n` bytes -/
theorem src_read_exact (s : Bytes) (n fuel : Nat) :
    Src._read_exact fuel s (n : Int) = if s.length < n then .raise .eof else .ok (s.take n, s.drop n) :=
  SrcTie.read_exact_eq s n fuel

/-- **`load_fields` as written is the model's `loadFields`** on every byte string: with fuel for
    one loop round per byte (plus the varint loops) it terminates, yields exactly the model's
    records having consumed the whole input, or raises exactly the model's exception -/
theorem src_load_fields (bs : Bytes) (hw : WfBytes bs) (fuel : Nat) (hf : bs.length + 11 < fuel) :
    Src.load_fields fuel bs =
      match loadFields bs with
      | .ok pfs => .ok (pfs, [])
      | .error e => .raise e :=
  SrcTie.load_fields_eq bs hw fuel hf

/-- **the source as written terminates on every byte string** (never `.diverge`) -/
theorem src_framing_terminates (bs : Bytes) (hw : WfBytes bs) (fuel : Nat) (hf : bs.length + 11 < fuel) :
    Src.load_fields fuel bs ≠ .diverge := by
  rw [src_load_fields bs hw fuel hf]
  cases loadFields bs <;> simp

/-- **whatever the source as written accepts is a sequence of well-formed records covering the
    input exactly** (positive numbers, wire types 0/1/2/5, payloads of exactly the announced /
    fixed length) -/
theorem src_accepted_is_wellformed (bs : Bytes) (hw : WfBytes bs) (fuel : Nat) (hf : bs.length + 11 < fuel)
    (pfs : List PField) (rest : Bytes) (h : Src.load_fields fuel bs = .ok (pfs, rest)) :
    rest = [] ∧ joinRaw pfs = bs ∧ AllFieldsOk pfs := by
  rw [src_load_fields bs hw fuel hf] at h
  cases hl : loadFields bs with
  | error e => rw [hl] at h; cases h
  | ok pfs' =>
    rw [hl] at h
    simp only [Res.ok.injEq, Prod.mk.injEq] at h
    obtain ⟨h1, h2⟩ := h
    subst h1; subst h2
    exact ⟨rfl, accepted_is_wellformed bs pfs' hl⟩

/-- **a proper prefix that cuts a record in the middle is rejected by the source as written**:
    for every input it accepts and every cut point that is not a record boundary -/
theorem src_midfield_prefix_rejected (bs : Bytes) (hw : WfBytes bs) (fuel : Nat) (hf : bs.length + 11 < fuel)
    (pfs : List PField) (rest : Bytes) (h : Src.load_fields fuel bs = .ok (pfs, rest))
    (n : Nat) (hn : n ≤ bs.length) (hmid : ∀ j, n ≠ (joinRaw (pfs.take j)).length) :
    Src.load_fields fuel (bs.take n) = .raise .eof := by
  rw [src_load_fields bs hw fuel hf] at h
  cases hl : loadFields bs with
  | error e => rw [hl] at h; cases h
  | ok pfs' =>
    rw [hl] at h
    simp only [Res.ok.injEq, Prod.mk.injEq] at h
    obtain ⟨h1, _⟩ := h
    subst h1
    have hw' : WfBytes (bs.take n) := fun x hx => hw x (List.mem_of_mem_take hx)
    have hlen : (bs.take n).length ≤ bs.length := by rw [List.length_take]; omega
    rw [src_load_fields (bs.take n) hw' fuel (by omega)]
    rcases prefix_classification bs pfs' hl n hn with ⟨j, hj, _⟩ | herr
    · exact absurd hj (hmid j)
    · rw [herr]

/-- **field number 0 and wire types 3, 4, 6, 7 are rejected by the source as written** when they
    stand at the head of the input -/
theorem src_invalid_tag_rejected (bs : Bytes) (hw : WfBytes bs) (fuel : Nat) (hf : bs.length + 11 < fuel)
    (nw k : Nat) (h : loadVarint bs = .ok (nw, k))
    (hbad : nw / 8 = 0 ∨ nw % 8 = 3 ∨ nw % 8 = 4 ∨ nw % 8 = 6 ∨ nw % 8 = 7) :
    Src.load_fields fuel bs = .raise .value := by
  have hne : bs ≠ [] := by
    intro hc; subst hc; exact loadVarint_nil_ne_ok _ _ h
  rw [src_load_fields bs hw fuel hf, loadFields_cons_err bs .value hne (invalid_tag_rejected bs nw k h hbad)]

/-- **a known field number with a wire type that does not fit the declared type only appends its raw bytes
    to the unknown fields — in the source as written**: one iteration of the record loop of `Message.load`
    for such a record leaves every slot, the oneof selection and the presence flag as they were (no default
    is materialised, no member is selected, nothing is decoded) -/
theorem src_mismatch_is_unknown (S : Schema) (rec : Loader) (d : MsgD) (st : MState) (pf : PField)
    (idx : Nat) (f : FieldD) (hidx : findField d.fields pf.num = some idx) (hf : d.fields[idx]? = some f)
    (hmis : wireFits f pf.wt = false) (fuel : Nat) (hok : SrcTieLoad.RecOk fuel pf) :
    Src.load_record fuel S rec d st pf = .ok { st with unknown := st.unknown ++ pf.raw } := by
  rw [SrcTieLoad.load_record_eq S rec d st pf hok.1 fuel hok.2, mismatch_is_unknown S rec d st pf idx f hidx hf hmis]
  rfl

/-- … and a record whose wire type fits is never put there by the source as written: whenever the iteration
    succeeds, the unknown fields are what they were -/
theorem src_fitting_not_unknown (S : Schema) (rec : Loader) (d : MsgD) (st st' : MState) (pf : PField)
    (idx : Nat) (f : FieldD) (hidx : findField d.fields pf.num = some idx) (hf : d.fields[idx]? = some f)
    (hfit : wireFits f pf.wt = true) (fuel : Nat) (hok : SrcTieLoad.RecOk fuel pf)
    (h : Src.load_record fuel S rec d st pf = .ok st') : st'.unknown = st.unknown := by
  rw [SrcTieLoad.load_record_eq S rec d st pf hok.1 fuel hok.2] at h
  have hk : isUnknownField d pf = false := by simp [isUnknownField, hidx, hf, hfit]
  exact (applyField_known S rec d st st' pf hk (Res.ofR_eq_ok h) st.unknown).1

end Bp.C17
