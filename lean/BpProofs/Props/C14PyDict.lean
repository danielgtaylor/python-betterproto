import BpProofs.PyDictReads
import BpProofs.OkSound
/-
  C14 — `to_pydict` is a pure observer, at every nesting level.
  (The model of `to_pydict` / `from_pydict` is BpModel/PyDict.lean; its tie to the source is
  Props/C14SrcPyDict.lean; the round trip `from_pydict(to_pydict(m))` is Props/C14PyDictRt.lean.)

  `m.to_pydict()` returns a new dict and never assigns to the message (the translated loop body has no
  write: Props/C14SrcPyDict.lean).  The one way it changes the object is through READING attributes:
  `Message.__getattribute__` stores the default of a PLACEHOLDER slot in the slot.  `pyReads S m` is
  the instance after all the reads the call performs — on `m`, and through the recursive calls on every
  sub-message that is written, every item of a repeated message field, every message value of a map
  field, and on the default sub-message of a selected oneof member it has just stored (validated
  against the real code by the `PYREADS` correspondence: `is_set` of every field at every level).

  Sentence of the property: "Read-only operations — …, to_pydict — never change what a message
  subsequently encodes to, compares equal to or reports as present."
    * encodes to:        `to_pydict_pure_bytes`, `to_pydict_pure_len`
    * compares equal to: `to_pydict_pure_eq` (for every well-typed reachable message, `MsgOk`)
    * reports as present: `to_pydict_pure_presence` (the message itself: class, `_serialized_on_wire`,
      unknown fields, the selection of every oneof group, every slot that held a value, `is_set` of
      every explicit-presence field, `bool(m)`), `to_pydict_pure_every_level` (every message instance
      nested anywhere inside it)
    * the same for ANY set of lazy-default stores at any depth (`MatV`: every observer, with or
      without `include_default_values`, completed or interrupted by an exception): `reads_pure`;
      the top-level reads of `bytes` / `len` / `to_dict` of Props/C14.lean are an instance
      (`readAll_is_reads`).
  Hypothesis `WfSchemaOpt S` (decidable: `wfSchemaOptB`): proto3-optional fields are singular non-map
  fields, as protoc guarantees.
-/
namespace Bp.C14
open Bp Gen

/-- **… never change what a message subsequently encodes to** (no typing hypothesis: every value) -/
theorem to_pydict_pure_bytes (S : Schema) (hw : WfSchemaOpt S) (m : Val) :
    dumpVal S (pyReads S m) = dumpVal S m :=
  matV_dumpVal S hw m _ (pyReads_mat S m)

/-- … nor its `len` -/
theorem to_pydict_pure_len (S : Schema) (hw : WfSchemaOpt S) (m : Val) :
    lenVal S (pyReads S m) = lenVal S m :=
  matV_lenVal S hw m _ (pyReads_mat S m)

/-- **… compares equal to**: the message after the reads is `==` to the message before, both ways,
    for every well-typed reachable message -/
theorem to_pydict_pure_eq (S : Schema) (hw : WfSchemaOpt S) (m : Val) (hm : MsgOk S m) :
    msgEq S m (pyReads S m) = true ∧ msgEq S (pyReads S m) m = true :=
  matV_msgEq S m _ (pyReads_mat S m) hm

/-- **… or reports as present**: after the reads the instance has the same class, the same
    `_serialized_on_wire`, the same unknown fields and the same selection in every oneof group
    (`which_one_of`); as many slots; every slot that held a value holds it still (itself read:
    `MatV`, to which all of this applies again); a slot that was PLACEHOLDER is PLACEHOLDER or holds
    the default of its (visible) field; `is_set` of every explicit-presence (proto3 `optional`) field
    that was not PLACEHOLDER is unchanged; and `bool(m)` / `serialized_on_wire(m)` (some slot differs
    from its default) are unchanged -/
theorem to_pydict_pure_presence (S : Schema) (hw : WfSchemaOpt S) (c : Nat) (sl : List Val) (ow : Bool) (unk : Bytes)
    (cur : List (Option Nat)) :
    ∃ sl', pyReads S (.msg c sl ow unk cur) = .msg c sl' ow unk cur ∧ sl'.length = sl.length ∧
      (∀ (i : Nat) (v : Val), sl[i]? = some v → v ≠ .ph → ∃ v', sl'[i]? = some v' ∧ MatV S v v') ∧
      (∀ (i : Nat), sl[i]? = some .ph → sl'[i]? = some .ph ∨
        ∃ f d, (fieldsOf S c)[i]? = some f ∧ hidden f i cur = false ∧ sl'[i]? = some d ∧ MatV S (defaultOf S f) d) ∧
      (∀ (i : Nat) (f : FieldD) (v : Val), (fieldsOf S c)[i]? = some f → f.optional = true → sl[i]? = some v → v ≠ .ph →
        ∃ v', sl'[i]? = some v' ∧ isSet f v' = isSet f v) ∧
      slotsEqFresh S (fieldsOf S c) sl' = slotsEqFresh S (fieldsOf S c) sl := by
  have hs := pyReadsSlots_mat S (fieldsOf S c) cur sl 0
  refine ⟨pyReadsSlots S (fieldsOf S c) cur 0 sl, by rw [pyReads], matSlots_length S hs, matSlots_get S hs, ?_, ?_,
    matSlots_eqFresh S hw hs⟩
  · intro i hi
    simpa using matSlots_get_ph S hs i hi
  · intro i f v _ _ hv hne
    obtain ⟨v', hv', hm⟩ := matSlots_get S hs i v hv hne
    exact ⟨v', hv', matV_isSet S f v v' hm⟩

/-- **… at every nesting level**: every message instance reachable inside `m` (through slots, list
    items, dict values: `subAt m path`) is still there after `m.to_pydict()`, at the same place, with
    the same class, `_serialized_on_wire`, unknown fields and oneof selections; only PLACEHOLDER slots
    of visible fields may have received their defaults (`MatSlots`, to which `reads_pure` applies) -/
theorem to_pydict_pure_every_level (S : Schema) (m : Val) (path : List Nat) (c : Nat) (sl : List Val) (ow : Bool)
    (unk : Bytes) (cur : List (Option Nat)) (h : subAt m path = some (.msg c sl ow unk cur)) :
    ∃ sl', subAt (pyReads S m) path = some (.msg c sl' ow unk cur) ∧ MatSlots S (fieldsOf S c) cur 0 sl sl' :=
  matV_subAt S path m _ (pyReads_mat S m) c sl ow unk cur h

/-- **any lazy-default stores, at any depth, are invisible**: if `m'` differs from `m` only in that
    PLACEHOLDER slots of visible fields hold their defaults (`MatV`; the defaults themselves possibly
    read) then `m'` encodes to the same bytes, has the same length, and — for a well-typed reachable
    `m` — is `==` to `m`.  This covers every read-only operation of the property at once (attribute
    reads of any depth, `bytes`, `len`, `to_dict`, `to_json`, `to_pydict`, with
    `include_default_values` or interrupted by an exception). -/
theorem reads_pure (S : Schema) (hw : WfSchemaOpt S) (m m' : Val) (h : MatV S m m') :
    dumpVal S m' = dumpVal S m ∧ lenVal S m' = lenVal S m ∧ (∀ k, eqDefault S k m' = eqDefault S k m) ∧
    (MsgOk S m → msgEq S m m' = true ∧ msgEq S m' m = true) :=
  ⟨matV_dumpVal S hw m m' h, matV_lenVal S hw m m' h, matV_eqDefault S hw h, matV_msgEq S m m' h⟩

/-- the state after the top-level reads of Props/C14.lean (`Op.readAll`: bytes / len / to_dict) is
    such a change: `observer_pure_bytes` there is an instance of `reads_pure` -/
theorem readAll_is_reads (S : Schema) (c : Nat) (sl : List Val) (ow : Bool) (unk : Bytes) (cur : List (Option Nat)) :
    ∃ m', stepOp S (.msg c sl ow unk cur) .readAll = .ok m' ∧ MatV S (.msg c sl ow unk cur) m' :=
  ⟨_, rfl, MatV.msg c sl _ ow unk cur (materializeAll_mat S (fieldsOf S c) cur sl 0)⟩

/-- what the reads of `to_pydict` are: a change of that kind, for every value -/
theorem to_pydict_reads_are_lazy_defaults (S : Schema) (m : Val) : MatV S m (pyReads S m) := pyReads_mat S m

/-- **D04, in the model of the reads: a map field keeps its keys and its values stay what they
    were** (messages stay messages: `MatL`) — `to_pydict` does not store the converted dicts in the field -/
theorem to_pydict_keeps_maps (S : Schema) (f : FieldD) (sel : Bool) (ks vs : List Val) :
    ∃ vs', pyReadsSlot S f sel (.dict ks vs) = .dict ks vs' ∧ MatL S vs vs' :=
  ⟨pyReadsList S vs, by rw [pyReadsSlot], pyReadsList_mat S vs⟩

/-! non-vacuity, on the nested example of BpProofs/OkSound.lean (`mEx`: a `Top` with a `Node` holding a
    selected `sub` oneof member, repeated and map `Node`s some of them fresh, unknown fields …): the
    reads DO change the state (slots of `mid`, of `leaf1`, of the list and map items are filled), and the
    bytes / equality are those of the original -/
theorem wfEx : WfSchemaOpt OkEx.SEx := wfSchemaOpt_of_B _ (by decide)

/-- the reads DO change the state: the unset `i` of `leaf2` (an item of `mid.kids`, a value of `m1`) holds `0` afterwards … -/
example : (match pyReads OkEx.SEx OkEx.leaf2 with | .msg _ (.int 0 :: _) _ _ _ => true | _ => false) = true := by decide +kernel
example : (match OkEx.leaf2 with | .msg _ (.ph :: _) _ _ _ => true | _ => false) = true := by decide +kernel
/-- … while in `mid`, whose selected member is `sub` (index 3), the hidden member `a` (index 2) stays PLACEHOLDER -/
example : (match pyReads OkEx.SEx OkEx.mid with | .msg _ sl _ _ _ => isPh (sl.getD 2 .none) | _ => false) = true := by decide +kernel
-- elaborating the nested literals `OkEx.mEx` / `OkEx.bsEx` in the statement needs the deeper recursion
set_option maxRecDepth 8000 in
example : dumpVal OkEx.SEx (pyReads OkEx.SEx OkEx.mEx) = .ok OkEx.bsEx := by
  rw [to_pydict_pure_bytes OkEx.SEx wfEx, OkEx.mEx_dump]
example : msgEq OkEx.SEx OkEx.mEx (pyReads OkEx.SEx OkEx.mEx) = true :=
  (to_pydict_pure_eq OkEx.SEx wfEx OkEx.mEx OkEx.mEx_ok).1

end Bp.C14
