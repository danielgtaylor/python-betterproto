import BpProofs.SrcTieFromDict
import BpProofs.Props.C19
/-
  C19 ("JSON keys map back to their fields"), tied to the SOURCE: the body of the loop

      for key, value in mapping.items():

  of `Message._from_dict_init` — `safe_snake_case(key)`, the `meta_by_field_name` lookup that skips
  unknown keys, the `value is None` skip, the per-kind conversions, `init_kwargs[field_name] = value`
  — is translated from the Python AST on every run (harness/extract_srcfromdict.py →
  BpProofs/Gen/SrcFromDict.lean, `Src.from_dict_key`) and proved equal to the model's per-pair action
  of `fromDictKV` (BpProofs/SrcTieFromDict.lean).  The corollaries restate C19's key theorems of the
  source as written.  If the loop body changes which field a key is stored under (a memo shared
  between classes, a folded-key table, …), `src_from_dict_key` stops checking or the translator
  reports the construct as unsupported.

  Reading: `Src.from_dict_key S E c dec key value init` is one iteration for the class `c` of the
  schema `S` (enum classes `E`), `dec c' j` is `<class c'>.from_dict(j)`, `init` is `init_kwargs` so
  far (field NAME ↦ value, in insertion order), the result is `init_kwargs` after the iteration.
  `finish fs r` views the outcome by field INDEX (`resolveKw`), as the model's keyword lists are;
  `forget` forgets which exception was raised.  What the dynamic Python operations mean on
  `JKey` / `JVal` / `Val` / `FieldD` is fixed in BpProofs/PyPreludeFromDict.lean (trusted).
-/
namespace Bp.C19
open Bp Bp.Py Bp.Casing Bp.Naming Bp.SrcTieFromDict

/-- **the per-key step of `_from_dict_init` as written is the model's per-pair action** (with
    Python's dict store, `kvStepSet`): for every schema, class, key, JSON value and `init_kwargs`, one
    iteration leaves exactly the keyword list the model's step gives — the key is resolved by
    `fieldOfJKey` (`meta_by_field_name[safe_snake_case(key)]`), an unknown key and a `None` value
    change nothing, any other value goes through the model's `decodeField` of that field and is stored
    under it — and raises exactly when the model raises.  Guard: `objWf value` (a dict value has as
    many keys as values; representation invariant). -/
theorem src_from_dict_key (S : Schema) (E : Enums) (c : Nat) (key : JKey) (value : JVal) (init : Kwargs)
    (hwf : objWf value = true) :
    forget (finish (fieldsOf S c) (Src.from_dict_key S E c (fromDictC S E) key value init))
      = forget (ofR (kvStepSet S E c key value (resolveKw (fieldsOf S c) init))) :=
  from_dict_key_eq S E c key value init hwf

/-- the model's step appends where Python's dict store replaces: the two coincide whenever the field
    the pair stores into (`hitOf`) is not yet in the keyword list — in particular on every mapping in
    which no two keys denote the same field (`C04.src_from_dict_init`) -/
theorem src_step_is_model_step (S : Schema) (E : Enums) (c : Nat) (k : JKey) (j : JVal) (kw : List (Nat × Val))
    (h : ∀ i, hitOf (fieldsOf S c) k j = some i → ∀ p ∈ kw, p.1 ≠ i) :
    kvStepSet S E c k j kw = kvStep S E c k j kw :=
  kvStepSet_eq_kvStep S E c k j kw h

/-- … and the model's loop `fromDictKV` is the left-to-right fold of that per-pair action from `{}` -/
theorem model_loop_is_fold (S : Schema) (E : Enums) (c : Nat) (ks : List JKey) (js : List JVal) :
    fromDictKV S E c ks js = foldKV (kvStep S E c) ks js [] :=
  fromDictKV_eq_fold S E c ks js

/-- **an unknown key changes nothing** (source as written, any reader `dec`, any value): when no field of
    the class is called `safe_snake_case(key)`, the iteration returns `init_kwargs` as it is -/
theorem src_unknown_key_ignored (S : Schema) (E : Enums) (c : Nat) (dec : Nat → JVal → R Val) (bs : Bytes)
    (value : JVal) (init : Kwargs)
    (h : findName (fieldsOf S c) (fieldOfKey (bs.map Char.ofNat)) 0 = Option.none) :
    Src.from_dict_key S E c dec (.str bs) value init = .ok init :=
  from_dict_key_unknown S E c dec bs value init h

/-- **a `None` value changes nothing** (JSON null: the field keeps its default) -/
theorem src_none_value_ignored (S : Schema) (E : Enums) (c : Nat) (dec : Nat → JVal → R Val) (bs : Bytes)
    (init : Kwargs) :
    Src.from_dict_key S E c dec (.str bs) .null init = .ok init := by
  simp only [Src.from_dict_key, safeSnakeCase, Res.ok_bind, jIsNone, if_true]
  cases metaByFieldName S c (Casing.safeSnake (bs.map Char.ofNat)) <;> rfl

/-! ## "the key to_dict emits for that field (in either casing), as well as the original proto field
       name, is mapped by from_dict back to the same field" — of the source as written

  `p` is the proto field name, `pythonizeFieldName p` the generated Python field; the class `c` has
  that field at index `i` (`findName`); `j` is any value the model's `decodeField` of the field
  accepts.  Conclusion: the iteration as written stores the decoded value under field `i`. -/

/-- snake_case key (`Casing.SNAKE`): every proto name, no guard -/
theorem src_snake_key_maps_back (S : Schema) (E : Enums) (c : Nat) (p : List Char) (i : Nat) (fd : FieldD)
    (hfn : findName (fieldsOf S c) (pythonizeFieldName p) 0 = some (i, fd))
    (j : JVal) (v : Val) (init : Kwargs) (hnn : j ≠ .null) (hdec : decodeField S E fd j = .ok v)
    (hwf : objWf j = true) :
    finish (fieldsOf S c) (Src.from_dict_key S E c (fromDictC S E)
        (.str ((keySnake (pythonizeFieldName p)).map Char.toNat)) j init)
      = .ok (kwSet (resolveKw (fieldsOf S c) init) i v) :=
  key_to_field S E c _ _ i fd (key_roundtrip_snake p) hfn j v init hnn hdec hwf

/-- camelCase key (the default casing): when every word of the name begins with two letters (the D15
    guard of `key_roundtrip_camel_partial`; outside it the key names ANOTHER field name and, by
    `src_unknown_key_ignored`, the value is dropped) -/
theorem src_camel_key_maps_back_partial (S : Schema) (E : Enums) (c : Nat) (p : List Char)
    (h : allWordsAlpha2 p = true) (i : Nat) (fd : FieldD)
    (hfn : findName (fieldsOf S c) (pythonizeFieldName p) 0 = some (i, fd))
    (j : JVal) (v : Val) (init : Kwargs) (hnn : j ≠ .null) (hdec : decodeField S E fd j = .ok v)
    (hwf : objWf j = true) :
    finish (fieldsOf S c) (Src.from_dict_key S E c (fromDictC S E)
        (.str ((keyCamel (pythonizeFieldName p)).map Char.toNat)) j init)
      = .ok (kwSet (resolveKw (fieldsOf S c) init) i v) :=
  key_to_field S E c _ _ i fd (key_roundtrip_camel_partial p h) hfn j v init hnn hdec hwf

/-- the original proto field name used as the key -/
theorem src_orig_name_maps_back (S : Schema) (E : Enums) (c : Nat) (p : List Char) (i : Nat) (fd : FieldD)
    (hfn : findName (fieldsOf S c) (pythonizeFieldName p) 0 = some (i, fd))
    (j : JVal) (v : Val) (init : Kwargs) (hnn : j ≠ .null) (hdec : decodeField S E fd j = .ok v)
    (hwf : objWf j = true) :
    finish (fieldsOf S c) (Src.from_dict_key S E c (fromDictC S E) (.str (p.map Char.toNat)) j init)
      = .ok (kwSet (resolveKw (fieldsOf S c) init) i v) :=
  key_to_field S E c _ _ i fd (orig_name_maps_back p).1 hfn j v init hnn hdec hwf

def Sd15 : Schema := [{ fields := [{ name := "address_line_1", num := 1, ty := .int32 }] }]

/-- D15 on the source as written: the default camelCase key `addressLine1` of the field
    `address_line_1` is resolved to the name `address_line1`, which is no field of the class: the
    iteration drops the value -/
theorem src_d15_key_dropped_witness :
    Src.from_dict_key Sd15 [] 0 (fromDictC Sd15 []) (.str ("addressLine1".toList.map Char.toNat)) (.num 5) [] = .ok [] ∧
    Src.from_dict_key Sd15 [] 0 (fromDictC Sd15 []) (.str ("address_line_1".toList.map Char.toNat)) (.num 5) []
      = .ok [("address_line_1".toList, .int 5)] := by
  obtain ⟨_, h1, _, h2⟩ := key_roundtrip_digit_witness
  constructor
  · apply from_dict_key_unknown
    rw [map_ofNat_toNat, show Casing.safeSnake "addressLine1".toList = "address_line1".toList from h2]
    decide
  · rw [Src.from_dict_key, safeSnakeCase, map_ofNat_toNat,
      show Casing.safeSnake "address_line_1".toList = "address_line_1".toList from h1]
    rfl

/-! non-vacuity: the translated iteration run on closed inputs.  `message M { int32 foo_bar = 1;
    repeated int64 xs = 2; }`: the camelCase key, the snake_case key, an unknown key, a None value, a
    second key for the same field (the entry is REPLACED, not repeated), `int(str)` on list items -/
def S0 : Schema := [{ fields := [{ name := "foo_bar", num := 1, ty := .int32 }, { name := "xs", num := 2, ty := .int64, repeated := true }] }]
def k (s : String) : JKey := .str (s.toList.map Char.toNat)
example : Src.from_dict_key S0 [] 0 (fromDictC S0 []) (k "fooBar") (.num 7) [] = .ok [("foo_bar".toList, .int 7)] := by
  rw [Src.from_dict_key, show safeSnakeCase (k "fooBar") = .ok "foo_bar".toList by
    unfold safeSnakeCase k; rw [safeSnake_fast]; decide +kernel]; rfl
example : Src.from_dict_key S0 [] 0 (fromDictC S0 []) (k "foo_bar") (.num 7) [] = .ok [("foo_bar".toList, .int 7)] := by
  rw [Src.from_dict_key, show safeSnakeCase (k "foo_bar") = .ok "foo_bar".toList by
    unfold safeSnakeCase k; rw [safeSnake_fast]; decide +kernel]; rfl
example : Src.from_dict_key S0 [] 0 (fromDictC S0 []) (k "foobar") (.num 7) [] = .ok [] := by
  rw [Src.from_dict_key, show safeSnakeCase (k "foobar") = .ok "foobar".toList by
    unfold safeSnakeCase k; rw [safeSnake_fast]; decide +kernel]; rfl
example : Src.from_dict_key S0 [] 0 (fromDictC S0 []) (k "fooBar") .null [] = .ok [] :=
  src_none_value_ignored S0 [] 0 _ _ []
example : Src.from_dict_key S0 [] 0 (fromDictC S0 []) (k "foo_bar") (.num 8) [("foo_bar".toList, .int 7)]
    = .ok [("foo_bar".toList, .int 8)] := by
  rw [Src.from_dict_key, show safeSnakeCase (k "foo_bar") = .ok "foo_bar".toList by
    unfold safeSnakeCase k; rw [safeSnake_fast]; decide +kernel]; rfl
example : Src.from_dict_key S0 [] 0 (fromDictC S0 []) (k "xs") (.arr [.decStr 5, .num 6]) [("foo_bar".toList, .int 7)]
    = .ok [("foo_bar".toList, .int 7), ("xs".toList, .list [.int 5, .int 6])] := by
  rw [Src.from_dict_key, show safeSnakeCase (k "xs") = .ok "xs".toList by
    unfold safeSnakeCase k; rw [safeSnake_fast]; decide +kernel]; rfl
example : Src.from_dict_key S0 [] 0 (fromDictC S0 []) (.int 3) (.num 7) [] = .raise .type := by rfl

end Bp.C19
