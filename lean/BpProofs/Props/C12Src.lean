import BpProofs.SrcTieChan
import BpProofs.Props.C12Term
/-
  C12 ("AsyncChannel: exactly-once ordered delivery, no stranded receiver"), tied to the SOURCE of
  src/betterproto/grpc/util/async_channel.py as regenerated on every run (harness/extract_srcchan.py →
  BpProofs/Gen/SrcChan.lean).  Every method of `AsyncChannel` is translated statement by statement into a resumption
  program `Co` (one command per access to `_closed` / `_flushed` / `_waiting_receivers` and per call on `self._queue`;
  `try … finally` = the `finally` block on every exit, including the exception continuation of the awaited `get()`).

  What is proved (BpProofs/SrcTieChan.lean), for EVERY system state, EVERY task whose record is coherent and EVERY
  assignment `fl` of `receive()` / `__anext__()` to the receiver tasks:
    * `src_micro`  — one atomic action `Chan.micro` of the model IS one segment step of the translated program run over
      the model's `asyncio.Queue` (`exec1`: synchronous commands, the `await` reached is attempted, the synchronous
      commands after it, up to the next loop head / await / end of the method); a task that ENTERS `send_from` makes
      two such steps in one action (`exec2`) — the only stutter;
    * `src_stop`   — the program point at which that step stops is the `frame` of the task's new record (so the steps
      chain: a simulation);
    * `src_run_eq` — hence `run (init …) cs`, the object of ALL theorems of Props/C12.lean and Props/C12Term.lean, is the
      run `srcRun` of the translated source; `src_exactly_once`, `src_fifo_per_sender`, `src_no_blocked_receiver`,
      `src_step_decreases` restate those theorems about the source as written.
  Per method: `src_receive`, `src_anext`, `src_send`, `src_send_from`, `src_close`, `src_flush_queue` (the step of a
  task that calls it), `src_done`, `src_closed`, `src_init` (the synchronous ones), and the sentences of C12 about the
  source text itself: `src_flush_arith`, `src_flush_once`, `src_receive_exits` (the `finally` on every exit path),
  `src_task_done_only_after_get` (the D06 sentence), `src_send_after_close`, `src_send_from_after_close`.

  Trusted: the translator, BpProofs/PyPreludeChan.lean (the meaning of the commands over the hand-written model of
  CPython's asyncio.Queue of BpModel/Chan.lean, which stays hand-modelled and lock-step validated), and the task
  programs (`frame` at a call, `commit`: the loops of harness/chanloop.py that CALL the methods).
  NOT translated: the `isinstance(source, AsyncIterable)` branch of `send_from` (`SrcChan.send_from_async_branch`).
-/
namespace Bp.C12
open Bp.Chan Bp.PyChan Bp.SrcTieChan

/-- `__init__` as written (`asyncio.Queue(buffer_limit)`, `_closed = False`, `_waiting_receivers = 0`,
    `_flushed = False`), run in a world that holds only the task programs, gives the model's initial state -/
theorem src_init (buffer_limit : Int) (close : Bool) (progs : List Prog) :
    runSync { maxsize := 0, tasks := progs.map Prog.toTask } (SrcChan.init buffer_limit close fun _ => .ret .none) =
      (init buffer_limit.toNat progs, .ret .none) := by
  simp [SrcChan.init, runSync, storeClosed, init]

/-- `closed()` as written returns `_closed` -/
theorem src_closed (s : Sys) (k : PyChan.Val → Co) : runSync s (SrcChan.closed k) = runSync s (k (.bool s.closed)) := by
  simp [SrcChan.closed, runSync]

/-- `done()` as written returns `_closed and qsize() <= _waiting_receivers` — the test of the model's receiver -/
theorem src_done (s : Sys) (k : PyChan.Val → Co) :
    runSync s (SrcChan.done k) = runSync s (k (.bool (s.closed && decide (s.queue.length ≤ s.waiting)))) :=
  run_done s k

/-- `close()` as written (`_closed = True; asyncio.ensure_future(self._flush_queue())`) is the model's `doClose` -/
theorem src_close_sync (s : Sys) (k : PyChan.Val → Co) : runSync s (SrcChan.close k) = runSync (doClose s) (k .none) :=
  run_close s k

/-- `__aiter__()` as written returns `self` -/
theorem src_aiter (s : Sys) (k : PyChan.Val → Co) : runSync s (SrcChan.aiter k) = runSync s (k .self) :=
  rfl

/-- **A**: one atomic action of the model = one segment step of the translated source (`srcMicro`: the coroutine state
    `frame fl t x` of the task is run by `exec1` — `exec2` when it enters `send_from` —, or CancelledError is thrown
    into it, and `commit` writes the task's new record), for every state, every task with a coherent record, every
    assignment of `receive` / `__anext__` to the receivers -/
theorem src_micro (fl : Nat → Flavour) (s : Sys) (t : Nat) (hcoh : ∀ x, s.tasks[t]? = some x → Coh x) :
    micro s t = srcMicro fl s t :=
  micro_eq_srcMicro fl s t hcoh

/-- **B**: the program point at which that step of the coroutine stopped is the `frame` of the record `commit` writes
    (suspended: the `await` node; at a loop head: the loop with what is left) -/
theorem src_stop (fl : Nat → Flavour) (s : Sys) (t : Nat) (x : Task) (r : Sys × Stop) (hC : Coh x)
    (h : srcExec fl s t x = some r) :
    match r.2 with
    | .suspended g c => c = SrcTieChan.frame fl t { x with wait := .blocked g .pending, code := inPut x.code }
    | .atHead c => c = SrcTieChan.frame fl t { x with wait := .ready, code := nextCode s x.code }
    | _ => True := by
  have := src_step fl s t x hC
  rw [h] at this
  have := this.2
  unfold StopOk at this
  cases hr : r.2 <;> simp only [hr] at this <;> simp only [SrcTieChan.frame] <;> exact this

/-- coherence holds in every reachable state -/
theorem reachable_coh (maxsize : Nat) (progs : List Prog) (cs : List Choice) (t : Nat) (x : Task)
    (hx : (reach maxsize progs cs).tasks[t]? = some x) : Coh x :=
  coh_of_tinv (reachable_tinv maxsize progs cs) hx

/-- the runs of the model ARE the runs of the translated source: every scheduler step runs the chosen task's coroutine
    segment by segment until it is suspended or finished -/
theorem src_run_eq (fl : Nat → Flavour) (maxsize : Nat) (progs : List Prog) (cs : List Choice) :
    srcRun fl (init maxsize progs) cs = reach maxsize progs cs :=
  (run_eq fl (init_tinv maxsize progs) cs).symm

theorem coh_ready {x : Task} (hw : x.wait = .ready) : Coh x := by
  constructor <;> intro h <;> rw [hw] at h <;> cases h

/-- `receive()` as written: the action of a ready receiver task that calls it -/
theorem src_receive (s : Sys) (t : Nat) (x : Task) (tm : Bool) (hx : s.tasks[t]? = some x) (hw : x.wait = .ready)
    (hm : x.mustCancel = false) (hc : x.code = .receiver tm) :
    micro s t = Cm s t x (exec1 t s SrcChan.receive) := by
  rw [ready_eq (fun _ => .receive) s t x hx hw]
  simp only [srcMicro, hx, srcExec, hw, hm, hc, SrcTieChan.frame, frameReady, recvCo, Bool.false_eq_true, if_false]

/-- `__anext__()` as written: the action of a ready receiver task that iterates (`async for`) -/
theorem src_anext (s : Sys) (t : Nat) (x : Task) (tm : Bool) (hx : s.tasks[t]? = some x) (hw : x.wait = .ready)
    (hm : x.mustCancel = false) (hc : x.code = .receiver tm) :
    micro s t = Cm s t x (exec1 t s SrcChan.anext) := by
  rw [ready_eq (fun _ => .anext) s t x hx hw]
  simp only [srcMicro, hx, srcExec, hw, hm, hc, SrcTieChan.frame, frameReady, recvCo, Bool.false_eq_true, if_false]

/-- `receive` / `__anext__` as written reach their `await self._queue.get()` (the node `atGet`) exactly when the
    channel is not done, having incremented `_waiting_receivers`; otherwise they raise ChannelDone / StopAsyncIteration -/
theorem src_receive_prefix (f : Flavour) (s : Sys) :
    runSync s (recvCo f) =
      if (s.closed && decide (s.queue.length ≤ s.waiting)) = true then (s, .raise (doneExc f))
      else ({ s with waiting := s.waiting + 1 }, atGet f) :=
  run_recv f s

/-- a receiver woken inside `get()` (by a `put_nowait`, a flush sentinel, or a cancelled neighbour passing the wake-up
    on): `while self.empty()` again, then `get_nowait`, `task_done()`, the sentinel test, `finally` -/
theorem src_receive_resumed (fl : Nat → Flavour) (s : Sys) (t : Nat) (x : Task) (tm : Bool)
    (hx : s.tasks[t]? = some x) (hw : x.wait = .blocked true .woken) (hm : x.mustCancel = false)
    (hc : x.code = .receiver tm) :
    micro s t = Cm s t x (exec1 t s (atGet (fl t))) := by
  rw [coherent_eq fl s t x hx ⟨fun _ => by simp [hc, Code.isReceiver], fun h => by rw [hw] at h; cases h⟩]
  simp only [srcMicro, hx, srcExec, hw, hm, hc, SrcTieChan.frame, frameBlocked, Bool.false_eq_true, if_false]

/-- a receiver cancelled / timed out inside `get()`: CancelledError is thrown in at the `await`; the `except:` clause
    of `Queue.get`, then the exception continuation of the translated `await` (the `finally` block, re-raise) -/
theorem src_receive_cancelled (fl : Nat → Flavour) (s : Sys) (t : Nat) (x : Task) (tm : Bool)
    (hx : s.tasks[t]? = some x) (hw : x.wait = .blocked true .cancelled) (hc : x.code = .receiver tm) :
    micro s t = Cm s t x (throwIn t s true .cancelled (atGet (fl t))) := by
  rw [coherent_eq fl s t x hx ⟨fun _ => by simp [hc, Code.isReceiver], fun h => by rw [hw] at h; cases h⟩]
  simp only [srcMicro, hx, srcExec, hw, hc, SrcTieChan.frame, frameBlocked]

/-- `send(item)` as written: the action of a sender task that sends item by item and has items left -/
theorem src_send (s : Sys) (t : Nat) (x : Task) (nx r : Nat) (cl : Bool) (hx : s.tasks[t]? = some x)
    (hw : x.wait = .ready) (hm : x.mustCancel = false) (hc : x.code = .sender .each nx (r + 1) cl) :
    micro s t = Cm s t x (exec1 t s (SrcChan.send (.data t nx))) := by
  rw [ready_eq (fun _ => .receive) s t x hx hw]
  simp only [srcMicro, hx, srcExec, hw, hm, hc, SrcTieChan.frame, frameReady, Bool.false_eq_true, if_false]

/-- `send_from(source, close)` as written (the synchronous-iterable branch): the action of a task that enters it
    (`_closed` test, first loop head, first `put`: two segments) -/
theorem src_send_from (s : Sys) (t : Nat) (x : Task) (nx r : Nat) (cl : Bool) (hx : s.tasks[t]? = some x)
    (hw : x.wait = .ready) (hm : x.mustCancel = false) (hc : x.code = .sender .fromStart nx r cl) :
    micro s t = Cm s t x (exec2 t s (SrcChan.send_from (items t nx r) cl)) := by
  rw [ready_eq (fun _ => .receive) s t x hx hw]
  simp only [srcMicro, hx, srcExec, hw, hm, hc, SrcTieChan.frame, frameReady, Bool.false_eq_true, if_false]

/-- … and the action of a task at the loop head of `send_from` (one iteration: `await self._queue.put(item)`; after the
    last item `if close: self.close()`, `return self`) -/
theorem src_send_from_loop (s : Sys) (t : Nat) (x : Task) (nx r : Nat) (cl : Bool) (hx : s.tasks[t]? = some x)
    (hw : x.wait = .ready) (hm : x.mustCancel = false) (hc : x.code = .sender .fromRunning nx r cl) :
    micro s t = Cm s t x (exec1 t s (SrcChan.send_from_for1 (sendFromTail cl) (items t nx r))) := by
  rw [ready_eq (fun _ => .receive) s t x hx hw]
  simp only [srcMicro, hx, srcExec, hw, hm, hc, SrcTieChan.frame, frameReady, Bool.false_eq_true, if_false]

/-- `sendFromTail` is what the source has after the loop of `send_from`: entering `send_from` on an open channel
    reaches exactly the loop `send_from_for1 (sendFromTail close) source` -/
theorem src_send_from_prefix (s : Sys) (xs : List Item) (cl : Bool) :
    runSync s (SrcChan.send_from xs cl) =
      if s.closed = true then (s, .raise .channelClosed) else (s, SrcChan.send_from_for1 (sendFromTail cl) xs) :=
  run_send_from s xs cl

/-- `close()` as written: the action of a closer task -/
theorem src_close (s : Sys) (t : Nat) (x : Task) (hx : s.tasks[t]? = some x) (hw : x.wait = .ready)
    (hm : x.mustCancel = false) (hc : x.code = .closer) :
    micro s t = Cm s t x (exec1 t s (SrcChan.close fun _ => .ret .none)) := by
  rw [ready_eq (fun _ => .receive) s t x hx hw]
  simp only [srcMicro, hx, srcExec, hw, hm, hc, SrcTieChan.frame, frameReady, Bool.false_eq_true, if_false]

/-- `_flush_queue()` as written: the first action of the task `close()` spawned (up to the head of the loop) -/
theorem src_flush_queue (s : Sys) (t : Nat) (x : Task) (hx : s.tasks[t]? = some x) (hw : x.wait = .ready)
    (hm : x.mustCancel = false) (hc : x.code = .flusher none) :
    micro s t = Cm s t x (exec1 t s SrcChan._flush_queue) := by
  rw [ready_eq (fun _ => .receive) s t x hx hw]
  simp only [srcMicro, hx, srcExec, hw, hm, hc, SrcTieChan.frame, frameReady, Bool.false_eq_true, if_false]

/-- … and one iteration of its loop (`await self._queue.put(self.__flush)`), `r` sentinels still to put -/
theorem src_flush_queue_loop (s : Sys) (t : Nat) (x : Task) (r : Nat) (hx : s.tasks[t]? = some x)
    (hw : x.wait = .ready) (hm : x.mustCancel = false) (hc : x.code = .flusher (some r)) :
    micro s t = Cm s t x (exec1 t s (SrcChan._flush_queue_for1 (.ret .none) r)) := by
  rw [ready_eq (fun _ => .receive) s t x hx hw]
  simp only [srcMicro, hx, srcExec, hw, hm, hc, SrcTieChan.frame, frameReady, Bool.false_eq_true, if_false]

/-- **flush arithmetic**: the first `_flush_queue` as written sets `_flushed` and goes on to put exactly
    `deadlocked_receivers = max(0, _waiting_receivers − qsize())` sentinels -/
theorem src_flush_arith (s : Sys) (hf : s.flushed = false) :
    runSync s SrcChan._flush_queue =
      ({ s with flushed := true }, SrcChan._flush_queue_for1 (.ret .none) (s.waiting - s.queue.length)) := by
  rw [run_flush, if_neg (by simp [hf])]

/-- the loop puts one sentinel per iteration, nothing else: `n + 1` left = a loop head, `await put(__flush)`, `n` left -/
theorem src_flush_loop (k : Co) (n : Nat) :
    SrcChan._flush_queue_for1 k (n + 1) = .iter (.awaitPut Item.flush (SrcChan._flush_queue_for1 k n) Co.raise) ∧
    SrcChan._flush_queue_for1 k 0 = .iter k :=
  ⟨rfl, rfl⟩

/-- **one-shot `_flushed`**: a `_flush_queue` that finds `_flushed` set returns without touching anything -/
theorem src_flush_once (s : Sys) (hf : s.flushed = true) : runSync s SrcChan._flush_queue = (s, .ret .none) := by
  rw [run_flush, if_pos hf]

/-- **`_waiting_receivers` is decremented on every exit path of `receive` / `__anext__`** after the `await get()`:
    a data item (normal return), the sentinel (None / StopAsyncIteration), `task_done()` raising, and an exception
    raised by the `get()` itself (cancellation; a timeout of `wait_for` arrives as CancelledError too) — and on each of
    them the method is left (`ret` / `raise`), with nothing else of the channel changed but `_unfinished_tasks` -/
theorem src_receive_exits (f : Flavour) (S : Sys) :
    (∀ it, (runSync S (getK f it)).1 =
             { S with waiting := S.waiting - 1, unfinished := (if S.unfinished = 0 then 0 else S.unfinished - 1) } ∧
           (runSync S (getK f it)).2 =
             (if S.unfinished = 0 then .raise .valueError
              else match it with
                | .flush => (match f with | .receive => .ret .none | .anext => .raise .stopAsyncIteration)
                | .data a b => .ret (.item (.data a b)))) ∧
    (∀ e, runSync S (getH e) = ({ S with waiting := S.waiting - 1 }, .raise e)) := by
  constructor
  · intro it
    rw [run_getK]
    by_cases hu : S.unfinished = 0
    · simp [hu]
    · cases it <;> cases f <;> simp [hu]
  · intro e
    simp [getH, runSync, recvFin]

/-- **`task_done()` is called only after a successful `get()`** (the D06 sentence): when the awaited `get()` raises
    (CancelledError of a cancellation or a timeout), `receive` / `__anext__` as written re-raise THAT exception with
    `_unfinished_tasks` untouched — `task_done()` is not on that path — and only `_waiting_receivers` decremented -/
theorem src_task_done_only_after_get (f : Flavour) (s : Sys) (e : Exc) :
    ∃ k, (runSync { s with waiting := s.waiting + 1 } (atGet f)).2 = .awaitGet k getH ∧
      runSync s (getH e) = ({ s with waiting := s.waiting - 1 }, .raise e) ∧
      (runSync s (getH e)).1.unfinished = s.unfinished := by
  refine ⟨getK f, rfl, ?_, ?_⟩ <;> simp [getH, runSync, recvFin]

/-- **a `send` after `close()` raises ChannelClosed before any `put`**: `send` as written on a closed channel
    raises with the state untouched -/
theorem src_send_after_close (s : Sys) (it : Item) (hc : s.closed = true) :
    runSync s (SrcChan.send it) = (s, .raise .channelClosed) := by
  rw [run_send, if_pos hc]

/-- … and so does `send_from` as written, whatever the source and `close` -/
theorem src_send_from_after_close (s : Sys) (xs : List Item) (cl : Bool) (hc : s.closed = true) :
    runSync s (SrcChan.send_from xs cl) = (s, .raise .channelClosed) := by
  rw [run_send_from, if_pos hc]

/-- … hence a sender task that starts a `send` / enters `send_from` on a closed channel ends with ChannelClosed -/
theorem src_sender_after_close (fl : Nat → Flavour) (s : Sys) (t : Nat) (x : Task) (m : SMode) (nx r : Nat) (cl : Bool)
    (hx : s.tasks[t]? = some x) (hw : x.wait = .ready) (hm : x.mustCancel = false)
    (hc : x.code = .sender m nx r cl) (hstart : (m = .each ∧ 0 < r) ∨ m = .fromStart) (hcl : s.closed = true) :
    srcMicro fl s t = finish s t x .chanClosed := by
  rw [← ready_eq fl s t x hx hw]
  exact send_after_close_raises s t x m nx r cl hx hw hm hc hstart hcl

/-- the translated text stores `_waiting_receivers - 1` as an `Int` truncated at 0; on every reachable state the
    truncation never happens: a task inside `get()` is counted in `_waiting_receivers` -/
theorem src_waiting_positive_inside_get (maxsize : Nat) (progs : List Prog) (cs : List Choice) (t : Nat) (x : Task)
    (hx : (reach maxsize progs cs).tasks[t]? = some x) (hg : x.wait.inGet = true) :
    1 ≤ (reach maxsize progs cs).waiting := by
  rw [waiting_eq]
  have := tsum_ge (f := mInGet) hx
  simp only [mInGet, hg, if_true] at this
  exact this

/-- **nothing invented, nothing lost, global FIFO**, of the translated source -/
theorem src_exactly_once (fl : Nat → Flavour) (maxsize : Nat) (progs : List Prog) (cs : List Choice) :
    received (srcRun fl (init maxsize progs) cs) ++ queuedData (srcRun fl (init maxsize progs) cs) =
      (srcRun fl (init maxsize progs) cs).putLog := by
  rw [src_run_eq]; exact exactly_once maxsize progs cs

/-- **per-sender FIFO**, of the translated source -/
theorem src_fifo_per_sender (fl : Nat → Flavour) (maxsize : Nat) (progs : List Prog) (cs : List Choice) :
    (received (srcRun fl (init maxsize progs) cs)).Pairwise SendOrd := by
  rw [src_run_eq]; exact fifo_per_sender maxsize progs cs

/-- **flush arithmetic, globally**: once `_flush_queue` has run, every receiver inside `get()` is covered by a buffered
    item or by a sentinel still to be put -/
theorem src_flush_cover (fl : Nat → Flavour) (maxsize : Nat) (progs : List Prog) (cs : List Choice) :
    (srcRun fl (init maxsize progs) cs).flushed = true →
      (srcRun fl (init maxsize progs) cs).waiting ≤
        (srcRun fl (init maxsize progs) cs).queue.length + tsum mOwed (srcRun fl (init maxsize progs) cs).tasks := by
  rw [src_run_eq]; exact flush_cover maxsize progs cs

/-- **no stranded receiver**, of the translated source: in a quiescent state of a closed channel no task is inside
    `get()` -/
theorem src_no_blocked_receiver (fl : Nat → Flavour) (maxsize : Nat) (progs : List Prog) (cs : List Choice)
    (hq : quiescent (srcRun fl (init maxsize progs) cs) = true) (hc : (srcRun fl (init maxsize progs) cs).closed = true) :
    (srcRun fl (init maxsize progs) cs).waiting = 0 ∧
    ∀ (t : Nat) (x : Task), (srcRun fl (init maxsize progs) cs).tasks[t]? = some x → x.wait.inGet = false := by
  rw [src_run_eq] at hq hc ⊢; exact quiescent_closed_no_blocked_receiver maxsize progs cs hq hc

/-- **every schedule of the translated source is finite**: an enabled scheduler choice strictly decreases the measure
    when the step is made by the translated source (so at most `schedBound progs` choices, `schedules_bounded_explicit`) -/
theorem src_step_decreases (fl : Nat → Flavour) (maxsize : Nat) (progs : List Prog) (cs : List Choice) (c : Choice)
    (he : enabled (srcRun fl (init maxsize progs) cs) c = true) :
    mu (srcStep fl (srcRun fl (init maxsize progs) cs) c) < mu (srcRun fl (init maxsize progs) cs) := by
  rw [src_run_eq] at he ⊢
  rw [← step_eq fl (reachable_tinv maxsize progs cs) c]
  exact reachable_step_decreases maxsize progs cs c he

/-- the translated source, run: one sender (`send` × 2), one receiver using `receive()`, a closer — the receiver blocks,
    is flushed awake and everything is delivered -/
example : (srcRun (fun _ => .receive) (init 0 [.sender false 2 false, .receiver false, .closer])
    [.run 1, .run 0, .run 2, .run 3, .run 1]).recvLog = [(1, .data 0 0), (1, .data 0 1)] := by decide +kernel

/-- the same with `send_from` and `async for`, on a bounded buffer -/
example : (srcRun (fun _ => .anext) (init 1 [.sender true 2 true, .receiver false])
    [.run 0, .run 1, .run 0, .run 1, .run 0, .run 2, .run 1]).recvLog = [(1, .data 0 0), (1, .data 0 1)] := by decide +kernel

/-- the hypotheses of `src_receive_cancelled` are satisfiable: the D06 schedule (a woken-then-cancelled receiver hands
    its item on), run with the translated source -/
example : (srcRun (fun _ => .receive) (init 0 [.sender false 1 false, .receiver false, .receiver false, .canceller 1])
    [.run 1, .run 2, .run 0, .run 3, .run 1, .run 2]).recvLog = [(2, .data 0 0)] := by decide +kernel

/-- `Coh` is needed: on an (unreachable) state in which a SENDER is recorded as cancelled inside `get()`, the model
    decrements `_waiting_receivers`, the source of `send` has no such `finally` -/
example : (micro { maxsize := 0, waiting := 1, tasks := [{ code := .sender .each 0 1 false, wait := .blocked true .cancelled }] } 0).waiting
    ≠ (srcMicro (fun _ => .receive)
        { maxsize := 0, waiting := 1, tasks := [{ code := .sender .each 0 1 false, wait := .blocked true .cancelled }] } 0).waiting := by
  decide +kernel

end Bp.C12
