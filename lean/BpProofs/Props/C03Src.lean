import BpProofs.SrcTiePlugin
import BpProofs.Props.C03
/-
  C03, tied to the SOURCE: the field classification of the protoc plugin — `get_map_entry`, `is_map`, `is_oneof`
  and the properties `field_wraps`, `repeated`, `optional`, `field_type`, `packed`, `py_name`, `proto_name`,
  `betterproto_field_args`, `py_type`, `annotation`, `get_field_string` of `FieldCompiler`, `OneOfFieldCompiler`,
  `PydanticOneOfFieldCompiler`, `MapEntryCompiler` in src/betterproto/plugin/models.py, as regenerated from the
  Python AST of the working tree on every run (harness/extract_srcplugin.py → BpProofs/Gen/SrcPlugin.lean,
  namespace `Bp.Src.Models`) — IS the classification of the model BpModel/Plugin.lean the C03 theorems are about,
  for EVERY descriptor field and EVERY parent message (no well-formedness guard is needed for the ties; the
  corollaries inherit the guards of the C03 theorems they go through).

  A translated property takes the compiler object (`Py.Plg.Self`: `proto_obj`, `parent.proto_obj`, …) and
  returns `Py.Res …`; `.raise .key` stands for IndexError, `.raise .value` for ValueError, `.raise .notImpl` for
  NotImplementedError.  `argsOf mt w o g` / `cfieldArgs c` is the list of argument texts that a `CField`
  (`mapTypes`, `wraps`, `optional`, `group`) stands for; `lineOf` the whole generated line.

  Which of the four classes parser.read_protobuf_type constructs for a field is tied in Props/C03SrcParser.lean
  (`src_dispatch_is_classification`).  Not translated (still validated by the correspondence run only):
  `MapEntryCompiler.__post_init__` (the stored key / value types are hypotheses of `src_map_field`),
  `use_builtins`, `get_type_reference` (C13) — see PyPreludePlugin.lean.
  Trusted: BpProofs/PyPrelude.lean, PyPreludeStr.lean, PyPreludeTyping.lean, PyPreludeCasing.lean (`lower`),
  PyPreludePlugin.lean (meaning of the Python primitives and of the descriptor objects).
-/
namespace Bp.C03
open Bp Bp.Py Bp.Importing Bp.Plugin Bp.Gen.Plugin Bp.Src.Models Bp.SrcTiePlugin

/-- `get_map_entry` as written, asked of a DescriptorProto, is the model's `getMapEntry`: the first nested
    `map_entry` message whose name is exactly the last segment of the field's type name, for a repeated message
    field; it never raises -/
theorem src_get_map_entry (fuel : Nat) (f : FieldP) (m : MsgP) :
    get_map_entry fuel f (.descriptor m) = .ok (getMapEntry f m) := get_map_entry_desc fuel f m

/-- `is_map` as written, asked of a DescriptorProto (what parser.read_protobuf_type does), is the model's `isMap` … -/
theorem src_is_map (fuel : Nat) (f : FieldP) (m : MsgP) : is_map fuel f (.descriptor m) = .ok (isMap f m) :=
  is_map_desc fuel f m

/-- … and asked of a compiler object (what `FieldCompiler.repeated` does: `self.parent`) it is False -/
theorem src_is_map_of_compiler (fuel : Nat) (f : FieldP) : is_map fuel f .compiler = .ok false :=
  is_map_compiler fuel f

/-- `is_oneof` as written is the model's `isOneof` -/
theorem src_is_oneof (fuel : Nat) (f : FieldP) : is_oneof fuel f = .ok (isOneof f) := is_oneof_eq fuel f

/-- `field_wraps` as written is the model's `wrapsOf` (membership in the regenerated WRAPPER_TYPES, the constant
    named after the last segment without `Value`, upper-cased) -/
theorem src_field_wraps (fuel : Nat) (self : Py.Plg.Self) :
    FieldCompiler.field_wraps fuel self = .ok ((wrapsOf self.proto_obj.typeName).map ("betterproto.".toList ++ ·)) :=
  field_wraps_eq fuel self

/-- the flags as written: `optional` is `proto3_optional`; `repeated` is "the label is LABEL_REPEATED" (the model's
    `annOf` test); `packed` is `repeated` and membership in the module's PROTO_PACKED_TYPES -/
theorem src_flags (fuel : Nat) (self : Py.Plg.Self) :
    FieldCompiler.optional fuel self = .ok self.proto_obj.proto3Optional
    ∧ FieldCompiler.repeated fuel self = .ok (decide (self.proto_obj.label = Label.repeated))
    ∧ FieldCompiler.packed fuel self
        = .ok (decide (self.proto_obj.label = Label.repeated) && PROTO_PACKED_TYPES.contains self.proto_obj.type) :=
  ⟨optional_eq fuel self, repeated_eq fuel self, packed_eq fuel self⟩

/-- the module's PROTO_PACKED_TYPES as written is the runtime's `PACKED_TYPES` (through the schema's type table)
    WITHOUT the enum type: `FieldCompiler.packed` says "not packed" of a repeated enum field, which the runtime
    does pack (the property is read by no template) -/
theorem src_packed_table (t : Nat) :
    PROTO_PACKED_TYPES.contains t = (specType t).any (fun p => Gen.packedTypes.contains p && p != .enum) := by
  rw [packedTable]
  by_cases h : t < 19
  · revert t; decide
  · rw [contains_false_of_ge 19 _ t (by decide) (by omega)]
    unfold specType
    rw [lookupN?_none_of_ge 19 _ t (by decide) (by omega)]
    rfl

/-- `field_type` as written is the model's constructor-name table; ValueError (the model's `none`) for a number
    that is no FieldDescriptorProtoType -/
theorem src_field_type (fuel : Nat) (self : Py.Plg.Self) :
    FieldCompiler.field_type fuel self
      = (match lookupN? self.proto_obj.type fieldTypeStr with
         | some s => .ok s
         | none => .raise .value) := field_type_eq fuel self

/-- `py_type` as written classifies the descriptor type as the model's `pyTypeOf`: scalar names from
    `scalarPyType`, `get_type_reference` on the type name for TYPE_MESSAGE / TYPE_ENUM, NotImplementedError otherwise -/
theorem src_py_type (fuel : Nat) (self : Py.Plg.Self) :
    FieldCompiler.py_type fuel self
      = pyTypeVia self.proto_obj.type (self.get_type_reference self.proto_obj.typeName) := by
  rw [← srcPyType_eq]
  unfold FieldCompiler.py_type srcPyType Py.Plg.fType Py.Plg.fTypeName
  simp only [Res.bind_ok]

/-- `py_name` / `proto_name` as written: the field-naming function of compile/naming.py on the descriptor's name -/
theorem src_names (fuel : Nat) (self : Py.Plg.Self) :
    FieldCompiler.py_name fuel self = .ok (Naming.pythonizeFieldName self.proto_obj.name)
    ∧ FieldCompiler.proto_name fuel self = .ok self.proto_obj.name := py_name_eq fuel self

/-- `betterproto_field_args` as written, class by class: `wraps=` from `wrapsOf`, `optional=True` from
    `proto3_optional` (forced by the pydantic oneof class), `group=` the name of `oneof_decl[oneof_index]` for the two
    oneof classes (IndexError on a dangling index), the two stored type names for a map -/
theorem src_field_args (fuel : Nat) (self : Py.Plg.Self) :
    FieldCompiler.betterproto_field_args fuel self
        = .ok (argsOf none (wrapsOf self.proto_obj.typeName) self.proto_obj.proto3Optional none)
    ∧ OneOfFieldCompiler.betterproto_field_args fuel self
        = (match self.parent_proto_obj.oneofs[self.proto_obj.oneofIndex.getD 0]? with
           | some g => .ok (argsOf none (wrapsOf self.proto_obj.typeName) self.proto_obj.proto3Optional (some g))
           | none => .raise .key)
    ∧ PydanticOneOfFieldCompiler.betterproto_field_args fuel self
        = (match self.parent_proto_obj.oneofs[self.proto_obj.oneofIndex.getD 0]? with
           | some g => .ok (argsOf none (wrapsOf self.proto_obj.typeName) true (some g))
           | none => .raise .key)
    ∧ MapEntryCompiler.betterproto_field_args fuel self
        = .ok (argsOf (some (self.proto_k_type, self.proto_v_type)) none false none) :=
  ⟨field_args_eq fuel self, oneof_field_args_eq fuel self, pydantic_oneof_field_args_eq fuel self,
   map_field_args_eq fuel self⟩

/-- the subclasses as written: the oneof classes inherit every other property unchanged (pydantic: `optional` is
    True); the map class is never repeated / packed and its constructor is `map` -/
theorem src_subclasses (fuel : Nat) (self : Py.Plg.Self) :
    (OneOfFieldCompiler.field_wraps fuel self = FieldCompiler.field_wraps fuel self
      ∧ OneOfFieldCompiler.optional fuel self = FieldCompiler.optional fuel self
      ∧ OneOfFieldCompiler.repeated fuel self = FieldCompiler.repeated fuel self
      ∧ OneOfFieldCompiler.field_type fuel self = FieldCompiler.field_type fuel self
      ∧ OneOfFieldCompiler.py_type fuel self = FieldCompiler.py_type fuel self)
    ∧ (PydanticOneOfFieldCompiler.optional fuel self = .ok true
      ∧ PydanticOneOfFieldCompiler.field_wraps fuel self = FieldCompiler.field_wraps fuel self
      ∧ PydanticOneOfFieldCompiler.repeated fuel self = FieldCompiler.repeated fuel self
      ∧ PydanticOneOfFieldCompiler.field_type fuel self = FieldCompiler.field_type fuel self)
    ∧ (MapEntryCompiler.field_type fuel self = .ok "map".toList ∧ MapEntryCompiler.repeated fuel self = .ok false
      ∧ MapEntryCompiler.packed fuel self = .ok false) :=
  ⟨⟨rfl, rfl, rfl, rfl, rfl⟩, ⟨rfl, rfl, rfl, rfl⟩, ⟨rfl, rfl, rfl⟩⟩

/-- **a plain field against `compileField`**: when the model compiles `f` to `c` outside the map / oneof branches,
    the arguments and the constructor name of the source as written are those of `c` -/
theorem src_plain_field (fuel : Nat) (nm : Naming) (m : MsgP) (f : FieldP) (c : CField) (ref : Str → Res Str)
    (hm : getMapEntry f m = none) (ho : isOneof f = false) (hc : compileField nm m f = some c) :
    FieldCompiler.betterproto_field_args fuel (selfOf f m ref) = .ok (cfieldArgs c)
    ∧ FieldCompiler.field_type fuel (selfOf f m ref) = .ok c.ctor := by
  obtain ⟨h1, h2, h3, _, h5⟩ := compileField_plain hm hc
  refine ⟨?_, ?_⟩
  · rw [field_args_eq]; show Res.ok (argsOf none (wrapsOf f.typeName) f.proto3Optional none) = _
    rw [← h3, ← h5 ho, ← h2]
  · rw [field_type_eq]; show (match lookupN? f.type fieldTypeStr with | some s => _ | none => _) = _
    rw [h1]

/-- **a oneof member against `compileField`** (and its pydantic twin: the same with `optional=True`) -/
theorem src_oneof_field (fuel : Nat) (nm : Naming) (m : MsgP) (f : FieldP) (c : CField) (ref : Str → Res Str)
    (hm : getMapEntry f m = none) (ho : isOneof f = true) (hc : compileField nm m f = some c) :
    OneOfFieldCompiler.betterproto_field_args fuel (selfOf f m ref) = .ok (cfieldArgs c)
    ∧ OneOfFieldCompiler.field_type fuel (selfOf f m ref) = .ok c.ctor
    ∧ PydanticOneOfFieldCompiler.betterproto_field_args fuel (selfOf f m ref)
        = .ok (cfieldArgs { c with optional := true }) := by
  obtain ⟨h1, h2, h3, h4, _⟩ := compileField_plain hm hc
  obtain ⟨g, hq, hg⟩ := h4 ho
  refine ⟨?_, ?_, ?_⟩
  · rw [oneof_field_args_eq]
    show (match m.oneofs[f.oneofIndex.getD 0]? with | some g => _ | none => _) = _
    rw [hq]; show Res.ok (argsOf none (wrapsOf f.typeName) f.proto3Optional (some g)) = _
    rw [← h3, ← hg, ← h2]
  · show FieldCompiler.field_type fuel (selfOf f m ref) = _
    rw [field_type_eq]; show (match lookupN? f.type fieldTypeStr with | some s => _ | none => _) = _
    rw [h1]
  · rw [pydantic_oneof_field_args_eq]
    show (match m.oneofs[f.oneofIndex.getD 0]? with | some g => _ | none => _) = _
    rw [hq, h2, hg]; rfl

/-- **a map field against `compileField`**, given that the object stores the type names of the entry's first two
    fields (what `__post_init__` computes with `get_map_entry`, tied above) -/
theorem src_map_field (fuel : Nat) (nm : Naming) (m e : MsgP) (f : FieldP) (c : CField) (self : Py.Plg.Self)
    (hm : getMapEntry f m = some e) (hc : compileField nm m f = some c)
    (hk : ∀ k v r, e.fields = k :: v :: r →
      Py.Plg.typeEnumName k.type = .ok self.proto_k_type ∧ Py.Plg.typeEnumName v.type = .ok self.proto_v_type) :
    MapEntryCompiler.betterproto_field_args fuel self = .ok (cfieldArgs c)
    ∧ MapEntryCompiler.field_type fuel self = .ok c.ctor := by
  rcases compileField_cases hc with ⟨e', k, v, r, pk, pv, tk, tv, he, hf, -, -, h3, h4, rfl⟩ | ⟨_, _, _, he, -⟩
  · cases hm.symm.trans he
    obtain ⟨a1, a2⟩ := hk k v r hf
    unfold Py.Plg.typeEnumName at a1 a2
    rw [h3] at a1; rw [h4] at a2
    injection a1 with a1; injection a2 with a2
    refine ⟨?_, rfl⟩
    rw [map_field_args_eq, ← a1, ← a2]; rfl
  · rw [hm] at he; cases he

/-- `annotation` as written is the typing compiler's rendering of the model's `annOf` (list for a repeated label,
    Optional for proto3_optional, bare otherwise), whatever text the inner type gets; a map's is `dict` of the two
    stored types -/
theorem src_annotation (fuel : Nat) (self : Py.Plg.Self) (tc : Py.Plg.TC) (ρ : PyT → Str) (py : PyT)
    (hpy : FieldCompiler.py_type fuel self = .ok (ρ py)) (hb : self.use_builtins = false) :
    FieldCompiler.annotation fuel self tc = renderAnn fuel tc ρ (annOf self.proto_obj py)
    ∧ MapEntryCompiler.annotation fuel self tc = TypingCompiler.dict fuel tc self.py_k_type self.py_v_type := by
  refine ⟨?_, by unfold MapEntryCompiler.annotation; exact bind_pair_id _⟩
  rw [annotation_eq, hpy]
  simp only [Res.bind, hb, Bool.false_eq_true, if_false]
  unfold annOf
  by_cases h : self.proto_obj.label = Label.repeated
  · simp only [h, if_true]; rfl
  · simp only [h, if_false]
    cases self.proto_obj.proto3Optional <;> rfl

/-- `get_field_string` as written (its text): the line of `CField`'s doc comment, assembled from name,
    annotation, constructor name, number and arguments -/
theorem src_get_field_string (fuel : Nat) (self : Py.Plg.Self) (tc tc' : Py.Plg.TC) (indent : Int) (a ctor : Str)
    (args : List Str) (ha : FieldCompiler.annotation fuel self tc = .ok (a, tc'))
    (hargs : FieldCompiler.betterproto_field_args fuel self = .ok args)
    (hct : FieldCompiler.field_type fuel self = .ok ctor) :
    FieldCompiler.get_field_string fuel self tc indent
      = .ok (lineOf (Naming.pythonizeFieldName self.proto_obj.name) a ctor self.proto_obj.number args, tc') := by
  unfold FieldCompiler.get_field_string
  rw [(py_name_eq fuel self).1, ha, hargs, hct]
  simp only [Res.bind]
  rw [Res.ok_ite]
  simp only [field_args_text]
  unfold lineOf Py.Plg.strOfInt Py.Plg.fNumber
  simp only [List.append_assoc]

/-! ### corollaries about the plugin as written, through the tie -/

/-- **a field is compiled as a map exactly when its type is the map-entry message nested in its own parent with
    that exact name**: `is_map` as written answers True iff the field is a repeated message field and some nested
    message of the parent has `map_entry` set and is named exactly like the last segment of the field's type name
    (no lower-casing, no suffix match) -/
theorem src_map_iff_exact_entry (fuel : Nat) (f : FieldP) (m : MsgP) :
    is_map fuel f (.descriptor m) = .ok true
      ↔ (f.type = typeMessage ∧ f.label = Label.repeated)
        ∧ ∃ e ∈ m.nested, e.mapEntry = true ∧ e.name = lastSeg f.typeName := by
  rw [src_is_map]
  unfold isMap getMapEntry
  constructor
  · intro h
    injection h with h
    split at h
    · rename_i hc
      refine ⟨hc, ?_⟩
      cases hf : m.nested.find? (fun n => n.mapEntry && decide (n.name = lastSeg f.typeName)) with
      | none => rw [hf] at h; cases h
      | some e =>
        obtain ⟨h1, h2⟩ := find?_some_mem hf
        simp only [Bool.and_eq_true, decide_eq_true_eq] at h2
        exact ⟨e, h1, h2.1, h2.2⟩
    · cases h
  · rintro ⟨hc, e, he, h1, h2⟩
    rw [if_pos hc]
    congr 1
    rw [List.find?_isSome]
    exact ⟨e, he, by simp [h1, h2]⟩

/-- … and, for a message protoc accepts (`validMsg`) outside the residual D31 region (`mapRefsLocal`), the entry
    `get_map_entry` as written returns is the schema's: the `map_entry` message nested in the field's own message
    whose FULL name is the field's type (through `getMapEntry_eq_spec` of C03) -/
theorem src_map_entry_is_schema_partial (fuel : Nat) (full : Name) (m : MsgP) (f : FieldP)
    (hv : validMsg full m = true) (hl : mapRefsLocal full m = true) (hf : f ∈ m.fields) :
    get_map_entry fuel f (.descriptor m) = .ok (specMapEntry full m f) := by
  rw [src_get_map_entry, getMapEntry_eq_spec hv hl hf]

/-- **a oneof member carries its group, a proto3-optional field does not.**  For a field whose `oneof_index` is set
    to a declared oneof `g`: when it is not `proto3_optional`, `is_oneof` as written is True and the arguments of
    `OneOfFieldCompiler` as written end in `group="g"` — the group the schema says (`specGroup`); when it is
    `proto3_optional` (the synthetic oneof of an `optional` field), `is_oneof` as written is False, the
    `FieldCompiler` arguments carry `optional=True` and no group, and the schema says no group either -/
theorem src_oneof_group_vs_proto3_optional (fuel : Nat) (m : MsgP) (f : FieldP) (i : Nat) (g : Name) (ref : Str → Res Str)
    (hi : f.oneofIndex = some i) (hg : m.oneofs[i]? = some g) :
    (f.proto3Optional = false →
        is_oneof fuel f = .ok true
        ∧ OneOfFieldCompiler.betterproto_field_args fuel (selfOf f m ref)
            = .ok (argsOf none (wrapsOf f.typeName) false (some g))
        ∧ specGroup m f = some (some g))
    ∧ (f.proto3Optional = true →
        is_oneof fuel f = .ok false
        ∧ FieldCompiler.betterproto_field_args fuel (selfOf f m ref) = .ok (argsOf none (wrapsOf f.typeName) true none)
        ∧ specGroup m f = some none) := by
  constructor
  · intro hp
    refine ⟨?_, ?_, ?_⟩
    · rw [src_is_oneof]; unfold isOneof; rw [hp, hi]; rfl
    · rw [(src_field_args fuel (selfOf f m ref)).2.1]
      show (match m.oneofs[f.oneofIndex.getD 0]? with | some g => _ | none => _) = _
      rw [hi]; simp only [Option.getD_some]; rw [hg]
      show Res.ok (argsOf none (wrapsOf f.typeName) f.proto3Optional (some g)) = _
      rw [hp]
    · unfold specGroup; rw [hi]; simp only [hp, Bool.false_eq_true, if_false, hg, Option.map_some]
  · intro hp
    refine ⟨?_, ?_, ?_⟩
    · rw [src_is_oneof]; unfold isOneof; rw [hp]; rfl
    · rw [(src_field_args fuel (selfOf f m ref)).1]
      show Res.ok (argsOf none (wrapsOf f.typeName) f.proto3Optional none) = _
      rw [hp]
    · unfold specGroup; rw [hi]; simp only [hp, if_true]

/-- **the arguments as written read back as the schema says** (`field_faithful_partial` through the tie): for
    every field of a message protoc accepts, outside the excluded regions of C03, that the classification as written
    does not take for a map, the model compiles it to a `c` whose evaluation shows exactly the schema's field
    (`specOf`), and the class the parser picks by `is_oneof` as written produces exactly `c`'s arguments and
    constructor name -/
theorem src_field_args_faithful_partial (fuel : Nat) (nm : Naming) (full : Name) (m : MsgP) (f : FieldP)
    (ref : Str → Res Str)
    (hv : validMsg full m = true) (hl : mapRefsLocal full m = true) (hw : noWrapperMapValue m = true)
    (hf : f ∈ m.fields) (hmap : is_map fuel f (.descriptor m) = .ok false) :
    ∃ c s, specOf full m f = some s ∧ (readBack c).map observe = some s
      ∧ (is_oneof fuel f = .ok false →
          FieldCompiler.betterproto_field_args fuel (selfOf f m ref) = .ok (cfieldArgs c)
          ∧ FieldCompiler.field_type fuel (selfOf f m ref) = .ok c.ctor)
      ∧ (is_oneof fuel f = .ok true →
          OneOfFieldCompiler.betterproto_field_args fuel (selfOf f m ref) = .ok (cfieldArgs c)
          ∧ OneOfFieldCompiler.field_type fuel (selfOf f m ref) = .ok c.ctor) := by
  obtain ⟨c, s, hc, _, hs, hr⟩ := field_faithful_partial nm full m f hv hl hw hf
  have hm : getMapEntry f m = none := by
    rw [src_is_map] at hmap
    simpa [isMap] using hmap
  refine ⟨c, s, hs, hr, ?_, ?_⟩
  · intro ho
    rw [src_is_oneof] at ho; injection ho with ho
    exact src_plain_field fuel nm m f c ref hm ho hc
  · intro ho
    rw [src_is_oneof] at ho; injection ho with ho
    exact ⟨(src_oneof_field fuel nm m f c ref hm ho hc).1, (src_oneof_field fuel nm m f c ref hm ho hc).2.1⟩

/-! ### non-vacuity: the translated source run on concrete descriptors (the verbatim strings) -/

example : is_map 0 (mapF "a_b" 1 ".p.M.ABEntry") (.descriptor d08) = .ok true
    ∧ (get_map_entry 0 (mapF "a_b" 1 ".p.M.ABEntry") (.descriptor d08)).bind (fun e => .ok (e.map MsgP.name))
        = .ok (some (ch "ABEntry")) := by decide +kernel
example : is_map 0 (mapF "ab" 2 ".p.M.AbEntry") .compiler = .ok false := by decide +kernel
example : FieldCompiler.field_wraps 0 (selfOf { name := ch "w", number := 6, label := .optional, type := 11, typeName := ch ".google.protobuf.UInt64Value" } demo (fun _ => .ok [])) = .ok (some (ch "betterproto.TYPE_UINT64")) := by
  rw [src_field_wraps]; decide +kernel
example : FieldCompiler.field_wraps 0 (selfOf { name := ch "w", number := 6, label := .optional, type := 11, typeName := ch ".google.protobuf.EnumValue" } demo (fun _ => .ok [])) = .ok none := by
  rw [src_field_wraps]; decide +kernel
example : (FieldCompiler.get_field_string 0 (selfOf { name := ch "opt", number := 3, label := .optional, type := 13, oneofIndex := some 1, proto3Optional := true } demo (fun _ => .ok [])) (.direct []) 4).bind (fun r => .ok r.1)
    = .ok (ch "opt: Optional[int] = betterproto.uint32_field(3, optional=True)") := by decide +kernel
example : (OneOfFieldCompiler.get_field_string 0 (selfOf { name := ch "b", number := 5, label := .optional, type := 11, typeName := ch ".google.protobuf.Timestamp", oneofIndex := some 0 } demo (fun _ => .ok (ch "datetime"))) (.direct []) 4).bind
      (fun r => .ok r.1)
    = .ok (ch "b: datetime = betterproto.message_field(5, group=\"choice\")") := by decide +kernel
example : (PydanticOneOfFieldCompiler.get_field_string 0 (selfOf { name := ch "a", number := 4, label := .optional, type := 12, oneofIndex := some 0 } demo (fun _ => .ok [])) (.noTyping310 []) 4).bind (fun r => .ok r.1)
    = .ok (ch "a: \"bytes | None\" = betterproto.bytes_field(4, optional=True, group=\"choice\")") := by decide +kernel
example : FieldCompiler.field_type 0 (selfOf { name := ch "x", number := 1, label := .optional, type := 19 } demo
    (fun _ => .ok [])) = .raise .value := by decide +kernel

#print axioms src_get_map_entry
#print axioms src_is_map
#print axioms src_is_map_of_compiler
#print axioms src_is_oneof
#print axioms src_field_wraps
#print axioms src_flags
#print axioms src_packed_table
#print axioms src_field_type
#print axioms src_py_type
#print axioms src_names
#print axioms src_field_args
#print axioms src_subclasses
#print axioms src_plain_field
#print axioms src_oneof_field
#print axioms src_map_field
#print axioms src_annotation
#print axioms src_get_field_string
#print axioms src_map_iff_exact_entry
#print axioms src_map_entry_is_schema_partial
#print axioms src_oneof_group_vs_proto3_optional
#print axioms src_field_args_faithful_partial

end Bp.C03
