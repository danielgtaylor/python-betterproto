import BpProofs.PluginFaithful
import BpProofs.PluginTraverse
/-
  C03 — plugin output faithfully implements the schema (translation validity).

  Model: BpModel/Plugin.lean (descriptor tree → traverse/flatten → is_map / is_oneof / plain →
  one generated line per field → what dataclasses.fields + FieldMetadata + the hint show).
  The class-, field- and member-naming functions are parameters (`Naming`, subject of C19):
  every theorem below holds for all of them.  Only property statements live here.

  Full statement (English property): for EVERY valid proto3 schema each message / enum has
  exactly one class and each field carries number, type, cardinality, map types, group and
  wrapper / Timestamp / Duration mapping.  It is FALSE of the code in four regions, each kept
  visible below as a decidable guard with a `decide`d witness that the harness replays on
  the real plugin:
    * `noFlattenCollision`  — `Foo.Bar` and `FooBar` become the same class            (D28)
    * names `Nodup` after snake-casing — `foo` and `Foo` become one dataclass field    (D29)
    * `noWrapperMapValue`   — map<_, google.protobuf.BoolValue> is annotated
                              Dict[_, Optional[bool]]                                  (D30)
    * `mapRefsLocal`        — residue of D08 after the fix: `repeated X.FooEntry bar`
                              next to `map<..> foo` is still taken for the map         (D31)
  D08 itself (lower-cased name matching) and D24 (wrapper regex) are fixed by
  fixes/D08-*.patch and fixes/D24-*.patch; the model is of the fixed code and the old code
  is kept as `Legacy.*` with its witnesses.
-/
namespace Bp.C03
open Bp Bp.Plugin Bp.Gen.Desc

/-! ### sentence 2: every field carries the schema's number, scalar type, cardinality, map
    key/value types, oneof group and wrapper / Timestamp / Duration mapping -/

/-- **field faithfulness.**  For every message `m` (full name `full`) that satisfies what protoc
    guarantees (`validMsg`) and lies outside the two excluded regions, and for every field `f`
    of `m`: the plugin emits a line `c` for it (it does not raise), named by the field-naming
    function, and evaluating that line (`readBack`, i.e. `betterproto.<x>_field(...)` + the
    annotation) shows exactly what the schema says (`specOf`): number, proto type, cardinality
    (singular / optional / repeated / map with key and value types), oneof group, `wraps`,
    and the element mapping (scalar / unwrapped wrapper / datetime / timedelta / class ref). -/
theorem field_faithful_partial (nm : Naming) (full : Name) (m : MsgP) (f : FieldP)
    (hv : validMsg full m = true) (hl : mapRefsLocal full m = true) (hw : noWrapperMapValue m = true)
    (hf : f ∈ m.fields) :
    ∃ c s, compileField nm m f = some c ∧ c.pyName = nm.fld f.name ∧ specOf full m f = some s
      ∧ (readBack c).map observe = some s :=
  let ⟨c, _, s, C⟩ := field_compiled nm hv hl hw hf
  ⟨c, s, C.compile, C.name, C.spec, by rw [C.back, ← C.obs]; rfl⟩

/-- the numbers alone, for *every* descriptor (no guard): whenever the plugin emits a line for a
    field, the line carries the field's number -/
theorem field_number_preserved (nm : Naming) (m : MsgP) (f : FieldP) (c : CField)
    (h : compileField nm m f = some c) : c.number = f.number ∧ c.pyName = nm.fld f.name := by
  rcases compileField_cases h with ⟨_, _, _, _, _, _, _, _, -, -, -, -, -, -, rfl⟩ | ⟨_, _, _, -, -, -, -, rfl⟩
  · exact ⟨rfl, rfl⟩
  · exact ⟨rfl, rfl⟩

/-- **exactly one field per schema field.**  A message class has one line per schema field, in
    declaration order; under the guard that the Python names are distinct (D29 region excluded)
    no two lines share a name, so the dataclass has exactly `m.fields.length` fields. -/
theorem one_field_per_schema_field_partial (nm : Naming) (m : MsgP) (cs : List CField)
    (h : compileFields nm m m.fields = some cs)
    (hn : (m.fields.map fun f => nm.fld f.name).Nodup) :
    cs.length = m.fields.length ∧ cs.map (·.pyName) = m.fields.map (fun f => nm.fld f.name)
      ∧ cs.map (·.number) = m.fields.map (·.number) ∧ (cs.map (·.pyName)).Nodup := by
  have F := compileFields_iff.1 h
  have h1 := (map_transport F fun f c _ hc => (field_number_preserved nm m f c hc).2.symm).symm
  have h2 := (map_transport F fun f c _ hc => (field_number_preserved nm m f c hc).1.symm).symm
  exact ⟨by simpa using congrArg List.length h1, h1, h2, h1 ▸ hn⟩

/-! ### sentence 1: one class per message and per enum, nested ones included -/

/-- **class list = type list**, for *every* descriptor tree on which the plugin does not raise:
    the classes emitted for a file are, in order, exactly the messages (synthetic map entries
    excepted) and enums of the schema at every nesting depth, each named by the class-naming
    function applied to its flattened path `_Outer_Inner`, messages as message classes and enums
    as enum classes. -/
theorem classes_are_all_types (nm : Naming) (fl : FileP) (cs : List Class)
    (h : compileFile nm fl = some cs) :
    cs.map (fun c => (c.pyName, c.kind)) = (allTypes fl).map fun t => (nm.cls (flatName t.1), t.2) := by
  unfold compileFile at h
  rw [readItems_keys nm _ cs h, traverse_key, List.map_map]
  rfl

/-- **exactly one class per type**, under the no-flatten-collision guard (D28 region excluded):
    as many classes as types, pairwise distinct names, and every type has its class. -/
theorem one_class_per_type_partial (nm : Naming) (fl : FileP) (cs : List Class)
    (h : compileFile nm fl = some cs) (hg : noFlattenCollision nm fl = true) :
    cs.length = (allTypes fl).length ∧ (cs.map Class.pyName).Nodup
      ∧ ∀ t ∈ allTypes fl, ∃ c ∈ cs, c.pyName = nm.cls (flatName t.1) ∧ c.kind = t.2 := by
  obtain ⟨h1, h2, h3⟩ := keyed_one_each (classes_are_all_types nm fl cs h) (of_decide_eq_true hg)
  exact ⟨h1, h2, fun t ht => let ⟨c, hc, he⟩ := h3 t ht; ⟨c, hc, (Prod.mk.inj he).1, (Prod.mk.inj he).2⟩⟩

/-- the plugin does not raise on a message all of whose fields compile — in particular on every
    protoc-valid message outside the excluded regions (by `field_faithful_partial`) -/
theorem message_compiles_partial (nm : Naming) (full : Name) (m : MsgP)
    (hv : validMsg full m = true) (hl : mapRefsLocal full m = true) (hw : noWrapperMapValue m = true) :
    (compileFields nm m m.fields).isSome = true := by
  rw [compileFields_eq]
  apply mapMOpt_isSome
  intro f hf
  obtain ⟨c, _, hc, _⟩ := field_faithful_partial nm full m f hv hl hw hf
  rw [hc]; rfl

/-! ### sentence 2, enums: each member carries the schema's number -/

/-- enum numbers are copied unchanged, in declaration order (aliases and negative numbers
    included: the numbers are arbitrary integers), names go through the member-naming function -/
theorem enum_numbers_preserved (nm : Naming) (flat : Name) (e : EnumP) :
    ∃ es, compileEnum nm flat e = .enum (nm.cls flat) es
      ∧ es.map (·.2) = e.values.map (·.2)
      ∧ es.map (·.1) = e.values.map (fun v => nm.mem v.1 flat) := by
  refine ⟨_, rfl, ?_, ?_⟩ <;> simp [List.map_map, Function.comp_def]

/-- every enum reached by the traversal is compiled by `compileEnum` (never skipped, never fails) -/
theorem enum_item_compiled (nm : Naming) (flat : Name) (e : EnumP) :
    readItem nm (.enum flat e) = some (some (compileEnum nm flat e)) := rfl

/-! ### sentence 3: the bundled descriptor classes agree with descriptor.proto / plugin.proto -/

/-- every class of `lib/std/google/protobuf`, `lib/std/google/protobuf/compiler` and their
    pydantic twins agrees with google.protobuf's own DESCRIPTORs (descriptor.proto, plugin.proto
    and the well-known-type files) on every field number they share: same field name, same
    proto type, same repeated-ness — and a field name they share has the same number.
    `Gen/Descriptors.lean` is regenerated on every run. -/
theorem bundled_descriptors_agree :
    libAgrees bundledStd = true ∧ libAgrees bundledStdCompiler = true
    ∧ libAgrees bundledPydantic = true ∧ libAgrees bundledPydanticCompiler = true := by
  decide +kernel

/-- … and the bundled enums (FieldDescriptorProto.Type / Label, …) carry the reference numbers -/
theorem bundled_enums_agree :
    libEnumsAgree bundledStdEnums = true ∧ libEnumsAgree bundledStdCompilerEnums = true
    ∧ libEnumsAgree bundledPydanticEnums = true ∧ libEnumsAgree bundledPydanticCompilerEnums = true := by
  decide +kernel

/-- non-vacuity of the agreement: several hundred (class, field) pairs are shared -/
theorem bundled_shared_nonempty :
    200 ≤ sharedCount bundledStd ∧ 15 ≤ sharedCount bundledStdCompiler := by
  decide +kernel

/-! ### negation witnesses for the excluded regions (each replayed on the real plugin) -/

section witnesses
def ch (s : String) : Name := s.toList
def entry (n : String) (k v : Nat) (vt : String := "") : MsgP :=
  .mk (ch n) [{ name := ch "key", number := 1, label := .optional, type := k },
              { name := ch "value", number := 2, label := .optional, type := v, typeName := ch vt }] [] [] [] true
def mapF (n : String) (num : Nat) (tn : String) : FieldP :=
  { name := ch n, number := num, label := .repeated, type := 11, typeName := ch tn }
def idNaming : Naming := { cls := fun n => n.filter (· ≠ '_'), fld := id, mem := fun n _ => n }

/-- D08 message: `map<string,int32> a_b = 1; map<int64,string> ab = 2;` -/
def d08 : MsgP := .mk (ch "M") [mapF "a_b" 1 ".p.M.ABEntry", mapF "ab" 2 ".p.M.AbEntry"]
  [entry "ABEntry" 9 5, entry "AbEntry" 3 9] [] [] false

/-- D08, code before the fix: both fields resolve to the *later* entry `AbEntry` (int64 → string),
    so `a_b` (string → int32 in the schema) is compiled with the wrong types -/
theorem legacy_D08_witness :
    (Legacy.mapEntry (mapF "a_b" 1 ".p.M.ABEntry") d08).map MsgP.name = some (ch "AbEntry")
    ∧ (specMapEntry (ch ".p.M") d08 (mapF "a_b" 1 ".p.M.ABEntry")).map MsgP.name = some (ch "ABEntry") := by
  decide +kernel

/-- D08 after the fix: in the guards' domain, and the compiled line reads back as the schema says -/
theorem fixed_D08_witness :
    validMsg (ch ".p.M") d08 = true ∧ mapRefsLocal (ch ".p.M") d08 = true
    ∧ ((compileField idNaming d08 (mapF "a_b" 1 ".p.M.ABEntry")).bind readBack).map (·.mapTypes)
        = some (some (.string, .int32)) := by
  delta validMsg validField validEntry
  simp only [spec_tables.1, spec_tables.2.1, spec_tables.2.2]
  decide +kernel

/-- D24, code before the fix: `google.protobuf.EnumValue` matches the wrapper regex and
    `TYPE_ENUM` exists, although the schema (wrappers.proto) has no such wrapper -/
theorem legacy_D24_witness :
    Legacy.wrapsOf (ch ".google.protobuf.EnumValue") = some (ch "TYPE_ENUM")
    ∧ lookup? (ch ".google.protobuf.EnumValue") specWrappers = none
    ∧ wrapsOf (ch ".google.protobuf.EnumValue") = none := by
  simp only [spec_tables.1]
  decide +kernel

/-- D31 (residual region of `mapRefsLocal`): `repeated X.FooEntry bar = 2` next to
    `map<string,int32> foo = 1` is still compiled as a map although the schema says repeated message -/
def d31 : MsgP := .mk (ch "M") [mapF "foo" 1 ".p.M.FooEntry", mapF "bar" 2 ".p.X.FooEntry"]
  [entry "FooEntry" 9 5] [] [] false
theorem mapRefsLocal_needed :
    validMsg (ch ".p.M") d31 = true ∧ mapRefsLocal (ch ".p.M") d31 = false
    ∧ (compileField idNaming d31 (mapF "bar" 2 ".p.X.FooEntry")).map (·.ctor) = some (ch "map")
    ∧ (specOf (ch ".p.M") d31 (mapF "bar" 2 ".p.X.FooEntry")).map (·.card) = some .repeated := by
  delta validMsg validField validEntry
  -- `rw`, not `delta`, for the closed calls of `specOf`: checking that conversion the kernel evaluates the lookup in
  -- the string table once more; the equation lemma costs nothing
  rw [specOf, specElem, specElemRef, specElemMapValue]
  simp only [spec_tables.1, spec_tables.2.1, spec_tables.2.2]
  decide +kernel

/-- D30 (excluded by `noWrapperMapValue`): `map<string, google.protobuf.BoolValue> w = 1` reads
    back with element `Optional[bool]` where the schema demands the BoolValue class -/
def d30 : MsgP := .mk (ch "M") [mapF "w" 1 ".p.M.WEntry"] [entry "WEntry" 9 11 ".google.protobuf.BoolValue"] [] [] false
theorem noWrapperMapValue_needed :
    validMsg (ch ".p.M") d30 = true ∧ noWrapperMapValue d30 = false
    ∧ (((compileField idNaming d30 (mapF "w" 1 ".p.M.WEntry")).bind readBack).map observe).map (·.elem)
        = some (.unwrapped (ch "bool"))
    ∧ (specOf (ch ".p.M") d30 (mapF "w" 1 ".p.M.WEntry")).map (·.elem) = some (.ref (ch ".google.protobuf.BoolValue")) := by
  delta validMsg validField validEntry noWrapperMapValue specOf specElem specElemRef specElemMapValue
  simp only [spec_tables.1, spec_tables.2.1, spec_tables.2.2]
  decide +kernel

/-- D28 (excluded by `noFlattenCollision`): `message Foo { message Bar {} } message FooBar {}`
    — two types, two classes with one name (the naming function here drops underscores, as
    pascal_case does on these names) -/
def d28 : FileP :=
  ⟨ch "p", [.mk (ch "Foo") [] [.mk (ch "Bar") [] [] [] [] false] [] [] false, .mk (ch "FooBar") [] [] [] [] false], []⟩
theorem noFlattenCollision_needed :
    noFlattenCollision idNaming d28 = false
    ∧ (compileFile idNaming d28).map (·.map Class.pyName) = some [ch "Foo", ch "FooBar", ch "FooBar"] := by
  decide +kernel

/-- D29 (excluded by the `Nodup` guard of `one_field_per_schema_field_partial`): `int32 foo = 1;
    string Foo = 2;` with a case-folding field-naming function gives two lines named `foo` -/
theorem field_names_nodup_needed :
    let nm : Naming := { idNaming with fld := fun n => n.map Char.toLower }
    let m : MsgP := .mk (ch "M") [{ name := ch "foo", number := 1, label := .optional, type := 5 },
                                  { name := ch "Foo", number := 2, label := .optional, type := 9 }] [] [] [] false
    (compileFields nm m m.fields).map (·.map (·.pyName)) = some [ch "foo", ch "foo"] := by
  decide +kernel

end witnesses

/-! ### non-vacuity: a concrete schema inside every guard, exercising every field shape -/

def demo : MsgP := .mk (ch "Demo")
  [ { name := ch "id", number := 1, label := .optional, type := 3 },
    { name := ch "tags", number := 2, label := .repeated, type := 9 },
    { name := ch "opt", number := 3, label := .optional, type := 13, oneofIndex := some 1, proto3Optional := true },
    { name := ch "a", number := 4, label := .optional, type := 12, oneofIndex := some 0 },
    { name := ch "b", number := 5, label := .optional, type := 11, typeName := ch ".google.protobuf.Timestamp", oneofIndex := some 0 },
    { name := ch "w", number := 6, label := .optional, type := 11, typeName := ch ".google.protobuf.UInt64Value" },
    { name := ch "d", number := 7, label := .repeated, type := 11, typeName := ch ".google.protobuf.Duration" },
    { name := ch "e", number := 8, label := .optional, type := 14, typeName := ch ".p.Demo.Kind" },
    mapF "m" 9 ".p.Demo.MEntry",
    { name := ch "self", number := 10, label := .optional, type := 11, typeName := ch ".p.Demo" } ]
  [entry "MEntry" 17 11 ".p.Demo"] [{ name := ch "Kind", values := [(ch "KIND_A", 0), (ch "KIND_B", -1), (ch "KIND_C", 0)] }]
  [ch "choice", ch "_opt"] false

example : validMsg (ch ".p.Demo") demo = true ∧ mapRefsLocal (ch ".p.Demo") demo = true
    ∧ noWrapperMapValue demo = true := by
  delta validMsg validField validEntry noWrapperMapValue
  simp only [spec_tables.1, spec_tables.2.1, spec_tables.2.2]
  decide +kernel

example : (demo.fields.map fun f => ((compileField idNaming demo f).bind readBack).map observe)
    = demo.fields.map (specOf (ch ".p.Demo") demo) := by
  delta specOf specElem specElemRef specElemMapValue
  simp only [spec_tables.1, spec_tables.2.1, spec_tables.2.2]
  decide +kernel

example : ((compileField idNaming demo (mapF "m" 9 ".p.Demo.MEntry")).bind readBack).map observe
    = some { number := 9, ty := .map, card := .map .sint32 .message, group := none, wraps := none,
             elem := .ref (ch ".p.Demo"), keyPy := some (ch "int") } := by decide +kernel

example : (compileFile idNaming ⟨ch "p", [demo], []⟩).map (·.map Class.pyName)
    = some [ch "Demo", ch "DemoKind"] := by decide +kernel

end Bp.C03
