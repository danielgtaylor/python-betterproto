import BpModel.Casing
import BpModel.Naming
import BpProofs.Casing
import BpProofs.CasingClass
import BpProofs.CasingFast
/-
  C19 — Name mapping is total and safe, and JSON keys map back to their fields.

  Only property statements live here; the lemmas are in BpProofs/Casing*.lean.
  Strings are `List Char`; every theorem is quantified over ALL strings (no length bound,
  not even restricted to identifiers unless said so).  `kw` is `keyword.kwlist`
  regenerated from the interpreter on every run (BpModel/Gen/Keywords.lean).

  Predicates used in the statements (defined in BpModel/Casing.lean, BpProofs/Casing.lean):
    pyIdent s            `s.isidentifier()` for ASCII strings: `[A-Za-z_][A-Za-z0-9_]*`
    LDWord w             w is non-empty and of the form `[a-z]*[0-9]*`
    allWordsAlpha2 s     every word the case functions find in `s` begins with two letters
    firstAlnumIsLetter s the first letter-or-digit of `s` is a letter
-/
namespace Bp.C19
open Bp.Casing Bp.Naming

/-- a string literal as the model sees it -/
abbrev str (s : String) : List Char := s.toList

/-! ## "Every legal proto identifier maps to a Python field, method … name that is a valid
       identifier and not a keyword" -/

/-- `pythonize_field_name` (= `safe_snake_case`) returns a valid identifier that is not a
    keyword — for every input string, in particular for every proto identifier. -/
theorem field_name_valid (s : List Char) :
    pyIdent (pythonizeFieldName s) = true ∧ pythonizeFieldName s ∉ kw :=
  safeSnake_valid s

/-- the same for `pythonize_method_name`. -/
theorem method_name_valid (s : List Char) :
    pyIdent (pythonizeMethodName s) = true ∧ pythonizeMethodName s ∉ kw :=
  safeSnake_valid s

/-- `pythonize_enum_member_name(name, enum_name)` returns a valid identifier that is not a
    keyword, for every member name made of identifier characters and every enum name. -/
theorem enum_member_name_valid (name enumName : List Char) (h : ∀ c ∈ name, identChar c = true) :
    pyIdent (pythonizeEnumMemberName name enumName) = true ∧ pythonizeEnumMemberName name enumName ∉ kw := by
  unfold pythonizeEnumMemberName
  simp only
  split
  · next rest heq =>
    exact sanitize_valid _ fun c hc => h c (afterFirst_subset _ _ _ heq c (stripU_subset _ c hc))
  · exact sanitize_valid _ h

/-! ## "… and the mapping is idempotent" -/

/-- field / method names: `safe_snake_case` is idempotent on every string. -/
theorem field_name_idem (s : List Char) : pythonizeFieldName (pythonizeFieldName s) = pythonizeFieldName s :=
  safeSnake_idem s

/-- `snake_case` is idempotent on every string. -/
theorem snake_case_idem (s : List Char) : snake (snake s) = snake s := snake_idem s

/-- normal form: `snake_case` output is a `_`-join of non-empty words `[a-z]*[0-9]*`
    (so: only `[a-z0-9_]`, no leading / trailing / doubled underscore), and these words are
    exactly what the case functions find in it again. -/
theorem snake_normal_form (s : List Char) :
    ∃ ws, snake s = joinU ws ∧ (∀ w ∈ ws, LDWord w) ∧ tokens (snake s) = ws :=
  ⟨(tokens s).map lowerW, rfl, snake_words_ld s, tokens_snake s⟩

/-! ## class names

  FULL STATEMENT (false of the code, D18):
    ∀ s, protoIdent s → pyIdent (pythonizeClassName s) ∧ pythonizeClassName s ∉ kw
                         ∧ pythonizeClassName (pythonizeClassName s) = pythonizeClassName s
  What is proved: validity whenever the first letter-or-digit is a letter and the result is not
  one of the capitalised keywords; idempotence whenever every word begins with two letters. -/

/-- class names are valid identifiers and not keywords when the proto name's first
    letter-or-digit is a letter and the result is not a capitalised keyword
    (`False`, `None`, `True`). -/
theorem class_name_valid_partial (s : List Char) (h : classNameGuard s = true) :
    pyIdent (pythonizeClassName s) = true ∧ pythonizeClassName s ∉ kw := by
  simp only [classNameGuard, Bool.and_eq_true, Bool.not_eq_true', List.contains_eq_mem,
    decide_eq_false_iff_not] at h
  exact ⟨pascal_ident h.1, fun hk => h.2 (pascal_kw_cap h.1 hk)⟩

/-- `pascal_case` is idempotent when every word begins with two letters. -/
theorem class_name_idem_partial (s : List Char) (h : allWordsAlpha2 s = true) :
    pythonizeClassName (pythonizeClassName s) = pythonizeClassName s :=
  pascal_idem_of_alpha2 h

/-- D18 witnesses (replayed on the real code by the harness): a message called `None`
    becomes `class None`; `_` becomes the empty class name; `_1` becomes `1`;
    `aB ↦ AB ↦ Ab` is not idempotent. -/
theorem class_name_keyword_witness :
    protoIdent (str "None") = true ∧ pythonizeClassName (str "None") ∈ kw := by
  rw [protoIdent_fast, pythonizeClassName_fast, kw_fast]; decide +kernel
theorem class_name_empty_witness :
    protoIdent (str "_") = true ∧ pyIdent (pythonizeClassName (str "_")) = false := by
  rw [protoIdent_fast, pythonizeClassName_fast, pyIdent_fast]; decide +kernel
theorem class_name_digit_witness :
    protoIdent (str "_1") = true ∧ pyIdent (pythonizeClassName (str "_1")) = false := by
  rw [protoIdent_fast, pythonizeClassName_fast, pyIdent_fast]; decide +kernel
theorem class_name_not_idem_witness :
    protoIdent (str "aB") = true ∧
      pythonizeClassName (pythonizeClassName (str "aB")) ≠ pythonizeClassName (str "aB") := by
  rw [protoIdent_fast, pythonizeClassName_fast]; decide +kernel

/-! ## "the key to_dict emits for that field (in either casing), as well as the original proto
       field name, is mapped by from_dict back to the same field"

  For the proto field name `p` the generated Python field is `f = pythonize_field_name p`;
  `to_dict` emits `casing(f).rstrip("_")` (`keyCamel` / `keySnake`), `from_dict` stores a
  key `k` into the field `safe_snake_case(k)` (`fieldOfKey`).

  FULL STATEMENT (false of the code for the camelCase half, D15):
    ∀ p, protoIdent p → fieldOfKey (keyCamel f) = f ∧ fieldOfKey (keySnake f) = f ∧ fieldOfKey p = f -/

/-- snake_case keys always map back — every string, no guard. -/
theorem key_roundtrip_snake (p : List Char) :
    fieldOfKey (keySnake (pythonizeFieldName p)) = pythonizeFieldName p := by
  show sanitize (snake (rstripU (snake (safeSnake p)))) = safeSnake p
  rw [snake_rstripU, snake_idem, snake_safeSnake]
  rfl

/-- camelCase keys (the default) map back when every word of the name begins with two letters. -/
theorem key_roundtrip_camel_partial (p : List Char) (h : allWordsAlpha2 p = true) :
    fieldOfKey (keyCamel (pythonizeFieldName p)) = pythonizeFieldName p := by
  show sanitize (snake (rstripU (camel (safeSnake p)))) = safeSnake p
  rw [snake_rstripU, snake_camel ((allWordsAlpha2_safeSnake p).trans h), snake_safeSnake]
  rfl

/-- the original proto field name used as a key maps to the field (by construction: the
    plugin and `from_dict` call the same function), and so does the Python field name. -/
theorem orig_name_maps_back (p : List Char) :
    fieldOfKey p = pythonizeFieldName p ∧ fieldOfKey (pythonizeFieldName p) = pythonizeFieldName p :=
  ⟨rfl, safeSnake_idem p⟩

/-- D15 witnesses (replayed on the real code): the default camelCase key of the fields
    `address_line_1` and `x_y_z` is mapped by `from_dict` to a *different* field name, so
    the value is silently dropped. -/
theorem key_roundtrip_digit_witness :
    protoIdent (str "address_line_1") = true ∧
    pythonizeFieldName (str "address_line_1") = str "address_line_1" ∧
    keyCamel (str "address_line_1") = str "addressLine1" ∧
    fieldOfKey (str "addressLine1") = str "address_line1" := by
  rw [protoIdent_fast, pythonizeFieldName_fast, keyCamel_fast, fieldOfKey_fast]; decide +kernel
theorem key_roundtrip_single_letter_witness :
    protoIdent (str "x_y_z") = true ∧
    pythonizeFieldName (str "x_y_z") = str "x_y_z" ∧
    keyCamel (str "x_y_z") = str "xYZ" ∧
    fieldOfKey (str "xYZ") = str "x_yz" := by
  rw [protoIdent_fast, pythonizeFieldName_fast, keyCamel_fast, fieldOfKey_fast]; decide +kernel

/-! ## non-vacuity: the guards are met by ordinary names, and the functions do what the
       repository's tests say on a few of them -/

example : allWordsAlpha2 (str "foo_bar_baz") = true := by
  rw [allWordsAlpha2_fast]; decide +kernel
example : allWordsAlpha2 (str "HTTPStatus") = true := by
  rw [allWordsAlpha2_fast]; decide +kernel
example : allWordsAlpha2 (str "ipv4_address") = true := by
  rw [allWordsAlpha2_fast]; decide +kernel
example : allWordsAlpha2 (str "address_line_1") = false := by
  rw [allWordsAlpha2_fast]; decide +kernel
example : classNameGuard (str "my_message") = true := by
  rw [classNameGuard_fast]; decide +kernel
example : classNameGuard (str "None") = false := by
  rw [classNameGuard_fast]; decide +kernel
example : pythonizeFieldName (str "class") = str "class_" := by
  rw [pythonizeFieldName_fast]; decide +kernel
example : pythonizeFieldName (str "HTTPStatus") = str "http_status" := by
  rw [pythonizeFieldName_fast]; decide +kernel
example : pythonizeFieldName (str "_1") = str "_1" := by
  rw [pythonizeFieldName_fast]; decide +kernel
example : keyCamel (str "class_") = str "class" ∧ fieldOfKey (str "class") = str "class_" := by
  rw [keyCamel_fast, fieldOfKey_fast]; decide +kernel
example : pythonizeClassName (str "FOO1BAR2") = str "Foo1Bar2" := by
  rw [pythonizeClassName_fast]; decide +kernel
example : pythonizeEnumMemberName (str "COLOR_1") (str "Color") = str "_1" := by
  rw [pythonizeEnumMemberName_fast]; decide +kernel

end Bp.C19
