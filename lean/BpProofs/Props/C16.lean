import BpModel.All
import BpProofs.Varint
/-
  C16 — scalar codec primitives are total, canonical and mutually inverse.
  The arithmetic behind the statements is in BpProofs/Varint.lean.
  All integers are unbounded `Int`/`Nat`; there is no size bound anywhere.
-/
namespace Bp.C16
open Bp Spec Gen

/-- the unsigned 64-bit value an integer in [-2^63, 2^64) denotes on the wire -/
def wire64 (v : Int) : Nat := (v % two64).toNat

theorem asU64_eq_wire64 (v : Int) (hlo : -two63 ≤ v) (hhi : v < two64) : asU64 v = wire64 v := by
  rw [← Nat.mod_eq_of_lt (asU64_lt v hlo hhi)]
  exact asU64_mod 64 (Nat.le_refl _) v hlo

theorem dumpVarint_eq (v : Int) (hlo : -two63 ≤ v) : dumpVarint v = .ok (encNat (asU64 v)) := by
  unfold dumpVarint asU64
  have : ¬ v < -two63 := by omega
  simp only [this, if_false]
  split <;> rfl

/-- **canonical minimal encoding**: for every integer in [-2^63, 2^64) `encode_varint`
    succeeds with a byte string that (a) consists of bytes, (b) has the base-128
    little-endian shape (continuation bit on all but the last byte), (c) is minimal,
    (d) denotes the two's-complement 64-bit value, (e) is at most 10 bytes long. -/
theorem dump_canonical (v : Int) (hlo : -two63 ≤ v) (hhi : v < two64) :
    ∃ bs, dumpVarint v = .ok bs ∧ WfBytes bs ∧ varintCanonical bs = true
      ∧ varintValue bs = wire64 v ∧ bs.length ≤ 10 := by
  refine ⟨encNat (asU64 v), dumpVarint_eq v hlo, encNat_wf _, encNat_canonical _, ?_, ?_⟩
  · rw [encNat_value, asU64_eq_wire64 v hlo hhi]
  · exact encNat_length_le10 _ (asU64_lt v hlo hhi)

/-- negatives are 64-bit two's complement: exactly 10 bytes -/
theorem dump_negative_len (v : Int) (hlo : -two63 ≤ v) (hneg : v < 0) :
    ∃ bs, dumpVarint v = .ok bs ∧ bs.length = 10 := by
  refine ⟨encNat (asU64 v), dumpVarint_eq v hlo, ?_⟩
  apply encNat_length_10 <;> (unfold asU64 two64 two63 at *; simp only [hneg, if_true]; omega)

/-- integers below -2^63 are rejected by both `encode_varint` and `size_varint` -/
theorem reject_below (v : Int) (h : v < -two63) :
    dumpVarint v = .error .value ∧ sizeVarint v = .error .value := by
  simp [dumpVarint, sizeVarint, h]

/-- `size_varint` equals the encoded length — for **every** integer, including the
    rejected ones (both raise) and those ≥ 2^64 (both keep going) -/
theorem size_eq (v : Int) : sizeVarint v = (dumpVarint v).map List.length := by
  unfold sizeVarint dumpVarint
  by_cases h1 : v < -two63
  · simp [h1, Except.map]
  · simp only [h1, if_false]
    by_cases h2 : v < 0
    · simp only [h2, if_true]
      have : (encNat (v + two64).toNat).length = 10 := by
        apply encNat_length_10 <;> (unfold two64 two63 at *; omega)
      simp [Except.map, this]
    · simp only [h2, if_false]
      by_cases h3 : v = 0
      · subst h3; simp [Except.map]; rw [encNat_lt 0 (by omega)]; rfl
      · simp only [h3, if_false]
        simp only [Except.map]
        rw [size_encNat v.toNat (by omega)]

/-- `load_varint` inverts `encode_varint` and reports the exact number of bytes
    consumed, whatever follows in the stream -/
theorem load_dump (v : Int) (hlo : -two63 ≤ v) (hhi : v < two64) (rest : Bytes) :
    ∃ bs, dumpVarint v = .ok bs ∧ loadVarint (bs ++ rest) = .ok (wire64 v, bs.length) := by
  refine ⟨encNat (asU64 v), dumpVarint_eq v hlo, ?_⟩
  rw [loadVarint_encNat _ _ (asU64_lt v hlo hhi), asU64_eq_wire64 v hlo hhi]

/-- the same through `decode_varint(buffer, pos)`: new position = pos + encoded length -/
theorem decode_dump (v : Int) (hlo : -two63 ≤ v) (hhi : v < two64) (pre rest : Bytes) :
    ∃ bs, dumpVarint v = .ok bs
      ∧ decodeVarint (pre ++ bs ++ rest) pre.length = .ok (wire64 v, pre.length + bs.length) := by
  obtain ⟨bs, h1, h2⟩ := load_dump v hlo hhi rest
  refine ⟨bs, h1, ?_⟩
  unfold decodeVarint
  rw [List.append_assoc, List.drop_left, h2]

/-- signed readers get the original integer back (int32 / int64 / enum sign recovery) -/
theorem load_dump_int64 (v : Int) (hlo : -two63 ≤ v) (hhi : v < two63) :
    signRecover 64 (wire64 v) = v := by
  rw [← asU64_eq_wire64 v hlo (by unfold two64 two63 at *; omega)]
  exact signRecover_asU64 64 (by decide) (by decide) v hlo hhi

theorem load_dump_int32 (v : Int) (hlo : -2147483648 ≤ v) (hhi : v < 2147483648) :
    signRecover 32 (wire64 v) = v := by
  rw [← asU64_eq_wire64 v (by unfold two63; omega) (by unfold two64; omega)]
  exact signRecover_asU64 32 (by decide) (by decide) v hlo hhi

/-- non-minimal (padded) varints of at most 10 bytes decode to the value they denote -/
theorem load_padded (bs rest : Bytes) (hs : varintShape bs = true) (hlen : bs.length ≤ 10) :
    loadVarint (bs ++ rest) = .ok (varintValue bs % 2 ^ 64, bs.length) :=
  loadVarint_shape bs rest hs hlen

/-- **totality of the decoder**: on every byte string exactly one of three things
    happens — a value is returned after consuming 1..10 bytes that form a well-shaped
    varint; the input ended inside the varint (EOFError); or the first ten bytes all
    carry the continuation bit (ValueError: longer than 10 bytes). -/
theorem load_total (bs : Bytes) (hw : WfBytes bs) :
    (∃ m, loadVarint bs = .ok (varintValue (bs.take m) % 2 ^ 64, m)
        ∧ 1 ≤ m ∧ m ≤ 10 ∧ m ≤ bs.length ∧ varintShape (bs.take m) = true)
    ∨ (loadVarint bs = .error .eof ∧ bs.length < 10 ∧ ∀ b ∈ bs, 128 ≤ b)
    ∨ (loadVarint bs = .error .value ∧ 10 ≤ bs.length ∧ ∀ b ∈ bs.take 10, 128 ≤ b) := by
  rcases varintShape_take bs hw 10 with ⟨m, h1, h2, h3, h4⟩ | h
  · have := loadVarint_shape (bs.take m) (bs.drop m) h4 (by simp; omega)
    rw [List.take_append_drop, List.length_take_of_le h3] at this
    exact .inl ⟨m, this, h1, h2, h3, h4⟩
  · unfold loadVarint
    rw [loadVarintAux_cont bs 0 10 0 0 rfl h]
    by_cases hl : bs.length < 10
    · exact .inr (.inl ⟨by rw [if_pos hl], hl, by rwa [List.take_of_length_le (by omega)] at h⟩)
    · exact .inr (.inr ⟨by rw [if_neg hl], by omega, h⟩)

/-- zig-zag is a bijection between Z and N … -/
theorem unzig_zig (v : Int) : unzig (zig v).toNat = v := Bp.unzig_zig v

/-- … that maps sint32 into 32 bits and sint64 into 64 bits -/
theorem zig_range32 (v : Int) (hlo : -2147483648 ≤ v) (hhi : v < 2147483648) :
    0 ≤ zig v ∧ zig v < 4294967296 :=
  ⟨zig_nonneg v, by have := zig_lt 32 v (by omega) (by omega) (by decide); omega⟩

theorem zig_range64 (v : Int) (hlo : -two63 ≤ v) (hhi : v < two63) :
    0 ≤ zig v ∧ zig v < two64 := by
  unfold two63 two64 at *
  exact ⟨zig_nonneg v, by have := zig_lt 64 v (by omega) (by omega) (by decide); omega⟩

/-- sintN encode → varint → decode is the identity -/
theorem sint_roundtrip (v : Int) (hlo : -two63 ≤ v) (hhi : v < two63) (rest : Bytes) :
    ∃ bs, dumpVarint (zig v) = .ok bs ∧
      ∃ n, loadVarint (bs ++ rest) = .ok (n, bs.length) ∧ unzig n = v := by
  have hz := zig_range64 v hlo hhi
  obtain ⟨bs, h1, h2⟩ := load_dump (zig v) (by unfold two63; omega) hz.2 rest
  refine ⟨bs, h1, _, h2, ?_⟩
  have : wire64 (zig v) = (zig v).toNat := by
    unfold wire64; rw [Int.emod_eq_of_lt hz.1 hz.2]
  rw [this, unzig_zig]

/-- fixed-width little-endian packing is a bijection between in-range values and
    byte strings of the width -/
theorem fixed_unsigned_roundtrip (w : Nat) (v : Nat) (h : v < 256 ^ w) :
    unpackLE (packLE w v) = v ∧ (packLE w v).length = w ∧ WfBytes (packLE w v) :=
  ⟨unpackLE_packLE w v h, packLE_length w v, packLE_wf w v⟩

theorem fixed_bytes_roundtrip (bs : Bytes) (hw : WfBytes bs) :
    packLE bs.length (unpackLE bs) = bs := by
  induction bs with
  | nil => rfl
  | cons b bs ih =>
    obtain ⟨hb, hw'⟩ := wfBytes_cons.1 hw
    simp only [List.length_cons, packLE, unpackLE]
    have e1 : (b + 256 * unpackLE bs) % 256 = b := by omega
    have e2 : (b + 256 * unpackLE bs) / 256 = unpackLE bs := by omega
    rw [e1, e2, ih hw']

/-- fixed32/64, sfixed32/64 through the model's `packFixed`/`postFixed` (double, float: the two theorems
    after `packFmt_rows`) -/
theorem packFixed_postFixed_int (t : PType) (w : Nat) (signed : Bool)
    (hf : fmtOf t = some (w, signed, false)) (hw : 1 ≤ w) (i : Int)
    (hr : if signed then -(2 ^ (8 * w - 1) : Nat) ≤ i ∧ i < (2 ^ (8 * w - 1) : Nat)
          else 0 ≤ i ∧ i < (2 ^ (8 * w) : Nat)) :
    ∃ bs, packFixed t (.int i) = .ok bs ∧ bs.length = w ∧ postFixed t bs = .ok (.int i) := by
  have e256 : (256 : Nat) ^ w = 2 ^ (8 * w) := by rw [Nat.pow_mul]
  cases signed with
  | true =>
    simp only [if_true] at hr
    have hr' := hr
    push_cast at hr'
    refine ⟨packLE w (ofSigned (8 * w) i), ?_, packLE_length _ _, ?_⟩
    · simp [packFixed, hf, hr']
    · have hlt : ofSigned (8 * w) i < 256 ^ w := by
        rw [e256]; unfold ofSigned
        have : (0:Int) < ((2 ^ (8 * w) : Nat) : Int) := by
          have := Nat.two_pow_pos (8 * w)
          omega
        have h1 := Int.emod_lt_of_pos i this
        have h0 := Int.emod_nonneg i (Int.ne_of_gt this)
        omega
      simp [postFixed, hf, packLE_length, unpackLE_packLE w _ hlt]
      exact toSigned_ofSigned (8 * w) (by omega) i hr.1 hr.2
  | false =>
    simp only [Bool.false_eq_true, if_false] at hr
    have hr' := hr
    push_cast at hr'
    refine ⟨packLE w i.toNat, ?_, packLE_length _ _, ?_⟩
    · simp [packFixed, hf, hr']
    · have hlt : i.toNat < 256 ^ w := by rw [e256]; omega
      simp [postFixed, hf, packLE_length, unpackLE_packLE w _ hlt]
      omega

/-- the six `_pack_fmt` rows the codec uses, as regenerated from the source -/
theorem packFmt_rows :
    fmtOf .fixed32 = some (4, false, false) ∧ fmtOf .sfixed32 = some (4, true, false)
    ∧ fmtOf .fixed64 = some (8, false, false) ∧ fmtOf .sfixed64 = some (8, true, false)
    ∧ fmtOf .float = some (4, false, true) ∧ fmtOf .double = some (8, false, true) := by decide

theorem double_roundtrip (b : Nat) (h : b < 2 ^ 64) :
    ∃ bs, packFixed .double (.f64 b) = .ok bs ∧ bs.length = 8 ∧ postFixed .double bs = .ok (.f64 b) := by
  have hf : fmtOf .double = some (8, false, true) := by decide
  have h' : b < 18446744073709551616 := by simpa using h
  refine ⟨packLE 8 b, by simp [packFixed, hf, h'], packLE_length _ _, ?_⟩
  have : b < 256 ^ 8 := by
    have : (256:Nat) ^ 8 = 2 ^ 64 := by decide
    omega
  simp [postFixed, hf, packLE_length, unpackLE_packLE 8 b this]

/-- float32 patterns other than signalling NaNs survive (a signalling NaN comes back quiet) -/
theorem float_roundtrip (b : Nat) (h : b < 2 ^ 32) (hq : quiet32 b = b) :
    ∃ bs, packFixed .float (.f32 b) = .ok bs ∧ bs.length = 4 ∧ postFixed .float bs = .ok (.f32 b) := by
  have hf : fmtOf .float = some (4, false, true) := by decide
  have h' : b < 4294967296 := by simpa using h
  refine ⟨packLE 4 b, by simp [packFixed, hf, h'], packLE_length _ _, ?_⟩
  have : b < 256 ^ 4 := by
    have : (256:Nat) ^ 4 = 2 ^ 32 := by decide
    omega
  simp [postFixed, hf, packLE_length, unpackLE_packLE 4 b this, hq]

/-- bool: True ↦ 01, False ↦ 00, and back -/
theorem bool_roundtrip (b : Bool) :
    ∃ bs, prepPlain .bool (.bool b) = .ok bs ∧ bs = [if b then 1 else 0]
      ∧ ∃ n, loadVarint bs = .ok (n, 1) ∧ postVarint .bool n = .bool b := by
  cases b <;> (refine ⟨_, rfl, rfl, _, rfl, ?_⟩; simp [postVarint])

/-! non-vacuity: concrete instances meeting the hypotheses -/
example : dumpVarint 300 = .ok [0xAC, 0x02] := by decide +kernel
example : dumpVarint (-1) = .ok [255, 255, 255, 255, 255, 255, 255, 255, 255, 1] := by decide +kernel
example : loadVarint [0xAC, 0x02, 0x07] = .ok (300, 2) := by decide +kernel
example : loadVarint [0x80, 0x80, 0x00] = .ok (0, 3) := by decide +kernel   -- padded zero
example : loadVarint [0x80] = .error .eof := by decide +kernel
example : loadVarint [128,128,128,128,128,128,128,128,128,128,1] = .error .value := by decide +kernel
example : sizeVarint (-two63) = .ok 10 ∧ dumpVarint (-two63 - 1) = .error .value := by decide +kernel
example : zig (-1) = 1 ∧ zig 1 = 2 ∧ zig (-2147483648) = 4294967295 := by decide +kernel

end Bp.C16
