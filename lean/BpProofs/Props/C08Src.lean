import BpProofs.SrcTieLoad
import BpProofs.Props.C08
/-
  C08, tied to the SOURCE: what the record loop of `Message.load` as written does with a record the
  class does not know.  `Src.load_record` (one iteration, regenerated from the Python AST on every run
  by harness/extract_srcload.py → BpProofs/Gen/SrcLoad.lean) is proved equal to the model's `applyField`
  in BpProofs/SrcTieLoad.lean; `SrcTieLoad.loadLoop` is the loop around it.  Reading, trusted prelude
  and the guard `RecOk` (payload made of bytes, fuel ≥ len(payload) + 12; holds of every record the
  framing yields, `C02.src_records_ok`): see Props/C02Src.lean.
-/
namespace Bp.C08
open Bp Bp.Py Gen Bp.SrcTieLoad

/-- **an unknown record is kept verbatim by the source as written**: one iteration of the record loop for
    a record whose number the class does not declare appends exactly the record's raw bytes to
    `_unknown_fields` and changes nothing else — whatever the wire type and the payload -/
theorem src_unknown_record_kept (S : Schema) (rec : Loader) (d : MsgD) (st : MState) (pf : PField)
    (hnum : findField d.fields pf.num = Option.none) (fuel : Nat) (hok : RecOk fuel pf) :
    Src.load_record fuel S rec d st pf = .ok { st with unknown := st.unknown ++ pf.raw } := by
  rw [load_record_eq S rec d st pf hok.1 fuel hok.2, applyField_unknown S rec d st pf (by simp [isUnknownField, hnum])]
  rfl

/-- **the record loop as written keeps the unknown records byte for byte, in arrival order**: whenever it
    runs to the end, `_unknown_fields` is what it was followed by the raw bytes of exactly the records the
    class does not know (no such number, or a wire type that does not fit), in the order they arrived;
    nothing else is ever put there -/
theorem src_unknown_kept (S : Schema) (rec : Loader) (d : MsgD) (st st' : MState) (pfs : List PField)
    (fuel : Nat) (hok : ∀ pf ∈ pfs, RecOk fuel pf) (h : loadLoop fuel S rec d st pfs = .ok st') :
    st'.unknown = st.unknown ++ joinRaw (pfs.filter (isUnknownField d)) := by
  rw [loadLoop_eq S rec d fuel pfs hok st] at h
  exact (foldFields_split S rec d pfs st st' (Res.ofR_eq_ok h)).1

end Bp.C08
