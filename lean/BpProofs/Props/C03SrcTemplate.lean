import BpProofs.SrcTieTemplate
/-
  C03 ("… each message and enum of the schema … is represented by exactly one class.  Each class has exactly one field
  per schema field … and each enum member carries the schema's number"), the part the TEMPLATE decides, tied to the
  source of src/betterproto/templates/template.py.j2 / header.py.j2 as regenerated on every run
  (harness/extract_srctemplate.py → BpProofs/Gen/SrcTemplate.lean; `Tpl.template_eq`).  For ALL contexts:
    * one `class` block per element of `output_file.enums` and per element of `output_file.messages`, in list order,
      enums first (`src_one_class_each`) — that these lists hold one entry per (nested) type of the schema is
      parser.py's part (Props/C03SrcParser*.lean);
    * a message class: decorator, `class <py_name>(betterproto.Message):`, then exactly one line per element of
      `message.fields`, the text `field.get_field_string()` returns (models.py's part: Props/C03Src.lean), `pass` iff
      there is no field (`src_message_class`);
    * an enum class: `class <py_name>(betterproto.Enum):` and one line `<name> = <value>` per entry, the value being
      `str()` of the entry's int (`src_enum_class`);
    * `__all__` of the header names every enum, every message and the Stub and Base of every service (`src_all`).
  Trusted: BpProofs/PyPreludeTemplate.lean, Jinja's lexer / parser, the translator.
-/
namespace Bp.C03
open Bp Bp.Tpl

/-- **one class per enum and per message of the output file**, enums first, each list in order; the Stubs follow -/
theorem src_one_class_each (c : OutputFile) :
    ∃ rest : List Piece, Src.render_template c
      = c.enums.flatMap (enumClass c.pydantic_dataclasses)
        ++ c.messages.flatMap (messageClass c.pydantic_dataclasses) ++ rest := by
  refine ⟨stubsBlock c ++ nl ++ importsEndLines c.imports_end ++ nl ++ basesBlock c, ?_⟩
  rw [template_eq]
  have : enumsBlock c = c.enums.flatMap (enumClass c.pydantic_dataclasses) := by
    unfold enumsBlock
    cases h : c.enums <;> simp
  simp only [template, List.append_eq, List.append_assoc, this, messagesBlock]

/-- **a message class**: one line per field — `field.get_field_string()` indented by four spaces, followed by the
    field's comment if it has one —, in the order of `message.fields`; `pass` iff the message has no field -/
theorem src_message_class (pydantic : Bool) (m : Message) :
    ∃ tail : List Piece, messageClass pydantic m
      = dataclassDecorator pydantic
        ++ [Piece.lit "class ", Piece.expr "output_file.messages[].py_name" m.py_name, Piece.lit "(betterproto.Message):\n"]
        ++ optComment "output_file.messages[].comment" m.comment
        ++ m.fields.flatMap (fun f =>
            [Piece.lit "    ", Piece.expr "output_file.messages[].fields[].get_field_string()" f.get_field_string, Piece.lit "\n"]
            ++ optComment "output_file.messages[].fields[].comment" f.comment)
        ++ (if m.fields = [] then [Piece.lit "    pass\n"] else []) ++ tail := by
  refine ⟨nl ++ postInit m ++ nl ++ oneofValidator pydantic m ++ nl, ?_⟩
  have : passIfEmpty m.fields = (if m.fields = [] then [Piece.lit "    pass\n"] else []) := by
    unfold passIfEmpty
    cases m.fields <;> simp
  simp only [messageClass, List.append_eq, List.append_assoc, this]
  rfl

/-- **an enum class**: one line `<name> = <value>` per entry, in order, the value written as the decimal `str()` of
    the entry's number (negative numbers with their sign) -/
theorem src_enum_class (pydantic : Bool) (e : EnumDef) :
    ∃ tail : List Piece, enumClass pydantic e
      = [Piece.lit "class ", Piece.expr "output_file.enums[].py_name" e.py_name, Piece.lit "(betterproto.Enum):\n"]
        ++ optComment "output_file.enums[].comment" e.comment
        ++ e.entries.flatMap (fun x =>
            [Piece.lit "    ", Piece.expr "output_file.enums[].entries[].name" x.name, Piece.lit " = ",
             Piece.expr "output_file.enums[].entries[].value" (jstrInt x.value), Piece.lit "\n"] ++ optComment "output_file.enums[].entries[].comment" x.comment)
        ++ tail := by
  refine ⟨nl ++ enumPydanticSchema pydantic ++ nl, ?_⟩
  simp only [enumClass, List.append_eq, List.append_assoc]
  rfl

/-- `str()` of the numbers: sign and decimal digits -/
example : String.ofList (jstrInt (-3)) = "-3" ∧ String.ofList (jstrInt 0) = "0" ∧ String.ofList (jstrInt 2147483647) = "2147483647" := by
  decide +kernel

/-- **`__all__`** names every enum, every message, and `<Service>Stub`, `<Service>Base` of every service -/
theorem src_all (c : OutputFile) :
    ∃ before after : List Piece, Src.render_header c
      = before
        ++ c.enums.flatMap (fun e => [Piece.lit "\"", Piece.expr "output_file.enums[].py_name" e.py_name, Piece.lit "\","])
        ++ c.messages.flatMap (fun m => [Piece.lit "\"", Piece.expr "output_file.messages[].py_name" m.py_name, Piece.lit "\","])
        ++ c.services.flatMap (fun s => [Piece.lit "\"", Piece.expr "output_file.services[].py_name" s.py_name,
             Piece.lit "Stub\",\n        \"", Piece.expr "output_file.services[].py_name" s.py_name, Piece.lit "Base\","])
        ++ Piece.lit ")\n\n" :: after := by
  refine ⟨preamble c, moduleImportLines c.python_module_imports ++ nl ++ dataclassImport c.pydantic_dataclasses ++ nl
    ++ datetimeImport c.datetime_imports ++ typingImportLines c.typing_compiler ++ nl
    ++ pydanticImport c.pydantic_imports ++ betterprotoImport ++ grpcImports c.services ++ nl
    ++ typeCheckingBlock c.imports_type_checking_only, ?_⟩
  rw [header_eq]
  simp only [header, allEnums, allMessages, allServices, List.append_eq, List.append_assoc, List.cons_append,
    List.nil_append]

end Bp.C03
