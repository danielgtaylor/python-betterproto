import BpModel.All
import BpModel.EnumM
import BpProofs.EnumM
import BpProofs.Props.C16
/-
  C20 — enums are open, canonical and immutable.

  Only property statements live here; helper lemmas are in BpProofs/EnumM.lean (class
  construction) and BpProofs/Varint.lean / Props/C16.lean (wire codec).

  Every theorem quantifies over **all** definitions `d : List (name × number)` — any
  length, any `Int` numbers (negative, gaps, aliases), any name type with decidable
  equality — with the one hypothesis the Python code itself guarantees: the names of a
  definition are the keys of a dict, hence pairwise distinct (`NamesNodup`, decidable).
  `Reach d c` says that `c` is the class built from `d` after an arbitrary history of
  operations (`reach_run`); lookups are stated for every such state.

  PARTIAL (by design, DESIGN.md §7 C20 / §10): object identity under `copy` / `deepcopy`
  / `pickle` and the attribute protection of classes and members are behaviour of the
  Python object model (`__copy__`, `__deepcopy__`, `__getnewargs_ex__`, `__setattr__`,
  `__delattr__`, `MappingProxyType`).  They are *modelled* — `step` returns the same
  object for a copy, a new object for an unpickle, an error for a mutation attempt — and
  the theorems `copy_identity`, `pickle_preserves`, `immutable` say what follows from
  that model; that the real classes behave as `step` says is checked by the lock-step
  correspondence and by the identity / immutability oracles of harness/props/c20.py,
  not derived from first principles.  The same holds for "accepted wherever a member
  is" (message fields in singular / repeated / map-value / oneof / optional position):
  the codec theorem below is about the enum scalar; the field positions are exercised on
  real messages by the oracle.
-/
namespace Bp.C20
open Bp Bp.EnumM
set_option linter.unusedSectionVars false

variable {ν : Type} [DecidableEq ν]

/-- `c` is a state of the class defined by `d`: same `_value_map_` and `_member_map_`
    as right after the class statement, at least as many objects allocated -/
def Reach (d : Decl ν) (c : Cls ν) : Prop :=
  c.valueMap = (mk d).valueMap ∧ c.memberMap = (mk d).memberMap ∧ (mk d).next ≤ c.next

/-- a history of operations: final state and everything the caller saw -/
def run (c : Cls ν) : List (EnumM.Op ν) → Cls ν × List (Out ν)
  | [] => (c, [])
  | op :: ops => let (c1, o) := step c op; let (c2, os) := run c1 ops; (c2, o :: os)

theorem reach_mk (d : Decl ν) : Reach d (mk d) := ⟨rfl, rfl, Nat.le_refl _⟩

/-- **immutability, class level (sentence 3)**: no operation of the API — lookups, open
    values, iteration, membership tests, copies, pickling, and all five kinds of mutation
    attempt — changes `_value_map_` or `_member_map_` -/
theorem reach_step (d : Decl ν) (c : Cls ν) (op : EnumM.Op ν) (h : Reach d c) : Reach d (step c op).1 := by
  obtain ⟨k, e⟩ := step_state c op
  rw [e]
  exact ⟨h.1, h.2.1, Nat.le_add_right_of_le h.2.2⟩

theorem reach_run (d : Decl ν) (ops : List (EnumM.Op ν)) (c : Cls ν) (h : Reach d c) : Reach d (run c ops).1 := by
  induction ops generalizing c with
  | nil => exact h
  | cons op ops ih => exact ih _ (reach_step d c op h)

theorem reach_inv (d : Decl ν) (c : Cls ν) (h : Reach d c) : Inv c := by
  obtain ⟨h1, h2, h3⟩ := h
  have i := mk_inv d
  exact ⟨h1 ▸ i.num, h1 ▸ i.named, fun v m hm => Nat.lt_of_lt_of_le (i.lt v m (h1 ▸ hm)) h3, h1 ▸ i.inj,
    h1 ▸ h2 ▸ i.mem⟩

/-- **sentence 1 — lookup by number or by name returns the one canonical member object,
    whose name and number are those declared.**  For every declaration `(n, v)` of every
    definition, in every reachable state: `cls[n]`, `getattr(cls, n)`, `cls.from_string(n)`
    and `cls(v)` return the *same object* `m` (same `oid`); its number is `v`; its name is
    the first name declared with number `v` (so `n` itself unless `n` is an alias). -/
theorem lookup_canonical (d : Decl ν) (hnd : NamesNodup d = true) (c : Cls ν) (hr : Reach d c)
    (n : ν) (v : Int) (hmem : (n, v) ∈ d) :
    ∃ m n0, getitem c n = .ok m ∧ getattr c n = .ok m ∧ fromString c n = .ok m ∧ call c v = .ok m
      ∧ m.number = v ∧ m.name = some n0 ∧ FirstName d v n0 ∧ isCanonical c m = true := by
  obtain ⟨n0, hf⟩ := defined_firstName d v ⟨n, hmem⟩
  obtain ⟨oid, ho⟩ := mk_valueMap_first d v n0 hf
  have hn := mk_memberMap_of_mem d n v hnd hmem
  rw [ho, ← hr.2.1] at hn
  rw [← hr.1] at ho
  refine ⟨_, n0, ?_, ?_, ?_, (call_ok_iff c v _).mpr ho, rfl, rfl, hf, isCanonical_of_some ho⟩
  · unfold getitem; rw [hn]
  · unfold getattr; rw [hn]
  · unfold fromString; rw [hn]

/-- the canonical objects of different numbers are different objects (so "the same
    object" in `lookup_canonical` is not vacuous) -/
theorem canonical_distinct (d : Decl ν) (c : Cls ν) (hr : Reach d c) (v1 v2 : Int) (m1 m2 : Member ν)
    (h1 : call c v1 = .ok m1) (h2 : call c v2 = .ok m2) (hs : m1.same m2 = true) : v1 = v2 :=
  (reach_inv d c hr).inj v1 v2 m1 m2 ((call_ok_iff c v1 m1).mp h1) ((call_ok_iff c v2 m2).mp h2)
    (eq_of_beq hs)

/-- names and numbers that are not declared are not found: `cls(v)` and
    `from_string(n)` raise ValueError, `cls[n]` KeyError, `getattr` AttributeError -/
theorem lookup_undeclared (d : Decl ν) (c : Cls ν) (hr : Reach d c) :
    (∀ v, ¬ Defined d v → call c v = .error .value)
    ∧ (∀ n, (∀ p ∈ d, p.1 ≠ n) →
        getitem c n = .error .key ∧ fromString c n = .error .value ∧ getattr c n = .error .attr) :=
  ⟨fun v hv => call_of_none (hr.1 ▸ mk_valueMap_none d v hv),
   fun n hn => by
    unfold getitem fromString getattr
    rw [hr.2.1, mk_memberMap_none d n hn]
    exact ⟨rfl, rfl, rfl⟩⟩

/-- `from_string`, `__getitem__` and attribute access agree on every name (they differ
    only in the exception class) -/
theorem from_string_getitem_agree (c : Cls ν) (n : ν) :
    (fromString c n).toOption = (getitem c n).toOption
      ∧ (getattr c n).toOption = (getitem c n).toOption := by
  unfold fromString getitem getattr
  cases assoc n c.memberMap <;> exact ⟨rfl, rfl⟩

/-- **`try_value` on a defined number is the canonical member** (and allocates nothing) -/
theorem try_value_defined_is_canonical (d : Decl ν) (c : Cls ν) (hr : Reach d c) (v : Int)
    (hdef : Defined d v) :
    ∃ m, tryValue c v = (c, m) ∧ call c v = .ok m ∧ m.number = v ∧ isCanonical c m = true := by
  obtain ⟨n0, hf⟩ := defined_firstName d v hdef
  obtain ⟨oid, ho⟩ := mk_valueMap_first d v n0 hf
  rw [← hr.1] at ho
  exact ⟨_, tryValue_of_some ho, (call_ok_iff c v _).mpr ho, rfl, isCanonical_of_some ho⟩

/-- **sentence 2, openness — a number the enum does not define is accepted**: `try_value`
    returns a member-like value whose number is that integer, whose name is None, which
    compares equal to exactly that integer; it is a new object, not a member
    (`in` is False, `cls(v)` still raises) and the class is unchanged. -/
theorem try_value_open (d : Decl ν) (c : Cls ν) (hr : Reach d c) (v : Int) (hun : ¬ Defined d v) :
    ∃ c' m, tryValue c v = (c', m) ∧ m.number = v ∧ m.name = none
      ∧ (∀ i : Int, m.eqInt i = true ↔ i = v)
      ∧ Reach d c' ∧ contains c' m = false ∧ isCanonical c' m = false
      ∧ call c' v = .error .value := by
  have hn : assoc v c.valueMap = none := hr.1 ▸ mk_valueMap_none d v hun
  refine ⟨_, _, tryValue_of_none hn, rfl, rfl, fun i => ?_, ⟨hr.1, hr.2.1, Nat.le_succ_of_le hr.2.2⟩, rfl, ?_,
    call_of_none hn⟩
  · exact beq_iff_eq.trans eq_comm
  · unfold isCanonical; rw [call_of_none (c := { c with next := c.next + 1 }) (v := v) hn]

/-- the number survives `try_value` for **every** integer, defined or not -/
theorem try_value_number (d : Decl ν) (c : Cls ν) (hr : Reach d c) (v : Int) :
    (tryValue c v).2.number = v ∧ (tryValue c v).2.eqInt v = true := by
  have := tryValue_number c v (reach_inv d c hr)
  exact ⟨this, beq_iff_eq.mpr this⟩

/-- **iteration** yields, for each declaration in declaration order, the canonical member
    of its number — which is also what looking its name up returns; `len` counts the
    declarations (aliases included) and `__members__` lists the declared names in order -/
theorem iter_canonical (d : Decl ν) (hnd : NamesNodup d = true) (c : Cls ν) (hr : Reach d c) :
    (iter c).map some = d.map (fun p => (call c p.2).toOption)
      ∧ (iter c).map some = d.map (fun p => (getitem c p.1).toOption)
      ∧ reversed c = (iter c).reverse
      ∧ len c = d.length ∧ memberNames c = d.map (·.1) := by
  obtain ⟨h1, h2, _⟩ := hr
  have hi : (iter c).map some = d.map fun p => assoc p.2 c.valueMap := by
    unfold iter; rw [h1, h2]; exact mk_iter d
  refine ⟨?_, ?_, rfl, ?_, ?_⟩
  · rw [hi]
    refine List.map_congr_left fun p _ => ?_
    unfold call
    cases assoc p.2 c.valueMap <;> rfl
  · rw [hi]
    refine List.map_congr_left fun p hp => ?_
    unfold getitem
    rw [h1, h2, mk_memberMap_of_mem d p.1 p.2 hnd hp]
    cases assoc p.2 (mk d).valueMap <;> rfl
  · unfold len; rw [h2]
    exact (List.length_map _).symm.trans ((congrArg List.length (mk_names d)).trans (List.length_map _))
  · unfold memberNames; rw [h2]; exact mk_names d

/-- `m in cls` holds for the value `try_value(v)` exactly when `v` is defined -/
theorem contains_iff_defined (d : Decl ν) (hnd : NamesNodup d = true) (c : Cls ν) (hr : Reach d c)
    (v : Int) : contains (tryValue c v).1 (tryValue c v).2 = true ↔ Defined d v := by
  constructor
  · intro h
    apply Classical.byContradiction
    intro hun
    have hn : assoc v c.valueMap = none := hr.1 ▸ mk_valueMap_none d v hun
    rw [tryValue_of_none hn] at h
    cases h
  · intro hdef
    -- `try_value(v)` is the canonical member, and its name (the first declared with `v`) is a key
    obtain ⟨n0, hf⟩ := defined_firstName d v hdef
    obtain ⟨oid, ho⟩ := mk_valueMap_first d v n0 hf
    obtain ⟨m, hm, _⟩ := mk_memberMap_decl d n0 v hnd (firstName_mem d v n0 hf)
    rw [← hr.1] at ho
    rw [← hr.2.1] at hm
    rw [tryValue_of_some ho]
    simp only [contains, hm, Option.isSome_some]

/-- **sentence 3 — enum classes and members cannot be mutated**: each of the five kinds
    of mutation attempt (`setattr` / `delattr` on the class, assignment through
    `__members__`, `setattr` / `delattr` on a member or open value) raises, and afterwards
    every lookup — by number, by name, by attribute, `from_string`, iteration, `len`,
    `__members__`, and the name / number of `try_value(v)` for every `v` — gives what it
    gave before.  (PARTIAL: that the real classes raise is the modelled part.) -/
theorem immutable (c : Cls ν) (op : EnumM.Op ν) (hm : op.isMutation = true) :
    (∃ e, (step c op).2 = .err e)
    ∧ (∀ v, call (step c op).1 v = call c v)
    ∧ (∀ n, getitem (step c op).1 n = getitem c n ∧ getattr (step c op).1 n = getattr c n
          ∧ fromString (step c op).1 n = fromString c n)
    ∧ iter (step c op).1 = iter c ∧ len (step c op).1 = len c
    ∧ memberNames (step c op).1 = memberNames c
    ∧ (∀ v, (tryValue (step c op).1 v).2.name = (tryValue c v).2.name
          ∧ (tryValue (step c op).1 v).2.number = (tryValue c v).2.number) := by
  have he : ∃ e, (step c op).2 = .err e := by
    cases op
    case setattrCls | delattrCls | membersSet | setattrMem | delattrMem => exact ⟨_, rfl⟩
    all_goals cases hm
  -- the state afterwards differs in the allocation count only, which no lookup reads
  obtain ⟨k, e⟩ := step_state c op
  rw [e]
  refine ⟨he, fun _ => rfl, fun _ => ⟨rfl, rfl, rfl⟩, rfl, rfl, rfl, fun v => ?_⟩
  unfold tryValue
  cases assoc v c.valueMap <;> exact ⟨rfl, rfl⟩

/-- **sentence 1, identity under copy / deepcopy** (modelled): both return the very
    object they were given, for members and for open values -/
theorem copy_identity (c : Cls ν) (v : Int) :
    ∃ c' m, step c (.copy v) = (c', .copied m m) ∧ step c (.deepcopy v) = (c', .copied m m)
      ∧ m = (tryValue c v).2 ∧ m.same m = true :=
  ⟨(tryValue c v).1, (tryValue c v).2, rfl, rfl, rfl, beq_self_eq_true _⟩

/-- **sentence 1, name and number under pickling** (modelled): the unpickled object has
    the name and the number of the pickled one — for members, aliases (canonical name)
    and open values (name None) — and is a new object -/
theorem pickle_preserves (d : Decl ν) (c : Cls ν) (hr : Reach d c) (v : Int) :
    ∃ c' m' m, step c (.pickle v) = (c', .copied m' m) ∧ m = (tryValue c v).2
      ∧ m'.name = m.name ∧ m'.number = m.number ∧ m'.number = v ∧ m'.same m = false := by
  refine ⟨_, _, _, rfl, rfl, rfl, rfl, (try_value_number d c hr v).1, beq_eq_false_iff_ne.mpr (Nat.ne_of_gt ?_)⟩
  -- the pickled object was allocated before, the new one is allocated now
  show (tryValue c v).2.oid < (tryValue c v).1.next
  unfold tryValue
  split
  · next m hm => exact (reach_inv d c hr).lt v m hm
  · exact Nat.lt_succ_self _

/-- **sentence 2, binary round trip — an enum number keeps its value through the wire
    codec, for every int32 number, defined or not, negative or not**: `_preprocess_single`
    for an enum scalar writes the varint of the (sign-extended) number; `load_varint`
    reads it back consuming exactly those bytes, whatever follows; `_postprocess_single`
    recovers the sign (int32) and hands the number to `try_value`. -/
theorem enum_wire_roundtrip (n : Int) (hlo : -2147483648 ≤ n) (hhi : n < 2147483648) (rest : Bytes) :
    ∃ bs, prepPlain .enum (.int n) = .ok bs
      ∧ ∃ k, loadVarint (bs ++ rest) = .ok (k, bs.length) ∧ postVarint .enum k = .int n := by
  obtain ⟨bs, h1, h2⟩ := C16.load_dump n (Int.le_trans (by decide) hlo) (Int.lt_trans hhi (by decide)) rest
  exact ⟨bs, h1, C16.wire64 n, h2, congrArg Val.int (C16.load_dump_int32 n hlo hhi)⟩

/-- … and the decoded field value `try_value(number)` of **any** enum class has that
    number and compares equal to it (a member if defined, an open value otherwise) -/
theorem enum_wire_roundtrip_open (d : Decl ν) (c : Cls ν) (hr : Reach d c)
    (n : Int) (hlo : -2147483648 ≤ n) (hhi : n < 2147483648) (rest : Bytes) :
    ∃ bs k, prepPlain .enum (.int n) = .ok bs ∧ loadVarint (bs ++ rest) = .ok (k, bs.length)
      ∧ ∃ n', postVarint .enum k = .int n' ∧ (tryValue c n').2.number = n
        ∧ (tryValue c n').2.eqInt n = true
        ∧ (Defined d n → call c n = .ok (tryValue c n').2) := by
  obtain ⟨bs, h1, k, h2, h3⟩ := enum_wire_roundtrip n hlo hhi rest
  refine ⟨bs, k, h1, h2, n, h3, (try_value_number d c hr n).1, (try_value_number d c hr n).2, ?_⟩
  intro hdef
  obtain ⟨m, e, hc, _⟩ := try_value_defined_is_canonical d c hr n hdef
  rw [e]; exact hc

/-- **sentence 2, JSON round trip** (D14 repaired: `to_dict` writes a number without a
    member as a number): for **every** integer `v`, `_dump_enum` produces a JSON value —
    the canonical name if `v` is defined, the number itself if not, never null — and
    `_parse_enum` of it is a value with number `v`: the canonical member if defined, an
    open value otherwise. -/
theorem enum_json_roundtrip (d : Decl ν) (hnd : NamesNodup d = true) (c : Cls ν) (hr : Reach d c)
    (v : Int) :
    ∃ j c' m, dumpEnum c v = some j ∧ parseEnum c j = (c', .ok m) ∧ m.number = v ∧ Reach d c'
      ∧ (Defined d v → (∃ n0, j = .name n0 ∧ FirstName d v n0) ∧ call c v = .ok m)
      ∧ (¬ Defined d v → j = .num v ∧ m.name = none) := by
  by_cases hdef : Defined d v
  · -- `_dump_enum` writes the first name declared with `v`; `from_string` of it is the canonical member
    obtain ⟨n0, hf⟩ := defined_firstName d v hdef
    obtain ⟨m, n1, _, _, hfs, hc, hnum, hname, hf1, _⟩ :=
      lookup_canonical d hnd c hr n0 v (firstName_mem d v n0 hf)
    obtain rfl := firstName_unique d v n0 n1 hf hf1
    refine ⟨.name n0, c, m, ?_, congrArg (Prod.mk c) hfs, hnum, hr,
      fun _ => ⟨⟨n0, rfl, hf⟩, hc⟩, fun h => absurd hdef h⟩
    unfold dumpEnum; rw [hc]; exact congrArg (Option.map JEnum.name) hname
  · obtain ⟨c', m, e, hnum, hname, _, hr', _⟩ := try_value_open d c hr v hdef
    refine ⟨.num v, c', m, ?_, ?_, hnum, hr', fun h => absurd h hdef, fun _ => ⟨rfl, hname⟩⟩
    · unfold dumpEnum; rw [(lookup_undeclared d c hr).1 v hdef]
    · exact congrArg (fun p : Cls ν × Member ν => (p.1, Except.ok p.2)) e

/-! ### non-vacuity: a definition with a negative number, a gap, an alias and int32 extremes -/

/-- `class E(Enum): A = 1; NEG = -5; ALIAS = 1; ZERO = 0; MIN = -2**31` (names as numbers 0..4) -/
def exD : Decl Nat := [(0, 1), (1, -5), (2, 1), (3, 0), (4, -2147483648)]

example : NamesNodup exD = true := by decide +kernel
example : getitem (mk exD) 2 = .ok ⟨some 0, 1, 0⟩ ∧ call (mk exD) 1 = .ok ⟨some 0, 1, 0⟩ := by decide +kernel
example : call (mk exD) (-5) = .ok ⟨some 1, -5, 1⟩ ∧ call (mk exD) 7 = .error .value := by decide +kernel
example : (iter (mk exD)).map (·.name) = [some 0, some 1, some 0, some 3, some 4] := by decide +kernel
example : (tryValue (mk exD) 7).2 = ⟨none, 7, 4⟩ ∧ (tryValue (mk exD) 7).2.eqInt 7 = true := by decide +kernel
example : dumpEnum (mk exD) 1 = some (.name 0) ∧ dumpEnum (mk exD) 7 = some (.num 7) := by decide +kernel
example : (step (mk exD) (.pickle 1)).2 = .copied ⟨some 0, 1, 4⟩ ⟨some 0, 1, 0⟩ := by decide +kernel
example : prepPlain .enum (.int (-5)) = .ok [251, 255, 255, 255, 255, 255, 255, 255, 255, 1] := by decide +kernel
example : postVarint .enum 18446744073709551611 = .int (signRecover 32 18446744073709551611)
    ∧ signRecover 32 18446744073709551611 = -5 := ⟨rfl, by decide +kernel⟩
example : Reach exD (run (mk exD) [.setattrCls 0 9, .tryValue 7, .pickle 1, .delattrMem 1 .name]).1 :=
  reach_run exD _ _ (reach_mk exD)

end Bp.C20
