import BpProofs.SrcTieJsonMsg
import BpProofs.SrcTieJsonMsgTyped
import BpProofs.Props.C05
import BpProofs.Props.C04SrcMsg
/-
  C05 (canonical proto3 JSON mapping), tied to the SOURCE, WHOLE METHOD: `Message.to_dict` as written —
  everything around the field loop translated by harness/extract_srcjsonmsg.py (BpProofs/Gen/SrcJsonMsg.lean), the
  loop body by extract_srcjson.py, the recursion into sub-messages the translated method itself one nesting level
  down (`Src.value_to_dict`) — is proved equal to the model's `toDict` (`C04.src_to_dict`, Props/C04SrcMsg.lean), which
  `C05.canonical_message` proves equal to the canonical mapping `specJson`.  The corollary states C05's sentence
  of the source function only.  Reading and guards: Props/C04SrcMsg.lean.
-/
namespace Bp.C05
open Bp Bp.Py Bp.SrcTieJson Bp.SrcTieJsonMsg

/-- **C05's sentence, of the source function only**: for every schema inside `jsonOk5` and every well-typed
    message without a negative zero (inside the value guard of the tie at every level), `m.to_dict()` AS WRITTEN
    — default casing, no default values, sub-messages nested to any depth — returns exactly `specJson m`: the
    members the canonical proto3 JSON mapping prescribes, in the same order, with the same values -/
theorem src_to_dict_is_canonical (S : Schema) (E : Enums) (m : Val) (k : Nat) (hS : jsonOk5 S E = true)
    (hwt : wellTyped' S m = true) (hz : noNegZero S m = true) (hv : vOkAt S k m = true) :
    Src.value_to_dict S E (k + 1) .camel false m = .ok (specJson S E m) := by
  obtain ⟨hW, hD, hK⟩ := guards_of_jsonOk S E .camel (jsonOk_of_jsonOk5 S E hS)
  rw [C04.src_to_dict S E .camel false hW hD hK k m hv, canonical_message S E m hS hwt hz]

/-- … and `m.to_json()` AS WRITTEN is `json.dumps` of `specJson m` -/
theorem src_to_json_is_canonical (S : Schema) (E : Enums) (m : Val) (k : Nat) (indent : JsonMsg.Indent)
    (hS : jsonOk5 S E = true) (hwt : wellTyped' S m = true) (hz : noNegZero S m = true) (hv : vOkAt S k m = true) :
    Src.value_to_json S E k m indent false .camel = JsonMsg.jsonDumps (specJson S E m) indent := by
  obtain ⟨hW, hD, hK⟩ := guards_of_jsonOk S E .camel (jsonOk_of_jsonOk5 S E hS)
  rw [C04.src_to_json S E .camel false hW hD hK k m indent hv, canonical_message S E m hS hwt hz]

/-- the same with the value guard discharged by the typing judgement (`kOkAt k m`: pairwise distinct dict keys at
    every level, Message instances nested at most `k` deep) -/
theorem src_to_dict_is_canonical_typed (S : Schema) (E : Enums) (m : Val) (k : Nat) (hS : jsonOk5 S E = true)
    (hwt : wellTyped' S m = true) (hz : noNegZero S m = true) (hk : kOkAt k m = true) :
    Src.value_to_dict S E (k + 1) .camel false m = .ok (specJson S E m) :=
  src_to_dict_is_canonical S E m k hS hwt hz (C04.src_value_guard_of_typed S k m hwt hk)

/-! non-vacuity: the guards hold of C05's own nested instance `m5` -/
example : jsonOk5 S5 E5 = true ∧ vOkAt S5 4 m5 = true ∧ kOkAt 4 m5 = true :=
  ⟨canonical_instance_guards.1, by decide +kernel, by decide +kernel⟩

end Bp.C05
