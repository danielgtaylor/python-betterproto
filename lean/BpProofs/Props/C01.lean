import BpModel.All
import BpProofs.RtFlat
import BpProofs.RtMain
import BpProofs.Encodable
import BpProofs.Props.C06
import BpProofs.EqSound
/-
  C01 — binary round trip: parse(bytes(m)) reproduces m for every message value.

  FULL STATEMENT (the target; kept visible):
    for every well-formed schema S, class c and well-typed reachable value m of c,
      dumpVal S m = .ok bs  →  ∃ m', parse S c bs = .ok m' ∧ m' ≈ m (same values up to
      unset-vs-default, same oneof selection, same None-ness, same nested presence)
      ∧ dumpVal S m' = .ok bs.

  PROVED HERE:
    * record level, every scalar kind (RtScalar / RtPacked): one record of a scalar field
      decodes to the value it was made from; a packed payload decodes to exactly its list;
      packed chunks concatenate;
    * message level (`roundtrip_flat_partial`): the full statement for ALL schemas and ALL
      values of the flat fragment — any number of fields of the 16 scalar types, each
      singular, proto3-optional, a oneof member (any number of groups) or repeated (packed
      or not), plus arbitrary unknown fields — by induction over the slot list with the
      decoder-state invariant `GI`;
    * the assembly lemma `fold_of_steps` is generic: ANY field kind for which "decoding
      the bytes of the slot restores the slot" (`SlotStep`) is shown joins the theorem.
    * every field kind (`roundtrip_nested_partial`): the full statement for ALL schemas and ALL
      well-typed values `MsgOk` (BpProofs/NestedDefs.lean) whose fields are
        - flat (as above),
        - message-typed: singular, proto3-optional, oneof member or repeated sub-messages of
          any class of the schema, to any depth, including recursive classes,
        - Timestamp / Duration (singular, optional, oneof member or REPEATED; datetime /
          timedelta in the protobuf-valid range; BpProofs/RtTimes.lean for the repeated
          ones: each item is its own record `tag, length, Timestamp`, written with
          `serialize_empty=True`, so the epoch is `tag 00` and the `or b"\n\x00"`
          fallback of the encoder is never reached),
        - wrappers (`Optional[scalar]`, singular or oneof member; REPEATED, `List[Optional[scalar]]`
          with no `None` item, BpProofs/RtWraps.lean: each item is its own record `tag, length,
          bytes(Wrapper(value=item))`, an item equal to the wrapped default is `tag 00`; the items
          come back in order, `-0.0` as `+0.0`),
        - maps with integer / bool / string keys and scalar, message or Timestamp / Duration
          values (for the latter the epoch / the zero duration writes no value record and is
          read back as the default of the entry's value field, which is that same value),
      by induction on the derivation of `MsgOk` (BpProofs/RtMain.lean), for the decoder with the nesting
      fuel `parse` supplies (the length of the input + 1: above the length of the input the fuel does not
      matter, BpProofs/LoadFuel.lean). The decoded value is
      related to the original by `ValEqv` (BpProofs/Eqv.lean): same class, oneof selection
      and unknown fields at every level, `serialized_on_wire` set, and slot-wise an
      equivalent value or, where the slot emitted no byte, the unset default. `ValEqv`
      identifies exactly three things Python's `==` identifies too: `-0.0` with `+0.0`
      inside a wrapper (the wrapper class has implicit presence), and a map VALUE message
      that encodes to nothing with the fresh instance of its class.
    * that Python's `==` CONTAINS `ValEqv` is a theorem: `msgEq`
      (BpModel/Eq.lean) is a kernel-evaluable model of `Message.__eq__` — same class, then field
      by field over the raw slots, PLACEHOLDER on both sides skipped, PLACEHOLDER on one side
      replaced by `_get_field_default`, then `!=` / `_equal_or_both_nan` (numeric tower on IEEE
      bit patterns with `-0.0 == 0.0` and the both-NaN rule, lists item-wise, dicts as unordered
      maps, nested messages recursively; unknown fields, `_serialized_on_wire` and the oneof
      selection are not compared) — run against the real `==` by the driver command `EQ`, and
      `valEqv_msgEq` (BpProofs/EqSound.lean) proves `MsgOk S m → ValEqv S m m' →
      msgEq S m m' = true ∧ msgEq S m' m = true` with NO hypothesis on `m'` (per constructor:
      `refl` needs the both-NaN rule and, for dicts, pairwise different self-equal keys;
      `consFresh` / `emptyMsg` need "a well-typed slot that emits no byte equals the slot of a
      fresh instance": `slot_default`, by induction through unmarked sub-messages). No
      counterexample: the containment holds on all of `MsgOk`. Hence `roundtrip_equal` /
      `roundtrip_equal_total` below — C01 as the property states it: decoding the encoding of
      `m` yields a message EQUAL to `m` (`m == m'` and `m' == m`) that encodes to the same bytes.
    * encodability (`encodable`, BpProofs/Encodable.lean): EVERY `MsgOk` value can be encoded —
      `dumpVal` returns `.ok`, unconditionally (no side condition, no counterexample: no
      branch of the encoder fails on a well-typed slot, whatever `hid` / `sel`; an unset slot
      of any field whatsoever is fine because `dumpDefault` is total). By induction
      over the rules of `SlotOk` / `MsgOk`, with companions for `dumpSlots`, `dumpSlot`, `dumpItems`,
      `dumpEntries`. Hence `roundtrip_total_partial`: the round trip with NO encoding
      hypothesis — the only premise left besides `MsgOk` is that the encoding is shorter than
      2^64 bytes (a length the decoder's 64-bit length prefixes can express).
  MISSING: nothing the plugin generates for proto3 — every field kind × cardinality is inside `MsgOk`.
  OUTSIDE THE DOMAIN, by construction (`none_item_not_roundtrip` below): a `None` ITEM in the list of a
    repeated wrapper field. The type hint `List[Optional[int]]` admits it, but `dump` writes it exactly like
    the wrapped default (`tag 00`) and `load` hands back that default (`[None, 3]` comes back `[0, 3]`, unequal
    under `==`); the wire format has no null element, and the reference implementation rejects `None` in a
    repeated message field. `SlotOk.wraps` therefore requires every item to be a well-typed scalar.
-/
namespace Bp.C01
open Bp Gen

/-- **record level**: a scalar record decodes to the value it was made from, consuming
    exactly its own bytes, whatever follows -/
theorem scalar_record (S : Schema) (rec : Loader) (f : FieldD) (v : Val) (se : Bool)
    (out rest : Bytes) (hnum : numOk f.num = true) (hty : isScalarType f.ty = true)
    (hv : scalarOk f.ty v = true) (hlen : out.length < 2 ^ 64)
    (h : serializeScalar S f.num f.ty v se Option.none = .ok out) (hne : out ≠ []) :
    ∃ pf, loadField (out ++ rest) = .ok (pf, rest) ∧ pf.num = f.num ∧ pf.raw = out
      ∧ wireFits f pf.wt = true ∧ decodeValue S rec f pf = .ok v :=
  let ⟨pf, hl, hrest⟩ := scalar_record_roundtrip S rec f v se out hnum hty hv hlen h hne
  ⟨pf, hl rest, hrest⟩

/-- every well-typed scalar value can be encoded -/
theorem scalar_encodable (S : Schema) (num : Nat) (t : PType) (v : Val) (se : Bool)
    (hty : isScalarType t = true) (hv : scalarOk t v = true) :
    ∃ out, serializeScalar S num t v se Option.none = .ok out := serializeScalar_ok S num t v se hty hv

/-- **packed lists**: the payload decodes to exactly the list it was made from -/
theorem packed_list (S : Schema) (t : PType) (xs : List Val) (buf : Bytes)
    (ht : isPacked t = true) (hx : ∀ x ∈ xs, scalarOk t x = true) (h : prepPacked S t xs = .ok buf) :
    decodePacked t buf = .ok xs := packed_roundtrip S t xs buf ht hx h

/-- a selected, set, well-typed scalar member always emits at least its tag -/
theorem selected_emits (S : Schema) (f : FieldD) (v : Val) (b : Bytes) (_hff : FlatField f)
    (hg : f.group.isSome = true) (hv : scalarOk f.ty v = true)
    (h : dumpSlot S f false true v = .ok b) : b ≠ [] :=
  flat_selected_emits S f v b hg hv h

/-- **message level, flat fragment** — see the header for what "flat" covers.
    Hypotheses, all decidable: distinct in-range field numbers; oneof group indices in
    range and members not `optional`; the oneof invariant of C07 (unselected members are
    unset, the selection points into its group, a selected member holds a value); every
    slot well-typed for its field (`flatSlotOk`: in-range ints, float32 patterns a Python
    float can hold, valid UTF-8); unknown fields are raw records the class does not know;
    the encoding is shorter than 2^64 bytes. -/
theorem roundtrip_flat_partial (S : Schema) (c : Nat) (d : MsgD) (hd : S[c]? = some d)
    (sl : List Val) (ow : Bool) (unk : Bytes) (cur : List (Option Nat))
    (hdist : NumsDistinct d.fields) (hflat : ∀ f ∈ d.fields, FlatField f)
    (hlen : sl.length = d.fields.length) (hcurlen : cur.length = d.nGroups)
    (hwfg : WfGroups d.fields d.nGroups)
    (hgrpopt : ∀ f ∈ d.fields, f.group.isSome = true → f.optional = false)
    (hcurok : ∀ g i, cur.getD g Option.none = some i → ∃ f, d.fields[i]? = some f ∧ f.group = some g)
    (hinv : ∀ i f g, d.fields[i]? = some f → f.group = some g → cur.getD g Option.none ≠ some i → sl.getD i .ph = Val.ph)
    (hselset : ∀ g i, cur.getD g Option.none = some i → sl.getD i .ph ≠ Val.ph)
    (hty : ∀ (i : Nat) (f : FieldD) (v : Val), d.fields[i]? = some f → sl[i]? = some v → flatSlotOk f v = true)
    (hunk : UnkOk d unk)
    (bs : Bytes) (hdump : dumpVal S (.msg c sl ow unk cur) = .ok bs) (hbl : bs.length < 2 ^ 64) :
    ∃ sl', parse S c bs = .ok (.msg c sl' true unk cur)
      ∧ sl'.length = sl.length
      ∧ (∀ j f, d.fields[j]? = some f →
          sl'.getD j .ph = sl.getD j .ph
          ∨ (sl'.getD j .ph = freshVal f
              ∧ dumpSlot S f (hidden f j cur) (selectedInGroup f j cur) (sl.getD j .ph) = .ok []))
      ∧ dumpVal S (.msg c sl' true unk cur) = .ok bs := by
  have hshape : MsgShape S d sl cur := by
    refine ⟨hlen, hcurlen, hwfg, hcurok, hgrpopt, ?_⟩
    intro i f b hf hs hb
    obtain ⟨g, hg, hcg, hh⟩ := selected_member f i cur hs
    rw [hh] at hb
    have hil : i < sl.length := by rw [hlen]; exact (List.getElem?_eq_some_iff.mp hf).1
    have hok := hty i f (sl.getD i .ph) hf (by rw [List.getD_eq_getElem?_getD, List.getElem?_eq_getElem hil]; rfl)
    have hff := hflat f (List.mem_of_getElem? hf)
    have hgo := hgrpopt f (List.mem_of_getElem? hf) (by rw [hg]; rfl)
    -- the value of a selected member is a well-typed scalar
    exact selected_emits S f _ b hff (by rw [hg]; rfl) (flat_member_scalar f _ g hff hok (hselset g i hcg) hgo hg) hb
  obtain ⟨sl', h1, h⟩ := fold_of_steps S (loadInto S bs.length) c d hd sl ow unk cur (fun _ v v' => v' = v) hshape hunk
    bs hdump hbl fun k f v hf hv =>
      slotStep_flat S _ d k f cur v hdist hf (hflat f (List.mem_of_getElem? hf)) (hty k f v hf hv)
        (fun hvp g _ hc => hselset g k hc (by simp [List.getD_eq_getElem?_getD, hv, hvp])) _ (fun _ _ => rfl)
  exact ⟨sl', by rw [parse_fresh S c d bs hd, loadInto_succ, h1]; rfl, h⟩

/-- **message level, every field kind** — `MsgOk` (BpProofs/NestedDefs.lean) is the
    well-typedness of a reachable message value: at every nesting level distinct in-range
    field numbers, the oneof invariant of C07, every slot well-typed for its field (`SlotOk`:
    flat as in `roundtrip_flat_partial`; unset / None / a well-typed message / a list of
    well-typed messages for a message-typed field; an in-range datetime / timedelta; a
    wrapped scalar; a list of wrapped scalars without `None` items; a list of in-range datetimes / timedeltas; a dict with pairwise different
    well-typed keys and well-typed scalar, message or datetime / timedelta values), unknown fields that are raw records the class does not know. -/
theorem roundtrip_nested_partial (S : Schema) (c : Nat) (d : MsgD) (hd : S[c]? = some d)
    (sl : List Val) (ow : Bool) (unk : Bytes) (cur : List (Option Nat))
    (hm : MsgOk S (.msg c sl ow unk cur))
    (bs : Bytes) (hdump : dumpVal S (.msg c sl ow unk cur) = .ok bs) (hbl : bs.length < 2 ^ 64) :
    ∃ sl', parse S c bs = .ok (.msg c sl' true unk cur)
      ∧ ValEqv S (.msg c sl ow unk cur) (.msg c sl' true unk cur)
      ∧ dumpVal S (.msg c sl' true unk cur) = .ok bs := by
  obtain ⟨sl', h1, h2, h3⟩ := nested_fuel S (bs.length + 1) c d sl ow unk cur bs hm hd hdump hbl (by omega)
  exact ⟨sl', by rw [parse_fresh S c d bs hd, h1]; rfl, h2, h3⟩

/-- **every well-typed message value can be encoded**: `bytes(m)` raises nothing on the
    domain `MsgOk` of the round-trip theorem (BpProofs/Encodable.lean) -/
theorem encodable (S : Schema) (m : Val) (h : MsgOk S m) : ∃ bs, dumpVal S m = .ok bs :=
  msgOk_encodable S m h

/-- … so the round trip needs no encoding hypothesis beyond the 2^64-byte length bound:
    the encoding exists, and if it is shorter than 2^64 bytes it parses back to an
    equivalent value with the same encoding -/
theorem roundtrip_total_partial (S : Schema) (c : Nat) (d : MsgD) (hd : S[c]? = some d)
    (sl : List Val) (ow : Bool) (unk : Bytes) (cur : List (Option Nat)) (hm : MsgOk S (.msg c sl ow unk cur)) :
    ∃ bs, dumpVal S (.msg c sl ow unk cur) = .ok bs ∧
      (bs.length < 2 ^ 64 → ∃ sl', parse S c bs = .ok (.msg c sl' true unk cur)
        ∧ ValEqv S (.msg c sl ow unk cur) (.msg c sl' true unk cur) ∧ dumpVal S (.msg c sl' true unk cur) = .ok bs) := by
  obtain ⟨bs, hbs⟩ := encodable S _ hm
  exact ⟨bs, hbs, fun hbl => roundtrip_nested_partial S c d hd sl ow unk cur hm bs hbs hbl⟩

/-! non-vacuity: a class with an int32, an optional string, a two-member oneof and a packed
    repeated sint64; the value below meets every hypothesis (evaluated by `decide`) -/
def SX : Schema := [{ fields := [{ name := "i", num := 1, ty := .int32 },
                                  { name := "s", num := 2, ty := .string, optional := true },
                                  { name := "a", num := 3, ty := .bool, group := some 0 },
                                  { name := "b", num := 4, ty := .bytes, group := some 0 },
                                  { name := "r", num := 5, ty := .sint64, repeated := true }], nGroups := 1 }]
def mX : Val := .msg 0 [.int (-7), .str [], .ph, .byt [], .list [.int (-1), .int 150]] true [] [some 3]
example : dumpVal SX mX = .ok [8, 249, 255, 255, 255, 255, 255, 255, 255, 255, 1, 18, 0, 34, 0, 42, 3, 1, 172, 2] := by decide +kernel
example : (parse SX 0 [8, 249, 255, 255, 255, 255, 255, 255, 255, 255, 1, 18, 0, 34, 0, 42, 3, 1, 172, 2]).bind (dumpVal SX)
    = .ok [8, 249, 255, 255, 255, 255, 255, 255, 255, 255, 1, 18, 0, 34, 0, 42, 3, 1, 172, 2] := by decide +kernel

/-- **C01 with Python's `==`**: for every well-typed message value `m` of class `c` whose
    encoding `bs` is shorter than 2^64 bytes, `Cls().parse(bs)` succeeds with a message `m'` such
    that `m == m'` and `m' == m` (`msgEq`, BpModel/Eq.lean: `Message.__eq__`) and `bytes(m') = bs` -/
theorem roundtrip_equal (S : Schema) (c : Nat) (sl : List Val) (ow : Bool) (unk : Bytes) (cur : List (Option Nat))
    (hm : MsgOk S (.msg c sl ow unk cur))
    (bs : Bytes) (hdump : dumpVal S (.msg c sl ow unk cur) = .ok bs) (hbl : bs.length < 2 ^ 64) :
    ∃ m', parse S c bs = .ok m' ∧ msgEq S (.msg c sl ow unk cur) m' = true ∧ msgEq S m' (.msg c sl ow unk cur) = true
      ∧ dumpVal S m' = .ok bs := by
  obtain ⟨d, hd, _⟩ := EqS.msgOk_slotsT S c sl ow unk cur hm
  obtain ⟨sl', h1, h2, h3⟩ := roundtrip_nested_partial S c d hd sl ow unk cur hm bs hdump hbl
  obtain ⟨e1, e2⟩ := valEqv_msgEq S _ _ hm h2
  exact ⟨_, h1, e1, e2, h3⟩

/-- … without an encoding hypothesis: the encoding exists (`encodable`), and if it is shorter than
    2^64 bytes it parses back to a message equal to `m` under `==`, with the same encoding -/
theorem roundtrip_equal_total (S : Schema) (c : Nat) (sl : List Val) (ow : Bool) (unk : Bytes) (cur : List (Option Nat))
    (hm : MsgOk S (.msg c sl ow unk cur)) :
    ∃ bs, dumpVal S (.msg c sl ow unk cur) = .ok bs ∧
      (bs.length < 2 ^ 64 → ∃ m', parse S c bs = .ok m' ∧ msgEq S (.msg c sl ow unk cur) m' = true
        ∧ msgEq S m' (.msg c sl ow unk cur) = true ∧ dumpVal S m' = .ok bs) := by
  obtain ⟨bs, hbs⟩ := encodable S _ hm
  exact ⟨bs, hbs, fun hbl => roundtrip_equal S c sl ow unk cur hm bs hbs hbl⟩

/-! non-vacuity of the equality statement (the nested example `Bp.OkEx.mEx` and its instance of the
    round trip are in BpProofs/OkSound.lean, with the checker that accepts it).
    `SQ`: `Sub {int32 x}`, `Top {float f; double d; Sub s; map<int32, Sub> m; FloatValue w;
    map<string, float> mf; Timestamp t; optional string o}`. `mQ` is accepted by the checker of the
    theorem's domain, and its decoded copy differs from it in every way `ValEqv` allows — `f = -0.0`,
    `s = Sub(x=0)` (unmarked) and `t = epoch` emit no byte and come back unset (`consFresh`); the
    wrapped `-0.0` comes back `+0.0` (`negZero32`); the map value `Sub(x=0)` comes back as a fresh
    `Sub()` (`emptyMsg`); `d` is a NaN (unequal to itself under plain `==`) — and still `mQ == m'`
    and `m' == mQ`.  `msgEq` is not trivially true (last three examples). -/
def subQ : MsgD := { fields := [{ name := "x", num := 1, ty := .int32 }] }
def topQ : MsgD :=
  { fields := [{ name := "f", num := 1, ty := .float },
               { name := "d", num := 2, ty := .double },
               { name := "s", num := 3, ty := .message, kind := .user 0 },
               { name := "m", num := 4, ty := .map, mapK := .int32, mapV := .message, mapVKind := .user 0 },
               { name := "w", num := 5, ty := .message, kind := .user 2, wraps := some .float },
               { name := "mf", num := 6, ty := .map, mapK := .string, mapV := .float },
               { name := "t", num := 7, ty := .message, kind := .timestamp },
               { name := "o", num := 8, ty := .string, optional := true }] }
def SQ : Schema := [subQ, topQ, wrapperD .float]
def mQ : Val := .msg 1
  [.f32 0x80000000, .f64 0x7ff8000000000001, .msg 0 [.int 0] false [] [],
   .dict [.int 1, .int 2] [.msg 0 [.int 0] false [] [], .msg 0 [.int 7] false [] []],
   .f32 0x80000000, .dict [.str [97]] [.f32 0x80000000], .ts 0, .none] false [] []
def bsQ : Bytes :=
  [17, 1, 0, 0, 0, 0, 0, 248, 127, 34, 2, 8, 1, 34, 6, 8, 2, 18, 2, 8, 7, 42, 0, 50, 8, 10, 1, 97, 21, 0, 0, 0, 128]
/-- what `parse SQ 1 bsQ` returns -/
def mQ' : Val := .msg 1
  [.ph, .f64 0x7ff8000000000001, .ph,
   .dict [.int 1, .int 2] [.msg 0 [.ph] false [] [], .msg 0 [.int 7] true [] []],
   .f32 0, .dict [.str [97]] [.f32 0x80000000], .ph, .none] true [] []
example : msgOkB SQ mQ = true := by decide +kernel
example : dumpVal SQ mQ = .ok bsQ := by decide +kernel
example : parse SQ 1 bsQ = .ok mQ' := by decide +kernel
example : msgEq SQ mQ mQ' = true ∧ msgEq SQ mQ' mQ = true := by decide +kernel
example : msgEq SQ mQ mQ = true := by decide +kernel
example : msgEq SX mX mX = true := by decide +kernel
example : ((parse SX 0 [8, 249, 255, 255, 255, 255, 255, 255, 255, 255, 1, 18, 0, 34, 0, 42, 3, 1, 172, 2]).bind fun m' =>
    .ok (msgEq SX mX m' && msgEq SX m' mX)) = .ok true := by decide +kernel
-- a different float, a different map value, a value of another class: unequal
example : msgEq SQ mQ (.msg 1 [.f32 0x3f800000, .f64 0x7ff8000000000001, .ph, .ph, .ph, .ph, .ph, .none] true [] []) = false := by
  decide +kernel
example : msgEq SQ mQ' (.msg 1 [.ph, .f64 0x7ff8000000000001, .ph,
    .dict [.int 1, .int 2] [.msg 0 [.ph] false [] [], .msg 0 [.int 8] true [] []],
    .f32 0, .dict [.str [97]] [.f32 0x80000000], .ph, .none] true [] []) = false := by decide +kernel
example : msgEq SQ (fresh SQ 0) (fresh SQ 2) = false := by decide +kernel

/-! non-vacuity for REPEATED wrapper fields. `SR`: `repeated Int32Value a = 1; repeated StringValue s = 2;
    repeated FloatValue f = 3`. `mR = M(a=[5, 0, -1], s=["", "x"], f=[-0.0, 1.5])` is accepted by the checker of
    the theorem's domain; the items equal to the wrapped default are the records `0a 00` / `12 00` / `1a 00`, the
    list comes back item by item, `-0.0` as `+0.0`, and `mR == m'` both ways. (Bytes as the real code writes them.) -/
def SR : Schema := [{ fields := [{ name := "a", num := 1, ty := .message, wraps := some .int32, repeated := true },
                                  { name := "s", num := 2, ty := .message, wraps := some .string, repeated := true },
                                  { name := "f", num := 3, ty := .message, wraps := some .float, repeated := true }] }]
def mR : Val := .msg 0 [.list [.int 5, .int 0, .int (-1)], .list [.str [], .str [120]],
                        .list [.f32 0x80000000, .f32 0x3fc00000]] false [] []
def bsR : Bytes :=
  [10, 2, 8, 5, 10, 0, 10, 11, 8, 255, 255, 255, 255, 255, 255, 255, 255, 255, 1, 18, 0, 18, 3, 10, 1, 120,
   26, 0, 26, 5, 13, 0, 0, 192, 63]
/-- what `parse SR 0 bsR` returns -/
def mR' : Val := .msg 0 [.list [.int 5, .int 0, .int (-1)], .list [.str [], .str [120]],
                         .list [.f32 0, .f32 0x3fc00000]] true [] []
example : msgOkB SR mR = true := by decide +kernel
example : dumpVal SR mR = .ok bsR := by decide +kernel
example : parse SR 0 bsR = .ok mR' := by decide +kernel
example : dumpVal SR mR' = .ok bsR := by decide +kernel
example : msgEq SR mR mR' = true ∧ msgEq SR mR' mR = true := by decide +kernel

/-- `M(a=[None, 3])`: a `None` item in a repeated wrapper field -/
def mN : Val := .msg 0 [.list [.none, .int 3], .ph, .ph] false [] []
/-- what it decodes to: `M(a=[0, 3])` -/
def mN' : Val := .msg 0 [.list [.int 0, .int 3], .ph, .ph] true [] []

/-- **a `None` item of a repeated wrapper field does NOT round-trip** (which is why the domain excludes it:
    `msgOkB` rejects the value): it is written as the record `0a 00`, exactly like `Int32Value(0)`, and read
    back as `0`; `M(a=[None, 3]) != M(a=[0, 3])` in both orders. Replayed on the real code (harness/props/c01.py,
    stage `none_items`). -/
theorem none_item_not_roundtrip :
    msgOkB SR mN = false ∧ dumpVal SR mN = .ok [10, 0, 10, 2, 8, 3] ∧ parse SR 0 [10, 0, 10, 2, 8, 3] = .ok mN'
      ∧ msgEq SR mN mN' = false ∧ msgEq SR mN' mN = false ∧ dumpVal SR mN' = .ok [10, 0, 10, 2, 8, 3] :=
  ⟨by decide +kernel, by decide +kernel, rfl, by decide +kernel, by decide +kernel, by decide +kernel⟩

end Bp.C01

#print axioms Bp.C01.none_item_not_roundtrip
#print axioms Bp.C01.encodable
#print axioms Bp.C01.roundtrip_total_partial
#print axioms Bp.C01.roundtrip_equal
#print axioms Bp.C01.roundtrip_equal_total
