import BpProofs.GrpcSched
import BpProofs.Props.C11Call
/-
  C11, call protocol: the result of a call does not depend on how asyncio interleaves the client's main task (the
  helper's coroutine / async generator), the client's sender task (`_send_messages` under `ensure_future`, in
  `_stream_stream`) and the server's handler task.  `run strict σ c`: the schedule `σ` names the task that takes the
  next step (a task that cannot step is skipped); `quiescent`: no task can step.  `call` / `callProg` are the run
  under the canonical schedule (BpModel/GrpcCall.lean: `canon`).

  Proved: (1) from any start of a client program of the shape `good` (sends first, nothing but receive-side
  operations after a `spawn`) all schedules that end quiescent end in the SAME configuration — by the diamond
  property of `step` (BpProofs/GrpcSched.lean) — for the semantics without the check "outgoing stream was ended" of
  `Stream.__aexit__`, and with it for programs without a sender task; (2) with the check and with a sender task
  (`_stream_stream`) the same holds under the guard `drained` — for the generated adapter: the handler pulls its
  request iterator until it is exhausted; (3) without the guard it is FALSE of the code (a decided witness below,
  replayed on the real code by harness/props/c11.py: the caller gets `ProtocolError('Outgoing stream was not ended')`
  after the responses when the handler returns while the request iterator still has something to send).
-/
namespace Bp.C11
open Bp.Grpc Bp.GrpcCall

variable {Req Resp α : Type}

theorem good_sends (ms : List Req) (tail : List (COp Req)) (h : good true tail = true) :
    good true (ms.map (fun m => COp.send (SOp.message m false)) ++ COp.send SOp.endStream :: tail) = true := by
  induction ms with
  | nil => exact h
  | cons x xs ih => exact ih

theorem helper_good (card : Card) (route : Str) (kw : Kw α) (reqs : List Req) :
    good false (helperProg card route kw reqs).ops = true := by
  cases card with
  | unaryUnary => cases reqs <;> rfl
  | unaryStream => cases reqs <;> rfl
  | streamUnary =>
    cases reqs with
    | nil => rfl
    | cons r rs =>
      simp only [helperProg, streamUnary, sendMessages_map, List.append_assoc, List.singleton_append, good]
      exact good_sends (r :: rs) _ rfl
  | streamStream => cases reqs <;> simp [helperProg, streamStream, good, recvOnly]

theorem sends_noSpawn (ms : List Req) (tail : List (COp Req)) (h : tail.all (fun o => !isSpawn o) = true) :
    (ms.map (fun m => COp.send (SOp.message m false)) ++ COp.send SOp.endStream :: tail).all (fun o => !isSpawn o)
      = true := by
  induction ms with
  | nil => exact h
  | cons x xs ih => exact ih

theorem helper_noSpawn (card : Card) (route : Str) (kw : Kw α) (reqs : List Req) (hc : card ≠ .streamStream) :
    (helperProg card route kw reqs).ops.all (fun o => !isSpawn o) = true := by
  cases card with
  | unaryUnary => cases reqs <;> rfl
  | unaryStream => cases reqs <;> rfl
  | streamUnary =>
    cases reqs with
    | nil => rfl
    | cons r rs =>
      simp only [helperProg, streamUnary, sendMessages_map, List.append_assoc, List.singleton_append]
      rw [all_cons_eq]; exact ⟨rfl, sends_noSpawn (r :: rs) _ rfl⟩
  | streamStream => exact absurd rfl hc

/-- **every schedule ends like the canonical one**, any client program of the shape `good` WITHOUT a sender task
    against any server program: if the schedule `σ` ends with no task able to step, the outcome is `callProg`'s -/
theorem every_schedule_sequential_client (p : ClientProg Req α) (v : VProg Req Resp)
    (hg : good false p.ops = true) (hn : p.ops.all (fun o => !isSpawn o) = true)
    (σ : List Task) (hq : quiescent true (run true σ (initV p v)) = true) :
    outcome (run true σ (initV p v)) = callProg p v := by
  rw [run_eq_canon true _ (inv_initV true p v hg (fun _ => hn)) σ ((quiet_iff _ _).mpr hq)]; rfl

/-- … WITH a sender task, under the guard: under the canonical schedule the server saw the end of the request
    stream, or never finished -/
theorem every_schedule_concurrent_client (p : ClientProg Req α) (v : VProg Req Resp)
    (hg : good false p.ops = true) (hd : drained (initV p v) = true)
    (σ : List Task) (hq : quiescent true (run true σ (initV p v)) = true) :
    outcome (run true σ (initV p v)) = callProg p v := by
  rw [run_strict_eq_canon _ (inv_initV false p v hg (fun h => by cases h)) (inv2_initV p v) hd σ
    ((quiet_iff _ _).mpr hq)]; rfl

/-- … and WITHOUT the check of `__aexit__` (`strict = false`), no guard: the check is the only thing in the call
    protocol whose result depends on the interleaving -/
theorem every_schedule_without_the_check (p : ClientProg Req α) (v : VProg Req Resp)
    (hg : good false p.ops = true) (σ : List Task) (hq : quiescent false (run false σ (initV p v)) = true) :
    run false σ (initV p v) = canon false (initV p v) :=
  run_eq_canon false _ (inv_initV false p v hg (fun h => by cases h)) σ ((quiet_iff _ _).mpr hq)

/-- there is such a schedule: the canonical one -/
theorem some_schedule_ends (strict : Bool) (p : ClientProg Req α) (v : VProg Req Resp) (hg : good false p.ops = true) :
    ∃ σ, quiescent strict (run strict σ (initV p v)) = true ∧ run strict σ (initV p v) = canon strict (initV p v) := by
  obtain ⟨σ, h⟩ := canon_reach strict (initV p v)
  exact ⟨σ, by rw [h]; exact (quiet_iff _ _).mp (canon_quiet strict _ (inv_initV false p v hg nofun)), h⟩

/-- **`_unary_unary`, `_unary_stream`, `_stream_unary` against any handler: whatever the interleaving of the
    client with the server's handler task, the call ends as `call` says** (hence as `call_delivers` says) -/
theorem all_schedules_sequential_helpers (card : Card) (hc : card ≠ .streamStream) (h : Handler Req Resp)
    (reqs : List Req) (σ : List Task)
    (hq : quiescent true (run true σ (init (helperProg (α := Unit) card [] ⟨none, none, none⟩ reqs) (rpcShape card) h)) = true) :
    outcome (run true σ (init (helperProg (α := Unit) card [] ⟨none, none, none⟩ reqs) (rpcShape card) h))
      = call card h reqs :=
  every_schedule_sequential_client _ _ (helper_good card _ _ reqs) (helper_noSpawn card _ _ reqs hc) σ hq

/-- the guard for `_stream_stream` against the generated adapter, in terms of the handler alone: run on its own
    against the request list, the handler's pulls of the request iterator reach the end of the stream -/
theorem drained_stream_stream (h : Handler Req Resp) (hg : h.isGen = true) (reqs : List Req) :
    drained (init (streamStream (α := Unit) [] ⟨none, none, none⟩ reqs) (rpcShape .streamStream) h)
      = (hFeed true (h.body none) reqs).given.any Option.isNone := by
  have hv : (canon false (init (streamStream (α := Unit) [] ⟨none, none, none⟩ reqs) (rpcShape .streamStream) h)).v = _ :=
    (mRun_v false _ _).trans (congrArg Cfg.v (served_streamStream false h hg reqs))
  simp [drained, hv, VProg.isHalt]

/-- **`_stream_stream` with its concurrent sender task: for a handler that reads its request stream to the end,
    every interleaving of the three tasks ends as `call` says** -/
theorem all_schedules_stream_stream (h : Handler Req Resp) (hg : h.isGen = true) (reqs : List Req)
    (hend : (hFeed true (h.body none) reqs).given.any Option.isNone = true) (σ : List Task)
    (hq : quiescent true (run true σ (init (streamStream (α := Unit) [] ⟨none, none, none⟩ reqs) (rpcShape .streamStream) h)) = true) :
    outcome (run true σ (init (streamStream (α := Unit) [] ⟨none, none, none⟩ reqs) (rpcShape .streamStream) h))
      = call .streamStream h reqs :=
  every_schedule_concurrent_client _ _ (helper_good .streamStream _ _ reqs)
    (by rw [← hend]; exact drained_stream_stream h hg reqs) σ hq

/-! ## the guard is needed: a race of the code (D51) -/

/-- a stream-stream handler that yields one response and returns WITHOUT reading its request iterator -/
def earlyHandler : Handler Nat Nat := ⟨true, fun _ => .yield 7 (.ret none)⟩

/-- the schedule: the main task sends the request and starts the sender task, the server task runs the handler to
    its end, the main task receives the response and the end of the stream and leaves the `async with` block —
    all before the sender task has sent anything -/
def raceSchedule : List Task := [.M, .M, .V, .V, .V, .M, .M, .M, .S, .S, .S]

/-- **not every schedule ends alike without the guard**: under `raceSchedule` the caller of `_stream_stream` gets
    the handler's response and then `ProtocolError` (the check of `recv_trailing_metadata` in `__aexit__`: the
    sender task has not called `stream.end()` yet), under the canonical schedule the iteration ends normally -/
theorem stream_stream_race :
    let c0 := init (streamStream (α := Unit) [] ⟨none, none, none⟩ [1, 2]) (rpcShape .streamStream) earlyHandler
    quiescent true (run true raceSchedule c0) = true
    ∧ outcome (run true raceSchedule c0) = ⟨1, [], true, [7], .protocolError⟩
    ∧ call .streamStream earlyHandler [1, 2] = ⟨1, [], true, [7], .returned none⟩
    ∧ drained c0 = false := by
  decide +kernel

end Bp.C11
