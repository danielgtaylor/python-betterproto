import BpProofs.SrcTieMsgLoad
import BpProofs.SrcTieMsgGuard
import BpProofs.Props.C09SrcMsg
import BpProofs.Props.C01
/-
  C01, tied to the SOURCE: the round trip `Cls.FromString(bytes(m))` / `Cls().parse(bytes(m))` stated
  of the translated whole methods (harness/extract_srcmsg.py → BpProofs/Gen/SrcMsg.lean):
  `Src.value_bytes` = `Message.__bytes__` as written (with `dump`, the field loop, the loop body and
  the recursion into nested messages), `Src.value_from_string` = `Message.FromString` as written (with
  `parse`, `load`, `load_fields`, the record loop, the loop body and the recursion into nested classes).

  Guards: those of the model theorem (`MsgOk S m`, the encoding shorter than 2^64 bytes) and those of
  the ties: `WfSchemaOpt S`, `msgDynOk S m` (decidable; implied by `MsgOk`, `msgDynOk_of_ok`),
  `depthOf m < depth`, the encoding consists of bytes (`WfBytes`: the model's bytes are `List Nat`) and
  fuel for the `while` loops of the codec primitives.
-/
namespace Bp.C01
open Bp Bp.Py Bp.SrcTieMsg

/-- **`Cls.FromString(data)` as written is the model's `parse`** (the function the C01 / C02 / C08 /
    C17 theorems about the decoder are stated of) -/
theorem src_from_string (fuel : Nat) (S : Schema) (c : Nat) (bs : Bytes) (hw : WfBytes bs) (hf : bs.length + 12 ≤ fuel) :
    Src.value_from_string fuel S bs.length c bs = Py.ofR (parse S c bs) :=
  value_from_string_eq fuel S c bs hw hf

/-- **`m.parse(data)` as written is the model's `parseInto`**, for every receiver -/
theorem src_parse (fuel : Nat) (S : Schema) (m : Val) (bs : Bytes) (hw : WfBytes bs) (hf : bs.length + 12 ≤ fuel) :
    Src.value_parse fuel S bs.length m bs = Py.ofR (parseInto S m bs) :=
  value_parse_eq fuel S m bs hw hf

/-- **the round trip, of the SOURCE FUNCTIONS ONLY**: for every well-typed message value `m` of class
    `c` (`MsgOk`, the domain of `roundtrip_equal`; it implies the guard of the tie), if `bytes(m)` as
    written returned `bs`, then `Cls.FromString(bs)` as written returns a message `m'` with `m == m'`
    and `m' == m` (`Message.__eq__`), and `bytes(m')` as written returns `bs` again (for every nesting
    budget above the depth of `m'`) -/
theorem src_roundtrip (S : Schema) (hS : WfSchemaOpt S) (hST : WfSchemaT S) (fuel depth : Nat)
    (c : Nat) (sl : List Val) (ow : Bool) (unk : Bytes) (cur : List (Option Nat))
    (hm : MsgOk S (.msg c sl ow unk cur)) (hd : depthOf (.msg c sl ow unk cur) < depth)
    (bs : Bytes) (hbytes : Src.value_bytes fuel S depth (.msg c sl ow unk cur) = .ok bs)
    (hw : WfBytes bs) (hbl : bs.length < 2 ^ 64) (hf : bs.length + 12 ≤ fuel) :
    ∃ m', Src.value_from_string fuel S bs.length c bs = .ok m'
      ∧ msgEq S (.msg c sl ow unk cur) m' = true ∧ msgEq S m' (.msg c sl ow unk cur) = true
      ∧ ∀ depth', depthOf m' < depth' → Src.value_bytes fuel S depth' m' = .ok bs := by
  have hg := msgDynOk_of_ok S _ hm
  have hb := C09.src_bytes S hS fuel depth _ hg hd
  rw [hbytes] at hb
  have hdump : dumpVal S (.msg c sl ow unk cur) = .ok bs := Res.ofR_eq_ok hb.symm
  obtain ⟨m', h1, h2, h3, h4⟩ := roundtrip_equal S c sl ow unk cur hm bs hdump hbl
  refine ⟨m', by rw [src_from_string fuel S c bs hw hf, h1]; rfl, h2, h3, fun depth' hd' => ?_⟩
  have hg' := msgDynOk_of_typed false S hST m' (parse_msgTyped S hST c bs m' h1)
  rw [C09.src_bytes S hS fuel depth' m' hg' hd', h4]; rfl

/-- the guard of the whole-method ties holds on the domain of the round-trip theorems, and of
    everything `parse` returns -/
theorem src_guard_of_ok (S : Schema) (m : Val) (h : MsgOk S m) : msgDynOk S m = true := msgDynOk_of_ok S m h
theorem src_guard_of_parse (S : Schema) (hST : WfSchemaT S) (c : Nat) (bs : Bytes) (m : Val) (h : parse S c bs = .ok m) :
    msgDynOk S m = true := msgDynOk_of_typed false S hST m (parse_msgTyped S hST c bs m h)

/-- **pickling as written is parse ∘ bytes**: `__reduce__` hands `FromString` the bytes `bytes(self)`;
    unpickling calls `FromString` on them — the model's pickle step (`stepOp … .pickle`, C14) -/
theorem src_pickle (S : Schema) (hS : WfSchemaOpt S) (fuel k : Nat)
    (c : Nat) (sl : List Val) (ow : Bool) (unk : Bytes) (cur : List (Option Nat))
    (hg : msgDynOk S (.msg c sl ow unk cur) = true) (hd : depthOf (.msg c sl ow unk cur) ≤ k)
    (hw : ∀ bs, dumpVal S (.msg c sl ow unk cur) = .ok bs → WfBytes bs ∧ bs.length + 12 ≤ fuel) :
    ((Src.value_reduce fuel S k (.msg c sl ow unk cur)).bind fun bs => Src.value_from_string fuel S bs.length c bs)
      = Py.ofR (stepOp S (.msg c sl ow unk cur) .pickle) := by
  rw [(C09.src_aliases fuel S k _).2.2, C09.src_bytes S hS fuel (k + 1) _ hg (by omega)]
  unfold stepOp
  simp only [stateOf]
  cases hb : dumpVal S (.msg c sl ow unk cur) with
  | error e => rfl
  | ok bs =>
    obtain ⟨h1, h2⟩ := hw bs hb
    simp only [SrcTieDump.ofR_ok, SrcTieDump.res_bind_ok, bind_ok, src_from_string fuel S c bs h1 h2]

end Bp.C01
