import BpProofs.Props.C05SrcLeaf
import BpProofs.Props.C15SrcJson
/-
  C04, the JSON LEAF round trips tied to the SOURCE: `_parse_float(_dump_float(x))`,
  `_parse_enum(_dump_enum(v))`, and what the abstract Duration / Timestamp leaves `JVal.durStr us` /
  `JVal.tsStr us` of the to_dict / from_dict model stand for — all about the functions as
  regenerated from the Python AST of src/betterproto/__init__.py (Gen/SrcJson.lean `dump_float`,
  Gen/SrcLeaf.lean, Gen/SrcTime.lean) and src/betterproto/enum.py (Gen/SrcEnum.lean).
-/
namespace Bp.C04
open Bp Bp.Py Bp.EnumM Bp.PyEnum Bp.PyLeaf Bp.SrcTieLeaf Bp.SrcTieEnum

/-- **float32 leaf round trip, of the source as written**: `_parse_float(_dump_float(x))` is `x`
    for every bit pattern that is not a NaN — +∞, −∞ (through the strings "Infinity" / "-Infinity"),
    ±0, subnormals — and the canonical quiet NaN for every NaN pattern (through "NaN") -/
theorem src_parse_float_dump_float32 (b : Nat) :
    (Src.dump_float (.f32 b)).bind (Src.parse_float (floatOf .float) .float)
      = .ok (.f32 (if isNaN32 b then 0x7fc00000 else b)) := by
  rw [SrcTieJson.dump_float_eq]
  show Src.parse_float (floatOf .float) .float (dumpFloat (.f32 b)) = _
  rw [C05.src_parse_float _ _ (by simp only [dumpFloat]; split_ifs <;> rfl), parseFloat_dumpFloat32]; rfl

/-- **float64 leaf round trip, of the source as written** -/
theorem src_parse_float_dump_float64 (b : Nat) :
    (Src.dump_float (.f64 b)).bind (Src.parse_float (floatOf .double) .double)
      = .ok (.f64 (if isNaN64 b then 0x7ff8000000000000 else b)) := by
  rw [SrcTieJson.dump_float_eq]
  show Src.parse_float (floatOf .double) .double (dumpFloat (.f64 b)) = _
  rw [C05.src_parse_float _ _ (by simp only [dumpFloat]; split_ifs <;> rfl), parseFloat_dumpFloat64]; rfl

/-- **enum leaf round trip, of the source as written**: for every definition `d` (distinct names),
    every state of the class `EnumType.__new__` builds and EVERY integer `v`: `_dump_enum` as written
    yields a JSON value — the first declared name for a number with a member, the number itself for a
    number without one (D14 repair), never null — and `_parse_enum` as written reads it back as a value
    with number `v`: the canonical member (the object `cls(v)` returns) resp. an open value -/
theorem src_enum_json_roundtrip {ν : Type} [DecidableEq ν] (d : Decl ν) (hnd : NamesNodup d = true)
    (cls : ClsObj ν) (hr : C20.Reach d cls.st) (v : Int) :
    ∃ j m cls', Src.dump_enum cls v = .ok (some j) ∧ Src.parse_enum cls j = .ok (m, cls')
      ∧ m.number = v ∧ C20.Reach d cls'.st
      ∧ (Defined d v → (∃ n0, j = .name n0 ∧ FirstName d v n0) ∧ Src.EnumType.call cls v = .ok m)
      ∧ (¬ Defined d v → j = .num v ∧ m.name = none) := by
  obtain ⟨j, c', m, h1, h2, h3, h4, h5, h6⟩ := C20.enum_json_roundtrip d hnd cls.st hr v
  refine ⟨j, m, { cls with st := c' }, ?_, ?_, h3, h4, ?_, h6⟩
  · rw [C05.src_dump_enum, h1]
  · rw [C05.src_parse_enum, h2]; rfl
  · intro hd
    refine ⟨(h5 hd).1, ?_⟩
    rw [C20.src_call, (h5 hd).2]; rfl

/-- **what `JVal.durStr us` stands for**: the characters `delta_to_json` as written builds;
    `delta_from_json` as written reads them back as `us` — the equation `durParse (durJ (.dur us)) =
    .ok (.dur us)` the to_dict / from_dict model takes as the meaning of the abstract leaf (intrinsics
    `Py.deltaToJson` / `Py.deltaFromJson`), for every timedelta Python can hold -/
theorem src_durStr_leaf (us : Int) (h0 : durMinUs ≤ us) (h1 : us ≤ durMaxUs) :
    (Src.duration_delta_to_json us).bind (fun t => Src.duration_delta_from_json (renderSecs t)) = .ok us
    ∧ Py.deltaFromJson (Py.deltaToJson (.dur us)) = .ok (.dur us) :=
  ⟨C15.src_duration_json_roundtrip_range us h0 h1, rfl⟩

/-- **what `JVal.tsStr us` stands for**: the text `timestamp_to_json` as written returns for a datetime
    denoting the instant `us` (naive, or aware with a whole-second utcoffset); distinct instants have
    distinct texts, which is all the model uses of it (`isoparse`, the reading side, is third-party
    code and stays an abstract leaf: `Py.isoparse (.tsStr us) = .ok (.ts us)`) -/
theorem src_tsStr_leaf (d : DT) (h : d.off.getD 0 % 1000000 = 0) :
    Src.timestamp_to_json d = .ok (tsJsonText d.instant)
    ∧ (∀ a b, tsJsonText a = tsJsonText b → a = b)
    ∧ Py.isoparse (Py.timestampToJson (.ts d.instant)) = .ok (.ts d.instant) :=
  ⟨(C15.src_timestamp_json_form d h).1, C15.ts_json_text_injective, rfl⟩

example : (Src.dump_float (.f64 0xfff0000000000000)).bind (Src.parse_float (floatOf .double) .double)
    = .ok (.f64 0xfff0000000000000) := rfl
example : (Src.dump_float (.f32 0x7fc00001)).bind (Src.parse_float (floatOf .float) .float)
    = .ok (.f32 0x7fc00000) := rfl
example : (Src.dump_enum C20.exCls 7).bind (fun j => match j with
    | some j => (Src.parse_enum C20.exCls j).bind (fun p => .ok (p.1.name, p.1.number)) | none => .raise .value)
    = .ok (none, 7) := by decide +kernel
/-- the hypotheses of `src_enum_json_roundtrip` -/
example : NamesNodup C20.exD = true ∧ C20.Reach C20.exD C20.exCls.st := ⟨by decide +kernel, C20.reach_mk _⟩
example : durMinUs ≤ -1500000 ∧ (-1500000 : Int) ≤ durMaxUs := by decide

end Bp.C04
