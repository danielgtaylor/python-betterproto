import BpProofs.HeapBasic
import BpProofs.HeapCopy
import BpProofs.HeapMut
/-
  C14, the ALIASING half — "… and mutating a deep copy or an unpickled copy never affects the
  original" — over the heap model BpModel/Heap.lean (objects with identity: message cells, the lists
  and dicts of repeated / map fields, the `_group_current` dict and the `_unknown_fields` bytes object
  of every message are heap cells; `copyVal` models `copy.deepcopy` under `Message.__copy_state_to`,
  memo quirk included; `shallowCopy` models `copy.copy`).  The VALUE half is Props/C14.lean.

  All statements are for EVERY well-formed heap (`WF`: references in range, `_unknown_fields` is a
  bytes object; decidable: `wfB`), every object, every amount of fuel (`none` = RecursionError on a
  cyclic graph), every depth `n` of observation and every sequence of mutations.

    * `deepcopy_disjoint`      no mutable cell is reachable from both the copy and the original
                               (the copy's `_group_current` included);
    * `deepcopy_value`         the copy has the original's value, the original's cells are untouched;
    * `deepcopy_independent`   no program working through the copy (and objects it creates) changes
                               the original's value, and symmetrically;
    * `pickle_copy_independent` the same for the aliasing structure of an unpickled copy;
    * `shallow_copy_shares_exactly`  what `copy.copy` shares and which mutations are visible;
    * `shared_gcur_breaks_independence` … `decide`-checked witnesses for the seeded-bug classes.
  Link to the code: driver command HEAPCOPY, harness/props/c14.py stage "heap" (sharing pattern along
  all paths observed with `is`, values after mutations).
-/
namespace Bp.C14
open Bp.Hp

theorem copyWith_disjoint {cfg : Cfg} (hcfg : cfg.shareGc = false) {fuel : Nat} {h h' : Heap} {o c : Nat}
    (hw : WF h) (ho : o < h.length) (hcp : copyWith cfg fuel h o = some (h', c)) (x : Nat)
    (hc : Reach h' c x) (hox : Reach h' o x) : isBytes h' x = true := by
  obtain ⟨⟨ext, rfl⟩, _, _, _, hfresh, _⟩ := copyWith_spec hcfg hw ho hcp
  exact (hfresh x hc).resolve_left fun hle => hw.1.not_reach_new ho hle hox

/-- **after `deepcopy`, no MUTABLE object is reachable from both the copy and the original**:
    whatever both reach is an (immutable) `bytes` object — `_unknown_fields`, which
    `__copy_state_to` assigns without copying.  Also for the executable `reach`. -/
theorem deepcopy_disjoint (fuel : Nat) (h h' : Heap) (o c : Nat) (hw : WF h) (ho : o < h.length)
    (hcp : deepCopy fuel h o = some (h', c)) :
    (∀ x, Reach h' c x → Reach h' o x → isBytes h' x = true) ∧
    (∀ x, x ∈ reach h' c → x ∈ reach h' o → isBytes h' x = true) :=
  ⟨copyWith_disjoint rfl hw ho hcp,
   fun x h1 h2 => copyWith_disjoint rfl hw ho hcp x (reach_sound _ _ _ h1) (reach_sound _ _ _ h2)⟩

/-- in particular **the copy of a message has a `_group_current` dict of its own**: a `gcur` cell
    allocated by the copy, with the original's selection, that the original does not reach -/
theorem deepcopy_gcur_fresh (fuel : Nat) (h h' : Heap) (o c : Nat) (hw : WF h) (ho : o < h.length)
    (sl : List HVal) (ow : Bool) (u g : Nat) (hcell : h[o]? = some (.msg sl ow u g))
    (hcp : deepCopy fuel h o = some (h', c)) :
    ∃ sl' g', h'[c]? = some (.msg sl' ow u g') ∧ h'[g']? = some (.gcur (selAt h g)) ∧ ¬ Reach h' o g' := by
  have hdis := copyWith_disjoint rfl hw ho hcp
  unfold deepCopy copyWith at hcp
  cases fuel with
  | zero => simp [copyVal] at hcp
  | succ fuel =>
    simp only [copyVal, List.lookup, hcell] at hcp
    cases hci : copyItems (freshMemo (copyVal {} fuel)) h [] sl with
    | none => simp [hci] at hcp
    | some r =>
      obtain ⟨h1, m1, sl'⟩ := r
      simp only [hci, Bool.false_eq_true, if_false, Option.some.injEq, Prod.mk.injEq] at hcp
      obtain ⟨rfl, rfl⟩ := hcp
      refine ⟨sl', h1.length, getElem?_append_len_succ, getElem?_append_len, fun hr => ?_⟩
      have := hdis h1.length (Reach.edge getElem?_append_len_succ (List.mem_cons_of_mem _ List.mem_cons_self)) hr
      unfold isBytes at this
      rw [getElem?_append_len] at this; cases this

/-- **the deep copy has the original's value** (to every depth; so do its bytes: Props/C14.lean),
    **and taking it leaves every existing object untouched** -/
theorem deepcopy_value (fuel : Nat) (h h' : Heap) (o c : Nat) (hw : WF h) (ho : o < h.length)
    (hcp : deepCopy fuel h o = some (h', c)) :
    (∀ n, absVal n h' c = absVal n h o) ∧ (∃ ext, h' = h ++ ext) ∧ (∀ i, i < h.length → h'[i]? = h[i]?) ∧
    (∀ n, absVal n h' o = absVal n h o) := by
  obtain ⟨⟨ext, rfl⟩, _, _, _, _, hval⟩ := copyWith_spec (cfg := {}) rfl hw ho hcp
  refine ⟨hval, ⟨ext, rfl⟩, fun i hi => List.getElem?_append_left hi, ?_⟩
  intro n
  exact absV_prefix_ref hw.1 (List.prefix_append h ext) ho n

theorem copyWith_sep {cfg : Cfg} (hcfg : cfg.shareGc = false) {fuel : Nat} {h h' : Heap} {o c : Nat}
    (hw : WF h) (ho : o < h.length) (hcp : copyWith cfg fuel h o = some (h', c)) :
    Sep h' o [c] ∧ Sep h' c [o] := by
  have hdis := copyWith_disjoint hcfg hw ho hcp
  obtain ⟨⟨ext, rfl⟩, hw', hc, _, _, _⟩ := copyWith_spec hcfg hw ho hcp
  have ho' : o < (h ++ ext).length := Nat.lt_of_lt_of_le ho (List.prefix_append h ext).length_le
  exact ⟨⟨hw'.1, ho', fun r hr => List.mem_singleton.mp hr ▸ hc, fun x hr hox => hdis x (reachL_singleton.mp hr) hox⟩,
    ⟨hw'.1, hc, fun r hr => List.mem_singleton.mp hr ▸ ho', fun x hr hcx => hdis x hcx (reachL_singleton.mp hr)⟩⟩

/-- **mutating a deep copy never affects the original** — for EVERY program `ms` (any sequence of field
    assignments, oneof switches, list appends / clears, dict stores, merges of unknown fields, and
    constructions of new messages / lists / dicts) whose every step is applied THROUGH the copy
    (`Legal h' [c] ms`: target and stored references reachable from the copy or from objects the
    program itself created), the value of the original is what it was before the copy was taken;
    **and symmetrically** programs working through the original never change the copy. -/
theorem deepcopy_independent (fuel : Nat) (h h' : Heap) (o c : Nat) (hw : WF h) (ho : o < h.length)
    (hcp : deepCopy fuel h o = some (h', c)) (ms : List Mut) :
    (Legal h' [c] ms → ∀ n, absVal n (runMuts h' ms) o = absVal n h o) ∧
    (Legal h' [o] ms → ∀ n, absVal n (runMuts h' ms) c = absVal n h o) := by
  obtain ⟨s1, s2⟩ := copyWith_sep (cfg := {}) rfl hw ho hcp
  obtain ⟨hv, _, _, hvo⟩ := deepcopy_value fuel h h' o c hw ho hcp
  exact ⟨fun hl n => (s1.run ms hl n).trans (hvo n), fun hl n => (s2.run ms hl n).trans (hv n)⟩

/-- **mutating an unpickled copy never affects the original** (aliasing structure of
    `pickle.loads(pickle.dumps(m))` = a tree of fresh objects; its value is the wire round trip, C01),
    and the unpickled copy shares no mutable object with the original -/
theorem pickle_copy_independent (fuel : Nat) (h h' : Heap) (o c : Nat) (hw : WF h) (ho : o < h.length)
    (hcp : pickleCopy fuel h o = some (h', c)) (ms : List Mut) :
    (∀ x, Reach h' c x → Reach h' o x → isBytes h' x = true) ∧
    (Legal h' [c] ms → ∀ n, absVal n (runMuts h' ms) o = absVal n h' o) ∧
    (Legal h' [o] ms → ∀ n, absVal n (runMuts h' ms) c = absVal n h' c) := by
  obtain ⟨s1, s2⟩ := copyWith_sep (cfg := { useMemo := false }) rfl hw ho hcp
  exact ⟨copyWith_disjoint (cfg := { useMemo := false }) rfl hw ho hcp, s1.run ms, s2.run ms⟩

/-- the operations on the message object itself: assign a plain field, read a field (lazily storing
    its default), assign a oneof member, merge unknown fields -/
def IsMsgOp (t : Nat) (mu : Mut) : Prop :=
  (∃ i v, mu = .setSlot t i v) ∨ (∃ i v, mu = .fill t i v) ∨ (∃ g i sibs v, mu = .selectMember t g i sibs v)
    ∨ (∃ bs, mu = .mergeUnknown t bs)

theorem IsMsgOp.target {t : Nat} {mu : Mut} (hm : IsMsgOp t mu) : mu.target = some t := by
  rcases hm with ⟨_, _, rfl⟩ | ⟨_, _, rfl⟩ | ⟨_, _, _, _, rfl⟩ | ⟨_, rfl⟩ <;> rfl

theorem selAt_of {hh : Heap} {k : Nat} {s : List (Option Nat)} (hk : hh[k]? = some (Cell.gcur s)) :
    selAt hh k = s :=
  selAt_eq hk

/-- **`copy.copy` shares exactly the children.**  After `shallowCopy h o = some (h', c)`:
    1. two cells are new — the copy's message cell `c` and its own `_group_current` cell — with the
       original's slot VALUES (the same references), flags, bytes object and selection; the copy has the
       original's value;
    2. neither new cell is reachable from the original;
    3. everything else the copy reaches is reachable from a child of the original (a slot value or
       the bytes object) — and every such child is reached by both: it is SHARED;
    4. hence assigning or reading a field, switching a oneof member or merging unknown fields ON THE COPY (any
       operand) never changes the original's value;
    5. and the same operations ON THE ORIGINAL never change the copy — provided the original is not
       its own descendant and no descendant uses its `_group_current` (true of every graph betterproto
       builds; stated as hypotheses because the heap is arbitrary);
    6. whereas ANY mutation of another object (a shared list, dict or sub-message, at any depth) is seen
       identically through both: afterwards copy and original still have the same value (provided
       the original's `_group_current` is a gcur cell that no other message uses). -/
theorem shallow_copy_shares_exactly (h h' : Heap) (o c : Nat) (hcl : Closed h)
    (hcp : shallowCopy h o = some (h', c)) :
    ∃ sl ow u g, h[o]? = some (.msg sl ow u g) ∧
      -- 1
      h' = h ++ [.gcur (selAt h g), .msg sl ow u h.length] ∧ c = h.length + 1 ∧
      (∀ n, absVal n h' c = absVal n h o) ∧
      -- 2
      ¬ Reach h' o c ∧ ¬ Reach h' o h.length ∧
      -- 3
      (∀ x, Reach h' c x ↔ (x = c ∨ x = h.length ∨ ∃ b ∈ u :: itemRefs sl, Reach h b x)) ∧
      (∀ b ∈ u :: itemRefs sl, ∀ x, Reach h b x → Reach h' o x ∧ Reach h' c x) ∧
      -- 4
      (∀ mu, IsMsgOp c mu → ∀ n, absVal n (applyMut h' mu) o = absVal n h' o) ∧
      -- 5
      ((∀ b ∈ u :: itemRefs sl, ¬ Reach h b o ∧ ¬ Reach h b g) →
        ∀ mu, IsMsgOp o mu → ∀ n, absVal n (applyMut h' mu) c = absVal n h' c) ∧
      -- 6
((∃ sel, h[g]? = some (.gcur sel)) → (∀ t sl' ow' u', h[t]? = some (.msg sl' ow' u' g) → t = o) →
        ∀ mu, mu.target ≠ some o → mu.target ≠ some c →
          ∀ n, absVal n (applyMut h' mu) c = absVal n (applyMut h' mu) o) := by
  obtain ⟨sl, ow, u, g, hcell, rfl, rfl⟩ := shallowCopy_eq hcp
  have ho : o < h.length := (List.getElem?_eq_some_iff.mp hcell).1
  obtain ⟨hul, hrest⟩ := List.forall_mem_cons.mp (hcl o _ hcell)
  obtain ⟨hgl, hslr⟩ := List.forall_mem_cons.mp hrest
  have hchild : ∀ b ∈ u :: itemRefs sl, b < h.length := List.forall_mem_cons.mpr ⟨hul, hslr⟩
  have hmem : ∀ b ∈ u :: itemRefs sl, ∀ k, b ∈ (Cell.msg sl ow u k).refs := fun b hb k =>
    (List.mem_cons.mp hb).elim (fun e => e ▸ List.mem_cons_self)
      fun hb => List.mem_cons_of_mem _ (List.mem_cons_of_mem _ hb)
  -- the two new cells; old cells and what old cells reach are as in `h`
  have hcC := getElem?_append_len_succ (h := h) (a := Cell.gcur (selAt h g)) (b := Cell.msg sl ow u h.length) (t := [])
  have hcG := getElem?_append_len (h := h) (a := Cell.gcur (selAt h g)) (t := [Cell.msg sl ow u h.length])
  have hmsg := fun t c' => getElem?_append_two (h := h) (k := t) (c' := c') (c1 := Cell.gcur (selAt h g))
    (c2 := Cell.msg sl ow u h.length)
  have hlen : (h ++ [Cell.gcur (selAt h g), Cell.msg sl ow u h.length]).length = h.length + 2 := List.length_append
  generalize hE : [Cell.gcur (selAt h g), Cell.msg sl ow u h.length] = ext at hlen hcC hcG hmsg ⊢
  have hold : ∀ i, i < h.length → (h ++ ext)[i]? = h[i]? := fun i hi => List.getElem?_append_left hi
  have hcO : (h ++ ext)[o]? = some (Cell.msg sl ow u g) := (hold o ho).trans hcell
  have hreach : ∀ {a x}, a < h.length → (Reach (h ++ ext) a x ↔ Reach h a x) := fun ha => Reach.append_iff ext hcl ha
  have hnew : ∀ x, h.length ≤ x → ¬ Reach (h ++ ext) o x := fun x => hcl.not_reach_new ho
  have hreachC : ∀ x, Reach (h ++ ext) (h.length + 1) x ↔
      (x = h.length + 1 ∨ x = h.length ∨ ∃ b ∈ u :: itemRefs sl, Reach h b x) := fun x => by
    have hkids : (∃ b ∈ u :: itemRefs sl, Reach (h ++ ext) b x) ↔ ∃ b ∈ u :: itemRefs sl, Reach h b x :=
      exists_congr fun b => and_congr_right fun hb => hreach (hchild b hb)
    rw [Reach.cell_iff hcC, ← hkids]
    simp only [Cell.refs, List.mem_cons, exists_eq_or_imp, Reach.leaf_iff hcG rfl, or_left_comm]
  -- what the copy reaches of the old heap, it reaches through a child
  have hreachOld : ∀ x, x < h.length → Reach (h ++ ext) (h.length + 1) x → ∃ b ∈ u :: itemRefs sl, Reach h b x := by
    intro x hx hr
    rcases (hreachC x).mp hr with rfl | rfl | hb
    · omega
    · exact absurd hx (Nat.lt_irrefl _)
    · exact hb
  have hcIn : ∀ x, Reach (h ++ ext) (h.length + 1) x → x < (h ++ ext).length := by
    intro x hx
    rcases (hreachC x).mp hx with rfl | rfl | ⟨b, hb, hbx⟩
    · omega
    · omega
    · have := hcl.reach (hchild b hb) hbx; omega
  refine ⟨sl, ow, u, g, hcell, hE ▸ rfl, rfl, ?_, hnew _ (Nat.le_succ _), hnew _ (Nat.le_refl _), hreachC, ?_, ?_, ?_, ?_⟩
  · exact absV_msg_congr hcC hcell (map_absV_prefix hcl (List.prefix_append h ext) hslr) (bytesAt_congr (hold u hul))
      (selAt_eq hcG)
  · intro b hb x hr
    exact ⟨.step hcO (hmem b hb _) ((hreach (hchild b hb)).mpr hr), (hreachC x).mpr (Or.inr (Or.inr ⟨b, hb, hr⟩))⟩
  · -- 4: the original reaches neither the copy nor the copy's `_group_current`
    intro mu hmu
    refine absVal_applyMut (fun x hx => ?_) hmu.target (hnew _ (Nat.le_succ _)) fun _ _ _ g' hc hr => ?_
    · have := hcl.reach ho ((hreach ho).mp hx); omega
    · cases hcC.symm.trans hc
      exact hnew _ (Nat.le_refl _) hr
  · -- 5: the copy reaches the original and its `_group_current` only through a child
    intro hacyc mu hmu
    refine absVal_applyMut hcIn hmu.target (fun hr => ?_) fun _ _ _ g' hc hr => ?_
    · obtain ⟨b, hb, hbo⟩ := hreachOld o ho hr
      exact (hacyc b hb).1 hbo
    · cases hcO.symm.trans hc
      obtain ⟨b, hb, hbg⟩ := hreachOld g hgl hr
      exact (hacyc b hb).2 hbg
  · -- 6: copy and original have equal cells, and each is the only user of its `_group_current`
    intro ⟨sel0, hsel0⟩ hown mu hto htc
    refine absVal_applyMut_twins hcC hcO (selAt_eq hsel0 ▸ hcG) ((hold g hgl).trans hsel0)
      (fun t _ _ _ hct => ?_) (fun t _ _ _ hct => ?_) htc hto
    · rcases hmsg _ _ hct with hct | ⟨_, hct⟩ | ⟨rfl, _⟩
      · exact absurd (hcl t _ hct h.length (List.mem_cons_of_mem _ List.mem_cons_self)) (Nat.lt_irrefl _)
      · cases hct
      · rfl
    · rcases hmsg _ _ hct with hct | ⟨_, hct⟩ | ⟨_, hct⟩
      · exact hown t _ _ _ hct
      · cases hct
      · cases hct; exact absurd hgl (Nat.lt_irrefl _)

/-! ### witnesses (`decide`) and non-vacuity -/

/-- `Top(a=5 [oneof g0 = {slot 0, slot 1}], rep=[S, S], map={1: S}, sub=S)` with unknown fields `09 09`,
    where `S = Sub(x=7)` is ONE object used four times -/
def H0 : Heap :=
  [ .bytes [], .gcur [], .msg [.leaf 7] true 0 1,                       -- 2 = S
    .list [.ref 2, .ref 2],                                              -- 3
    .dict [1] [.ref 2],                                                  -- 4
    .bytes [9, 9], .gcur [some 0],
    .msg [.leaf 5, .ph, .ref 3, .ref 4, .ref 2] true 5 6 ]               -- 7 = Top

example : wfB H0 = true := by decide +kernel

/-- the deep copy exists, allocates 10 cells, and the copy is cell 17 -/
example : (deepCopy 4 H0 7).map (fun r => (r.1.length, r.2)) = some (18, 17) := by decide +kernel

/-- the memo quirk: inside the list the two items stay ONE object (cell 10), while the map value
    (cell 13) and the `sub` field (cell 15) are further, separate copies of `S` -/
example : (deepCopy 4 H0 7).map (fun r => r.1.drop 8) = some
    [ .gcur [], .msg [.leaf 7] true 0 8, .list [.ref 9, .ref 9],
      .gcur [], .msg [.leaf 7] true 0 11, .dict [1] [.ref 12],
      .gcur [], .msg [.leaf 7] true 0 14,
      .gcur [some 0], .msg [.leaf 5, .ph, .ref 10, .ref 13, .ref 15] true 5 16 ] := by decide +kernel

/-- copy and original meet only in the two bytes objects -/
example : (deepCopy 4 H0 7).map (fun r => (reach r.1 r.2).filter (fun x => (reach r.1 7).contains x)) = some [5, 0] := by
  decide +kernel

/-- a program through the copy: switch the oneof, append a NEW message to the list, mutate the
    (copied) sub-message inside the map, merge unknown fields -/
def prog (c : Nat) : List Mut :=
  [ .selectMember c 0 1 [0] (.leaf 9), .newMsg 1 0, .listAppend 10 (.ref 20), .setSlot 20 0 (.leaf 1),
    .setSlot 12 0 (.leaf 8), .mergeUnknown c [3, 3] ]

/-- it is legal (`deepcopy_independent` applies to it) … -/
example : (deepCopy 4 H0 7).map (fun r => legalB r.1 [r.2] (prog r.2)) = some true := by decide +kernel

/-- … it does change the copy, and (as the theorem says) not the original -/
example : (deepCopy 4 H0 7).map (fun r =>
    ((absVal 4 (runMuts r.1 (prog r.2)) r.2).enc == (absVal 4 r.1 r.2).enc,
     (absVal 4 (runMuts r.1 (prog r.2)) 7).enc == (absVal 4 H0 7).enc)) = some (false, true) := by decide +kernel

/-- **BUG CLASS (seeded repeatedly): the copy shares `_group_current`.**  With
    `clone._group_current = self._group_current`, switching the oneof member on the deep copy changes
    what the ORIGINAL reports as selected: independence fails in the model. -/
theorem shared_gcur_breaks_independence :
    (copyWith { shareGc := true } 4 H0 7).map (fun r =>
      ((absVal 4 r.1 r.2).enc == (absVal 4 H0 7).enc,                                        -- a faithful copy …
       legalB r.1 [r.2] [.selectMember r.2 0 1 [0] (.leaf 9)],                                 -- … a legal step …
       (absVal 4 (applyMut r.1 (.selectMember r.2 0 1 [0] (.leaf 9))) 7).enc == (absVal 4 H0 7).enc))
      = some (true, true, false) := by decide +kernel                                                 -- … changes the original

/-- the same for `copy.copy` -/
theorem shared_gcur_breaks_shallow :
    (shallowCopySharedGc H0 7).map (fun r =>
      (absVal 4 (applyMut r.1 (.selectMember r.2 0 1 [0] (.leaf 9))) 7).enc == (absVal 4 H0 7).enc) = some false := by
  decide +kernel

/-- **BUG CLASS: `_unknown_fields` as a shared mutable `bytearray`**: extending the copy's unknown
    fields in place changes the original (the bytes object is shared by `__copy_state_to`; it is safe
    only because `bytes` is immutable and `+=` rebinds) -/
theorem inplace_unknown_breaks_independence :
    (deepCopy 4 H0 7).map (fun r =>
      ((absVal 4 (mergeUnknownInPlace r.1 r.2 [3]) 7).enc == (absVal 4 H0 7).enc,
       (absVal 4 (applyMut r.1 (.mergeUnknown r.2 [3])) 7).enc == (absVal 4 H0 7).enc)) = some (false, true) := by decide +kernel

/-- `copy.copy`: appending to the copy's list IS visible through the original (shared child), switching the
    copy's oneof member is NOT (own `_group_current`) -/
example : (shallowCopy H0 7).map (fun r =>
    ((absVal 4 (applyMut r.1 (.listAppend 3 (.leaf 1))) 7).enc == (absVal 4 H0 7).enc,
     (absVal 4 (applyMut r.1 (.selectMember r.2 0 1 [0] (.leaf 9))) 7).enc == (absVal 4 H0 7).enc,
     (absVal 4 (applyMut r.1 (.selectMember r.2 0 1 [0] (.leaf 9))) r.2).enc == (absVal 4 H0 7).enc))
    = some (false, true, false) := by decide +kernel

/-- a cyclic graph (`m.sub = m`): deepcopy does not terminate in Python (RecursionError), `none` here -/
example : deepCopy 50 [.bytes [], .gcur [], .msg [.ref 2] true 0 1] 2 = none := by decide +kernel

end Bp.C14
