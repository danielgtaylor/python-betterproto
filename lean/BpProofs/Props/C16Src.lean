import BpProofs.SrcTie
import BpProofs.Props.C16
/-
  C16, tied to the SOURCE: the same statements about the functions `Bp.Src.*`, which are
  regenerated from the Python AST of src/betterproto/__init__.py on every run
  (harness/extract_src.py → BpProofs/Gen/SrcCodec.lean).  If the source of one of these
  functions changes what it computes, the corresponding theorem below stops checking.

  `fuel` bounds the iterations of the translated `while` / `for` loops; every theorem holds
  for every fuel above an explicit bound (running out of fuel is the outcome `.diverge`,
  which none of the right-hand sides is), so each says: the Python loop terminates and
  returns / raises exactly this.
-/
namespace Bp.C16
open Bp Bp.Py Spec

/-- `dump_varint` as written appends to the stream exactly what the model `dumpVarint`
    produces and raises exactly when it raises — every integer, every stream content -/
theorem src_dump_varint (v : Int) (s : Bytes) (fuel : Nat) (hf : v.natAbs + 2 ^ 64 < fuel) :
    Src.dump_varint fuel v s = (Py.ofR (dumpVarint v)).bind fun bs => .ok (s ++ bs) :=
  SrcTie.dump_varint_eq v s fuel hf

/-- `encode_varint` as written is the model's `dumpVarint` -/
theorem src_encode_varint (v : Int) (fuel : Nat) (hf : v.natAbs + 2 ^ 64 < fuel) :
    Src.encode_varint fuel v = Py.ofR (dumpVarint v) :=
  SrcTie.encode_varint_eq v fuel hf

/-- `size_varint` as written is the model's `sizeVarint` (no loop: any fuel) -/
theorem src_size_varint (v : Int) (fuel : Nat) :
    Src.size_varint fuel v = Py.ofR ((sizeVarint v).map fun (n : Nat) => (n : Int)) :=
  SrcTie.size_varint_eq v fuel

/-- `load_varint` as written is the model's `loadVarint` on every byte string: same value
    (64 meaningful bits), same raw bytes, same rest of the stream, same exception -/
theorem src_load_varint (bs : Bytes) (hw : WfBytes bs) (fuel : Nat) (hf : 10 < fuel) :
    Src.load_varint fuel bs [] =
      match loadVarint bs with
      | .ok (v, k) => .ok (((v : Int), bs.take k), bs.drop k)
      | .error e => .raise e :=
  SrcTie.load_varint_eq bs hw fuel hf

/-- … also when the caller has already taken the first byte (`load_fields`) -/
theorem src_load_varint_first (b0 : Nat) (bs : Bytes) (hw : WfBytes (b0 :: bs)) (fuel : Nat) (hf : 10 < fuel) :
    Src.load_varint fuel bs [b0] =
      match loadVarint (b0 :: bs) with
      | .ok (v, k) => .ok (((v : Int), (b0 :: bs).take k), (b0 :: bs).drop k)
      | .error e => .raise e :=
  SrcTie.load_varint_first_eq b0 bs hw fuel hf

/-- `decode_varint` as written is the model's `decodeVarint` -/
theorem src_decode_varint (buf : Bytes) (hw : WfBytes buf) (pos fuel : Nat) (hf : 10 < fuel) :
    Src.decode_varint fuel buf (pos : Int) =
      match decodeVarint buf pos with
      | .ok (v, p) => .ok ((v : Int), (p : Int))
      | .error e => .raise e :=
  SrcTie.decode_varint_eq buf hw pos fuel hf

/-- the zig-zag branch of `_preprocess_single` as written encodes `zig v` -/
theorem src_zigzag (v : Int) (fuel : Nat) (hf : (zig v).natAbs + 2 ^ 64 < fuel) :
    Src.preprocess_sint fuel v = Py.ofR (dumpVarint (zig v)) := by
  unfold Src.preprocess_sint
  rw [SrcTie.zig_expr, SrcTie.encode_varint_eq _ _ hf]
  cases dumpVarint (zig v) <;> rfl

/-- the zig-zag inverse of `_postprocess_single` as written is `unzig` -/
theorem src_unzigzag (n fuel : Nat) : Src.postprocess_sint fuel (n : Int) = .ok (unzig n) :=
  SrcTie.postprocess_sint_eq n fuel

/-- the int32 / int64 sign recovery of `_postprocess_single` as written is `signRecover` -/
theorem src_sign_recovery (n bits : Nat) (hb : 1 ≤ bits) (fuel : Nat) :
    Src.postprocess_int fuel (n : Int) (bits : Int) = .ok (signRecover bits n) :=
  SrcTie.postprocess_int_eq n bits hb fuel

/-- the enum sign recovery of `_postprocess_single` as written is `signRecover 32` -/
theorem src_enum_sign_recovery (n fuel : Nat) : Src.postprocess_enum fuel (n : Int) = .ok (signRecover 32 n) :=
  SrcTie.postprocess_enum_eq n fuel

/-- **the property, stated of the source as written**: for every integer in
    [-2^63, 2^64) `encode_varint` terminates with a canonical minimal encoding of at most
    10 bytes, and `load_varint` applied to those bytes followed by anything returns the
    64-bit value, exactly those bytes as `raw`, and leaves exactly the rest in the stream -/
theorem src_varint_roundtrip (v : Int) (hlo : -two63 ≤ v) (hhi : v < two64) (rest : Bytes) (hr : WfBytes rest)
    (fuel : Nat) (hf : v.natAbs + 2 ^ 64 < fuel) :
    ∃ bs, Src.encode_varint fuel v = .ok bs ∧ varintCanonical bs = true ∧ bs.length ≤ 10
      ∧ Src.load_varint fuel (bs ++ rest) [] = .ok ((((wire64 v : Nat) : Int), bs), rest) := by
  obtain ⟨bs, hd, hwf, hcan, _, hlen⟩ := dump_canonical v hlo hhi
  obtain ⟨bs', hd', hload⟩ := load_dump v hlo hhi rest
  have hbs : bs' = bs := by rw [hd] at hd'; cases hd'; rfl
  subst hbs
  refine ⟨bs', ?_, hcan, hlen, ?_⟩
  · rw [src_encode_varint v fuel hf, hd]; rfl
  · have hw : WfBytes (bs' ++ rest) := by
      intro x hx
      rcases List.mem_append.mp hx with h | h
      · exact hwf x h
      · exact hr x h
    rw [src_load_varint (bs' ++ rest) hw fuel (by omega), hload]
    simp

/-- integers below -2^63 are rejected by the source as written, by the encoder and the sizer -/
theorem src_reject_below (v : Int) (h : v < -two63) (fuel : Nat) (hf : v.natAbs + 2 ^ 64 < fuel) :
    Src.encode_varint fuel v = .raise .value ∧ Src.size_varint fuel v = .raise .value := by
  obtain ⟨h1, h2⟩ := reject_below v h
  rw [src_encode_varint v fuel hf, src_size_varint, h1, h2]
  exact ⟨rfl, rfl⟩

/-- `size_varint` as written equals the length of what `encode_varint` as written returns,
    for every integer (both raise together) -/
theorem src_size_eq_encoded_length (v : Int) (fuel : Nat) (hf : v.natAbs + 2 ^ 64 < fuel) :
    Src.size_varint fuel v = (Src.encode_varint fuel v).bind fun bs => .ok ((bs.length : Nat) : Int) := by
  rw [src_size_varint, src_encode_varint v fuel hf, size_eq]
  cases dumpVarint v <;> rfl

end Bp.C16
