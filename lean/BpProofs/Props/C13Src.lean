import BpProofs.SrcTieImp
import BpProofs.Props.C13
/-
  C13, tied to the SOURCE: the five `reference_*` functions of
  src/betterproto/compile/importing.py and the dispatch of `get_type_reference` (every statement
  after the call of `parse_source_type_name`), as regenerated from the Python AST of the working tree
  on every run (harness/extract_srcimp.py → BpProofs/Gen/SrcImporting.lean), ARE the model functions
  of BpModel/Importing.lean the C13 theorems are about: same returned text, same line added to
  `imports`, for ALL package paths, type names and prior contents of the set.

  A translated function takes the state of the `imports` set (the list of the strings added so far)
  and returns `Py.Res (reference text × imports afterwards)`; `.raise .key` stands for Python's
  IndexError.  `added i` is what the model's import `i` contributes: nothing for `Import.none`
  (sibling), otherwise the one line `i.render`.

  The `unwrap` block of `get_type_reference` and the regular expression of `parse_source_type_name`
  are tied in Props/C13SrcParse.lean.  Not translated (validated by the correspondence run only):
  that Python reads the rendered import line / reference string as `Import.bind` / `denote` say.
  Trusted: BpProofs/PyPrelude.lean, BpProofs/PyPreludeStr.lean (meaning of the Python primitives).
-/
namespace Bp.C13
open Bp Bp.Py Bp.Casing Bp.Naming Bp.Importing Bp.SrcTieImp

/-- `reference_absolute` as written returns the model's reference text and adds the model's import line -/
theorem src_reference_absolute (fuel : Nat) (imports py : List Str) (ty : Str) :
    Src.reference_absolute fuel imports py ty
      = .ok ((referenceAbsolute py ty).ref.render, imports ++ [(referenceAbsolute py ty).imp.render]) :=
  reference_absolute_eq fuel imports py ty

/-- `reference_sibling` as written returns the model's reference text (and touches no set) -/
theorem src_reference_sibling (fuel : Nat) (ty : Str) :
    Src.reference_sibling fuel ty = .ok (referenceSibling ty).ref.render ∧ (referenceSibling ty).imp = .none :=
  ⟨reference_sibling_eq fuel ty, rfl⟩

/-- `reference_descendent` as written is the model's, for every `py_package` longer than `current_package`
    (exactly when Python's `importing_descendent[-1]` exists) … -/
theorem src_reference_descendent (fuel : Nat) (cur imports py : List Str) (ty : Str) (h : py.drop cur.length ≠ []) :
    Src.reference_descendent fuel cur imports py ty
      = .ok ((referenceDescendent cur py ty).ref.render, imports ++ [(referenceDescendent cur py ty).imp.render]) :=
  reference_descendent_eq fuel cur imports py ty h

/-- … and raises IndexError otherwise (never reached from `get_type_reference`: `src_dispatch`) -/
theorem src_reference_descendent_raises (fuel : Nat) (cur imports py : List Str) (ty : Str) (h : py.drop cur.length = []) :
    Src.reference_descendent fuel cur imports py ty = .raise .key := by
  unfold Src.reference_descendent
  simp only [sliceFrom_llen, h, index_neg_one_nil, Res.bind]

/-- `reference_ancestor` as written is the model's, for all arguments (root package `[]` included) -/
theorem src_reference_ancestor (fuel : Nat) (cur imports py : List Str) (ty : Str) :
    Src.reference_ancestor fuel cur imports py ty
      = .ok ((referenceAncestor cur py ty).ref.render, imports ++ [(referenceAncestor cur py ty).imp.render]) :=
  reference_ancestor_eq fuel cur imports py ty

/-- `reference_cousin` as written is the model's, for every non-empty `py_package`
    (exactly when Python's `py_package[-1]` exists) … -/
theorem src_reference_cousin (fuel : Nat) (cur imports py : List Str) (ty : Str) (h : py ≠ []) :
    Src.reference_cousin fuel cur imports py ty
      = .ok ((referenceCousin cur py ty).ref.render, imports ++ [(referenceCousin cur py ty).imp.render]) :=
  reference_cousin_eq fuel cur imports py ty h

/-- … and raises IndexError on the empty package (never reached from `get_type_reference`) -/
theorem src_reference_cousin_raises (fuel : Nat) (cur imports : List Str) (ty : Str) :
    Src.reference_cousin fuel cur imports [] ty = .raise .key := by
  unfold Src.reference_cousin
  simp only [index_neg_one_nil, Res.bind]

/-- **the dispatch of `get_type_reference` as written** — splitting of the two package names, the
    google.protobuf redirection, the five-way case distinction and the calls — is `refCore` on the
    `redirect`ed split packages, for ALL strings; in particular it never raises (the two IndexErrors
    above are unreachable) -/
theorem src_dispatch (fuel : Nat) (package : Str) (imports : List Str) (srcPkg srcName : Str) (pydantic : Bool) :
    Src.get_type_reference_dispatch fuel package imports srcPkg srcName pydantic
      = (let cur := splitPkg package
         let r := refCore cur (redirect cur (splitPkg srcPkg) pydantic) (pythonizeClassName srcName)
         .ok (r.ref.render, imports ++ added r.imp)) := by
  unfold Src.get_type_reference_dispatch
  simp only [splitPkg_eq, redirect_eq]
  exact dispatch_core fuel _ _ imports _

/-- … which is how the model's `getTypeReference` is assembled: on the two strings
    `parse_source_type_name` returns, the source as written returns / adds what `getTypeReference`
    says (for a site that is not unwrapped; the `unwrap` block is in front of the dispatch) -/
theorem src_dispatch_is_getTypeReference (fuel : Nat) (package sourceType : Str) (imports : List Str) (pydantic : Bool) :
    Src.get_type_reference_dispatch fuel package imports (parseSourceTypeName sourceType).1
        (parseSourceTypeName sourceType).2 pydantic
      = .ok ((getTypeReference package sourceType false pydantic).ref.render,
             imports ++ added (getTypeReference package sourceType false pydantic).imp) := by
  rw [src_dispatch]
  simp only [getTypeReference, Bool.false_eq_true, if_false, false_and]

/-- the same for a reference site of C13 (`siteRef`, the object of `aliases_injective`, `all_at_once` …):
    with the package and type name protoc gives, the source as written produces exactly its texts -/
theorem src_dispatch_is_siteRef (fuel : Nat) (cur tgt : Pkg) (ty : List Str) (imports : List Str) (pydantic : Bool)
    (ht : pkgOk tgt = true) (hty : typeOk ty = true) :
    let r := siteRef cur pydantic { tgt := tgt, ty := ty, unwrap := false }
    Src.get_type_reference_dispatch fuel (dotted cur) imports (dotted tgt) (dotted ty) pydantic
      = .ok (r.ref.render, imports ++ added r.imp) := by
  have h := src_dispatch_is_getTypeReference fuel (dotted cur) (fullName tgt ty) imports pydantic
  rw [parse_fullName tgt ty ht hty] at h
  exact h

/-- **`reference_resolves`, of the source as written.**  For ALL package paths `cur`, `tgt` in any
    relative position and all (nested) type names: the reference text the translated source returns
    and the import line it adds for `.tgt.Type` in the module of `cur` are the renderings of a
    reference / import such that the reference, evaluated in that module after the import has run, is
    the class `classOf ty` of module `<root>.<tgt>` -/
theorem src_reference_resolves (fuel : Nat) (cur tgt : Pkg) (ty : List Str) (imports : List Str) (pydantic : Bool)
    (hc : pkgOk cur = true) (ht : pkgOk tgt = true) (hty : typeOk ty = true)
    (hg : tgt ≠ googleProtobuf) (hb : tgt.take 1 ≠ [str "betterproto"]) :
    let r := siteRef cur pydantic { tgt := tgt, ty := ty, unwrap := false }
    Src.get_type_reference_dispatch fuel (dotted cur) imports (dotted tgt) (dotted ty) pydantic
        = .ok (r.ref.render, imports ++ added r.imp) ∧
      denote cur (r.imp.bind cur) r.ref = some (.gen tgt, classOf ty) :=
  ⟨src_dispatch_is_siteRef fuel cur tgt ty imports pydantic ht hty,
   reference_resolves cur tgt ty false pydantic hc ht hty hg hb⟩

/-- **`aliases_injective`, of the source as written.**  Two references made in the module of `cur` to
    types of packages in ANY relative position (guard `Site.ok`): the import lines the translated source
    adds are the renderings of two imports which, when they bind the same name, bind the same object -/
theorem src_aliases_injective (fuel : Nat) (cur : Pkg) (pydantic : Bool) (t1 t2 : Pkg) (ty1 ty2 : List Str)
    (imports1 imports2 : List Str) (hc : pkgOk cur = true)
    (h1 : Site.ok cur pydantic { tgt := t1, ty := ty1, unwrap := false } = true)
    (h2 : Site.ok cur pydantic { tgt := t2, ty := ty2, unwrap := false } = true) :
    let r1 := siteRef cur pydantic { tgt := t1, ty := ty1, unwrap := false }
    let r2 := siteRef cur pydantic { tgt := t2, ty := ty2, unwrap := false }
    Src.get_type_reference_dispatch fuel (dotted cur) imports1 (dotted t1) (dotted ty1) pydantic
        = .ok (r1.ref.render, imports1 ++ added r1.imp) ∧
    Src.get_type_reference_dispatch fuel (dotted cur) imports2 (dotted t2) (dotted ty2) pydantic
        = .ok (r2.ref.render, imports2 ++ added r2.imp) ∧
    ∀ (a : Str) (o1 o2 : Obj), r1.imp.bind cur = some (a, o1) → r2.imp.bind cur = some (a, o2) → o1 = o2 := by
  obtain ⟨p1, _, _, p4⟩ := Site.ok_parts h1
  obtain ⟨q1, _, _, q4⟩ := Site.ok_parts h2
  exact ⟨src_dispatch_is_siteRef fuel cur t1 ty1 imports1 pydantic (simplePkg_pkgOk p1) p4,
    src_dispatch_is_siteRef fuel cur t2 ty2 imports2 pydantic (simplePkg_pkgOk q1) q4,
    fun a o1 o2 b1 b2 => aliases_injective cur pydantic _ _ hc h1 h2 a o1 o2 b1 b2⟩

/-! non-vacuity: the translated source run on concrete packages (the verbatim strings) -/
example : Src.get_type_reference_dispatch 0 (str "a.b") [] (str "a.c.d") (str "Msg") false
    = .ok (str "\"_c_d__.Msg\"", [str "from ..c import d as _c_d__"]) := by
  delta str
  repeat rw [String.toList_ofList]
  decide +kernel
example : Src.get_type_reference_dispatch 0 (str "a") [str "x"] (str "a.b.c") (str "Msg.Inner") false
    = .ok (str "\"b_c.MsgInner\"", [str "x", str "from .b import c as b_c"]) := by
  delta str
  repeat rw [String.toList_ofList]
  decide +kernel
example : Src.get_type_reference_dispatch 0 (str "a.b") [] (str "") (str "Msg") false
    = .ok (str "\"__Msg__\"", [str "from ... import Msg as __Msg__"]) := by
  delta str
  repeat rw [String.toList_ofList]
  decide +kernel
example : Src.get_type_reference_dispatch 0 (str "a") [] (str "google.protobuf") (str "Empty") true
    = .ok (str "\"betterproto_lib_pydantic_google_protobuf.Empty\"",
           [str "import betterproto.lib.pydantic.google.protobuf as betterproto_lib_pydantic_google_protobuf"]) := by
  delta str
  repeat rw [String.toList_ofList]
  decide +kernel
example : Src.get_type_reference_dispatch 0 (str "a.b") [] (str "a.b") (str "Own") false = .ok (str "\"Own\"", []) := by decide +kernel
example : Src.reference_cousin 0 [str "a"] [] [] (str "T") = .raise .key := by decide +kernel

#print axioms src_reference_absolute
#print axioms src_reference_descendent
#print axioms src_reference_ancestor
#print axioms src_reference_cousin
#print axioms src_dispatch
#print axioms src_dispatch_is_getTypeReference
#print axioms src_reference_resolves
#print axioms src_aliases_injective

end Bp.C13
