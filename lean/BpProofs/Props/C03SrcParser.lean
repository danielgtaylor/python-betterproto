import BpProofs.SrcTieParser
import BpProofs.Props.C03Src
/-
  C03 (touching C13 / C18), tied to the SOURCE: the traversal and request processing of the protoc plugin —
  `traverse` / `_traverse`, `read_protobuf_type` (+ `_make_one_of_field_compiler`), `read_protobuf_service` and
  `generate_code` of src/betterproto/plugin/parser.py, as regenerated from the Python AST of the working tree on every
  run (harness/extract_srcparser.py → BpProofs/Gen/SrcParser.lean, namespace `Bp.Src.Parser`).

  * `traverse` as written IS the model's flattening (`Plugin.traverse`, the `flatten` of BpModel/Plugin.lean): every
    message and enum of the file, nested ones included, once, in the model's order, under the model's flattened name,
    each with the source-code-info path descriptor.proto prescribes (`pFile`).
  * `read_protobuf_type` as written constructs nothing for a map-entry message, and for every other message one
    MessageCompiler plus, per field, the field compiler class the MODEL's classification picks (`clsOf`: `isMap`,
    `isOneof`, the pydantic flag — the same `is_map` / `is_oneof` as written that `Props/C03Src.lean` ties), i.e. the
    class whose properties `src_plain_field` / `src_oneof_field` / `src_map_field` tie to `compileField`.
  * `generate_code` and the C03 sentence about the source as written: Props/C03SrcParserGen.lean.

  Fuel: `traverse` is recursive; every statement holds for every fuel above the nesting depth of the messages
  (`depthMsgs`), i.e. the recursion as written terminates and returns this.

  Not translated (validated by the correspondence run only): the constructors' `__post_init__` (registration is taken
  as the meaning of a construction, exceptions raised inside are not modelled), `MessageCompiler.py_name`,
  `outputfile_compiler` (Jinja template), comments.  Trusted: BpProofs/PyPrelude*.lean (PyPreludeParser.lean for
  generators, descriptor and compiler objects, dict, pathlib, sets) and the translator.
-/
namespace Bp.C03
open Bp Bp.Py Bp.Py.Prs Bp.Importing Bp.Plugin Bp.Src.Parser Bp.SrcTieParser

/-- **`traverse` as written = the model's flattening.**  For every file and every fuel above its nesting depth the
    generator terminates, and the list of the `(item, path)` pairs it yields is `pFile`: item by item the model's
    `Plugin.traverse` — every top-level enum, then every top-level message followed by its enums and then its nested
    messages, recursively, each under the flattened name `_Outer_Inner` — as the objects they are when yielded
    (`toD`: own name replaced, nested names not yet), each with its path (`[5, i]` / `[4, i]`, then `…, 4, j` for a
    nested enum and `…, 3, j` for a nested message). -/
theorem src_traverse (fuel : Nat) (fd : FileD) (h : depthMsgs fd.messages < fuel) :
    Src.Parser.traverse fuel fd = .ok (pFile fd)
      ∧ (pFile fd).map Prod.fst = (Plugin.traverse (toFileP fd)).map toD :=
  ⟨traverse_eq fuel fd h, pFile_fst fd⟩

/-- **every message and enum exactly once.**  The yielded objects that are not synthetic map entries are, in order,
    exactly the types of the schema file at every nesting depth (`allTypes`: one entry per message / enum, by its
    nesting path), each under its flattened name and with its kind. -/
theorem src_traverse_all_types (fuel : Nat) (fd : FileD) (h : depthMsgs fd.messages < fuel) :
    ∃ ys, Src.Parser.traverse fuel fd = .ok ys
      ∧ (ys.map Prod.fst).filterMap dKey = (allTypes (toFileP fd)).map typeKey := by
  refine ⟨_, traverse_eq fuel fd h, ?_⟩
  rw [pFile_fst, ← traverse_key, List.filterMap_map]
  congr 1
  funext it
  exact dKey_toD it

/-- **`read_protobuf_type` as written** never raises and registers exactly `readLog` with the OutputTemplate -/
theorem src_read_type_dispatch (fuel : Nat) (item : DItem) (path : List Int) (src : FileD) (t : OutTpl) :
    read_protobuf_type fuel item path src t = .ok (addBuilt t (readLog t.pydantic_dataclasses (item, path))) :=
  read_protobuf_type_eq fuel item path src t

/-- a map-entry message produces no class: nothing is constructed, whatever its name -/
theorem src_map_entry_skipped (fuel : Nat) (m : MsgP) (path : List Int) (src : FileD) (t : OutTpl)
    (h : m.mapEntry = true) : read_protobuf_type fuel (.msg m) path src t = .ok t := by
  rw [read_protobuf_type_eq]; simp [readLog, h, addBuilt_nil]

/-- a message that is no map entry — also one that is merely NAMED `FooEntry` — gets one MessageCompiler and one field
    compiler per field, in declaration order, at `path + [2, index]`; an enum gets one EnumDefinitionCompiler -/
theorem src_message_and_enum_constructed (fuel : Nat) (path : List Int) (src : FileD) (t : OutTpl) :
    (∀ m : MsgP, m.mapEntry = false →
      read_protobuf_type fuel (.msg m) path src t
        = .ok (addBuilt t (.message ⟨m, path⟩ :: fieldsLog t.pydantic_dataclasses ⟨m, path⟩ 0 m.fields)))
    ∧ (∀ e : EnumP, read_protobuf_type fuel (.enum e) path src t = .ok (addBuilt t [.enum e path])) := by
  refine ⟨fun m h => ?_, fun e => ?_⟩
  · rw [read_protobuf_type_eq]; simp [readLog, h]
  · rw [read_protobuf_type_eq]; rfl

/-- **the field compiler class chosen = the classification as written.**  `clsOf` (what `fieldsLog` records for each
    field) is MapEntryCompiler exactly when `is_map(field, item)` as written answers True, otherwise a oneof class
    exactly when `is_oneof(field)` as written answers True — the pydantic one exactly under the pydantic flag —,
    otherwise FieldCompiler. -/
theorem src_dispatch_is_classification (fuel : Nat) (pyd : Bool) (m : MsgP) (f : FieldP) :
    (clsOf pyd m f = .MapEntryCompiler ↔ Src.Models.is_map fuel f (.descriptor m) = .ok true)
    ∧ (clsOf pyd m f = .OneOfFieldCompiler ↔
        Src.Models.is_map fuel f (.descriptor m) = .ok false ∧ Src.Models.is_oneof fuel f = .ok true ∧ pyd = false)
    ∧ (clsOf pyd m f = .PydanticOneOfFieldCompiler ↔
        Src.Models.is_map fuel f (.descriptor m) = .ok false ∧ Src.Models.is_oneof fuel f = .ok true ∧ pyd = true)
    ∧ (clsOf pyd m f = .FieldCompiler ↔
        Src.Models.is_map fuel f (.descriptor m) = .ok false ∧ Src.Models.is_oneof fuel f = .ok false) := by
  rw [src_is_map, src_is_oneof]
  simpa only [Res.ok.injEq] using clsOf_iff pyd m f

/-- **… and it is the class whose properties are tied to `compileField`.**  Whenever the model compiles field `f` of
    message `m` to the line `c`: if the parser as written constructs a FieldCompiler, the arguments and constructor
    name of FieldCompiler as written are those of `c`; if it constructs a OneOfFieldCompiler, likewise; a
    PydanticOneOfFieldCompiler: those of `c` with `optional=True`; a MapEntryCompiler exactly when the model takes the
    map branch (`getMapEntry` finds the entry; `src_map_field` then gives the arguments). -/
theorem src_dispatch_field_ties (fuel : Nat) (nm : Naming) (pyd : Bool) (m : MsgP) (f : FieldP) (c : CField)
    (ref : Str → Res Str) (hc : compileField nm m f = some c) :
    (clsOf pyd m f = .FieldCompiler →
        Src.Models.FieldCompiler.betterproto_field_args fuel (SrcTiePlugin.selfOf f m ref) = .ok (SrcTiePlugin.cfieldArgs c)
        ∧ Src.Models.FieldCompiler.field_type fuel (SrcTiePlugin.selfOf f m ref) = .ok c.ctor)
    ∧ (clsOf pyd m f = .OneOfFieldCompiler →
        Src.Models.OneOfFieldCompiler.betterproto_field_args fuel (SrcTiePlugin.selfOf f m ref) = .ok (SrcTiePlugin.cfieldArgs c)
        ∧ Src.Models.OneOfFieldCompiler.field_type fuel (SrcTiePlugin.selfOf f m ref) = .ok c.ctor)
    ∧ (clsOf pyd m f = .PydanticOneOfFieldCompiler →
        Src.Models.PydanticOneOfFieldCompiler.betterproto_field_args fuel (SrcTiePlugin.selfOf f m ref)
          = .ok (SrcTiePlugin.cfieldArgs { c with optional := true }))
    ∧ (clsOf pyd m f = .MapEntryCompiler ↔ ∃ e, getMapEntry f m = some e) := by
  have hmap : isMap f m = false → getMapEntry f m = none := fun h => by simpa [isMap] using h
  obtain ⟨h1, h2, h3, h4⟩ := clsOf_iff pyd m f
  refine ⟨fun h => ?_, fun h => ?_, fun h => ?_, h1.trans (by simp [isMap, Option.isSome_iff_exists])⟩
  · exact src_plain_field fuel nm m f c ref (hmap (h4.1 h).1) (h4.1 h).2 hc
  · have := src_oneof_field fuel nm m f c ref (hmap (h2.1 h).1) (h2.1 h).2.1 hc
    exact ⟨this.1, this.2.1⟩
  · exact (src_oneof_field fuel nm m f c ref (hmap (h3.1 h).1) (h3.1 h).2.1 hc).2.2

/-- **`read_protobuf_service` as written** registers one ServiceCompiler at `[6, index]` and one ServiceMethodCompiler
    per method at `[6, index, 2, j]` -/
theorem src_read_service (fuel : Nat) (src : FileD) (s : SvcD) (index : Int) (t : OutTpl) :
    read_protobuf_service fuel src s index t = .ok (addBuilt t (svcLog s index)) :=
  read_protobuf_service_eq fuel src s index t

/-! ### non-vacuity: the translated source run on a nested schema (the verbatim strings) -/

section examples
/-- `message Outer { message Inner { message Deep {} enum E { A = 0; } } map<string,int32> tags = 1;
    oneof ch { int32 a = 2; string b = 3; } optional int32 o = 4; Inner i = 5; }  enum Top { T0 = 0; }`
    plus a real message NAMED like a map entry: `message TagsEntry {}` -/
def exOuter : MsgP := .mk (ch "Outer")
  [mapF "tags" 1 ".p.q.Outer.TagsEntry",
   { name := ch "a", number := 2, label := .optional, type := 5, oneofIndex := some 0 },
   { name := ch "b", number := 3, label := .optional, type := 9, oneofIndex := some 0 },
   { name := ch "o", number := 4, label := .optional, type := 5, oneofIndex := some 1, proto3Optional := true },
   { name := ch "i", number := 5, label := .optional, type := 11, typeName := ch ".p.q.Outer.Inner" }]
  [.mk (ch "Inner") [] [.mk (ch "Deep") [] [] [] [] false] [{ name := ch "E", values := [(ch "A", 0)] }] [] false,
   entry "TagsEntry" 9 5]
  [] [ch "ch", ch "_o"] false
def exFile : FileD :=
  { name := ch "a.proto", package := ch "p.q", messages := [exOuter, .mk (ch "TagsEntry") [] [] [] [] false],
    enums := [{ name := ch "Top", values := [(ch "T0", 0)] }],
    services := [{ name := ch "Svc", method := [{ name := ch "Do" }, { name := ch "Undo" }] }] }
def exFile2 : FileD := { name := ch "b.proto", package := ch "p.q", messages := [.mk (ch "Other") [] [] [] [] false], enums := [] }
def exGoogle : FileD :=
  { name := ch "google/protobuf/timestamp.proto", package := ch "google.protobuf",
    messages := [.mk (ch "Timestamp") [] [] [] [] false], enums := [] }
def exRoot : FileD := { name := ch "r.proto", package := [], messages := [.mk (ch "R") [] [] [] [] false], enums := [] }

/-- the nesting depth of the example is 3: fuel 4 is enough, and the hypothesis of `src_traverse` holds -/
example : depthMsgs exFile.messages = 3 := by decide +kernel

/-- what `traverse` as written yields: flattened names and paths, nested ones included, in order -/
example : (Src.Parser.traverse 4 exFile).bind (fun ys => .ok (ys.map fun y => (itemName y.1, y.2)))
    = .ok [(ch "_Top", [5, 0]), (ch "_Outer", [4, 0]), (ch "_Outer_Inner", [4, 0, 3, 0]),
           (ch "_Outer_Inner_E", [4, 0, 3, 0, 4, 0]), (ch "_Outer_Inner_Deep", [4, 0, 3, 0, 3, 0]),
           (ch "_Outer_TagsEntry", [4, 0, 3, 1]), (ch "_TagsEntry", [4, 1])] := by decide +kernel

/-- with fuel equal to the depth the recursion as written has not finished -/
example : (Src.Parser.traverse 3 exFile).bind (fun ys => .ok ys.length) = .diverge := by decide +kernel

/-- which compiler objects `read_protobuf_type` as written constructs for `Outer` (pydantic off / on) -/
example : (read_protobuf_type 0 (.msg exOuter) [4, 0] exFile (newOutputTemplate exFile)).bind
      (fun t => .ok (t.built.map fun b => match b with
        | .message c => (none, c.proto_obj.name, c.path)
        | .field cls _ f p => (some cls, f.name, p)
        | _ => (none, [], [])))
    = .ok [(none, ch "Outer", [4, 0]),
           (some FieldCls.MapEntryCompiler, ch "tags", [4, 0, 2, 0]),
           (some FieldCls.OneOfFieldCompiler, ch "a", [4, 0, 2, 1]),
           (some FieldCls.OneOfFieldCompiler, ch "b", [4, 0, 2, 2]),
           (some FieldCls.FieldCompiler, ch "o", [4, 0, 2, 3]),
           (some FieldCls.FieldCompiler, ch "i", [4, 0, 2, 4])] := by decide +kernel

example : (read_protobuf_type 0 (.msg exOuter) [4, 0] exFile { newOutputTemplate exFile with pydantic_dataclasses := true }).bind
      (fun t => .ok (t.built.filterMap fun b => match b with
        | .field cls _ f _ => some (decide (cls = .PydanticOneOfFieldCompiler), f.name)
        | _ => none))
    = .ok [(false, ch "tags"), (true, ch "a"), (true, ch "b"), (false, ch "o"), (false, ch "i")] := by decide +kernel

/-- the synthetic entry is skipped, the real message named `TagsEntry` is not -/
example : (read_protobuf_type 0 (.msg (entry "TagsEntry" 9 5)) [4, 0, 3, 1] exFile (newOutputTemplate exFile)).bind
      (fun t => .ok t.built.length) = .ok 0
    ∧ (read_protobuf_type 0 (.msg (.mk (ch "_TagsEntry") [] [] [] [] false)) [4, 1] exFile (newOutputTemplate exFile)).bind
      (fun t => .ok t.built.length) = .ok 1 := by decide +kernel

end examples

#print axioms src_traverse
#print axioms src_traverse_all_types
#print axioms src_read_type_dispatch
#print axioms src_map_entry_skipped
#print axioms src_message_and_enum_constructed
#print axioms src_dispatch_is_classification
#print axioms src_dispatch_field_ties
#print axioms src_read_service

end Bp.C03
