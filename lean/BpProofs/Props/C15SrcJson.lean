import BpProofs.SrcTieLeaf
import BpProofs.Props.C15Src
/-
  C15, the JSON forms, tied to the SOURCE: `_Duration.delta_from_json` and
  `_Timestamp.timestamp_to_json` (WHOLE) as regenerated from the Python AST of
  src/betterproto/__init__.py on every run (harness/extract_srcleaf.py →
  BpProofs/Gen/SrcLeaf.lean), together with `_Duration.delta_to_json` of Gen/SrcTime.lean.

  Texts: a Duration text is a `List Char` (`PyLeaf.renderSecs` renders the f-string parameters
  `delta_to_json` computes to characters; `Decimal(text)` is parsed from the characters, see
  BpProofs/PyPreludeLeaf.lean).  A Timestamp text is `PyLeaf.TsText`: the `isoformat()` text of
  the whole second — an abstract bijection with the second count, the calendar rendering is not
  modelled — followed by nothing / "." and 3 / 6 zero-padded digits, followed by "Z".
  A datetime is `PyLeaf.DT` (wall-clock microseconds and utcoffset, or naive).

  NOT tied: the reading side of Timestamp (`dateutil.parser.isoparse` in `_from_dict_init`)
  stays an abstract leaf (`Py.isoparse`, BpProofs/PyPreludeFromDict.lean: the inverse of the
  abstract `JVal.tsStr`); third-party code, validated by the oracles only.
-/
namespace Bp.C15
open Bp Bp.Py Bp.PyLeaf Bp.SrcTieLeaf

/-- **`_Duration.delta_from_json` as written on ANY decimal literal** `[-]digits.digits`, `[-]digits.`,
    `[-].digits` followed by one character (the "s"; `value[:-1]` does not look at it): the exact decimal value
    times 10^6 truncated toward zero, `Decimal` and `int()` as written — provided the coefficient times 10^6 fits
    the 28 digits of the default decimal context (beyond it `Decimal * int` rounds; see
    `delta_from_json_precision_witness`) -/
theorem src_delta_from_json_literal (neg : Bool) (ip fp : Text) (c : Char) (hi : allDigits ip = true)
    (hf : allDigits fp = true) (hne : ¬ (ip = [] ∧ fp = []))
    (hb : Nat.ofDigitChars 10 (ip ++ fp) 0 * 1000000 < 10 ^ 28) :
    Src.duration_delta_from_json ((if neg then ['-'] else []) ++ (ip ++ '.' :: fp) ++ [c])
      = .ok (let q : Int := ((Nat.ofDigitChars 10 (ip ++ fp) 0 * 1000000 / 10 ^ fp.length : Nat) : Int)
             if neg then -q else q) := by
  unfold Src.duration_delta_from_json
  rw [show dropLast1 ((if neg then ['-'] else []) ++ (ip ++ '.' :: fp) ++ [c])
        = (if neg then ['-'] else []) ++ (ip ++ '.' :: fp) from List.dropLast_concat]
  rw [decimalOf_point neg ip fp hi hf hne, Res.ok_bind]
  unfold decMulInt
  simp only [show (1000000 : Int).toNat = 1000000 from rfl]
  rw [if_pos ⟨by decide, hb⟩, Res.ok_bind]
  simp only [intOfDec, Py.timedelta, Res.ok.injEq]
  omega

/-- **… in particular it is the model's `durFromJson`** on the text `sign s "." d (W digits) "s"`, for every
    W ≥ 1 (9-digit nanosecond texts included), every whole-second count and every fraction, under the same bound -/
theorem src_delta_from_json (neg : Bool) (s nd d : Nat) (h0 : 0 < nd) (hd : d < 10 ^ nd)
    (hb : (10 ^ nd * s + d) * 1000000 < 10 ^ 28) :
    Src.duration_delta_from_json (renderSecs (neg, (s : Int), (nd : Int), (d : Int))) = .ok (durFromJson neg s nd d) := by
  obtain ⟨hv, hl⟩ := padded_value s nd d h0 hd
  rw [renderSecs_nat, src_delta_from_json_literal neg _ _ 's' (allDigits_toDigits s) (allDigits_pad _ d)
    (by intro h; exact Nat.toDigits_ne_nil h.1) (by rw [hv]; exact hb)]
  rw [hv, hl]
  unfold durFromJson
  have : (10 ^ nd * s + d) * 1000000 / 10 ^ nd = s * 1000000 + d * 1000000 / 10 ^ nd := by
    rw [Nat.add_mul, Nat.mul_assoc, Nat.mul_add_div (Nat.pow_pos (by decide))]
  simp only [this]

/-- **the Duration JSON round trip, of the source as written**: `delta_from_json` applied to the
    characters of the text `delta_to_json` builds returns the timedelta, for every timedelta of
    magnitude below 10^21 µs (`timedelta.max` is 8.64·10^19 µs, the protobuf range 3.2·10^17) -/
theorem src_duration_json_roundtrip (us : Int) (hr : us.natAbs < 1000000000000000000000) :
    (Src.duration_delta_to_json us).bind (fun t => Src.duration_delta_from_json (renderSecs t)) = .ok us := by
  rw [src_duration_delta_to_json, Res.ok_bind]
  obtain ⟨h1, h2, h3⟩ := dur_json_roundtrip us
  have hb : (10 ^ (durJson us).2.2.1 * (durJson us).2.1 + (durJson us).2.2.2) * 1000000 < 10 ^ 28 := by
    have hs : (durJson us).2.1 = us.natAbs / 1000000 := by
      unfold durJson; simp only; split <;> rfl
    rw [hs]
    rcases h1 with h1 | h1 <;> rw [h1] at h2 ⊢ <;> simp only [Nat.reducePow] at h2 ⊢ <;> omega
  rw [src_delta_from_json _ _ _ _ (by rcases h1 with h1 | h1 <;> omega) h2 hb, h3]

/-- … in particular for every `timedelta` Python can hold -/
theorem src_duration_json_roundtrip_range (us : Int) (h0 : durMinUs ≤ us) (h1 : us ≤ durMaxUs) :
    (Src.duration_delta_to_json us).bind (fun t => Src.duration_delta_from_json (renderSecs t)) = .ok us :=
  src_duration_json_roundtrip us (by unfold durMinUs at h0; unfold durMaxUs at h1; omega)

/-- **what is read from a 9-digit (nanosecond) text**: the digits below a microsecond are
    DROPPED — truncation toward zero, for negative durations too (−1.000000999 s reads as
    −1.000000 s, not −1.000001 s) -/
theorem src_delta_from_json_truncates (neg : Bool) (s d : Nat) (hs : s < 1000000000000) (hd : d < 1000000000) :
    Src.duration_delta_from_json (renderSecs (neg, (s : Int), 9, (d : Int)))
      = .ok (if neg then -(((s * 1000000 + d / 1000 : Nat)) : Int) else ((s * 1000000 + d / 1000 : Nat) : Int)) := by
  have := src_delta_from_json neg s 9 d (by decide) (by simp only [Nat.reducePow]; exact hd)
    (by simp only [Nat.reducePow]; omega)
  rw [show ((9 : Nat) : Int) = 9 from rfl] at this
  rw [this]
  unfold durFromJson
  have : d * 1000000 / 10 ^ 9 = d / 1000 := by simp only [Nat.reducePow]; omega
  simp only [this]

/-- **the Duration JSON form is the spec's decimal-seconds string, of the source as written**:
    the characters are an optional "-", the decimal digits of the whole seconds, ".", exactly 3
    or 6 digits, "s" -/
theorem src_duration_json_form (us : Int) :
    ∃ (neg : Bool) (s nd d : Nat) (frac : Text),
      Src.duration_delta_to_json us = .ok (neg, (s : Int), (nd : Int), (d : Int))
      ∧ renderSecs (neg, (s : Int), (nd : Int), (d : Int))
          = (if neg then ['-'] else []) ++ (Nat.toDigits 10 s ++ '.' :: frac) ++ ['s']
      ∧ allDigits frac = true ∧ frac.length = nd ∧ (nd = 3 ∨ nd = 6) ∧ neg = decide (us < 0) := by
  obtain ⟨h1, h2, _⟩ := dur_json_roundtrip us
  refine ⟨_, _, _, _, _, src_duration_delta_to_json us, renderSecs_nat _ _ _ _, allDigits_pad _ _,
    (padded_value 0 _ _ (by rcases h1 with h | h <;> omega) h2).2, h1, ?_⟩
  unfold durJson; simp only; split <;> rfl

/-- beyond 28 significant digits the translation claims nothing (`Decimal * 10**6` rounds there;
    the real code returns 12345678901234567890123123460 µs for this text, not …123456) -/
theorem delta_from_json_precision_witness :
    Src.duration_delta_from_json "12345678901234567890123.1234567s".toList = .diverge := by decide +kernel

/-- **`timestamp_to_json` as written, WHOLE, is `tsJsonOf`** for every datetime — aware with any
    utcoffset, or naive (read as UTC): `astimezone(timezone.utc)`, `replace(microsecond=0,
    tzinfo=None)`, `isoformat()` and the float arithmetic `dt.microsecond * 1e3`, `nanos % 1e9`,
    `int(nanos // 1e6)` (exact: integer-valued doubles below 2^53) -/
theorem src_timestamp_to_json (d : DT) : Src.timestamp_to_json d = .ok (tsJsonOf d) := by
  obtain ⟨wall, off⟩ := d
  unfold Src.timestamp_to_json
  cases off with
  | none =>
    rw [if_neg (by simp [PyLeaf.tzinfoIsNotNone])]
    exact (ts_body ⟨wall, none⟩).trans (by simp only [tsJsonOf, DT.instant, Option.getD_none, Int.sub_zero])
  | some o =>
    rw [if_pos (by simp [PyLeaf.tzinfoIsNotNone])]
    simp only [PyLeaf.astimezoneUtc, Res.ok_bind]
    exact (ts_body ⟨wall - o, some 0⟩).trans (by simp only [tsJsonOf, DT.instant, Option.getD_some])

/-- **the last branch `f"{result}.{nanos:09d}"` — which would raise ValueError (`d` format of a
    float), and lacks the "Z" — is unreachable for EVERY datetime**: `dt.microsecond * 1e3` is
    always a multiple of 1e3 -/
theorem src_timestamp_to_json_last_branch_unreachable (d : DT) :
    Src.timestamp_to_json d ≠ .raise .value ∧ ∃ t, Src.timestamp_to_json d = .ok t := by
  rw [src_timestamp_to_json]
  exact ⟨(by intro h; cases h), _, rfl⟩

/-- **the Timestamp JSON form is the spec's RFC 3339 string, of the source as written**: for a
    naive datetime or an aware one whose utcoffset is a whole number of seconds, the text is the
    model's `tsJsonText` of the instant — the calendar second of the UTC-NORMALISED reading, no
    fraction / exactly 3 / exactly 6 digits, the suffix "Z" (part of the meaning of `TsText`) — and
    it spells the instant exactly -/
theorem src_timestamp_json_form (d : DT) (h : d.off.getD 0 % 1000000 = 0) :
    Src.timestamp_to_json d = .ok (tsJsonText d.instant)
    ∧ tsTextUs (tsJsonText d.instant) = d.instant
    ∧ ((tsJsonText d.instant).frac = none
        ∨ (∃ dg : Nat, (tsJsonText d.instant).frac = some (3, (dg : Int)) ∧ dg < 1000)
        ∨ (∃ dg : Nat, (tsJsonText d.instant).frac = some (6, (dg : Int)) ∧ dg < 1000000)) := by
  refine ⟨by rw [src_timestamp_to_json, tsJsonOf_eq], tsTextUs_tsJsonText _, ?_⟩
  have hlt : (d.instant % 1000000).toNat < 1000000 := by omega
  unfold tsJsonText fracJ tsFrac
  simp only
  generalize (d.instant % 1000000).toNat = u at hlt ⊢
  by_cases h0 : u = 0
  · left; rw [if_pos h0]; rfl
  · rw [if_neg h0]
    by_cases h1 : u % 1000 = 0
    · right; left; rw [if_pos h1]; exact ⟨u / 1000, rfl, by omega⟩
    · right; right; rw [if_neg h1]; exact ⟨u, rfl, hlt⟩

/-- **UTC normalisation of aware datetimes, of the source as written**: two datetimes that denote the
    same instant — in whatever time zones with whole-second offsets, or naive (read as UTC) — get the
    SAME text, the one of the UTC reading -/
theorem src_timestamp_json_same_instant (d1 d2 : DT) (h1 : d1.off.getD 0 % 1000000 = 0)
    (h2 : d2.off.getD 0 % 1000000 = 0) (hi : d1.instant = d2.instant) :
    Src.timestamp_to_json d1 = Src.timestamp_to_json d2
    ∧ Src.timestamp_to_json d1 = Src.timestamp_to_json ⟨d1.instant, some 0⟩ := by
  rw [(src_timestamp_json_form d1 h1).1, (src_timestamp_json_form d2 h2).1, hi]
  refine ⟨rfl, ?_⟩
  rw [(src_timestamp_json_form ⟨d2.instant, some 0⟩ rfl).1]
  simp [DT.instant]

/-- the model text is injective: two instants with the same JSON text are equal (what makes the
    abstract constructor `JVal.tsStr` of BpModel/Json.lean a faithful stand-in for the text) -/
theorem ts_json_text_injective (a b : Int) (h : tsJsonText a = tsJsonText b) : a = b := by
  rw [← tsTextUs_tsJsonText a, ← tsTextUs_tsJsonText b, h]

/-- **D52 (sub-second UTC offsets), REPAIRED** (`fix:` commit in /repo).  Before the repair `dt.microsecond` was read BEFORE the
    UTC normalisation, so for an aware datetime whose utcoffset is not a whole number of seconds the fraction was that
    of the local wall clock: 00:00:00.500000 at UTC+0.25 s is the instant 0.250 s, and the text said ".500".  The source
    as written spells the instant, which is also what goes on the wire; the witness is replayed on the real code
    by the C15 check on every run. -/
theorem timestamp_to_json_subsecond_offset_witness :
    Src.timestamp_to_json ⟨500000, some 250000⟩ = .ok ⟨⟨0⟩, some (3, 250)⟩
    ∧ tsTextUs ⟨⟨0⟩, some (3, 250)⟩ = 250000 ∧ (⟨500000, some 250000⟩ : DT).instant = 250000
    ∧ Src.timestamp_from_datetime (⟨500000, some 250000⟩ : DT).instant = .ok (0, 250000000) := by decide +kernel

/-- since the repair the text spells the instant for EVERY datetime, whatever its utcoffset -/
theorem src_timestamp_to_json_instant (d : DT) : Src.timestamp_to_json d = .ok (tsJsonText d.instant) := by
  rw [src_timestamp_to_json]; rfl

example : Src.duration_delta_from_json "-1.500s".toList = .ok (-1500000) := by decide +kernel
example : Src.duration_delta_from_json "-1.000000999s".toList = .ok (-1000000) := by decide +kernel
example : Src.duration_delta_from_json "0.000001s".toList = .ok 1 := by decide +kernel
example : Src.duration_delta_from_json "+.5s".toList = .ok 500000 := by decide +kernel
example : renderSecs (true, 1, 3, 500) = "-1.500s".toList := by decide +kernel
example : (Src.duration_delta_to_json (-1500000)).bind (fun t => .ok (renderSecs t)) = .ok "-1.500s".toList := by decide +kernel
example : Src.timestamp_to_json ⟨1500000, some 3600000000⟩ = .ok ⟨⟨-3599⟩, some (3, 500)⟩ := by decide +kernel
example : Src.timestamp_to_json ⟨1000001, none⟩ = .ok ⟨⟨1⟩, some (6, 1)⟩ := by decide +kernel
example : (⟨1500000, some 3600000000⟩ : DT).off.getD 0 % 1000000 = 0 := by decide
/-- the hypotheses of `src_delta_from_json` / `src_delta_from_json_truncates` at a nanosecond text -/
example : (0 : Nat) < 9 ∧ 999 < 10 ^ 9 ∧ (10 ^ 9 * 1 + 999) * 1000000 < 10 ^ 28 := by decide +kernel
example : allDigits "007".toList = true ∧ allDigits "250".toList = true := by decide +kernel

end Bp.C15
