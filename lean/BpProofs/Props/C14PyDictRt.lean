import BpProofs.PyDictRt
import BpProofs.JsonRtMain
/-
  C14 (touching C04) — the round trip `Cls().from_pydict(m.to_pydict(casing))`.
  Model: BpModel/PyDict.lean (`toPyDict`, `fromPyDict`; tied to the source by Props/C14SrcPyDict.lean and to the
  real code by the `TOPYDICT` / `FROMPYDICT` correspondence of harness/pydictstage.py).  Proof: BpProofs/PyDictRt.lean
  (slot by slot `to_pydict` writes a field exactly when `to_dict` does and `from_pydict`'s step stores what
  `from_dict` stores; the key loop is then the `setattr` sequence of the instance form of `from_dict`), on top of
  C04's `roundtrip_class`.  (A file of its own: the purity theorems of Props/C14PyDict.lean import the `==`
  development, whose names clash with those of the JSON development.)
-/
namespace Bp.C14
open Bp Gen

/-- **`from_pydict(to_pydict(m))` gives `m` back**: for every schema inside the decidable guard
    `pyDictOk S cs` (BpModel/PyDict.lean: the field kinds and names of C04's `jsonOk` — D15 / D17 —
    minus message-typed oneof members, proto3-optional sub-messages / Timestamps / Durations and
    repeated Timestamps / Durations, see the witnesses below) with `groupsOk S`, both casings, and every
    value inside the guards of `C04.roundtrip_all` (`wellTyped'`: typed slots, no unknown fields,
    canonical NaN; `selOk`: a oneof selection names a member of its group) whose dicts have pairwise
    distinct keys (`dictKeysOk`: what a Python dict is), nested to any depth:
    `m.to_pydict(casing)` does not raise, `Cls().from_pydict(…)` of the result does not raise and
    returns a message `m'` — the SAME `m'` as `Cls.from_dict(m.to_dict(casing))` (`jrt m`) — with
    `m ≈ m'` (`DEqv`: same class, unknown fields, oneof selection, `_serialized_on_wire` set, slots
    related one by one; `C04.deqv_state`) and `bytes(m') == bytes(m)`. -/
theorem from_pydict_to_pydict (S : Schema) (cs : KeyCase) (c : Nat) (sl : List Val) (ow : Bool) (unk : Bytes)
    (cur : List (Option Nat))
    (hok : pyDictOk S cs = true) (hgroups : groupsOk S = true)
    (hwt : wellTyped' S (.msg c sl ow unk cur) = true) (hsel : selOk S (.msg c sl ow unk cur) = true)
    (hkeys : dictKeysOk (.msg c sl ow unk cur) = true) :
    ∃ p m', toPyDict S cs false (.msg c sl ow unk cur) = .ok p ∧ fromPyDict S c p = .ok m' ∧
      fromDictC S [] c (toDict S [] cs false (.msg c sl ow unk cur)) = .ok m' ∧
      DEqv S (.msg c sl ow unk cur) m' ∧ dumpVal S m' = dumpVal S (.msg c sl ow unk cur) := by
  obtain ⟨p, h1, h2⟩ := pydict_roundtrip S cs hok hgroups c sl ow unk cur hwt hsel hkeys
  obtain ⟨a, b, d⟩ := roundtrip_class S [] cs ⟨(pyDictOk_schema S cs hok).1, hgroups⟩ c sl ow unk cur hwt hsel
  exact ⟨p, _, h1, h2, a, b, d⟩

/-! non-vacuity: a nested value inside all guards (`Spy`, `mpy`: BpProofs/PyDictRt.lean) -/

example : pyDictOk Spy .camel = true ∧ pyDictOk Spy .snake = true ∧ groupsOk Spy = true ∧ wellTyped' Spy mpy = true ∧
    selOk Spy mpy = true ∧ dictKeysOk mpy = true := spy_guards

theorem from_pydict_to_pydict_instance :
    ∃ p m', toPyDict Spy .camel false mpy = .ok p ∧ fromPyDict Spy 1 p = .ok m' ∧ DEqv Spy mpy m' ∧
      dumpVal Spy m' = dumpVal Spy mpy := by
  obtain ⟨hok, _, hgroups, hwt, hsel, hkeys⟩ := spy_guards
  obtain ⟨p, m', h1, h2, _, h4, h5⟩ := from_pydict_to_pydict Spy .camel 1 _ _ _ _ hok hgroups hwt hsel hkeys
  exact ⟨p, m', h1, h2, h4, h5⟩

/-- the same by evaluation of the model: the bytes after the round trip are those of the original -/
example : ((toPyDict Spy .camel false mpy).bind (fromPyDict Spy 1)).bind (dumpVal Spy) = dumpVal Spy mpy := by decide +kernel

/-! what is outside `pyDictOk`, and why: one decided witness each (replayed on the real code by
    harness/pydictstage.py `replay_witnesses`) -/

def one (fs : List FieldD) (n : Nat := 0) : Schema := [{ fields := fs, nGroups := n }, { fields := [{ name := "x", num := 1, ty := .int32 }] }]

/-- the call raised AttributeError -/
def raisedAttr {α : Type} : R α → Bool
  | .error .attr => true
  | _ => false
/-- the dict written is `{"s": {"x": 1}}` -/
def isSX1 : R PVal → Bool
  | .ok (.obj [.str [115]] [.obj [.str [120]] [.num 1]]) => true
  | _ => false
/-- the dict written is `{}` -/
def isEmptyObj : R PVal → Bool
  | .ok (.obj [] []) => true
  | _ => false

def SoneofMsg : Schema := one [{ name := "a", num := 1, ty := .int32, group := some 0 },
                               { name := "s", num := 2, ty := .message, kind := .user 1, group := some 0 }] 1
def moneofMsg : Val := .msg 0 [.ph, .msg 1 [.int 1] true [] []] true [] [some 1]
/-- a oneof member of message type: `to_pydict` writes it (`{"s": {"x": 1}}`), `from_pydict` reads the
    attribute on the fresh instance first — AttributeError (`'g' is set to None, not 's'`) -/
theorem pydict_oneof_message_witness :
    pyDictOk SoneofMsg .camel = false ∧ wellTyped' SoneofMsg moneofMsg = true ∧
    isSX1 (toPyDict SoneofMsg .camel false moneofMsg) = true ∧
    raisedAttr ((toPyDict SoneofMsg .camel false moneofMsg).bind (fromPyDict SoneofMsg 0)) = true := by decide +kernel

def SoptMsg : Schema := one [{ name := "s", num := 1, ty := .message, kind := .user 1, optional := true }]
def moptMsg : Val := .msg 0 [.msg 1 [.int 1] true [] []] true [] []
/-- a proto3-optional sub-message: the attribute of the fresh instance is None, `None.from_pydict(…)`
    raises AttributeError -/
theorem pydict_optional_message_witness :
    pyDictOk SoptMsg .camel = false ∧ wellTyped' SoptMsg moptMsg = true ∧
    isSX1 (toPyDict SoptMsg .camel false moptMsg) = true ∧
    raisedAttr ((toPyDict SoptMsg .camel false moptMsg).bind (fromPyDict SoptMsg 0)) = true := by decide +kernel

def SoptTs : Schema := one [{ name := "t", num := 1, ty := .message, kind := .timestamp, optional := true }]
def moptTs : Val := .msg 0 [.ts 0] true [] []
/-- a proto3-optional Timestamp at the epoch: present for `bytes()` (`0a 00`), written by `to_dict`, left out
    by `to_pydict` (which has no `or meta.optional` in its emission test: the D27 repair went into `to_dict` only) -/
theorem pydict_optional_timestamp_witness :
    pyDictOk SoptTs .camel = false ∧ dumpVal SoptTs moptTs = .ok [0x0a, 0x00] ∧
    isEmptyObj (toPyDict SoptTs .camel false moptTs) = true ∧
    (match toDict SoptTs [] .camel false moptTs with | .obj [_] [.tsStr 0] => true | _ => false) = true := by
  decide +kernel

def SrepTs : Schema := one [{ name := "t", num := 1, ty := .message, kind := .timestamp, repeated := true }]
def mrepTs : Val := .msg 0 [.list [.ts 0]] true [] []
/-- a repeated Timestamp: `to_pydict` treats the items as messages — AttributeError
    (`'datetime.datetime' object has no attribute 'to_pydict'`) -/
theorem pydict_repeated_timestamp_witness :
    pyDictOk SrepTs .camel = false ∧ wellTyped' SrepTs mrepTs = true ∧
    raisedAttr (toPyDict SrepTs .camel false mrepTs) = true := by decide +kernel

end Bp.C14
