import BpModel.All
import BpModel.Json
import BpProofs.Json
import BpProofs.JsonRtMain
import BpProofs.JsonRtInst
import BpProofs.JsonText
import BpProofs.JsonGuard
import BpProofs.JsonGuardFast
/-
  C04 — JSON / dict round trip.

  FULL STATEMENT (false of the code: D15, D17; true after the D27 repair for optional members):
    ∀ S E c casing m,  WellTyped S c m →
      isJson (toDict S E casing false m) ∧
      ∀ form ∈ {class, instance}, ∀ path ∈ {dict, JSON text},
        ∃ m', fromDict form S E c (path (toDict S E casing false m)) = .ok m' ∧ m' ≈ m ∧ dumpVal S m' = dumpVal S m

  WHAT IS PROVED HERE (stated plainly):
    * key level (`key_maps_back`): under the decidable guard `namesOk` the key written for a
      field is read back as that field, for both casings (C19 proves the guard's content);
    * field level (`field_roundtrip_*`): for every field kind in `fieldJsonOk` that is not a nested
      message — singular / proto3-optional / oneof / repeated scalars of all 15 scalar types
      (64-bit ints as decimal strings, bytes as base64, enums by name or number, non-finite
      floats), Timestamp / Duration singular and repeated, wrappers, `map<string, scalar>` —
      what `to_dict` writes is not null and `_from_dict_init` decodes it to exactly the
      original attribute value;
    * message level, FLAT messages (`from_dict_init_flat_partial`, `from_dict_flat_partial`):
      `_from_dict_init(to_dict(m))` returns exactly the written fields with their original
      values, in field order, so both forms of `from_dict` are the constructor call /
      the `setattr` sequence with those arguments;
    * concrete messages (`roundtrip_*_example`, by evaluation of the model): equality of the
      re-encoded bytes and of the observable state after the round trip, including
      default-valued oneof / optional members and nested / repeated / map messages;
    * the excluded regions: one `decide`d negation witness each (D15, D17 ×6, NaN payload),
      replayed on the real code by harness/props/c04.py.
    * message level, ALL messages in the guarded domain, flat AND nested (`roundtrip_flat`,
      `roundtrip_nested`; proofs in BpProofs/JsonEqv.lean, JsonTyped.lean, JsonRt.lean, JsonRtSlot.lean,
      JsonRtMain.lean): the class form `Cls.from_dict(m.to_dict(casing))` returns a message `m'` with
      `m ≈ m'` and `bytes(m') == bytes(m)`.  `≈` is `DEqv` (BpProofs/JsonEqv.lean): same class, same
      `_unknown_fields`, same oneof selection, `_serialized_on_wire` True at every nesting level,
      and slot by slot either related values (identical leaves, item-wise lists / dict values,
      sub-messages recursively; a singular sub-message only if it is present or differs from
      its default) or — where `m` holds a default-valued, unselected, non-optional,
      not-on-the-wire value — PLACEHOLDER, which reads as that default (`deqv_state`;
      `deqv_dumpVal`: `≈` implies equal bytes for typed values).  The induction (`rt_walk`) is on the
      typing derivation `JOk` (BpProofs/JsonTyped.lean: the rules `wellTyped'` decides, found by one
      recursion over the value): singular / proto3-optional / oneof-member sub-messages, repeated
      messages, `map<string, Msg>`.
      GUARDS, all decidable.  On the SCHEMA: `jsonOk S E cs` (D15 `namesOk`; D17 `fieldJsonOk`:
      string map keys only, no bytes / Timestamp / Duration map values, no BytesValue wrapper, no
      repeated wrappers; `enumOk`) and `groupsOk S` (a field's oneof index is a group of its
      class).  On the VALUE: `wellTyped' S m` (BpProofs/JsonGuard.lean: typed slots, no unknown
      fields, canonical NaN, unselected members unset) and `selOk S m` (a oneof selection names a
      member of that group: the part of the oneof invariant `wellTyped'` does not state; without
      it `to_dict` writes nothing for the group and the rebuilt message has no selection:
      `selOk_needed_witness`).  `wellTyped'` is the guard `wellTyped` of BpModel/Json.lean (the one
      the driver evaluates, `WF WT`) WITHOUT its clause "an absent plain sub-message equals a
      fresh one": `wellTyped S m = true → wellTyped' S m = true` (`wellTyped_weaken`), and
      `roundtrip_all_driver_guard` restates the theorem under the driver's guard;
    * the instance form and the JSON-text path (`roundtrip_all`, the FULL STATEMENT above under the
      guards): `to_dict(m)` is JSON serialisable (`isJson`), `json.loads(json.dumps(d)) == d`
      (`jsonText d = some d`: string keys only, no raw leaf, canonical NaN), and all four
      combinations {class form, instance form on a fresh instance} × {dict, JSON text} return the
      SAME message `m'` with `m ≈ m'` and equal bytes (BpProofs/JsonRtInst.lean, JsonText.lean);
    * the region that clause excludes: a plain (not optional, not oneof) sub-message that is NOT
      `_serialized_on_wire` but differs from `Sub()` — reached by `m.a.b.x = 1` (only `b` is marked)
      or `m.a.items.append(1)` — is encoded by `bytes(m)` (test `value != default`); before the D46
      repair `to_dict` left it out (test `value._serialized_on_wire`) and the dict round trip lost it
      (replayed on the real code, a genuine defect).  The repaired `to_dict` uses the test `dump`
      uses; the model follows the repaired code and the theorems COVER the region: `≈` relates such a
      sub-message to its rebuilt, marked counterpart (`keptSlot`, BpProofs/JsonEqv.lean), and the
      bytes agree because a typed sub-message that differs from `Sub()` has a non-empty body
      (`dumpSlots_nonempty`, BpProofs/JsonNonEmpty.lean; the induction goes through chains of
      unmarked sub-messages).  `unmarked_submessage_fixed` instantiates `roundtrip_all` on the two
      counterexamples of D46 and on a two-level chain (`m.a.b.items.append(1)`).  Consequently
      `deqv_bytes` (`≈` implies equal bytes) has the hypotheses `jsonOk` (only "map fields are
      singular" is used) and `wellTyped'`: without typing, an unmarked sub-message could hold
      non-default content that encodes to nothing (`None` in a plain int field:
      `deqv_bytes_needs_typing_witness`).
  NOT PROVED: nothing of the full statement inside the guards.  Outside: the instance form on a
  NON-fresh instance (merge semantics) is not stated; `include_default_values=True` is not covered.
-/
namespace Bp.C04
open Bp

/-- **key casing in and out**: the key `to_dict` emits for field `i` (camelCase or snake_case,
    `rstrip("_")`) is mapped by `safe_snake_case` back to field `i` -/
theorem key_maps_back (cs : KeyCase) (fs : List FieldD) (h : namesOk cs fs = true) (i : Nat) (f : FieldD)
    (hf : fs[i]? = some f) : fieldOfJKey fs (jsonKey cs f.name) = .ok (some (i, f)) :=
  namesOk_lookup cs fs h i f hf

/-- **singular scalars of every type** (plain, proto3-optional, oneof member — `sel`): int64 /
    uint64 / fixed64 … go through `str` / `int`, bytes through base64, enums through their
    member name (or the number when undefined), NaN / ±Infinity through the three strings -/
theorem field_roundtrip_scalar (S : Schema) (E : Enums) (cs : KeyCase) (f : FieldD) (sel : Bool) (v : Val)
    (hm : (f.ty == .message) = false) (hmap : (f.ty == .map) = false) (hr : f.repeated = false)
    (he : enumOk (enumOf E f) = true) (hv : valOfType f.ty v = true) :
    ∀ j, toDictSlot S E cs false f false sel v = some j → j ≠ .null ∧ decodeField S E f j = .ok v :=
  fieldRT_scalar S E cs f sel v hm hmap hr he hv

/-- **repeated scalars of every type** -/
theorem field_roundtrip_repeated (S : Schema) (E : Enums) (cs : KeyCase) (f : FieldD) (sel : Bool) (xs : List Val)
    (hm : (f.ty == .message) = false) (hmap : (f.ty == .map) = false) (hr : f.repeated = true)
    (he : enumOk (enumOf E f) = true) (hx : ∀ x ∈ xs, valOfType f.ty x = true) :
    ∀ j, toDictSlot S E cs false f false sel (.list xs) = some j → j ≠ .null ∧ decodeField S E f j = .ok (.list xs) :=
  fieldRT_repeated_scalar S E cs f sel xs hm hmap hr he hx

/-- **Timestamp / Duration** (singular; the RFC 3339 / decimal-seconds texts are abstract: C15) -/
theorem field_roundtrip_wkt (S : Schema) (E : Enums) (cs : KeyCase) (f : FieldD) (sel : Bool) (v : Val)
    (hm : (f.ty == .message) = true) (hw : f.wraps = Option.none)
    (hv : (f.kind = .timestamp ∧ ∃ us, v = .ts us) ∨ (f.kind = .duration ∧ ∃ us, v = .dur us)) :
    ∀ j, toDictSlot S E cs false f false sel v = some j → j ≠ .null ∧ decodeField S E f j = .ok v :=
  fieldRT_wkt S E cs f sel v hm hw hv

/-- **wrappers** (every wrapped type but bytes — D17): the bare value passes through -/
theorem field_roundtrip_wrapper (S : Schema) (E : Enums) (cs : KeyCase) (f : FieldD) (sel : Bool) (v : Val) (w : PType)
    (hm : (f.ty == .message) = true) (hw : f.wraps = some w) (hb : w ≠ .bytes) (hv : valOfType w v = true) :
    ∀ j, toDictSlot S E cs false f false sel v = some j → j ≠ .null ∧ decodeField S E f j = .ok v :=
  fieldRT_wrapper S E cs f sel v w hm hw hv

/-- **`map<string, V>`**, V any scalar type but bytes -/
theorem field_roundtrip_map (S : Schema) (E : Enums) (cs : KeyCase) (f : FieldD) (sel : Bool) (ks vs : List Val)
    (hmap : f.ty = .map) (hv : (f.mapV == .message) = false)
    (hk : ∀ k ∈ ks, ∃ s, k = .str s) (hx : ∀ x ∈ vs, rawOk x = true) :
    ∀ j, toDictSlot S E cs false f false sel (.dict ks vs) = some j → j ≠ .null ∧ decodeField S E f j = .ok (.dict ks vs) :=
  fieldRT_map_scalar S E cs f sel ks vs hmap hv hk hx

/-- every field kind above at once, under the decidable slot guard -/
theorem field_roundtrip_flat (S : Schema) (E : Enums) (cs : KeyCase) (f : FieldD) (hid sel : Bool) (v : Val)
    (he : enumOk (enumOf E f) = true) (h : flatSlotOk S E cs f hid sel v = true) :
    ∀ j, toDictSlot S E cs false f hid sel v = some j → j ≠ .null ∧ decodeField S E f j = .ok v :=
  fieldRT_of_flat S E cs f hid sel v he h

/-- **flat messages: `_from_dict_init(to_dict(m))` is exactly the written fields with their
    original values** (any oneof state, any casing for which the names are invertible) -/
theorem from_dict_init_flat_partial (S : Schema) (E : Enums) (cs : KeyCase) (c : Nat) (slots : List Val)
    (ow : Bool) (unk : Bytes) (cur : List (Option Nat))
    (hn : namesOk cs (fieldsOf S c) = true) (he : ∀ f ∈ fieldsOf S c, enumOk (enumOf E f) = true)
    (hflat : flatSlots S E cs (fieldsOf S c) cur 0 slots = true) :
    fromDictInit S E c (toDict S E cs false (.msg c slots ow unk cur))
      = .ok (emitted S E cs (fieldsOf S c) cur 0 slots) := by
  rw [toDict]
  simp only [mkObj, fromDictInit]
  rw [kv_roundtrip S E cs c cur hn id slots 0 fun k v f hv hf =>
    fieldRT_of_flat S E cs f _ _ v (he f (List.mem_of_getElem? hf)) (flatSlots_get S E cs _ cur slots 0 hflat k v f hv hf)]
  exact congrArg _ (List.map_id _)

/-- both forms of `from_dict` on `to_dict(m)`: the constructor call, resp. the `setattr`
    sequence on a fresh instance, with exactly the written fields -/
theorem from_dict_flat_partial (S : Schema) (E : Enums) (cs : KeyCase) (c : Nat) (slots : List Val)
    (ow : Bool) (unk : Bytes) (cur : List (Option Nat))
    (hn : namesOk cs (fieldsOf S c) = true) (he : ∀ f ∈ fieldsOf S c, enumOk (enumOf E f) = true)
    (hflat : flatSlots S E cs (fieldsOf S c) cur 0 slots = true) :
    fromDictC S E c (toDict S E cs false (.msg c slots ow unk cur))
        = .ok (fromDictCls S c (emitted S E cs (fieldsOf S c) cur 0 slots))
    ∧ fromDictI S E (fresh S c) (toDict S E cs false (.msg c slots ow unk cur))
        = stepOp S (fresh S c) (.fromDict (emitted S E cs (fieldsOf S c) cur 0 slots)) := by
  have h := from_dict_init_flat_partial S E cs c slots ow unk cur hn he hflat
  constructor
  · unfold fromDictC; rw [h]; rfl
  · unfold fromDictI; simp only [fresh, stateOf] at *; rw [h]; rfl

def E1 : Enums := [[⟨[90], [90], 0⟩, ⟨[79], [79], 1⟩, ⟨[65], [65], 1⟩]]   -- Z = 0, O = 1, A = 1 (alias)

/-- a oneof (int32 | string), a proto3-optional int64, a repeated enum, bytes, a double, a Timestamp -/
def S1 : Schema := [{ fields := [
    { name := "foo_bar", num := 1, ty := .int32, group := some 0 },
    { name := "http_status", num := 2, ty := .string, group := some 0 },
    { name := "big", num := 3, ty := .int64, optional := true },
    { name := "es", num := 4, ty := .enum, repeated := true },
    { name := "data", num := 5, ty := .bytes },
    { name := "x", num := 6, ty := .double },
    { name := "created_at", num := 7, ty := .message, kind := .timestamp }], nGroups := 1 }]

/-- oneof member set to its default "", optional int64 set to 0, undefined enum number 7, NaN -/
def m1 : Val := .msg 0 [.ph, .str [], .int 0, .list [.int 1, .int 7], .byt [1, 2], .f64 0x7ff8000000000000, .ts 1500000] true [] [some 1]

example : jsonOk S1 E1 .camel = true ∧ jsonOk S1 E1 .snake = true ∧ wellTyped S1 m1 = true := by
  rw [jsonOk_fast]; decide +kernel
example : flatSlots S1 E1 .camel (fieldsOf S1 0) [some 1] 0 [.ph, .str [], .int 0, .list [.int 1, .int 7], .byt [1, 2], .f64 0x7ff8000000000000, .ts 1500000] = true := by decide +kernel
example : isJson (toDict S1 E1 .camel false m1) = true := by decide +kernel
/-- both casings, both forms: same bytes, and the default-valued oneof member stays selected -/
theorem roundtrip_flat_example :
    (fromDictC S1 E1 0 (toDict S1 E1 .camel false m1)).bind (dumpVal S1) = dumpVal S1 m1 ∧
    (fromDictC S1 E1 0 (toDict S1 E1 .snake false m1)).bind (dumpVal S1) = dumpVal S1 m1 ∧
    (fromDictI S1 E1 (fresh S1 0) (toDict S1 E1 .camel false m1)).bind (dumpVal S1) = dumpVal S1 m1 ∧
    fromDictC S1 E1 0 (toDict S1 E1 .camel false m1)
      = .ok (.msg 0 [.ph, .str [], .int 0, .list [.int 1, .int 7], .byt [1, 2], .f64 0x7ff8000000000000, .ts 1500000] true [] [some 1]) := by
  decide +kernel

/-- nested, repeated and map messages, an optional sub-message set to its default (D27, repaired) -/
def S2 : Schema := [
  { fields := [{ name := "sub", num := 1, ty := .message, kind := .user 1 },
               { name := "opt_sub", num := 2, ty := .message, kind := .user 1, optional := true },
               { name := "subs", num := 3, ty := .message, kind := .user 1, repeated := true },
               { name := "by_name", num := 4, ty := .map, mapK := .string, mapV := .message, mapVKind := .user 1 }] },
  { fields := [{ name := "n", num := 1, ty := .sint64 }] }]
def sub (n : Int) : Val := .msg 1 [.int n] true [] []
def m2 : Val := .msg 0 [sub (-5), .msg 1 [.ph] false [] [], .list [sub 1, .msg 1 [.ph] false [] []], .dict [.str [107]] [sub 9]] true [] []

example : jsonOk S2 [] .camel = true ∧ wellTyped S2 m2 = true := by rw [jsonOk_fast]; decide +kernel
theorem roundtrip_nested_example :
    (fromDictC S2 [] 0 (toDict S2 [] .camel false m2)).bind (dumpVal S2) = dumpVal S2 m2 ∧
    (fromDictI S2 [] (fresh S2 0) (toDict S2 [] .snake false m2)).bind (dumpVal S2) = dumpVal S2 m2 ∧
    (jsonText (toDict S2 [] .camel false m2)) = some (toDict S2 [] .camel false m2) ∧
    isJson (toDict S2 [] .camel false m2) = true :=
  by decide +kernel

def one (f : FieldD) : Schema := [{ fields := [f] }]

def Sd15 : Schema := one { name := "address_line_1", num := 1, ty := .int32 }
/-- D15: the camelCase key of `address_line_1` is mapped to another field: the value is dropped -/
theorem d15_key_casing_witness :
    namesOk .camel (fieldsOf Sd15 0) = false ∧ namesOk .snake (fieldsOf Sd15 0) = true ∧
    fromDictC Sd15 [] 0 (toDict Sd15 [] .camel false (.msg 0 [.int 5] true [] [])) = .ok (.msg 0 [.ph] true [] []) ∧
    fromDictC Sd15 [] 0 (toDict Sd15 [] .snake false (.msg 0 [.int 5] true [] [])) = .ok (.msg 0 [.int 5] true [] []) :=
  by decide +kernel

def SmapDur : Schema := one { name := "m", num := 1, ty := .map, mapK := .string, mapV := .message, mapVKind := .duration }
/-- D17: bytes / Timestamp / Duration map values and bytes wrappers are put into the dict as
    they are: `json.dumps` raises; `from_dict` raises on the Timestamp / Duration values -/
theorem d17_not_serialisable_witness :
    isJson (toDict (one { name := "m", num := 1, ty := .map, mapK := .string, mapV := .bytes }) [] .camel false
      (.msg 0 [.dict [.str [107]] [.byt [1]]] true [] [])) = false ∧
    isJson (toDict (one { name := "m", num := 1, ty := .map, mapK := .string, mapV := .message, mapVKind := .timestamp }) [] .camel false
      (.msg 0 [.dict [.str [107]] [.ts 5]] true [] [])) = false ∧
    isJson (toDict (one { name := "w", num := 1, ty := .message, wraps := some .bytes }) [] .camel false
      (.msg 0 [.byt [1]] true [] [])) = false ∧
    fromDictC SmapDur [] 0 (toDict SmapDur [] .camel false (.msg 0 [.dict [.str [107]] [.dur 5]] true [] [])) = .error .attr :=
  by decide +kernel

def SmapInt : Schema := one { name := "m", num := 1, ty := .map, mapK := .int32, mapV := .int32 }
def mMapInt : Val := .msg 0 [.dict [.int 1] [.int 2]] true [] []
/-- D17: an int (or bool) map key is a string after `json.dumps` / `json.loads` and is stored as
    a string: `bytes()` of the result raises, while the dict path is unaffected -/
theorem d17_map_key_witness :
    (fromDictC SmapInt [] 0 (toDict SmapInt [] .camel false mMapInt)).bind (dumpVal SmapInt) = dumpVal SmapInt mMapInt ∧
    (jsonText (toDict SmapInt [] .camel false mMapInt)).map (fromDictC SmapInt [] 0)
      = some (.ok (.msg 0 [.dict [.str [49]] [.int 2]] true [] [])) ∧
    dumpVal SmapInt (.msg 0 [.dict [.str [49]] [.int 2]] true [] []) = .error .type :=
  by decide +kernel

def Sdbl : Schema := one { name := "x", num := 1, ty := .double }
/-- JSON has one NaN: a NaN payload does not survive (not a betterproto matter; the value
    guard `wellTyped'` asks for the canonical NaN) -/
theorem nan_payload_witness :
    wellTyped' Sdbl (.msg 0 [.f64 0xfff8000000000001] true [] []) = false ∧
    fromDictC Sdbl [] 0 (toDict Sdbl [] .camel false (.msg 0 [.f64 0xfff8000000000001] true [] []))
      = .ok (.msg 0 [.f64 0x7ff8000000000000] true [] []) :=
  by decide +kernel

def Sots : Schema := one { name := "ots", num := 1, ty := .message, kind := .timestamp, optional := true }
/-- D27 (repaired): a proto3-optional Timestamp set to the epoch is written and read back -/
theorem d27_fixed_example :
    fromDictC Sots [] 0 (toDict Sots [] .camel false (.msg 0 [.ts 0] true [] [])) = .ok (.msg 0 [.ts 0] true [] []) ∧
    toDict Sots [] .camel false (.msg 0 [.ts 0] true [] []) = .obj [.str [111, 116, 115]] [.tsStr 0] :=
  by decide +kernel

/-- what `m ≈ m'` (`DEqv`, BpProofs/JsonEqv.lean) says at the top level: same class,
    `_serialized_on_wire` set, same `_unknown_fields`, same oneof selection, slots related one by
    one (`SlotsDEqv`: related values, or default-valued-and-absent vs PLACEHOLDER) -/
theorem deqv_state (S : Schema) (c : Nat) (sl : List Val) (ow : Bool) (unk : Bytes) (cur : List (Option Nat)) (m' : Val)
    (h : DEqv S (.msg c sl ow unk cur) m') :
    ∃ sl', m' = .msg c sl' true unk cur ∧ SlotsDEqv S (fieldsOf S c) cur 0 sl sl' := by
  cases h with
  | atom _ ha => simp [dAtom] at ha
  | msg _ _ sl' _ _ _ hs => exact ⟨sl', rfl, hs⟩

/-- `≈` implies equal bytes, for a typed `m` (of the schema guard only "map fields are
    singular" is used).  Typing is needed because `≈` relates an UNMARKED
    sub-message that differs from `Sub()` to its marked counterpart, and these encode alike only
    if the body is non-empty, which typing guarantees (`dumpSlots_nonempty`). -/
theorem deqv_bytes (S : Schema) (E : Enums) (cs : KeyCase) (m m' : Val) (hjson : jsonOk S E cs = true)
    (hwt : wellTyped' S m = true) (h : DEqv S m m') : dumpVal S m' = dumpVal S m :=
  deqv_dumpVal S (fieldJsonOk_of_jsonOk S E cs hjson) m m' hwt h

def Styp : Schema := [
  { fields := [{ name := "a", num := 1, ty := .message, kind := .user 1 }] },
  { fields := [{ name := "x", num := 1, ty := .int32 }] }]
/-- why `deqv_bytes` asks for a typed value: an UNMARKED sub-message holding `None` in a plain
    `int32` slot (ill-typed; no operation of the library produces it) differs from `Sub()`, so `≈`
    relates it to its marked counterpart, but its body encodes to nothing: `dump` skips the
    unmarked one (`serialize_empty` False) and emits an empty record for the marked one -/
theorem deqv_bytes_needs_typing_witness :
    DEqv Styp (.msg 0 [.msg 1 [.none] false [] []] false [] []) (.msg 0 [.msg 1 [.none] true [] []] true [] []) ∧
    wellTyped' Styp (.msg 0 [.msg 1 [.none] false [] []] false [] []) = false ∧
    dumpVal Styp (.msg 0 [.msg 1 [.none] false [] []] false [] []) = .ok [] ∧
    dumpVal Styp (.msg 0 [.msg 1 [.none] true [] []] true [] []) = .ok [10, 0] := by
  refine ⟨?_, by decide +kernel, by decide +kernel, by decide +kernel⟩
  apply DEqv.msg
  refine SlotsDEqv.same _ _ _ { name := "a", num := 1, ty := .message, kind := .user 1 } _ _ _ _ (by rfl) ?_ (by decide)
    (SlotsDEqv.nil _ _ _)
  apply DEqv.msg
  exact SlotsDEqv.same _ _ _ { name := "x", num := 1, ty := .int32 } _ _ _ _ (by rfl) (DEqv.atom _ rfl) (by rfl)
    (SlotsDEqv.nil _ _ _)

/-- **C04, class form, nested messages** (message-typed singular / proto3-optional / oneof-member
    / repeated fields and `map<string, Msg>`, to any depth, recursive classes included):
    `Cls.from_dict(m.to_dict(casing))` returns a message equivalent to `m` that encodes to the
    same bytes.  Guards: see the header. -/
theorem roundtrip_nested (S : Schema) (E : Enums) (cs : KeyCase) (c : Nat) (sl : List Val) (ow : Bool) (unk : Bytes)
    (cur : List (Option Nat))
    (hjson : jsonOk S E cs = true) (hgroups : groupsOk S = true)
    (hwt : wellTyped' S (.msg c sl ow unk cur) = true) (hsel : selOk S (.msg c sl ow unk cur) = true) :
    ∃ m', fromDictC S E c (toDict S E cs false (.msg c sl ow unk cur)) = .ok m' ∧
      DEqv S (.msg c sl ow unk cur) m' ∧ dumpVal S m' = dumpVal S (.msg c sl ow unk cur) :=
  ⟨_, roundtrip_class S E cs ⟨hjson, hgroups⟩ c sl ow unk cur hwt hsel⟩

/-- **C04, class form, the rebuilt message written out**: `jrt` (BpProofs/JsonRt.lean) unfolded at the top
    level.  The hypotheses are those of `roundtrip_nested`, so this is not restricted to flat messages; it
    is what replaces `from_dict_flat_partial` for them, with no flatness hypothesis (`flatSlots`). -/
theorem roundtrip_flat (S : Schema) (E : Enums) (cs : KeyCase) (c : Nat) (sl : List Val) (ow : Bool) (unk : Bytes)
    (cur : List (Option Nat))
    (hjson : jsonOk S E cs = true) (hgroups : groupsOk S = true)
    (hwt : wellTyped' S (.msg c sl ow unk cur) = true) (hsel : selOk S (.msg c sl ow unk cur) = true) :
    fromDictC S E c (toDict S E cs false (.msg c sl ow unk cur))
      = .ok (.msg c (jrtSlots S E cs (fieldsOf S c) cur 0 sl) true unk cur) ∧
    DEqv S (.msg c sl ow unk cur) (.msg c (jrtSlots S E cs (fieldsOf S c) cur 0 sl) true unk cur) ∧
    dumpVal S (.msg c (jrtSlots S E cs (fieldsOf S c) cur 0 sl) true unk cur) = dumpVal S (.msg c sl ow unk cur) := by
  have := roundtrip_class S E cs ⟨hjson, hgroups⟩ c sl ow unk cur hwt hsel
  rw [jrt_msg] at this
  exact this

/-- `message Node { oneof kind { int32 leaf_val = 1; Node child = 2; } optional Node opt_child = 3;
    repeated Node kids = 4; map<string, Node> by_name = 5; string label = 6; }` -/
def S3 : Schema := [{ fields := [
    { name := "leaf_val", num := 1, ty := .int32, group := some 0 },
    { name := "child", num := 2, ty := .message, kind := .user 0, group := some 0 },
    { name := "opt_child", num := 3, ty := .message, kind := .user 0, optional := true },
    { name := "kids", num := 4, ty := .message, kind := .user 0, repeated := true },
    { name := "by_name", num := 5, ty := .map, mapK := .string, mapV := .message, mapVKind := .user 0 },
    { name := "label", num := 6, ty := .string }], nGroups := 1 }]
/-- `Node(leaf_val=n)`: for n = 0 a oneof member set to its default -/
def leafN (n : Int) : Val := .msg 0 [.int n, .ph, .none, .ph, .ph, .ph] true [] [some 0]
/-- `Node()` -/
def emptyN : Val := .msg 0 [.ph, .ph, .none, .ph, .ph, .ph] false [] [Option.none]
/-- `Node(child=Node(leaf_val=0), opt_child=Node(), kids=[Node(leaf_val=7), Node()],
    by_name={"k": Node(leaf_val=9)}, label="x")` -/
def m3 : Val :=
  .msg 0 [.ph, leafN 0, emptyN, .list [leafN 7, emptyN], .dict [.str [107]] [leafN 9], .str [120]] true [] [some 1]

/-- the final theorem instantiated on a concrete nested message: all guards hold (by evaluation),
    the bytes are real bytes (`dumpVal` succeeds), both casings -/
theorem roundtrip_nested_instance :
    (∃ m', fromDictC S3 [] 0 (toDict S3 [] .camel false m3) = .ok m' ∧ DEqv S3 m3 m' ∧ dumpVal S3 m' = dumpVal S3 m3) ∧
    (∃ m', fromDictC S3 [] 0 (toDict S3 [] .snake false m3) = .ok m' ∧ DEqv S3 m3 m' ∧ dumpVal S3 m' = dumpVal S3 m3) ∧
    (dumpVal S3 m3).isOk = true := by
  have h : (jsonOk S3 [] .camel = true ∧ jsonOk S3 [] .snake = true) ∧ groupsOk S3 = true ∧
      wellTyped' S3 m3 = true ∧ selOk S3 m3 = true ∧ (dumpVal S3 m3).isOk = true := by rw [jsonOk_fast]; decide +kernel
  obtain ⟨⟨hc, hs⟩, hg, hwt, hsel, hd⟩ := h
  exact ⟨roundtrip_nested S3 [] .camel 0 _ _ _ _ hc hg hwt hsel, roundtrip_nested S3 [] .snake 0 _ _ _ _ hs hg hwt hsel, hd⟩

/-- the rebuilt message, evaluated: the default-valued oneof member `leaf_val = 0` of the child stays
    selected, the optional default sub-message stays set, the empty repeated item and the map
    value are there, every nested message is `_serialized_on_wire` -/
theorem roundtrip_nested_instance_value :
    fromDictC S3 [] 0 (toDict S3 [] .camel false m3) =
      .ok (.msg 0 [.ph, leafN 0, .msg 0 [.ph, .ph, .none, .ph, .ph, .ph] true [] [Option.none],
            .list [leafN 7, .msg 0 [.ph, .ph, .none, .ph, .ph, .ph] true [] [Option.none]],
            .dict [.str [107]] [leafN 9], .str [120]] true [] [some 1]) := by decide +kernel

/-- why `selOk` is a guard: a selection that names no member of the group (a state the
    constructor and `__setattr__` never produce) is `wellTyped'`, `to_dict` writes nothing for the
    group, and the rebuilt message has no selection: same bytes, different `which_one_of` -/
theorem selOk_needed_witness :
    wellTyped' S3 (.msg 0 [.ph, .ph, .none, .ph, .ph, .ph] true [] [some 5]) = true ∧
    selOk S3 (.msg 0 [.ph, .ph, .none, .ph, .ph, .ph] true [] [some 5]) = false ∧
    fromDictC S3 [] 0 (toDict S3 [] .camel false (.msg 0 [.ph, .ph, .none, .ph, .ph, .ph] true [] [some 5]))
      = .ok (.msg 0 [.ph, .ph, .none, .ph, .ph, .ph] true [] [Option.none]) :=
  by decide +kernel

/-- **C04, the full statement under the guards**: `d = m.to_dict(casing)` is JSON serialisable,
    `json.loads(json.dumps(d))` is `d`, and `Cls.from_dict`, `Cls().from_dict`, `Cls.from_json`-style
    and `Cls().from_json`-style paths all return one and the same message `m'`, which is
    equivalent to `m` (`DEqv`) and encodes to the same bytes -/
theorem roundtrip_all (S : Schema) (E : Enums) (cs : KeyCase) (c : Nat) (sl : List Val) (ow : Bool) (unk : Bytes)
    (cur : List (Option Nat))
    (hjson : jsonOk S E cs = true) (hgroups : groupsOk S = true)
    (hwt : wellTyped' S (.msg c sl ow unk cur) = true) (hsel : selOk S (.msg c sl ow unk cur) = true) :
    isJson (toDict S E cs false (.msg c sl ow unk cur)) = true ∧
    jsonText (toDict S E cs false (.msg c sl ow unk cur)) = some (toDict S E cs false (.msg c sl ow unk cur)) ∧
    ∃ m', fromDictC S E c (toDict S E cs false (.msg c sl ow unk cur)) = .ok m' ∧
      fromDictI S E (fresh S c) (toDict S E cs false (.msg c sl ow unk cur)) = .ok m' ∧
      (jsonText (toDict S E cs false (.msg c sl ow unk cur))).map (fromDictC S E c) = some (.ok m') ∧
      (jsonText (toDict S E cs false (.msg c sl ow unk cur))).map (fromDictI S E (fresh S c)) = some (.ok m') ∧
      DEqv S (.msg c sl ow unk cur) m' ∧ dumpVal S m' = dumpVal S (.msg c sl ow unk cur) := by
  have hS : SchemaOk S E cs := ⟨hjson, hgroups⟩
  obtain ⟨t1, t2⟩ := toDict_text S E cs hS c sl ow unk cur hwt
  obtain ⟨a, b, d⟩ := roundtrip_class S E cs hS c sl ow unk cur hwt hsel
  have i := roundtrip_instance S E cs hS c sl ow unk cur hwt hsel
  refine ⟨t1, t2, _, a, i, ?_, ?_, b, d⟩
  · rw [t2, Option.map_some, a]
  · rw [t2, Option.map_some, i]

/-- `roundtrip_all` under the value guard the driver evaluates on harness inputs (`wellTyped`,
    BpModel/Json.lean: `WF WT`), which is stronger than `wellTyped'` -/
theorem roundtrip_all_driver_guard (S : Schema) (E : Enums) (cs : KeyCase) (c : Nat) (sl : List Val) (ow : Bool)
    (unk : Bytes) (cur : List (Option Nat))
    (hjson : jsonOk S E cs = true) (hgroups : groupsOk S = true)
    (hwt : wellTyped S (.msg c sl ow unk cur) = true) (hsel : selOk S (.msg c sl ow unk cur) = true) :
    isJson (toDict S E cs false (.msg c sl ow unk cur)) = true ∧
    jsonText (toDict S E cs false (.msg c sl ow unk cur)) = some (toDict S E cs false (.msg c sl ow unk cur)) ∧
    ∃ m', fromDictC S E c (toDict S E cs false (.msg c sl ow unk cur)) = .ok m' ∧
      fromDictI S E (fresh S c) (toDict S E cs false (.msg c sl ow unk cur)) = .ok m' ∧
      (jsonText (toDict S E cs false (.msg c sl ow unk cur))).map (fromDictC S E c) = some (.ok m') ∧
      (jsonText (toDict S E cs false (.msg c sl ow unk cur))).map (fromDictI S E (fresh S c)) = some (.ok m') ∧
      DEqv S (.msg c sl ow unk cur) m' ∧ dumpVal S m' = dumpVal S (.msg c sl ow unk cur) :=
  roundtrip_all S E cs c sl ow unk cur hjson hgroups (wellTyped_weaken S _ hwt) hsel

/-- `roundtrip_all` on the concrete nested message `m3` (recursive class, oneof, optional
    sub-message set to its default, repeated sub-messages, `map<string, Node>`) -/
theorem roundtrip_all_instance :
    isJson (toDict S3 [] .camel false m3) = true ∧
    ∃ m', fromDictC S3 [] 0 (toDict S3 [] .camel false m3) = .ok m' ∧
      fromDictI S3 [] (fresh S3 0) (toDict S3 [] .camel false m3) = .ok m' ∧
      (jsonText (toDict S3 [] .camel false m3)).map (fromDictI S3 [] (fresh S3 0)) = some (.ok m') ∧
      DEqv S3 m3 m' ∧ dumpVal S3 m' = dumpVal S3 m3 := by
  obtain ⟨t1, _, m', a, i, _, ji, b, d⟩ :=
    roundtrip_all S3 [] .camel 0 _ _ _ _ (by rw [jsonOk_fast]; decide +kernel) (by decide +kernel)
      (show wellTyped' S3 m3 = true by decide +kernel) (by decide +kernel)
  exact ⟨t1, m', a, i, ji, b, d⟩

def Sdeep : Schema := [
  { fields := [{ name := "a", num := 1, ty := .message, kind := .user 1 }] },
  { fields := [{ name := "b", num := 1, ty := .message, kind := .user 2 },
               { name := "items", num := 2, ty := .int32, repeated := true }] },
  { fields := [{ name := "x", num := 1, ty := .int32 }] }]
/-- `m = Outer(); m.a.b.x = 1`: `b` is `_serialized_on_wire` (its `__setattr__` ran), `a` is not
    (it was only materialised by `getattr`) -/
def mDeep : Val := .msg 0 [.msg 1 [.msg 2 [.int 1] true [] [], .ph] false [] []] false [] []
/-- `m = Outer(); m.a.items.append(1)` -/
def mAppend : Val := .msg 0 [.msg 1 [.ph, .list [.int 1]] false [] []] false [] []

/-- `Outer.a : Mid`, `Mid.b : Inner`, `Inner.items : repeated int32` -/
def Schain : Schema := [
  { fields := [{ name := "a", num := 1, ty := .message, kind := .user 1 }] },
  { fields := [{ name := "b", num := 1, ty := .message, kind := .user 2 }] },
  { fields := [{ name := "items", num := 1, ty := .int32, repeated := true }] }]
/-- `m = Outer(); m.a.b.items.append(1)`: neither `a` nor `b` is marked; the only non-default
    content of `a` is the unmarked `b` -/
def mChain : Val := .msg 0 [.msg 1 [.msg 2 [.list [.int 1]] false [] []] false [] []] false [] []

/-- the full statement, as the existential the general theorem gives -/
def RoundTrips (S : Schema) (c : Nat) (m : Val) : Prop :=
  isJson (toDict S [] .camel false m) = true ∧
  jsonText (toDict S [] .camel false m) = some (toDict S [] .camel false m) ∧
  ∃ m', fromDictC S [] c (toDict S [] .camel false m) = .ok m' ∧
    fromDictI S [] (fresh S c) (toDict S [] .camel false m) = .ok m' ∧
    (jsonText (toDict S [] .camel false m)).map (fromDictC S [] c) = some (.ok m') ∧
    (jsonText (toDict S [] .camel false m)).map (fromDictI S [] (fresh S c)) = some (.ok m') ∧
    DEqv S m m' ∧ dumpVal S m' = dumpVal S m

/-- the two counterexamples of D46 (and a chain of two unmarked sub-messages) are outside the
    driver's value guard `wellTyped` ("an absent plain sub-message equals a fresh one") and inside
    `wellTyped'`: `roundtrip_all` applies — before the repair `bytes(m)` encoded such a sub-message
    (`value != default`) while `to_dict` left it out (`value._serialized_on_wire` is False) and the
    round trip lost it.  The bytes are real bytes (`dumpVal` succeeds, non-empty). -/
theorem unmarked_submessage_fixed :
    (wellTyped Sdeep mDeep = false ∧ wellTyped Sdeep mAppend = false ∧ wellTyped Schain mChain = false) ∧
    RoundTrips Sdeep 0 mDeep ∧ RoundTrips Sdeep 0 mAppend ∧ RoundTrips Schain 0 mChain ∧
    dumpVal Sdeep mDeep = .ok [10, 4, 10, 2, 8, 1] ∧
    dumpVal Sdeep mAppend = .ok [10, 3, 18, 1, 1] ∧
    dumpVal Schain mChain = .ok [10, 5, 10, 3, 10, 1, 1] := by
  have hS : jsonOk Sdeep [] .camel = true ∧ groupsOk Sdeep = true := by rw [jsonOk_fast]; decide +kernel
  exact ⟨by decide +kernel,
    roundtrip_all Sdeep [] .camel 0 _ _ _ _ hS.1 hS.2 (show wellTyped' Sdeep mDeep = true by decide +kernel) (by decide +kernel),
    roundtrip_all Sdeep [] .camel 0 _ _ _ _ hS.1 hS.2 (show wellTyped' Sdeep mAppend = true by decide +kernel) (by decide +kernel),
    roundtrip_all Schain [] .camel 0 _ _ _ _ (by rw [jsonOk_fast]; decide +kernel) (by decide +kernel)
      (show wellTyped' Schain mChain = true by decide +kernel) (by decide +kernel),
    by decide +kernel, by decide +kernel, by decide +kernel⟩

/-- the rebuilt messages, evaluated: every level is marked, the content is there -/
theorem unmarked_submessage_fixed_values :
    fromDictC Sdeep [] 0 (toDict Sdeep [] .camel false mDeep)
      = .ok (.msg 0 [.msg 1 [.msg 2 [.int 1] true [] [], .ph] true [] []] true [] []) ∧
    fromDictC Sdeep [] 0 (toDict Sdeep [] .camel false mAppend)
      = .ok (.msg 0 [.msg 1 [.ph, .list [.int 1]] true [] []] true [] []) ∧
    fromDictC Schain [] 0 (toDict Schain [] .camel false mChain)
      = .ok (.msg 0 [.msg 1 [.msg 2 [.list [.int 1]] true [] []] true [] []] true [] []) :=
  by decide +kernel

end Bp.C04

#print axioms Bp.C04.roundtrip_all
#print axioms Bp.C04.roundtrip_all_driver_guard
#print axioms Bp.C04.unmarked_submessage_fixed_values
#print axioms Bp.wellTyped_weaken
#print axioms Bp.C04.roundtrip_all_instance
#print axioms Bp.C04.unmarked_submessage_fixed
#print axioms Bp.C04.roundtrip_nested
#print axioms Bp.C04.roundtrip_flat
#print axioms Bp.C04.roundtrip_nested_instance
#print axioms Bp.C04.deqv_bytes
#print axioms Bp.C04.deqv_bytes_needs_typing_witness
