import BpProofs.SrcTieNaming
import BpProofs.Props.C19SrcCasing
/-
  C19 ("every legal proto identifier maps to a Python class, field, method or enum-member name that is a valid
  identifier and not a keyword, and the mapping is idempotent"), tied to the SOURCE of the functions the plugin
  calls: src/betterproto/compile/naming.py as regenerated on every run (harness/extract_srcnaming.py →
  BpProofs/Gen/SrcNaming.lean).  The four `pythonize_*` functions are translated statement by statement;
  `casing.X(...)` is the call of the translated `Src.X` of casing.py (BpProofs/Gen/SrcCasing.lean, regular
  expressions parsed from the source), `.upper()`, `.find(sub)`, `.strip("_")`, `len`, the slice `name[i:]`, `+`
  and `!=` on int have the meaning written in BpProofs/PyPreludeNaming.lean / PyPreludeStr.lean.  The translated
  functions ARE the model functions of BpModel/Naming.lean the C19 theorems (and C03's naming parameters, C13's
  `pythonize_class_name`) are about — for ALL strings.

  Trusted: BpProofs/PyPreludeNaming.lean (`str.upper` on ASCII — applied by naming.py only to the `[a-z0-9_]` output
  of `snake_case` —, `str.find`, `str.strip`), PyPreludeStr.lean (`len`, slices), what C19SrcCasing.lean trusts
  for casing.py, and the translator.
-/
namespace Bp.C19
open Bp Bp.Casing Bp.Naming Bp.SrcTieNaming

/-- `pythonize_class_name` as written (`casing.pascal_case(name)`) is the model's `pythonizeClassName` -/
theorem src_pythonize_class_name (s : List Char) : Src.pythonize_class_name s = pythonizeClassName s :=
  SrcTieCasing.pascal_case_eq s

/-- `pythonize_field_name` as written (`casing.safe_snake_case(name)`) is the model's `pythonizeFieldName` -/
theorem src_pythonize_field_name (s : List Char) : Src.pythonize_field_name s = pythonizeFieldName s :=
  SrcTieCasing.safe_snake_case_eq s

/-- `pythonize_method_name` as written (`casing.safe_snake_case(name)`) is the model's `pythonizeMethodName` -/
theorem src_pythonize_method_name (s : List Char) : Src.pythonize_method_name s = pythonizeMethodName s :=
  SrcTieCasing.safe_snake_case_eq s

/-- `pythonize_enum_member_name` as written — `enum_name = casing.snake_case(enum_name).upper()`,
    `find = name.find(enum_name)`, `name[find + len(enum_name):].strip("_")` when `find != -1`,
    `casing.sanitize_name` — is the model's `pythonizeEnumMemberName` (`afterFirst`, `stripU`, `sanitize`), for every
    member name and every enum name -/
theorem src_pythonize_enum_member_name (name enumName : List Char) :
    Src.pythonize_enum_member_name name enumName = pythonizeEnumMemberName name enumName := by
  have h := find_slice name (upperW (snake enumName))
  simp only [Src.pythonize_enum_member_name, pythonizeEnumMemberName, SrcTieCasing.snake_case_eq, Py.strUpper,
    SrcTieCasing.sanitize_name_eq]
  cases hr : afterFirst (upperW (snake enumName)) name with
  | none =>
    rw [hr] at h
    simp [h]
  | some r =>
    rw [hr] at h
    have hne : (Py.strFind name (upperW (snake enumName)) != -1) = true := by simpa using h.1
    simp only [hne, if_true, h.2, strStrip_underscore]

/-- field names: `pythonize_field_name` as written returns a valid non-keyword identifier, for EVERY string -/
theorem src_pythonize_field_name_valid (s : List Char) :
    pyIdent (Src.pythonize_field_name s) = true ∧ Src.pythonize_field_name s ∉ kw := by
  rw [src_pythonize_field_name]; exact field_name_valid s

/-- method names: the same for `pythonize_method_name` as written -/
theorem src_pythonize_method_name_valid (s : List Char) :
    pyIdent (Src.pythonize_method_name s) = true ∧ Src.pythonize_method_name s ∉ kw := by
  rw [src_pythonize_method_name]; exact method_name_valid s

/-- enum member names: `pythonize_enum_member_name` as written returns a valid non-keyword identifier for every
    member name made of identifier characters (the model theorem's guard) and EVERY enum name -/
theorem src_pythonize_enum_member_name_valid (name enumName : List Char) (h : ∀ c ∈ name, identChar c = true) :
    pyIdent (Src.pythonize_enum_member_name name enumName) = true ∧
      Src.pythonize_enum_member_name name enumName ∉ kw := by
  rw [src_pythonize_enum_member_name]; exact enum_member_name_valid name enumName h

/-- class names (full statement false of the code, D18): `pythonize_class_name` as written returns a valid
    non-keyword identifier under the model theorem's guard `classNameGuard` -/
theorem src_pythonize_class_name_valid_partial (s : List Char) (h : classNameGuard s = true) :
    pyIdent (Src.pythonize_class_name s) = true ∧ Src.pythonize_class_name s ∉ kw := by
  rw [src_pythonize_class_name]; exact class_name_valid_partial s h

/-- field and method names: idempotent on every string -/
theorem src_pythonize_field_name_idem (s : List Char) :
    Src.pythonize_field_name (Src.pythonize_field_name s) = Src.pythonize_field_name s ∧
    Src.pythonize_method_name (Src.pythonize_method_name s) = Src.pythonize_method_name s := by
  simp only [src_pythonize_field_name, src_pythonize_method_name]
  exact ⟨field_name_idem s, field_name_idem s⟩

/-- class names: idempotent when every word begins with two letters (the model theorem's guard; D18 otherwise) -/
theorem src_pythonize_class_name_idem_partial (s : List Char) (h : allWordsAlpha2 s = true) :
    Src.pythonize_class_name (Src.pythonize_class_name s) = Src.pythonize_class_name s := by
  simp only [src_pythonize_class_name]; exact class_name_idem_partial s h

/-- D18 on the source as written: `None` stays the keyword `None`, `_` becomes the empty name, `_1` becomes `1`,
    `aB ↦ AB ↦ Ab` is not idempotent -/
theorem src_pythonize_class_name_witnesses :
    Src.pythonize_class_name (str "None") ∈ kw ∧
    pyIdent (Src.pythonize_class_name (str "_")) = false ∧
    pyIdent (Src.pythonize_class_name (str "_1")) = false ∧
    Src.pythonize_class_name (Src.pythonize_class_name (str "aB")) ≠ Src.pythonize_class_name (str "aB") := by
  simp only [src_pythonize_class_name]
  exact ⟨class_name_keyword_witness.2, class_name_empty_witness.2, class_name_digit_witness.2,
    class_name_not_idem_witness.2⟩

/-- "the key to_dict emits … is mapped by from_dict back to the same field", with the generated field name computed
    by `pythonize_field_name` as written and the casing functions as written (snake_case casing; every proto name) -/
theorem src_pythonize_field_key_roundtrip_snake (p : List Char) :
    Src.safe_snake_case (rstripU (Src.snake_case (Src.pythonize_field_name p))) = Src.pythonize_field_name p := by
  simp only [src_pythonize_field_name, src_safe_snake_case, src_snake_case]
  exact key_roundtrip_snake p

/-! non-vacuity: the translated functions EVALUATED (regex semantics on the parsed patterns, `find`, slice, `strip`;
    no model involved) -/
example : Src.pythonize_enum_member_name (str "COLOR_1") (str "Color") = str "_1" := by decide +kernel
example : Src.pythonize_enum_member_name (str "MY_ENUM_FOO_BAR") (str "MyEnum") = str "FOO_BAR" := by decide +kernel
example : Src.pythonize_enum_member_name (str "X_MY_ENUM__MY_ENUM_None_") (str "MyEnum") = str "MY_ENUM_None" := by
  decide +kernel
example : Src.pythonize_enum_member_name (str "None") (str "MyEnum") = str "None_" := by decide +kernel
example : Src.pythonize_enum_member_name (str "FOO") (str "") = str "FOO" := by decide +kernel
example : Src.pythonize_class_name (str "FOO1BAR2") = str "Foo1Bar2" := by decide +kernel
example : Src.pythonize_field_name (str "HTTPStatus") = str "http_status" := by decide +kernel
example : Src.pythonize_method_name (str "class") = str "class_" := by decide +kernel
example : Py.strFind (str "abcabc") (str "ca") = 2 ∧ Py.strFind (str "abc") (str "cb") = -1 ∧
    Py.strFind (str "abc") (str "") = 0 ∧ Py.strFind (str "") (str "") = 0 := by decide +kernel
example : Py.strStrip (str "__a_b__") (str "_") = str "a_b" ∧ Py.strStrip (str "___") (str "_") = str "" := by decide +kernel

#print axioms src_pythonize_class_name
#print axioms src_pythonize_field_name
#print axioms src_pythonize_method_name
#print axioms src_pythonize_enum_member_name
#print axioms src_pythonize_enum_member_name_valid
#print axioms src_pythonize_field_name_idem

end Bp.C19
