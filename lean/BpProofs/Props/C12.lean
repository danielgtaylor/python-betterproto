import BpModel.All
import BpProofs.ChanTerm
import BpProofs.ChanAux
/-
  C12 — AsyncChannel: exactly-once ordered delivery, no stranded receiver.
  Only property statements live here; the invariant and its preservation are in
  BpProofs/Chan.lean, ChanInv.lean, ChanLeaf.lean, ChanStep.lean, ChanTerm.lean (`micro_step`).

  Every theorem (but `woken_runnable` and `send_after_close_raises`, which hold of any state) is about
  `run (init maxsize progs) cs`: the state reached from ANY list of task
  programs (senders with `send` / `send_from`, receivers, closers, cancellers), ANY buffer
  limit and ANY sequence of scheduler choices (which ready handle runs, which `wait_for` timer
  fires) — no bound on any of them.  The model is of the code WITH the D06 repair
  (`task_done()` only after a successful `get()`).

  Liveness: here as safety (`quiescent_closed_no_blocked_receiver`, `woken_runnable`); that every
  schedule is finite and ends in such a quiescent state — no fairness assumption — is
  Props/C12Term.lean (`step_decreases`, `schedules_bounded`, `terminates_no_blocked_receiver`).
-/
namespace Bp.C12
open Bp.Chan

/-- the state after the scheduler made the choices `cs` -/
abbrev reach (maxsize : Nat) (progs : List Prog) (cs : List Choice) : Sys := run (init maxsize progs) cs

/-- data items in the order the receivers got them -/
def received (s : Sys) : List Item := s.recvLog.map Prod.snd
/-- data items still buffered -/
def queuedData (s : Sys) : List Item := s.queue.filter Item.isData

/-- the invariant holds in every reachable state -/
theorem reachable_inv (maxsize : Nat) (progs : List Prog) (cs : List Choice) : Inv (reach maxsize progs cs) :=
  run_inv (init_inv maxsize progs) cs

/-- **nothing invented, nothing lost, global FIFO**: the items received so far followed by the
    items still buffered are exactly the items whose `put` completed, in that order. -/
theorem exactly_once (maxsize : Nat) (progs : List Prog) (cs : List Choice) :
    received (reach maxsize progs cs) ++ queuedData (reach maxsize progs cs) = (reach maxsize progs cs).putLog :=
  (reachable_inv maxsize progs cs).st.fifo.symm

/-- **nothing received twice**: no data item occurs twice among received ++ buffered -/
theorem no_duplicate (maxsize : Nat) (progs : List Prog) (cs : List Choice) (a b : Nat) :
    (received (reach maxsize progs cs) ++ queuedData (reach maxsize progs cs)).count (.data a b) ≤ 1 := by
  rw [exactly_once]
  exact count_le_one_of_pairwise (reachable_inv maxsize progs cs).st.ord a b

/-- **per-sender FIFO**: in the global order of receive events, two items of the same sender appear
    in the order sent (increasing sequence number) -/
theorem fifo_per_sender (maxsize : Nat) (progs : List Prog) (cs : List Choice) :
    (received (reach maxsize progs cs)).Pairwise SendOrd := by
  have h := (reachable_inv maxsize progs cs).st.ord
  rw [← exactly_once, List.pairwise_append] at h
  exact h.1

/-- `task_done()` never raises in the repaired code: `_unfinished_tasks` equals qsize -/
theorem unfinished_eq_qsize (maxsize : Nat) (progs : List Prog) (cs : List Choice) :
    (reach maxsize progs cs).unfinished = (reach maxsize progs cs).queue.length :=
  (reachable_inv maxsize progs cs).nm.unfin

/-- **earmark invariant**: while some getter is pending, every buffered item is earmarked for a
    getter that has been woken and not yet run -/
theorem earmark (maxsize : Nat) (progs : List Prog) (cs : List Choice) :
    0 < tsum (mPend true) (reach maxsize progs cs).tasks →
      (reach maxsize progs cs).queue.length ≤ tsum (mWok true) (reach maxsize progs cs).tasks :=
  (reachable_inv maxsize progs cs).nm.earG

/-- `_waiting_receivers` counts exactly the receivers inside `get()` -/
theorem waiting_eq (maxsize : Nat) (progs : List Prog) (cs : List Choice) :
    (reach maxsize progs cs).waiting = tsum mInGet (reach maxsize progs cs).tasks :=
  (reachable_inv maxsize progs cs).nm.waitingEq

/-- **flush arithmetic**: once `_flush_queue` has run, every receiver inside `get()` is covered by a
    buffered item or by a sentinel the flush task still has to put -/
theorem flush_cover (maxsize : Nat) (progs : List Prog) (cs : List Choice) :
    (reach maxsize progs cs).flushed = true →
      (reach maxsize progs cs).waiting ≤ (reach maxsize progs cs).queue.length + tsum mOwed (reach maxsize progs cs).tasks := by
  intro hf
  have := (reachable_inv maxsize progs cs).nm.cover
  simp only [abs, hf, ind_true] at this
  exact this trivial

/-- **after close + flush no getter is pending** -/
theorem closed_no_pending (maxsize : Nat) (progs : List Prog) (cs : List Choice) :
    (reach maxsize progs cs).flushed = true → tsum mOwed (reach maxsize progs cs).tasks = 0 →
      tsum (mPend true) (reach maxsize progs cs).tasks = 0 := by
  intro hf ho
  have hc := flush_cover maxsize progs cs hf
  have he := earmark maxsize progs cs
  have hw := waiting_eq maxsize progs cs
  generalize reach maxsize progs cs = s at *
  -- waiting ≥ pending + woken
  have hsum : tsum (mPend true) s.tasks + tsum (mWok true) s.tasks ≤ tsum mInGet s.tasks := by
    generalize s.tasks = ts
    induction ts with
    | nil => simp [tsum]
    | cons y ys ih =>
      simp only [tsum]
      have : mPend true y + mWok true y ≤ mInGet y := by
        cases hwy : y.wait with
        | ready => simp [mPend, mWok, mInGet, hwy]
        | done => simp [mPend, mWok, mInGet, hwy]
        | blocked g f => cases g <;> cases f <;> simp [mPend, mWok, mInGet, Wait.inGet, hwy]
      omega
  omega

/-- a woken task is runnable (the wake-up is not lost) -/
theorem woken_runnable (s : Sys) (t : Nat) (x : Task) (g : Bool) (hx : s.tasks[t]? = some x)
    (hw : x.wait = .blocked g .woken) : runnable s t = true := by
  simp [runnable, waitOf, hx, hw]

/-- **deadlock freedom as safety**: in a quiescent state (no handle ready) of a closed channel
    no task is inside `get()` — no receiver is blocked. -/
theorem quiescent_closed_no_blocked_receiver (maxsize : Nat) (progs : List Prog) (cs : List Choice)
    (hq : quiescent (reach maxsize progs cs) = true) (hc : (reach maxsize progs cs).closed = true) :
    (reach maxsize progs cs).waiting = 0 ∧
    ∀ (t : Nat) (x : Task), (reach maxsize progs cs).tasks[t]? = some x → x.wait.inGet = false := by
  have hI := reachable_inv maxsize progs cs
  generalize reach maxsize progs cs = s at *
  have hwG : tsum (mWok true) s.tasks = 0 := tsum_zero_of (fun t x hx => by
    rcases quiescent_wait hq hx with h | ⟨g, h⟩ <;> simp [mWok, h])
  have hwP : tsum (mWok false) s.tasks = 0 := tsum_zero_of (fun t x hx => by
    rcases quiescent_wait hq hx with h | ⟨g, h⟩ <;> simp [mWok, h])
  have hfr : tsum mFresh s.tasks = 0 := tsum_zero_of (fun t x hx => by
    rcases quiescent_wait hq hx with h | ⟨g, h⟩ <;> simp [mFresh, h])
  have n5 := hI.nm.fresh; have n3 := hI.nm.earG; have n4 := hI.nm.earP; have n8 := hI.nm.cover
  have n2 := hI.nm.waitingEq; have b2 := hI.nm.b2
  simp only [abs, hc, ind_true] at n5 n3 n4 n8 n2 b2
  have hfl : ind s.flushed = 1 := by
    rcases Nat.lt_or_ge (ind s.flushed) 1 with h0 | h1
    · have := n5 trivial (by omega); omega
    · omega
  -- everything inside get() is pending
  have hIP : tsum mInGet s.tasks = tsum (mPend true) s.tasks := by
    have : ∀ (t : Nat) (x : Task), s.tasks[t]? = some x → mInGet x = mPend true x := by
      intro t x hx
      rcases quiescent_wait hq hx with h | ⟨g, h⟩
      · simp [mInGet, mPend, Wait.inGet, h]
      · cases g <;> simp [mInGet, mPend, Wait.inGet, h]
    exact Nat.le_antisymm (tsum_le_of fun t x hx => Nat.le_of_eq (this t x hx))
      (tsum_le_of fun t x hx => Nat.le_of_eq (this t x hx).symm)
  -- owed sentinels belong to flush tasks suspended on a pending putter
  have hOw : tsum (mPend false) s.tasks = 0 → tsum mOwed s.tasks = 0 := by
    intro hp0
    apply tsum_zero_of
    intro t x hx
    rcases quiescent_wait hq hx with h | ⟨g, h⟩
    · simp [mOwed, h]
    · cases g
      · have := tsum_zero hp0 hx; simp [mPend, h] at this
      · obtain ⟨tm, hcode⟩ := receiver_of (hI.st.getRecv t x hx (by simp [Wait.inGet, h]))
        simp [mOwed, h, hcode, owedOf]
  have hw0 : s.waiting = 0 := by
    rcases Nat.eq_zero_or_pos (tsum (mPend true) s.tasks) with hp | hp
    · omega
    · have hql : s.queue.length = 0 := by have := n3 hp; omega
      have hpP : tsum (mPend false) s.tasks = 0 := by
        rcases Nat.eq_zero_or_pos (tsum (mPend false) s.tasks) with h0 | h0
        · exact h0
        · have := n4 h0; omega
      have := hOw hpP
      have := n8 hfl
      omega
  refine ⟨hw0, ?_⟩
  intro t x hx
  have := tsum_zero (f := mInGet) (by rw [← n2]; exact hw0) hx
  cases hi : x.wait.inGet
  · rfl
  · simp [mInGet, hi] at this

/-- **send after close raises**: a sender that starts a `send` (or enters `send_from`) on a closed
    channel finishes with ChannelClosed and touches nothing else -/
theorem send_after_close_raises (s : Sys) (t : Nat) (x : Task) (m : SMode) (nx r : Nat) (cl : Bool)
    (hx : s.tasks[t]? = some x) (hw : x.wait = .ready) (hm : x.mustCancel = false)
    (hc : x.code = .sender m nx r cl) (hstart : (m = .each ∧ 0 < r) ∨ m = .fromStart) (hcl : s.closed = true) :
    micro s t = finish s t x .chanClosed := by
  unfold micro
  simp only [hx, hw, hm, hc, hcl, Bool.false_eq_true, if_false]
  rcases hstart with ⟨rfl, hr⟩ | rfl
  · simp [hr]
  · simp

/-- **cancellation / timeout surfaces as such**: when a receiver that was cancelled (or timed out)
    while blocked in `get()` runs again, it ends with Cancelled (an external `cancel()` was
    requested) or Timeout (only its `wait_for` timer fired) — never with another exception — and
    the invariant (nothing lost, nothing duplicated, bookkeeping intact) still holds. -/
theorem cancel_surfaces (maxsize : Nat) (progs : List Prog) (cs : List Choice) (t : Nat) (x : Task) (g : Bool)
    (hx : (reach maxsize progs cs).tasks[t]? = some x)
    (hw : x.wait = .blocked g .cancelled ∨ (x.wait = .blocked g .woken ∧ x.mustCancel = true)) :
    ∃ x', (micro (reach maxsize progs cs) t).tasks[t]? = some x' ∧ x'.wait = .done ∧
      x'.out = (if x.cancelReq then .cancelled else .timeout) ∧ Inv (micro (reach maxsize progs cs) t) := by
  have hI := reachable_inv maxsize progs cs
  generalize reach maxsize progs cs = s at *
  refine ⟨{ x with wait := .done, out := cancelOutcome x }, ?_, rfl, rfl, micro_inv hI t⟩
  -- the bookkeeping of the `except:` branch leaves the finished record where it is, and so does a wake-up
  have key : ∀ f, (cancelBranch s t x g f).tasks[t]? = some { x with wait := .done, out := cancelOutcome x } := by
    intro f
    have h2 : (finish s t x (cancelOutcome x)).tasks[t]? = some { x with wait := .done, out := cancelOutcome x } := by
      simp [finish, Sys.setTask, getElem?_lt hx]
    unfold cancelBranch
    cases g <;> simp only [Bool.false_eq_true, if_false, if_true] <;> split
    · exact wake_task_keep h2 (by simp)
    · exact h2
    · exact wake_task_keep h2 (by simp)
    · exact h2
  unfold micro
  rcases hw with hw | ⟨hw, hm⟩
  · simp only [hx, hw]; exact key _
  · simp only [hx, hw]; rw [if_pos hm]; exact key _

/-- **drained**: without any cancellation or timeout, in a quiescent state of a closed channel in
    which some receiver has run to completion, every item whose send completed before the first
    `close()` has been received (the first `n` put items are the first `n` received items). -/
theorem drained (maxsize : Nat) (progs : List Prog) (cs : List Choice)
    (hq : quiescent (reach maxsize progs cs) = true) (hc : (reach maxsize progs cs).closed = true)
    (hnc : (reach maxsize progs cs).cancels = 0)
    (hr : ∃ (t : Nat) (x : Task), (reach maxsize progs cs).tasks[t]? = some x ∧ x.code.isReceiver = true ∧ x.wait = .done)
    (n : Nat) (hn : (reach maxsize progs cs).preClose = some n) :
    n ≤ (received (reach maxsize progs cs)).length ∧
    (reach maxsize progs cs).putLog.take n = (received (reach maxsize progs cs)).take n := by
  have hw0 := (quiescent_closed_no_blocked_receiver maxsize progs cs hq hc).1
  have hI := reachable_inv maxsize progs cs
  have hex := exactly_once maxsize progs cs
  generalize reach maxsize progs cs = s at *
  obtain ⟨t, x, hx, hrc, hwd⟩ := hr
  have hpos : 0 < tsum mRecvDone s.tasks := by
    have := tsum_ge (f := mRecvDone) hx
    simp [mRecvDone, hrc, hwd] at this
    omega
  have d2 := hI.nm.d2
  simp only [abs, hc, hn, ind_true, Option.getD_some] at d2
  have := d2 hnc hpos trivial
  have hle : n ≤ (received s).length := by simp only [received, List.length_map]; omega
  refine ⟨hle, ?_⟩
  rw [← hex, List.take_append_of_le_length hle]

/-- non-vacuity: one sender, one receiver, a closer — a schedule in which the receiver is blocked,
    is flushed awake and everything is delivered -/
example : (reach 0 [.sender false 2 false, .receiver false, .closer]
    [.run 1, .run 0, .run 2, .run 3, .run 1]).recvLog = [(1, .data 0 0), (1, .data 0 1)] := by decide +kernel

example : quiescent (reach 0 [.sender false 2 false, .receiver false, .closer]
    [.run 1, .run 0, .run 2, .run 3, .run 1]) = true := by decide +kernel

/-- non-vacuity of `cancel_surfaces`: a woken-then-cancelled receiver hands its item to the next one
    (the D06 witness schedule, on the repaired model) -/
example : (reach 0 [.sender false 1 false, .receiver false, .receiver false, .canceller 1]
    [.run 1, .run 2, .run 0, .run 3, .run 1, .run 2]).recvLog = [(2, .data 0 0)] := by decide +kernel

end Bp.C12
