import BpProofs.SrcTieParserOut
import BpProofs.Props.C03SrcParser
/-
  C03 (touching C13 / C18), tied to the SOURCE, continued: `generate_code` of src/betterproto/plugin/parser.py as
  regenerated from the Python AST of the working tree on every run (harness/extract_srcparser.py →
  BpProofs/Gen/SrcParser.lean).

  * `generate_code` as written returns `genResponse`: one module per distinct package, named by the package's
    segments + `__init__.py`, holding ALL files of that package; which option selects what; the `__init__.py` files.
  * The C03 sentence "each message and enum of the schema (including nested ones) is represented by exactly one class",
    about the source as written: the message / enum compiler objects registered with the module of a package are, in
    order, exactly the types of all files of that package (`allTypes`), and they are the classes of the model's
    `compilePackage` (the subject of `classes_are_all_types` / `one_class_per_type_partial`).

  Fuel, what is not translated, what is trusted: see Props/C03SrcParser.lean.
-/
namespace Bp.C03
open Bp Bp.Py Bp.Py.Prs Bp.Importing Bp.Plugin Bp.Src.Parser Bp.SrcTieParser
open Bp.Py.Res (ok_bind)

/-- **`generate_code` as written returns `genResponse`**, for every request whose files nest less deeply than the fuel
    and whose parameter names at most one `typing.` option: `supported_features` is FEATURE_PROTO3_OPTIONAL; the files
    are one module per output package and then the `__init__.py` files. -/
theorem src_generate_code (fuel : Nat) (ex : PyPath → Bool) (req : Request)
    (hfuel : ∀ f ∈ req.proto_file, depthMsgs f.messages < fuel)
    (hto : (typingOpts (optsOf req.parameter)).length ≤ 1) :
    generate_code fuel ex req = .ok (genResponse ex req) := by
  unfold generate_code
  have hopts : (if (!req.parameter.isEmpty) then splitOn ',' req.parameter else ([] : List Str)) = optsOf req.parameter := rfl
  simp only [hopts]
  rw [loop1_gather fuel ex _ hto]
  simp only [ok_bind]
  have hn1 : ((gather (optsOf req.parameter) req.proto_file).map Prod.fst).Nodup := by
    rw [gather_keys]; exact firstOcc_nodup _
  rw [loop2_eq fuel ex _ hn1 (by
    intro p hp f hf
    rw [gather_input_files _ _ p hp] at hf
    exact hfuel f (List.mem_filter.1 hf).1)]
  simp only [ok_bind]
  rw [loop5_eq fuel ex _ (by simpa [List.map_map, Function.comp_def] using hn1)]
  simp only [ok_bind, loop8_eq, loop9_eq]
  rfl

/-- … and with two or more `typing.` options (`typing.direct,typing.310`) it raises ValueError -/
theorem src_generate_code_two_typing_options (fuel : Nat) (ex : PyPath → Bool) (req : Request)
    (hne : req.proto_file ≠ []) (hto : 1 < (typingOpts (optsOf req.parameter)).length) :
    generate_code fuel ex req = .raise .value := by
  unfold generate_code
  have hopts : (if (!req.parameter.isEmpty) then splitOn ',' req.parameter else ([] : List Str)) = optsOf req.parameter := rfl
  simp only [hopts]
  cases hf : req.proto_file with
  | nil => exact absurd hf hne
  | cons f r => rw [loop1_raises fuel ex _ hto]; rfl

/-- **one module per package.**  The files of the response that carry content are, in order, those of the DISTINCT
    packages of the request (first occurrence; the key is the package, not the file) whose `output` flag is on, each
    named `str(Path(*package.split("."), "__init__.py"))` and rendering the OutputTemplate `moduleOf` of that package -/
theorem src_output_modules (ex : PyPath → Bool) (req : Request) :
    (genResponse ex req).file.filterMap (fun f => f.content.map fun t => (f.name, t))
      = ((firstOcc (req.proto_file.map (·.package))).filter
            (fun k => (moduleOf (optsOf req.parameter) req.proto_file k).output)).map
          (fun k => (pathStr (pkgPath k), moduleOf (optsOf req.parameter) req.proto_file k))
    ∧ (firstOcc (req.proto_file.map (·.package))).Nodup
    ∧ ∀ k, k ∈ firstOcc (req.proto_file.map (·.package)) ↔ ∃ f ∈ req.proto_file, f.package = k := by
  refine ⟨?_, firstOcc_nodup _, fun k => ?_⟩
  · unfold genResponse genOutputs
    rw [genModules_eq]
    simp only [List.filterMap_append, List.filterMap_map, List.filter_map, Function.comp_def, moduleFile, initFile,
      Option.map_some, Option.map_none]
    simp
  · rw [mem_firstOcc]; simp

/-- **all files of one package land in the same module, and only they.**  The module of package `k` holds as
    `input_files` exactly the files of the request whose package is `k`, in request order; the objects registered
    with it are the compiler objects of the types of all those files, file by file, and then those of their services. -/
theorem src_module_contents (opts : List Str) (files : List FileD) (k : Str) :
    (moduleOf opts files k).input_files = files.filter (fun f => decide (f.package = k))
    ∧ (∀ f, f ∈ (moduleOf opts files k).input_files ↔ f ∈ files ∧ f.package = k)
    ∧ (moduleOf opts files k).built
        = (filesOf files k).flatMap (typesLog (moduleOf opts files k).pydantic_dataclasses)
          ++ (filesOf files k).flatMap servicesLog := by
  refine ⟨rfl, fun f => ?_, moduleOf_built opts files k⟩
  show f ∈ files.filter (fun f => decide (f.package = k)) ↔ _
  simp

/-- **the path of a module is made of the package's segments** (for a package name protoc accepts: empty, or
    dot-separated non-empty segments): `a.b.c` ↦ `a/b/c/__init__.py`, no package ↦ `__init__.py`; and two such packages
    with the same path are the same package -/
theorem src_module_path (k : Str) (h : validPkg k = true) :
    pkgPath k = (if k.isEmpty then [] else splitOn '.' k) ++ ["__init__.py".toList]
    ∧ ∀ k', validPkg k' = true → pkgPath k = pkgPath k' → k = k' :=
  ⟨pkgPath_valid k h, fun k2 h2 e => by
    rw [pkgPath_valid k h, pkgPath_valid k2 h2] at e
    have h' := List.append_cancel_right e
    by_cases e1 : k.isEmpty = true <;> by_cases e2 : k2.isEmpty = true
    · rw [List.isEmpty_iff.1 e1, List.isEmpty_iff.1 e2]
    · simp only [e1, e2, if_true, Bool.false_eq_true, if_false] at h'
      exact absurd h'.symm (SrcTiePlugin.splitOn_ne_nil '.' k2)
    · simp only [e1, e2, if_true, Bool.false_eq_true, if_false] at h'
      exact absurd h' (SrcTiePlugin.splitOn_ne_nil '.' k)
    · simp only [e1, e2, Bool.false_eq_true, if_false] at h'
      rw [← joinWith_splitOn '.' k, ← joinWith_splitOn '.' k2, h']⟩

/-- **which option selects what** (C18).  The module of package `k` is written unless `k` is `google.protobuf` and
    `INCLUDE_GOOGLE` is not among the options; it uses pydantic dataclasses — and therefore
    PydanticOneOfFieldCompiler for its oneof members — exactly when `pydantic_dataclasses` is among them; its typing
    compiler is a fresh TypingImportTypingCompiler for `typing.root`, a fresh NoTyping310TypingCompiler for `typing.310`,
    and a fresh DirectImportTypingCompiler for `typing.direct`, for no typing option, AND for an unknown word
    (`typing.foo` is silently the default). -/
theorem src_option_flags (opts : List Str) (files : List FileD) (k : Str) :
    (moduleOf opts files k).output
        = !(decide (k = "google.protobuf".toList) && !decide ("INCLUDE_GOOGLE".toList ∈ opts))
    ∧ (moduleOf opts files k).pydantic_dataclasses = decide ("pydantic_dataclasses".toList ∈ opts)
    ∧ (moduleOf opts files k).typing_compiler
        = (if typingOpt opts = "root".toList then .typingImport false
           else if typingOpt opts = "310".toList then .noTyping310 []
           else .direct []) := by
  refine ⟨rfl, rfl, ?_⟩
  show setTC opts (.direct []) = _
  unfold setTC
  by_cases h1 : typingOpt opts = "direct".toList
  · have h2 : ¬ typingOpt opts = "root".toList := by rw [h1]; decide
    have h3 : ¬ typingOpt opts = "310".toList := by rw [h1]; decide
    rw [if_neg h2, if_neg h3, decide_eq_true h1]; rfl
  · rw [decide_eq_false h1]
    by_cases h2 : typingOpt opts = "root".toList
    · rw [if_pos h2, decide_eq_true h2]; rfl
    · rw [if_neg h2, decide_eq_false h2]
      by_cases h3 : typingOpt opts = "310".toList
      · rw [if_pos h3, decide_eq_true h3]; rfl
      · rw [if_neg h3, decide_eq_false h3]; rfl

/-- **the `__init__.py` files of the intermediate directories** (C13): a path is added as an empty file exactly when
    it is `<d>/__init__.py` for a directory `d` above some output file, `exists()` says it does not exist — NOTE: the
    code asks this of the plugin's working directory, not of the output directory —, and it is no output file itself -/
theorem src_init_files (ex : PyPath → Bool) (req : Request) (p : PyPath) :
    (∃ f ∈ (genResponse ex req).file, f.content = none ∧ f.name = pathStr p
        ∧ p ∈ initFiles ex (genPaths (optsOf req.parameter) req.proto_file))
      ↔ ((∃ path ∈ genPaths (optsOf req.parameter) req.proto_file, ∃ d ∈ pathParents path,
            p = pathJoin d "__init__.py".toList ∧ ex p = false)
          ∧ p ∉ genPaths (optsOf req.parameter) req.proto_file) := by
  rw [← mem_initFiles]
  constructor
  · rintro ⟨_, _, _, _, h⟩; exact h
  · intro h
    refine ⟨initFile p, ?_, rfl, rfl, h⟩
    unfold genResponse
    simp only [List.mem_append, List.mem_map]
    exact Or.inr ⟨p, h, rfl⟩

/-! ### the C03 sentence about the source as written -/

/-- **each message and enum of the schema (including nested ones) is represented by exactly one class — registration.**
    The MessageCompiler / EnumDefinitionCompiler objects that `generate_code` as written registers with the module of
    package `k` (one class is rendered per such object) are, in order, exactly the types of all files of that package:
    every message (synthetic map entries excepted) and every enum at every nesting depth, ONCE, as a message / enum
    object, under its flattened name — for every request and every option set. -/
theorem src_one_object_per_type (opts : List Str) (files : List FileD) (k : Str) :
    (moduleOf opts files k).built.filterMap builtKey
      = (filesOf files k).flatMap fun fd => (allTypes (toFileP fd)).map typeKey := by
  rw [moduleOf_built, List.filterMap_append, List.filterMap_flatMap, List.filterMap_flatMap,
    List.flatMap_eq_nil_iff.2 fun fd _ => show (servicesLog fd).filterMap builtKey = [] from svcsLog_keys fd.services 0,
    List.append_nil]
  congr 1
  funext fd
  exact typesLog_keys _ fd

/-- … and these objects are the classes of the MODEL's `compilePackage` (the subject of `classes_are_all_types`):
    whenever the model compiles the files of package `k`, its classes are, in order, named by the class-naming function
    applied to the registered objects' flattened names, with their kinds -/
theorem src_module_classes_are_model (nm : Naming) (opts : List Str) (files : List FileD) (k : Str) (cs : List Class)
    (h : compilePackage nm ((filesOf files k).map toFileP) = some cs) :
    cs.map (fun c => (c.pyName, c.kind))
      = ((moduleOf opts files k).built.filterMap builtKey).map fun p => (nm.cls p.1, p.2) := by
  rw [compilePackage_keys nm _ cs h, src_one_object_per_type, List.flatMap_map, List.map_flatMap]
  simp only [List.map_map, Function.comp_def, typeKey]

/-- **exactly one class per type**, under the guard that no two types of the package get the same class name (the D28
    region of `one_class_per_type_partial`, here across ALL files of the package): as many classes as types, pairwise
    distinct names, and every message / enum of every file of the package has its class -/
theorem src_exactly_one_class_partial (nm : Naming) (opts : List Str) (files : List FileD) (k : Str) (cs : List Class)
    (h : compilePackage nm ((filesOf files k).map toFileP) = some cs)
    (hg : (((moduleOf opts files k).built.filterMap builtKey).map fun p => nm.cls p.1).Nodup) :
    cs.length = ((filesOf files k).flatMap fun fd => allTypes (toFileP fd)).length
    ∧ (cs.map Class.pyName).Nodup
    ∧ ∀ fd ∈ filesOf files k, ∀ t ∈ allTypes (toFileP fd), ∃ c ∈ cs, c.pyName = nm.cls (flatName t.1) ∧ c.kind = t.2 := by
  obtain ⟨h1, h2, h3⟩ := keyed_one_each (src_module_classes_are_model nm opts files k cs h) hg
  rw [src_one_object_per_type] at h1 h3
  refine ⟨by simpa [List.length_flatMap] using h1, h2, fun fd hfd t ht => ?_⟩
  obtain ⟨c, hc, he⟩ := h3 (typeKey t) (List.mem_flatMap.2 ⟨fd, hfd, List.mem_map.2 ⟨t, ht, rfl⟩⟩)
  exact ⟨c, hc, (Prod.mk.inj he).1, (Prod.mk.inj he).2⟩

/-! ### non-vacuity: `generate_code` as written run on the nested schema of Props/C03SrcParser.lean -/

section examples

/-- `generate_code` as written on a request with two files of one package, a google.protobuf file and a file without
    package: the response files (the working directory holds no `__init__.py`) … -/
example : (generate_code 4 (fun _ => false) ⟨[], [exFile, exGoogle, exFile2, exRoot]⟩).bind
      (fun r => .ok (r.supported_features, r.file.map fun f => (f.name, f.content.isSome)))
    = .ok (some (ch "FEATURE_PROTO3_OPTIONAL"),
           [(ch "p/q/__init__.py", true), (ch "__init__.py", true), (ch "p/__init__.py", false)]) := by decide +kernel

/-- … which files went into which module, and the classes registered with it -/
example : (generate_code 4 (fun _ => false) ⟨[], [exFile, exGoogle, exFile2, exRoot]⟩).bind
      (fun r => .ok (r.file.filterMap fun f => f.content.map fun t =>
        (f.name, t.input_files.map (·.name), t.built.filterMap builtKey |>.map (·.1))))
    = .ok [(ch "p/q/__init__.py", [ch "a.proto", ch "b.proto"],
             [ch "_Top", ch "_Outer", ch "_Outer_Inner", ch "_Outer_Inner_E", ch "_Outer_Inner_Deep", ch "_TagsEntry",
              ch "_Other"]),
           (ch "__init__.py", [ch "r.proto"], [ch "_R"])] := by decide +kernel

/-- with INCLUDE_GOOGLE the google.protobuf module is written too; with `typing.310,pydantic_dataclasses` the flags -/
example : (generate_code 4 (fun _ => false) ⟨ch "INCLUDE_GOOGLE", [exGoogle]⟩).bind
      (fun r => .ok (r.file.map (·.name)))
    = .ok [ch "google/protobuf/__init__.py", ch "google/__init__.py", ch "__init__.py"] := by decide +kernel

example : (generate_code 4 (fun _ => false) ⟨ch "typing.310,pydantic_dataclasses", [exFile2]⟩).bind
      (fun r => .ok (r.file.filterMap fun f => f.content.map fun t => (t.pydantic_dataclasses, t.typing_compiler)))
    = .ok [(true, .noTyping310 [])] := by decide +kernel

example : generate_code 4 (fun _ => false) ⟨ch "typing.310,typing.root", [exFile2]⟩ = .raise .value := by
  apply src_generate_code_two_typing_options <;> decide +kernel

/-- the services: one ServiceCompiler, two ServiceMethodCompilers, after all the types -/
example : (generate_code 4 (fun _ => false) ⟨[], [exFile]⟩).bind
      (fun r => .ok (r.file.filterMap fun f => f.content.map fun t => t.built.filterMap fun b => match b with
        | .service c => some (c.proto_obj.name, c.path)
        | .method _ m p => some (m.name, p)
        | _ => none))
    = .ok [[(ch "Svc", [6, 0]), (ch "Do", [6, 0, 2, 0]), (ch "Undo", [6, 0, 2, 1])]] := by decide +kernel

/-- an `__init__.py` that exists under the working directory is not added (`exists_` answering True for `p/__init__.py`) -/
example : (generate_code 4 (fun p => decide (p = [ch "p", ch "__init__.py"])) ⟨[], [exFile]⟩).bind
      (fun r => .ok (r.file.map (·.name))) = .ok [ch "p/q/__init__.py", ch "__init__.py"] := by decide +kernel

/-- the hypotheses of `src_generate_code` and `src_exactly_one_class_partial` hold on the example -/
example : (∀ f ∈ [exFile, exGoogle, exFile2, exRoot], depthMsgs f.messages < 4)
    ∧ (typingOpts (optsOf (ch "typing.310,pydantic_dataclasses"))).length ≤ 1
    ∧ validPkg (ch "p.q") = true ∧ validPkg [] = true := by decide +kernel

example : (((moduleOf [] [exFile, exGoogle, exFile2, exRoot] (ch "p.q")).built.filterMap builtKey).map
    fun p => idNaming.cls p.1).Nodup := by decide +kernel

end examples

#print axioms src_generate_code
#print axioms src_generate_code_two_typing_options
#print axioms src_output_modules
#print axioms src_module_contents
#print axioms src_module_path
#print axioms src_option_flags
#print axioms src_init_files
#print axioms src_one_object_per_type
#print axioms src_module_classes_are_model
#print axioms src_exactly_one_class_partial

end Bp.C03
