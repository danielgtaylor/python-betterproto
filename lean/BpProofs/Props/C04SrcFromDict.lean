import BpProofs.SrcTieFromDict
import BpProofs.SrcTieJsonMsgLoad
import BpProofs.Props.C04
/-
  C04 (JSON / dict round trip), tied to the SOURCE: the body of the key loop of
  `Message._from_dict_init` and the bodies of the two forms of `Message.from_dict` are translated from
  the Python AST on every run (harness/extract_srcfromdict.py → BpProofs/Gen/SrcFromDict.lean:
  `Src.from_dict_key`, `Src.from_dict_cls`, `Src.from_dict_inst`) and proved equal to the model
  (`kvStep` = the per-pair action of `fromDictKV`, `fromDictC`, `fromDictI`; BpProofs/SrcTieFromDict.lean;
  the step itself is stated in Props/C19Src.lean, `C19.src_from_dict_key`).  The corollaries restate
  C04's theorems of the source as written.

  Reading: `srcFromDictInit S E c d` is `cls._from_dict_init(d)` — `init_kwargs = {}`, the translated
  step once per item of `d` in order (the `for` statement itself is the hand-written fold
  `srcInitLoop`), `return init_kwargs`; `Src.from_dict_cls S c r` / `Src.from_dict_inst S r self` are the
  translated bodies of `Cls.from_dict` / `self.from_dict` given the outcome `r` of that call.  Nested
  readers (`sub_cls.from_dict(item)`) are the MODEL's `fromDictC`: the source is tied one level at a
  time.  `finish` views a `Dict[str, Any]` by field index, `forget` forgets which exception was raised.

  Guards (decidable): `dictOk fs d` — no two keys of `d` (with a value that is not None) denote the same
  field of the class (`keysDistinct`; outside it the MODEL is wrong, `dup_key_model_witness`), and every
  dict value of `d` has as many keys as values (`objWf`, representation invariant).
-/
namespace Bp.C04
open Bp Bp.Py Bp.SrcTieFromDict

/-- **`cls._from_dict_init(d)` as written is the model's `fromDictInit`** (by field index), raising
    exactly when it raises, for every class and every mapping in the guard -/
theorem src_from_dict_init (S : Schema) (E : Enums) (c : Nat) (d : JVal) (h : dictOk (fieldsOf S c) d = true) :
    forget (finish (fieldsOf S c) (srcFromDictInit S E c d)) = forget (ofR (fromDictInit S E c d)) :=
  from_dict_init_eq S E c d h

/-- **the class form `Cls.from_dict(d)` as written** — `cls(**cls._from_dict_init(d))`, then
    `_serialized_on_wire = True` — **is the model's `fromDictC`** -/
theorem src_from_dict_cls (S : Schema) (E : Enums) (c : Nat) (d : JVal) (h : dictOk (fieldsOf S c) d = true) :
    forget (Src.from_dict_cls S c (srcFromDictInit S E c d)) = forget (ofR (fromDictC S E c d)) :=
  from_dict_cls_eq S c _ _ (src_from_dict_init S E c d h)

/-- **the instance form `m.from_dict(d)` as written** — `_serialized_on_wire = True`, then one `setattr`
    per item of `self._from_dict_init(d)` — **is the model's `fromDictI`** on every message instance -/
theorem src_from_dict_inst (S : Schema) (E : Enums) (c : Nat) (sl : List Val) (ow : Bool) (unk : Bytes)
    (cur : List (Option Nat)) (d : JVal) (h : dictOk (fieldsOf S c) d = true) :
    forget (Src.from_dict_inst S (srcFromDictInit S E c d) (.msg c sl ow unk cur))
      = forget (ofR (fromDictI S E (.msg c sl ow unk cur) d)) :=
  from_dict_inst_eq S c sl ow unk cur _ _ (src_from_dict_init S E c d h)

/-- **per-field dict round trip of the source as written**: the item `(key, j)` that `to_dict` emits for
    field `i` holding `v` (any casing for which the names are invertible, any flat field kind of
    `field_roundtrip_flat`: scalars, repeated scalars, Timestamp / Duration, wrappers, `map<string,
    scalar>`) is stored by one iteration of the key loop under field `i` with the original value `v` -/
theorem src_field_roundtrip (S : Schema) (E : Enums) (cs : KeyCase) (c : Nat) (i : Nat) (f : FieldD)
    (hid sel : Bool) (v : Val) (j : JVal) (init : Kwargs)
    (hn : namesOk cs (fieldsOf S c) = true) (hf : (fieldsOf S c)[i]? = some f)
    (he : enumOk (enumOf E f) = true) (h : flatSlotOk S E cs f hid sel v = true)
    (hj : toDictSlot S E cs false f hid sel v = some j) (hwf : objWf j = true) :
    finish (fieldsOf S c) (Src.from_dict_key S E c (fromDictC S E) (jsonKey cs f.name) j init)
      = .ok (kwSet (resolveKw (fieldsOf S c) init) i v) := by
  obtain ⟨hnn, hdec⟩ := field_roundtrip_flat S E cs f hid sel v he h j hj
  exact jkey_to_field S E c _ i f (key_maps_back cs _ hn i f hf) j v init hnn hdec hwf

/-- **C04's full statement, with the top-level reader as written**: under the guards of `roundtrip_all`
    and `dictOk` on `d = m.to_dict(casing)`, both forms of `from_dict` as written return one and the same
    message `m'`, equivalent to `m` and encoding to the same bytes -/
theorem src_roundtrip_all (S : Schema) (E : Enums) (cs : KeyCase) (c : Nat) (sl : List Val) (ow : Bool) (unk : Bytes)
    (cur : List (Option Nat))
    (hjson : jsonOk S E cs = true) (hgroups : groupsOk S = true)
    (hwt : wellTyped' S (.msg c sl ow unk cur) = true) (hsel : selOk S (.msg c sl ow unk cur) = true)
    (hd : dictOk (fieldsOf S c) (toDict S E cs false (.msg c sl ow unk cur)) = true) :
    ∃ m', Src.from_dict_cls S c (srcFromDictInit S E c (toDict S E cs false (.msg c sl ow unk cur))) = .ok m' ∧
      Src.from_dict_inst S (srcFromDictInit S E c (toDict S E cs false (.msg c sl ow unk cur))) (fresh S c) = .ok m' ∧
      DEqv S (.msg c sl ow unk cur) m' ∧ dumpVal S m' = dumpVal S (.msg c sl ow unk cur) := by
  obtain ⟨_, _, m', hc, hi, _, _, he, hb⟩ := roundtrip_all S E cs c sl ow unk cur hjson hgroups hwt hsel
  refine ⟨m', ?_, ?_, he, hb⟩
  · apply forget_eq_ok
    rw [src_from_dict_cls S E c _ hd, hc]; rfl
  · apply forget_eq_ok
    have hi' := hi
    unfold fresh at hi' ⊢
    rw [src_from_dict_inst S E c _ _ _ _ _ hd, hi']; rfl

/-- **where the model and the source as written disagree** (outside `dictOk`): two keys of one mapping
    that denote the same field, `M.from_dict({"fooBar": 1, "foo_bar": 2})`.  The source as written keeps one
    entry with the LAST value (2) — and so does the real code, replayed by hand — while the model's
    `fromDictC` takes the FIRST (1).  `to_dict` never emits such a mapping. -/
theorem src_dup_key_model_witness :
    dictOk (fieldsOf Sdup 0) jdup = false ∧
    Src.from_dict_cls Sdup 0 (srcFromDictInit Sdup [] 0 jdup) = .ok (.msg 0 [.int 2] true [] []) ∧
    fromDictC Sdup [] 0 jdup = .ok (.msg 0 [.int 1] true [] []) :=
  dup_key_model_witness

/-! non-vacuity: the guard holds of the dicts of C04's own examples, and both forms as written rebuild `m1`
    (oneof member set to its default, optional int64 set to 0, undefined enum number, NaN, Timestamp) -/
example : dictOk (fieldsOf S1 0) (toDict S1 E1 .camel false m1) = true :=
  SrcTieJsonMsgLoad.dictOk_of_jOkAt _ _ _ SrcTieJsonMsgLoad.jOkAt_m1_camel 0
example : dictOk (fieldsOf S1 0) (toDict S1 E1 .snake false m1) = true :=
  SrcTieJsonMsgLoad.dictOk_of_jOkAt _ _ _ SrcTieJsonMsgLoad.jOkAt_m1_snake 0
example : dictOk (fieldsOf S3 0) (toDict S3 [] .camel false m3) = true :=
  SrcTieJsonMsgLoad.dictOk_of_jOkAt _ _ _ SrcTieJsonMsgLoad.jOkAt_m3 0

end Bp.C04
