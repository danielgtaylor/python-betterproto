import BpModel.All
import BpProofs.Presence
import BpProofs.Ops
import BpProofs.Props.C07
import BpProofs.CopyBytes
import BpProofs.OkSound
/-
  C14 — observers are pure; copy, deepcopy and pickle are faithful and independent.
  (Model after the D13 repair: copies keep `_serialized_on_wire` and `_unknown_fields`.)

  What is proved here, sentence by sentence:
    * observers are pure: `materialize_invisible`, `observer_pure_bytes`, `observer_pure_len`,
      `observer_pure_presence`;
    * copies keep class / `serialized_on_wire` / unknown fields / the oneof invariant, for ANY
      instance satisfying the invariant: `copies_keep_presence`;
    * copies are BYTE-FAITHFUL and VALUE-FAITHFUL, for every well-typed reachable message
      (`MsgOk`, the domain of C01, decided by `msgOkB`): `copy_bytes_faithful`,
      `copy_is_original` (the copy is the original value, at every nesting level: same slots,
      same oneof selection — copied verbatim since the D45 repair), `copy_stays_welltyped`,
      `copy_steps` (lemmas in BpProofs/CopyBytes.lean; `initCur_eq_cur` in BpProofs/Ops.lean shows that a
      constructor call re-derives exactly the stored selection under the oneof invariant);
    * pickle = parse ∘ bytes: `pickle_is_wire_roundtrip` (faithfulness is then C01).
  Not expressible in this value-tree model: independence (aliasing) of copies — that half is proved over the
  HEAP model (BpModel/Heap.lean) in Props/C14Heap.lean (`deepcopy_disjoint`, `deepcopy_independent`, …).
-/
namespace Bp.C14
open Bp Gen

/-- the attribute reads of an observer (bytes, len, dump, to_dict, to_json, to_pydict read
    every field and thereby materialise lazily defaulted values) do not change the bytes
    any slot contributes -/
theorem materialize_invisible (S : Schema) (hw : WfSchemaOpt S) (fs : List FieldD) (cur : List (Option Nat))
    (idx : Nat) (vs : List Val) :
    dumpSlots S fs cur idx (materializeAll S fs cur idx vs) = dumpSlots S fs cur idx vs := by
  induction vs generalizing idx with
  | nil => rfl
  | cons v vs ih =>
    rw [materializeAll, dumpSlots, dumpSlots]
    cases hf : fs[idx]? with
    | none => rfl
    | some f =>
      simp only []
      rw [ih (idx + 1)]
      cases hh : hidden f idx cur with
      | true => rfl
      | false =>
        cases v with
        | ph =>
          simp only [materialize, Bool.false_eq_true, if_false]
          rw [dumpSlot_default S hw f, dumpSlot]
          simp
        | _ => rfl

/-- **observers never change what a message subsequently encodes to** … -/
theorem observer_pure_bytes (S : Schema) (hw : WfSchemaOpt S) (m m' : Val) (op : Op)
    (hop : op = .readAll ∨ op = .rawObs) (hs : stepOp S m op = .ok m') :
    dumpVal S m' = dumpVal S m := by
  cases m with
  | msg c sl ow unk cur =>
    unfold stepOp at hs
    simp only [stateOf] at hs
    rcases hop with rfl | rfl <;> injection hs with hs <;> subst hs
    · simp only [MState.toVal]
      rw [dumpVal_msg, dumpVal_msg, materialize_invisible S hw]
    · rfl
  | _ => unfold stepOp at hs; simp [stateOf] at hs

/-- … its length … -/
theorem observer_pure_len (S : Schema) (hw : WfSchemaOpt S) (m m' : Val) (op : Op)
    (hop : op = .readAll ∨ op = .rawObs) (hs : stepOp S m op = .ok m') :
    lenVal S m' = lenVal S m := by
  rw [lenVal_eq, lenVal_eq, observer_pure_bytes S hw m m' op hop hs]

/-- … or what it reports as present: the oneof selection, `serialized_on_wire` and the
    unknown fields are untouched, and so is every slot that held a value (only
    PLACEHOLDER slots are filled, with the very default a read returns anyway) -/
theorem observer_pure_presence (S : Schema) (c : Nat) (sl : List Val) (ow : Bool) (unk : Bytes)
    (cur : List (Option Nat)) (m' : Val) (op : Op) (hop : op = .readAll ∨ op = .rawObs)
    (hs : stepOp S (.msg c sl ow unk cur) op = .ok m') :
    ∃ sl', m' = .msg c sl' ow unk cur ∧ sl'.length = sl.length
      ∧ ∀ (i : Nat) (v : Val), sl[i]? = some v → v ≠ Val.ph → sl'[i]? = some v := by
  unfold stepOp at hs
  simp only [stateOf] at hs
  rcases hop with rfl | rfl <;> injection hs with hs <;> subst hs
  · refine ⟨_, rfl, materializeAll_length S _ cur 0 sl, fun i v hv hne => ?_⟩
    rw [materializeAll_eq, List.getElem?_mapIdx, hv, Option.map_some, materializeAt_of_ne_ph S _ cur _ hne]
  · exact ⟨sl, rfl, rfl, fun i v hv _ => hv⟩

/-- **copy and deepcopy keep the class, `serialized_on_wire` and the unknown fields
    verbatim**, and carry a selection that satisfies the oneof invariant (C07) — the model copies
    the selection of the original verbatim (`deepCopy` / `shallowCopy`, BpModel/Ops.lean) -/
theorem copies_keep_presence (S : Schema) (c : Nat) (sl : List Val) (ow : Bool) (unk : Bytes)
    (cur : List (Option Nat)) (hw : C07.WfClass S c) (h : C07.InvVal S (.msg c sl ow unk cur)) :
    (∃ sl' cur', deepCopy S (.msg c sl ow unk cur) = .msg c sl' ow unk cur' ∧ C07.InvVal S (.msg c sl' ow unk cur'))
    ∧ (∃ sl' cur', shallowCopy S (.msg c sl ow unk cur) = .msg c sl' ow unk cur' ∧ C07.InvVal S (.msg c sl' ow unk cur')) :=
  ⟨⟨_, _, by rw [deepCopy, deepCopySlots_eq], copy_inv h _ (deepCopy_sentinel S)⟩,
    ⟨_, _, rfl, copy_inv h id fun _ _ => rfl⟩⟩

/-- **a pickle round trip goes through the wire format**: the unpickled message is
    `parse(bytes(m))` (so its faithfulness is exactly the binary round trip, C01) -/
theorem pickle_is_wire_roundtrip (S : Schema) (c : Nat) (sl : List Val) (ow : Bool) (unk : Bytes)
    (cur : List (Option Nat)) :
    stepOp S (.msg c sl ow unk cur) .pickle
      = (dumpVal S (.msg c sl ow unk cur)).bind fun bs => parse S c bs := rfl

/-! non-vacuity: reading every field of a message with an unset string and sub-message -/
def S4 : Schema := [{ fields := [{ name := "s", num := 1, ty := .string }, { name := "m", num := 2, ty := .message, kind := .user 0 },
                                  { name := "i", num := 3, ty := .int32 }] }]
example : (stepOp S4 (.msg 0 [.ph, .ph, .int 7] true [9, 9] []) .readAll).bind (dumpVal S4) = .ok [0x18, 0x07, 9, 9] := by decide +kernel

/-! copies are byte-faithful (lemmas: BpProofs/CopyBytes.lean) -/

/-- **"`copy.copy(m)` and `copy.deepcopy(m)` encode to the same bytes as `m`"** (C14,
    `copy_faithful` / `deepcopy_faithful`, the `dump … = dump s` half): for EVERY well-typed
    reachable message `m` — nested messages, lists, maps, oneofs, unknown fields included — and
    also when `bytes(m)` raises (both sides are then the same error) -/
theorem copy_bytes_faithful (S : Schema) (m : Val) (h : MsgOk S m) :
    dumpVal S (deepCopy S m) = dumpVal S m ∧ dumpVal S (shallowCopy S m) = dumpVal S m := by
  rw [deepCopy_id S m h, shallowCopy_id S m h]; exact ⟨rfl, rfl⟩

/-- **"… and are equal to `m`"** (C14, the `… ≈ s` half, in its strongest form): in the model,
    where values have no identity, both copies ARE the original — the constructor gets every raw
    slot back as it was (PLACEHOLDER is replaced by `None` only for optional fields, which under
    `MsgOk` never hold PLACEHOLDER), and the oneof selection, `_serialized_on_wire` and
    `_unknown_fields` are carried over.  Hence equal under `==`,
    same presence (`which_one_of`, `is_set`, `serialized_on_wire`), same `to_dict`, … -/
theorem copy_is_original (S : Schema) (m : Val) (h : MsgOk S m) :
    deepCopy S m = m ∧ shallowCopy S m = m :=
  ⟨deepCopy_id S m h, shallowCopy_id S m h⟩

/-- **"a copy is again a well-typed reachable message"** (so every theorem with the hypothesis
    `MsgOk` — the binary round trip C01 in particular, and this one — applies to the copy, to
    copies of copies, …) -/
theorem copy_stays_welltyped (S : Schema) (m : Val) (h : MsgOk S m) :
    MsgOk S (deepCopy S m) ∧ MsgOk S (shallowCopy S m) := by
  rw [deepCopy_id S m h, shallowCopy_id S m h]; exact ⟨h, h⟩

/-- the same as steps of the instance state machine the harness replays -/
theorem copy_steps (S : Schema) (m : Val) (h : MsgOk S m) :
    stepOp S m .deepcopy = .ok m ∧ stepOp S m .copy = .ok m := by
  have hd := deepCopy_id S m h
  have hs := shallowCopy_id S m h
  cases h
  exact ⟨congrArg Except.ok hd, congrArg Except.ok hs⟩

/-! non-vacuity: the theorems instantiated on the nested example value of BpProofs/OkSound.lean
    (sub-message with a oneof selection and unknown fields, repeated messages, maps with message /
    Timestamp / Duration values, wrapper, optional Duration), and the same facts observed by kernel
    evaluation of the model -/
example : dumpVal OkEx.SEx (deepCopy OkEx.SEx OkEx.mEx) = .ok OkEx.bsEx
    ∧ dumpVal OkEx.SEx (shallowCopy OkEx.SEx OkEx.mEx) = .ok OkEx.bsEx := by
  have := copy_bytes_faithful OkEx.SEx OkEx.mEx OkEx.mEx_ok
  rw [OkEx.mEx_dump] at this
  exact this
example : MsgOk OkEx.SEx (deepCopy OkEx.SEx OkEx.mEx) := (copy_stays_welltyped _ _ OkEx.mEx_ok).1
-- (`maxRecDepth` serves the elaborator's own `decide` on these two; evaluation by the kernel needs no raised limit)
set_option maxRecDepth 8000 in
example : dumpVal OkEx.SEx (deepCopy OkEx.SEx OkEx.mEx) = .ok OkEx.bsEx := by decide +kernel
set_option maxRecDepth 8000 in
example : dumpVal OkEx.SEx (shallowCopy OkEx.SEx OkEx.mEx) = .ok OkEx.bsEx := by decide +kernel
example : msgOkB OkEx.SEx (deepCopy OkEx.SEx OkEx.mEx) = true := by decide +kernel
/-- the oneof selection of the nested `Node` (member `sub`, index 3) survives the copy -/
example : (match deepCopy OkEx.SEx OkEx.mid with | .msg _ _ _ _ cur => cur | _ => []) = [some 3] := by decide +kernel

/-- since the D45 repair a copy receives the selection of its original verbatim (before it, the
    selection was re-derived from which slots are set): even a value outside `MsgOk` whose selected member holds
    PLACEHOLDER (reachable only by assigning the sentinel itself) is copied faithfully -/
example :
    let m : Val := .msg 0 [.ph, .none, .ph, .ph, .ph, .ph] false [] [some 2]
    msgOkB OkEx.SEx m = false
    ∧ dumpVal OkEx.SEx m = .ok [0x18, 0x00]
    ∧ dumpVal OkEx.SEx (deepCopy OkEx.SEx m) = .ok [0x18, 0x00]
    ∧ dumpVal OkEx.SEx (shallowCopy OkEx.SEx m) = .ok [0x18, 0x00] := by decide +kernel

end Bp.C14

#print axioms Bp.C14.copy_bytes_faithful
#print axioms Bp.C14.copy_is_original
#print axioms Bp.C14.copy_stays_welltyped
#print axioms Bp.C14.copy_steps
