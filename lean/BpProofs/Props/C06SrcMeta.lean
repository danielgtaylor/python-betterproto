import BpProofs.SrcTieMetaInit
import BpProofs.SrcTieMetaField
import BpProofs.SrcTieMsg
import BpProofs.Props.C06
/-
  C06, tied to the SOURCE, the foundation under every other tie: the class metadata tables, construction and the
  field defaults.  `ProtoClassMetadata.__init__` (+ `_get_default_gen`, `_get_cls_by_field`), the lazy cache
  `Message._betterproto`, `Message.__post_init__`, `Message.__setattr__` (as the dataclass `__init__` runs it),
  `Message._type_hint`, `_cls_for`, `_get_field_default_gen`, `_get_field_default`, `dataclass_field` and the `*_field`
  helpers are translated from the
  Python AST of the working tree on every run (harness/extract_srcmeta.py → BpProofs/Gen/SrcMeta.lean, namespace
  `Bp.SrcMeta`) and proved EQUAL to what the model — and the preludes of all the other source ties — use:

    * the tables: `field_name_by_number.get` = `findField` (LAST declaration of a number wins; what
      PyPreludeLoad.lean assumes as `Py.fieldNameByNumber`), `meta_by_field_name` = the fields in declaration order
      (`Py.metaByFieldName`), `default_gen[name] is list` = `FieldD.repeated` (`Py.defaultGenIsList`),
      `oneof_group_by_field.get` = the group of the field, `oneof_field_by_group[g]` = the members of `g` in
      declaration order, `sorted_field_names` = every name once (the same statements with the names PyPreludeObj.lean
      assumes them under are in Props/C07SrcMeta.lean: the two preludes cannot be imported together);
    * `Cls(**kw)` = the model's `construct`, `Cls()` = `fresh`;
    * `_get_field_default` = the model's `defaultOf` (`Py.getFieldDefault`), for every field kind.

  Reading: a class is the list `fs` of its field descriptors, a field / group name is its index, a dict is an
  insertion-ordered association list, the annotation of a field is `PyMeta.typeHint f`; an instance while it is
  being constructed is a `PyMeta.Inst`.  All of that is fixed in BpProofs/PyPreludeMeta.lean (trusted).
-/
namespace Bp.C06
open Bp Bp.PyMeta Bp.SrcTieMeta
open Bp.Py (Res ofR)

/-- **`ProtoClassMetadata(cls)` as written builds the tables every other tie assumes**: it never raises, and for
    EVERY list of field descriptors (no well-formedness needed)
    * `meta_by_field_name` is the fields in declaration order under their names;
    * `oneof_group_by_field.get(name)` is the group of that field, None for a field outside any group and for a
      name that is not a field;
    * `field_name_by_number.get(n)` is the model's `findField`: the LAST field that declares number `n`;
    * `oneof_field_by_group.get(g)` is the list of the members of `g` in declaration order, absent for a group
      without members;
    * `default_gen.get(name)` is the generator `genOf` of the field;
    and with pairwise distinct field numbers (`numsDistinctB`, part of C01's `MsgOk`) `sorted_field_names` holds
    every field name exactly once. -/
theorem src_metadata_tables (fs : List FieldD) :
    ∃ M, SrcMeta.ProtoClassMetadata.init fs = .ok M
      ∧ M.meta_by_field_name = dataclassFields fs
      ∧ (∀ name, PyEnum.dictGet M.meta_by_field_name name = fs[name]?)
      ∧ (∀ name, PyEnum.dictGet M.oneof_group_by_field name = (fs[name]?).bind fun f => f.group)
      ∧ (∀ n, PyEnum.dictGet M.field_name_by_number n = findField fs n)
      ∧ (∀ g, PyEnum.dictGet M.oneof_field_by_group g =
            match membersFrom g fs 0 with
            | [] => none
            | m :: ms => some (m :: ms))
      ∧ (∀ name, PyEnum.dictGet M.default_gen name = (fs[name]?).map genOf)
      ∧ (numsDistinctB fs = true → M.sorted_field_names.Perm (List.range fs.length)) :=
  ⟨tables fs, init_eq fs, rfl, tables_meta_by_field_name fs, tables_group_by_field fs, tables_name_by_number fs,
    tables_field_by_group fs, tables_default_gen fs, tables_sorted_perm fs⟩

/-- the names iterated by `for name in meta_by_field_name`: every field once, in declaration order -/
theorem src_field_names_in_declaration_order (fs : List FieldD) :
    ∃ M, SrcMeta.ProtoClassMetadata.init fs = .ok M ∧ M.meta_by_field_name.map (·.1) = List.range fs.length :=
  ⟨tables fs, init_eq fs, dataclassFields_keys fs⟩

/-- **a duplicated field number: the last declaration wins** in `field_name_by_number` (a dict store replaces),
    and `sorted_field_names` then lacks the earlier field — decided on a class with the fields a = 1, b = 2, c = 1
    (replayed on the real code: harness/tests/check_srcmeta.py) -/
theorem src_duplicate_number_last_wins :
    (match SrcMeta.ProtoClassMetadata.init [{ num := 1, ty := .int32 }, { num := 2, ty := .int32 }, { num := 1, ty := .string }] with
     | .ok M => (PyEnum.dictGet M.field_name_by_number 1, M.sorted_field_names)
     | _ => (none, [])) = (some 2, [2, 1]) := by decide

/-- **the lazy per-class cache `Message._betterproto`** returns `ProtoClassMetadata(cls)` in both of its states —
    nothing cached yet (it is built and stored), or the tables cached by an earlier access — and leaves them cached -/
theorem src_betterproto_cache (fs : List FieldD) (M : ClassMeta) (hM : SrcMeta.ProtoClassMetadata.init fs = .ok M)
    (cache : Option ClassMeta) (hc : cache = none ∨ cache = some M) :
    SrcMeta.betterproto fs cache = .ok (M, some M) := by
  rcases hc with h | h <;> subst h <;> simp [SrcMeta.betterproto, getCache, hM]

/-- `cls_by_field[name]` of a plain message field (singular, repeated or proto3-optional) is the class the model's
    `kind` names — the generated class, `datetime` or `timedelta`; of a map field it is the synthetic `Entry`
    dataclass with `key` = field 1 of the key type, `value` = field 2 of the value type (the model's `entryD`) -/
theorem src_cls_by_field (fs : List FieldD) (k : Nat) (f : FieldD) (hf : fs[k]? = some f) :
    SrcMeta.cls_for fs (k, f) 0 = (if f.ty == .map then .ok (keyHint f) else .ok (clsOf f))
    ∧ (f.ty = .message → f.wraps = none → clsOf f = .obj (kindObj f.kind)) := by
  refine ⟨?_, ?_⟩
  · rw [cls_for_eq fs k f hf]
    by_cases hm : (f.ty == .map) = true
    · simp [hm, clsFor_map f hm]
    · have hm' : (f.ty == .map) = false := by simpa using hm
      simp [hm', clsFor_nonmap f hm']
  · intro ht hw
    unfold clsOf baseHint
    simp [ht, hw]

/-- **`__post_init__` as written**, on an instance with one raw slot per field: `_serialized_on_wire` becomes
    `not all_sentinel` = the model's `anyNonSentinel` (some slot is neither PLACEHOLDER nor the None of an optional
    field), `_unknown_fields` becomes `b""`, and `_group_current` becomes a dict that reads, group by group, as the
    model's `initCur`: a key for every group that has a member, holding the LAST non-sentinel member of the group in
    declaration order, or None -/
theorem src_post_init (fs : List FieldD) (self : Inst) (hl : self.slots.length = fs.length) (n : Nat) :
    ∃ inst, SrcMeta.post_init fs self = .ok inst
      ∧ inst.toMState n = some { slots := self.slots, onWire := anyNonSentinel fs self.slots, unknown := [],
                                 cur := initCur fs self.slots 0 (List.replicate n Option.none) } := by
  obtain ⟨gc, h1, h2⟩ := post_init_eq fs self hl
  refine ⟨_, h1, ?_⟩
  have := h2 n
  unfold curOf at this
  simp [Inst.toMState, this]

/-- `_group_current` has a key for every group that has a member, so `_group_current[group]` in
    `__getattribute__` never raises KeyError for the group of a field -/
theorem src_group_current_has_member_groups (S : Schema) (c : Nat) (kw : List (Nat × Val))
    (hkw : ∀ p ∈ kw, p.1 < (fieldsOf S c).length) :
    ∃ inst, constructInst S c kw = .ok inst ∧ inst.groupCurrent.isSome := by
  unfold constructInst
  obtain ⟨ow, h1⟩ := dataclassInit_eq S (fieldsOf S c) kw hkw
  rw [h1]
  obtain ⟨gc, h2, _⟩ := post_init_eq (fieldsOf S c)
    { slots := initSlots (fieldsOf S c) (kw.map fun (p : Nat × Val) => (p.1, markEmpty S p.2)) 0 (fieldsOf S c),
      onWire := ow, unknown := none, groupCurrent := none } (initSlots_length _ _ _ _)
  exact ⟨_, h2, rfl⟩

/-- **`Cls(**kw)` as written is the model's `construct`**: the generated dataclass `__init__` (every argument
    assigned through `Message.__setattr__` as written, which before `__post_init__` does no oneof bookkeeping)
    followed by `__post_init__` as written ends, without raising, in exactly the state `construct` computes — raw
    slots, on-wire flag, empty unknown fields, selection per group — for every schema, class and argument
    assignment.  Guard: the arguments name fields of the class (otherwise `__init__` raises TypeError:
    `src_construct_unknown_argument`). -/
theorem src_construct (S : Schema) (c : Nat) (kw : List (Nat × Val)) (hkw : ∀ p ∈ kw, p.1 < (fieldsOf S c).length) :
    constructVal S c kw = .ok (construct S c kw) :=
  constructVal_eq S c kw hkw

/-- an argument that names no field of the class: TypeError, where the model's `construct` ignores the argument
    (outside the domain of every theorem: the harness and `Op` only name fields) -/
theorem src_construct_unknown_argument (S : Schema) (c : Nat) (kw : List (Nat × Val)) (p : Nat × Val) (hp : p ∈ kw)
    (h : (fieldsOf S c).length ≤ p.1) : constructVal S c kw = .raise .type := by
  unfold constructVal constructInst
  rw [dataclassInit_unknown S _ kw p hp h]
  rfl

/-- decided witness of that disagreement: class with one int32 field, `Cls(**{<field 5>: 7})` -/
theorem src_construct_unknown_argument_witness :
    constructVal [{ fields := [{ num := 1, ty := .int32 }] }] 0 [(5, .int 7)] = .raise .type
    ∧ construct [{ fields := [{ num := 1, ty := .int32 }] }] 0 [(5, .int 7)] = .msg 0 [.ph] false [] [] := ⟨rfl, rfl⟩

/-- **`Cls()` as written is the model's fresh instance**: every slot at its dataclass default (None for a
    proto3-optional field, PLACEHOLDER otherwise), `_serialized_on_wire = False`, no unknown fields, no selection -/
theorem src_fresh (S : Schema) (c : Nat) : constructVal S c [] = .ok (fresh S c) := constructVal_nil S c

/-- **`_get_field_default_gen` as written picks, for the annotation of every field kind**: `list` for a repeated
    field, `dict` for a map, `type(None)` for a proto3-optional or wrapper field, the message class for a
    sub-message, `datetime_default_gen` for a Timestamp, `timedelta` for a Duration, `try_value` of the enum class
    for an enum, and the scalar class otherwise -/
theorem src_field_default_gen (fs : List FieldD) (k : Nat) (f : FieldD) (hf : fs[k]? = some f) :
    SrcMeta.get_field_default_gen fs (k, f) = .ok (genOf f) := gen_of_hint fs k f hf

/-- **`_get_field_default` as written is the model's default** `defaultOf` — what PyPreludeLoad.lean and PyPreludeObj.lean
    assume as `Py.getFieldDefault` —, with `Cls()` of a message class the construction as written.  Guard: the field is not
    a map that is also marked repeated (`mapNotRepeated`). -/
theorem src_field_default (S : Schema) (fs : List FieldD) (self : Inst) (k : Nat)
    (hg : ∀ f, fs[k]? = some f → mapNotRepeated f = true) :
    SrcMeta.get_field_default (fun c => constructVal S c []) fs self k
      = Py.getFieldDefault S { fields := fs } (some k) := by
  rw [get_field_default_eq S _ (constructVal_nil S) fs self k hg]
  unfold Py.getFieldDefault Py.metaByFieldName
  cases h : fs[k]? <;> simp [h, Py.Res.bind]

/-- … spelled out per field kind: scalar kinds, string / bytes, enum → member 0, message → fresh instance, wrapper /
    optional → None, repeated → [], map → {}, Timestamp → DATETIME_ZERO, Duration → timedelta(0) -/
theorem src_field_default_by_kind (S : Schema) (fs : List FieldD) (self : Inst) (k : Nat) (f : FieldD) (hf : fs[k]? = some f)
    (hg : mapNotRepeated f = true) :
    ∃ v, SrcMeta.get_field_default (fun c => constructVal S c []) fs self k = .ok v ∧ v = defaultOf S f
      ∧ (f.ty = .map → v = .dict [] [])
      ∧ (f.ty ≠ .map → f.repeated = true → v = .list [])
      ∧ (f.ty ≠ .map → f.repeated = false → (f.optional = true ∨ f.wraps.isSome = true) → v = .none)
      ∧ (f.ty ≠ .map → f.repeated = false → f.optional = false → f.wraps = none →
          (f.ty = .message → (∀ c', f.kind = .user c' → v = fresh S c') ∧ (f.kind = .timestamp → v = .ts 0)
            ∧ (f.kind = .duration → v = .dur 0))
          ∧ (f.ty = .enum → v = .int 0) ∧ (f.ty = .bool → v = .bool false) ∧ (f.ty = .string → v = .str [])
          ∧ (f.ty = .bytes → v = .byt []) ∧ (f.ty = .float → v = .f32 0) ∧ (f.ty = .double → v = .f64 0)
          ∧ (f.ty = .int32 → v = .int 0) ∧ (f.ty = .sint64 → v = .int 0) ∧ (f.ty = .fixed32 → v = .int 0)) := by
  refine ⟨defaultOf S f, ?_, rfl, ?_⟩
  · exact get_field_default_at S _ (constructVal_nil S) fs self k f hf hg
  · have hmr : f.ty = .map → f.repeated = false := by
      intro h; simpa [mapNotRepeated, h] using hg
    unfold defaultOf FieldD.defKind
    refine ⟨fun h => by simp [h, hmr h, defaultOfKind], fun _ hr => by simp [hr, defaultOfKind], ?_, ?_⟩
    · intro hm hr ho
      have : (f.optional || f.wraps.isSome) = true := by rcases ho with h | h <;> simp [h]
      simp [hm, hr, this, defaultOfKind]
    · intro hm hr ho hw
      refine ⟨fun ht => ⟨fun c' hk => ?_, fun hk => ?_, fun hk => ?_⟩, ?_⟩
      · simp [hr, ho, hw, ht, hk, msgKindDef, defaultOfKind]
      · simp [hr, ho, hw, ht, hk, msgKindDef, defaultOfKind]
      · simp [hr, ho, hw, ht, hk, msgKindDef, defaultOfKind]
      · refine ⟨?_, ?_, ?_, ?_, ?_, ?_, ?_, ?_, ?_⟩ <;> intro ht <;> simp [hr, ho, hw, ht, scalarDef, defaultOfKind]

/-- decided witness of the disagreement the guard `mapNotRepeated` excludes: for a map field that is also marked
    `repeated` the annotation is `Dict[…]`, the source gives `{}`, the model's `defaultOf` says `[]` -/
theorem src_field_default_repeated_map_witness :
    SrcMeta.get_field_default (fun c => constructVal [] c []) [{ num := 1, ty := .map, repeated := true }] { slots := [.ph] } 0
      = .ok (.dict [] [])
    ∧ defaultOf [] { num := 1, ty := .map, repeated := true } = .list [] := ⟨rfl, rfl⟩

/-- **a freshly constructed message reads every (non-oneof) field as its proto3 default**: on the instance `Cls()`
    as written leaves, an attribute read (the model's `getAttr`; `Message.__getattribute__` as written is tied to it
    in Props/C07Src.lean, and the composition is `C07.src_fresh_getattr_default` of Props/C07SrcMeta.lean) returns None
    for a proto3-optional field and otherwise the value `_get_field_default` AS WRITTEN computes — `defaultOf` -/
theorem src_fresh_reads_default (S : Schema) (c : Nat) (i : Nat) (f : FieldD)
    (hf : (fieldsOf S c)[i]? = some f) (hg : f.group = Option.none) (hmr : mapNotRepeated f = true) :
    ∃ m cst, constructVal S c [] = .ok m ∧ stateOf m = some cst ∧ cst.1 = c
      ∧ (∃ st', getAttr S (fieldsOf S c) cst.2 i = .ok (if f.optional then Val.none else defaultOf S f, st'))
      ∧ ∀ self, SrcMeta.get_field_default (fun c' => constructVal S c' []) (fieldsOf S c) self i = .ok (defaultOf S f) := by
  refine ⟨fresh S c, (c, freshState { fields := fieldsOf S c, nGroups := groupsOf S c }), constructVal_nil S c, rfl, rfl,
    fresh_default S c i f hf hg, fun self => get_field_default_at S _ (constructVal_nil S) _ self i f hf hmr⟩

/-- **… and encodes to zero bytes**: `bytes(Cls())` with BOTH halves as written — construction through the
    translated dataclass `__init__` / `__setattr__` / `__post_init__`, `bytes(…)` through the translated `__bytes__` /
    `dump` (Gen/SrcMsg.lean) — for every schema whose optional fields are singular (`WfSchemaOpt`), every class, every
    nesting budget ≥ 1 and every varint fuel -/
theorem src_fresh_encodes_empty (S : Schema) (hS : WfSchemaOpt S) (fuel k c : Nat) :
    (constructVal S c []).bind (Src.value_bytes fuel S (k + 1)) = .ok [] := by
  rw [constructVal_nil]
  exact SrcTieMsg.value_bytes_fresh S hS fuel k c

/- what PyPreludeLoad.lean assumes of `self._betterproto`, proved of the translated tables -/

/-- `field_name_by_number.get(number)`, `meta_by_field_name[name]` and `default_gen[name] is list` of the tables
    `ProtoClassMetadata(cls)` as written builds are `Py.fieldNameByNumber`, `Py.metaByFieldName` and
    `Py.defaultGenIsList` (for a field that is not a map marked repeated) -/
theorem src_tables_as_load_assumes (fs : List FieldD) :
    ∃ M, SrcMeta.ProtoClassMetadata.init fs = .ok M
      ∧ (∀ n : Nat, PyEnum.dictGet M.field_name_by_number n = Py.fieldNameByNumber { fields := fs } (n : Int))
      ∧ (∀ k, PyEnum.dictItem M.meta_by_field_name k = Py.metaByFieldName { fields := fs } (some k))
      ∧ (∀ k f, fs[k]? = some f → mapNotRepeated f = true →
            ∃ g, PyEnum.dictItem M.default_gen k = .ok g ∧ (g = DefGen.callable (.obj .list) ↔ f.repeated = true)) := by
  refine ⟨tables fs, init_eq fs, ?_, ?_, ?_⟩
  · intro n
    rw [show PyEnum.dictGet (tables fs).field_name_by_number n = findField fs n from tables_name_by_number fs n]
    rfl
  · intro k
    unfold Py.metaByFieldName
    cases h : fs[k]? with
    | none => simp [dictItem_none _ _ (by rw [tables_meta_by_field_name, h]), h]
    | some f => simp [dictItem_some _ _ f (by rw [tables_meta_by_field_name, h]), h]
  · intro k f hf hg
    refine ⟨genOf f, dictItem_some _ _ _ (by rw [tables_default_gen, hf]; rfl), ?_⟩
    unfold genOf
    by_cases hm : (f.ty == .map) = true
    · have hr : f.repeated = false := by simpa [mapNotRepeated, hm] using hg
      simp [hm, hr]
    · by_cases hr : f.repeated = true
      · simp [hm, hr]
      · simp only [hm, hr, Bool.false_eq_true, if_false, iff_false]
        by_cases ho : (f.optional || f.wraps.isSome) = true
        · simp [ho]
        · simp only [ho, Bool.false_eq_true, if_false]
          by_cases hmsg : (f.ty == .message) = true
          · simp only [hmsg, if_true]; cases f.kind <;> simp
          · by_cases he : (f.ty == .enum) = true
            · simp [hmsg, he]
            · simp only [hmsg, he, Bool.false_eq_true, if_false]
              cases f.ty <;> simp [scalarObj]

/-- **`dataclass_field` as written**: the dataclass default of a field is `None` when `optional`, `PLACEHOLDER` otherwise —
    `PyMeta.fieldDefault`, the slot value `fresh` / `construct` give a field that received no argument — and the
    `FieldMetadata` holds number, proto type, map types, group, wraps and optional as given -/
theorem src_dataclass_field (f : FieldD) :
    SrcMeta.dataclass_field f.num f.ty (mapTypes f) f.group f.wraps f.optional
      = .ok { default := fieldDefault f, metadata := metaOf f }
    ∧ fieldDefault f = (if f.optional then Val.none else Val.ph) :=
  ⟨rfl, rfl⟩

/-- **every `*_field` helper as written is `dataclass_field` at its `TYPE_*` constant**: the 16 scalar helpers pass number,
    group and optional; `message_field` also `wraps`; `map_field` passes `map_types = (key_type, value_type)` and is never
    optional -/
theorem src_field_helpers (n : Nat) (g : Option Nat) (w : Option PType) (o : Bool) (k v : PType) :
    SrcMeta.enum_field n g o = SrcMeta.dataclass_field n .enum none g none o
    ∧ SrcMeta.bool_field n g o = SrcMeta.dataclass_field n .bool none g none o
    ∧ SrcMeta.int32_field n g o = SrcMeta.dataclass_field n .int32 none g none o
    ∧ SrcMeta.sint64_field n g o = SrcMeta.dataclass_field n .sint64 none g none o
    ∧ SrcMeta.double_field n g o = SrcMeta.dataclass_field n .double none g none o
    ∧ SrcMeta.sfixed32_field n g o = SrcMeta.dataclass_field n .sfixed32 none g none o
    ∧ SrcMeta.string_field n g o = SrcMeta.dataclass_field n .string none g none o
    ∧ SrcMeta.bytes_field n g o = SrcMeta.dataclass_field n .bytes none g none o
    ∧ SrcMeta.message_field n g w o = SrcMeta.dataclass_field n .message none g w o
    ∧ SrcMeta.map_field n k v g = SrcMeta.dataclass_field n .map (some (k, v)) g none false
    ∧ (∀ m, SrcMeta.message_field n g w o = .ok m → m.default = (if o then Val.none else Val.ph) ∧ m.metadata.wraps = w) :=
  ⟨rfl, rfl, rfl, rfl, rfl, rfl, rfl, rfl, rfl, rfl, fun m h => by
    have : SrcMeta.message_field n g w o = .ok { default := if o then Val.none else Val.ph, metadata := ⟨n, .message, none, g, w, o⟩ } := rfl
    rw [this] at h; injection h with h; subst h; exact ⟨rfl, rfl⟩⟩

def SEx : Schema :=
  [{ fields := [{ name := "a", num := 1, ty := .int32, group := some 0 },
                { name := "b", num := 2, ty := .string, group := some 0 },
                { name := "o", num := 3, ty := .int64, optional := true },
                { name := "m", num := 4, ty := .message, kind := .user 0 },
                { name := "t", num := 5, ty := .message, kind := .timestamp },
                { name := "e", num := 6, ty := .enum },
                { name := "r", num := 7, ty := .double, repeated := true },
                { name := "w", num := 8, ty := .message, wraps := some .bool },
                { name := "d", num := 9, ty := .map, mapK := .string, mapV := .int32 }], nGroups := 1 }]

example : constructVal SEx 0 [(1, .str [104]), (2, .int 0)] = .ok (construct SEx 0 [(1, .str [104]), (2, .int 0)]) := by decide +kernel
example : construct SEx 0 [(1, .str [104]), (2, .int 0)]
    = .msg 0 [.ph, .str [104], .int 0, .ph, .ph, .ph, .ph, .ph, .ph] true [] [some 1] := by decide +kernel
example : (List.range 9).map (fun k => SrcMeta.get_field_default (fun c => constructVal SEx c []) (fieldsOf SEx 0) { slots := [] } k)
    = [.ok (.int 0), .ok (.str []), .ok .none, .ok (fresh SEx 0), .ok (.ts 0), .ok (.int 0), .ok (.list []), .ok .none,
       .ok (.dict [] [])] := by decide +kernel
example : numsDistinctB (fieldsOf SEx 0) = true := by decide +kernel

end Bp.C06
