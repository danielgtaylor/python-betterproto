import BpModel.All
import BpModel.Typing
import BpModel.Gen.StubTable
import BpProofs.Typing
import BpProofs.TypingQuote
/-
  C18 — every supported plugin option (typing.direct / typing.root / typing.310 ×
  standard / pydantic dataclasses) yields importable, behaviourally identical code.

  What is proved here is the compile-time string algebra: what the three typing
  compilers write denotes the same types; every place where the templates put compiler
  output into source text is well quoted; the `betterproto.*_field(...)` call does not
  depend on the typing compiler; the pydantic variant only adds `optional=True` to oneof
  members and that flag does not change the bytes; the stub/base dispatch rendered
  through the real template is the same under all six option sets.
  "The package imports" and "bytes()/to_json() are equal" are runtime facts: observed by
  harness/props/c18.py on generated schemas, not proved (DESIGN.md §10).

  Only property statements live here; helper lemmas: BpProofs/Typing.lean, TypingQuote.lean.
-/
namespace Bp.C18
open Bp Bp.Typing

/-! ## 1. the compilers denote the same types -/

/-- **Every compiler renders every type expression to an annotation that denotes the
    type the expression stands for** — for all type expressions the plugin can build
    (arbitrary nesting of optional / list / dict / union / iterable / async_iterable /
    async_iterator over bare names and quoted forward references, arbitrary names). -/
theorem denote_render (c : Compiler) (e : Ty) (hv : e.valid = true) :
    denote (render c e) = some (shapeOf e) := by
  obtain ⟨F, hok, ht, hs⟩ := render_form c e hv
  rw [← ht, ← hs]
  exact denote_form F hok

/-- "defines the same … types as the default configuration": the annotation texts of
    any two compilers denote the same type. -/
theorem denote_agree (c₁ c₂ : Compiler) (e : Ty) (hv : e.valid = true) :
    denote (render c₁ e) = denote (render c₂ e) := by
  rw [denote_render c₁ e hv, denote_render c₂ e hv]

/-- the same, method by method: each of the seven methods, applied by two compilers to
    their own rendering of the same argument(s), denotes the same type -/
theorem method_agree (c₁ c₂ : Compiler) (e e' : Ty) (k n : Str) (hv : e.valid = true) (hv' : e'.valid = true)
    (hk : validName k = true) (hn : validName n = true) :
    denote (optional c₁ (render c₁ e)) = denote (optional c₂ (render c₂ e))
    ∧ denote (list c₁ (render c₁ e)) = denote (list c₂ (render c₂ e))
    ∧ denote (dict c₁ k (render c₁ e)) = denote (dict c₂ k (render c₂ e))
    ∧ denote (union c₁ [render c₁ e, render c₁ e']) = denote (union c₂ [render c₂ e, render c₂ e'])
    ∧ denote (iterable c₁ n) = denote (iterable c₂ n)
    ∧ denote (asyncIterable c₁ n) = denote (asyncIterable c₂ n)
    ∧ denote (asyncIterator c₁ n) = denote (asyncIterator c₂ n) := by
  refine ⟨denote_agree c₁ c₂ (.optional e) (by simpa [Ty.valid] using hv),
    denote_agree c₁ c₂ (.list e) (by simpa [Ty.valid] using hv),
    denote_agree c₁ c₂ (.dict k e) (by simp [Ty.valid, hk, hv]),
    denote_agree c₁ c₂ (.union e e') (by simp [Ty.valid, hv, hv']),
    denote_agree c₁ c₂ (.iterable n) (by simpa [Ty.valid] using hn),
    denote_agree c₁ c₂ (.asyncIterable n) (by simpa [Ty.valid] using hn),
    denote_agree c₁ c₂ (.asyncIterator n) (by simpa [Ty.valid] using hn)⟩

/-- typing.root writes exactly what typing.direct writes with `typing.` in front —
    for **all** argument strings, well formed or not -/
theorem root_is_prefixed_direct (t k : Str) (ts : List Str) :
    optional .root t = "typing.".toList ++ optional .direct t
    ∧ list .root t = "typing.".toList ++ list .direct t
    ∧ dict .root k t = "typing.".toList ++ dict .direct k t
    ∧ union .root ts = "typing.".toList ++ union .direct ts
    ∧ iterable .root t = "typing.".toList ++ iterable .direct t
    ∧ asyncIterable .root t = "typing.".toList ++ asyncIterable .direct t
    ∧ asyncIterator .root t = "typing.".toList ++ asyncIterator .direct t := by
  simp only [Typing.optional, Typing.list, Typing.dict, Typing.union, Typing.iterable, Typing.asyncIterable,
    Typing.asyncIterator, pre, List.append_assoc, List.nil_append, and_self]

/-- non-vacuity: a repeated proto3-optional wrapper-like nesting over a cross-package
    reference — the three texts differ, the denoted type is one -/
example :
    render .direct (.dict "str".toList (.optional (.ref "a.Foo".toList))) = "Dict[str, Optional[\"a.Foo\"]]".toList
    ∧ render .c310 (.dict "str".toList (.optional (.ref "a.Foo".toList))) = "\"dict[str, a.Foo | None]\"".toList := by
  decide +kernel

/-! ## 2. every template site is well quoted -/

/-- **"the generated package imports without error" — the part that is string algebra:**
    at every annotation position of the service templates, under every typing compiler,
    for all message type names, the emitted text is a well-formed sequence of complete
    string literals and code (no `""X""`).  This is about the template *with* the D07
    repair (`.strip('"')` at the two streaming stub positions). -/
theorem annotation_wellquoted (c : Compiler) (s : Site) (tin tout : Str)
    (h1 : validName tin = true) (h2 : validName tout = true) :
    wellQuoted (siteText c tin tout s) = true := by
  have q1 := noQ_of_valid tin h1
  have q2 := noQ_of_valid tout h2
  have n1 := ne_nil_of_valid tin h1
  have n2 := ne_nil_of_valid tout h2
  cases s with
  | stubUnaryParam => exact wq_quoted _ n1 q1
  | stubIterParam => exact wq_strip_site c (.union (.asyncIterable tin) (.iterable tin)) (and_true_of h1 h1) rfl
  | stubTimeout => simp only [siteText]; cases c <;> decide
  | stubDeadline => simp only [siteText]; cases c <;> decide
  | stubMetadata => simp only [siteText]; cases c <;> decide
  | stubReturnUnary => exact wq_quoted _ n2 q2
  | stubReturnStream => exact wq_strip_site c (.asyncIterator tout) h2 rfl
  | baseUnaryParam => exact wq_quoted _ n1 q1
  | baseIterParam => exact wq_render c (.asyncIterator tin) h1
  | baseReturnUnary => exact wq_quoted _ n2 q2
  | baseReturnStream => exact wq_render c (.asyncIterator tout) h2
  | rpcStream =>
    apply wq_quoted
    · simp
    · simp only [noQ_append, q1, q2, Bool.and_true, Bool.and_eq_true]
      decide
  | mappingReturn => simp only [siteText]; cases c <;> decide

/-- the field positions (`name: <annotation> = betterproto.…`): whatever the field's
    type expression, every compiler's annotation is well quoted -/
theorem field_annotation_wellquoted (c : Compiler) (e : Ty) (hv : e.valid = true) :
    wellQuoted (render c e) = true :=
  wq_render c e hv

/-- D07 (the template before the repair): the full statement above was FALSE for
    typing.310 at the two streaming stub positions — `""AsyncIterator[Rep]""` and
    `""AsyncIterable[Req] | Iterable[Req]""`, a SyntaxError in the generated module. -/
theorem d07_prefix_not_wellquoted :
    wellQuoted (siteTextPre .c310 "Req".toList "Rep".toList .stubReturnStream) = false
    ∧ wellQuoted (siteTextPre .c310 "Req".toList "Rep".toList .stubIterParam) = false
    ∧ siteTextPre .c310 "Req".toList "Rep".toList .stubReturnStream = "\"\"AsyncIterator[Rep]\"\"".toList := by
  decide +kernel

/-- the repair changes nothing for typing.direct / typing.root (their output carries no
    quotes to strip), and nothing at the other eleven positions -/
theorem d07_fix_is_local (c : Compiler) (s : Site) (tin tout : Str)
    (h1 : validName tin = true) (h2 : validName tout = true)
    (h : c ≠ .c310 ∨ (s ≠ .stubIterParam ∧ s ≠ .stubReturnStream)) :
    siteTextPre c tin tout s = siteText c tin tout s := by
  cases s <;> try rfl
  · -- stubIterParam
    have hc : c ≠ .c310 := by rcases h with h | h <;> simp at h; exact h
    show quoted _ = quoted (stripQ _)
    exact congrArg quoted (stripQ_noQ _ (noQ_render hc (.union (.asyncIterable tin) (.iterable tin)) (and_true_of h1 h1) rfl)).symm
  · -- stubReturnStream
    have hc : c ≠ .c310 := by rcases h with h | h <;> simp at h; exact h
    show quoted _ = quoted (stripQ _)
    exact congrArg quoted (stripQ_noQ _ (noQ_render hc (.asyncIterator tout) h2 rfl)).symm

/-! ## 3. field metadata does not depend on the configuration -/

/-- `get_field_string` = name, annotation, and a `betterproto.<type>_field(<number>, …)`
    call; the call (constructor, number, wraps, optional, group, map key/value types)
    is the same text under every typing compiler -/
theorem metadata_config_independent (c₁ c₂ : Compiler) (pydantic : Bool) (fd : FieldDesc) :
    ∃ call : Str,
      fieldString c₁ pydantic fd = fd.pyName ++ ": ".toList ++ annotation c₁ pydantic fd ++ " = ".toList ++ call
      ∧ fieldString c₂ pydantic fd = fd.pyName ++ ": ".toList ++ annotation c₂ pydantic fd ++ " = ".toList ++ call
      ∧ call = fieldCall pydantic fd :=
  ⟨fieldCall pydantic fd, rfl, rfl, rfl⟩

/-- … and the annotations of any two compilers denote the same type (so the resolved
    type hints agree) -/
theorem annotation_agree (c₁ c₂ : Compiler) (pydantic : Bool) (fd : FieldDesc)
    (hv : (annotationTy pydantic fd).valid = true) :
    denote (annotation c₁ pydantic fd) = denote (annotation c₂ pydantic fd) :=
  denote_agree c₁ c₂ _ hv

/-- the pydantic variant passes the same arguments as the standard one except for
    `optional=True`: same wraps, same group, same map key/value types, same order -/
theorem pydantic_only_adds_optional (fd : FieldDesc) :
    (fieldArgs true fd).filter (· != argOptional) = (fieldArgs false fd).filter (· != argOptional) := by
  unfold fieldArgs
  by_cases hm : fd.isMap = true
  · simp [hm]
  · simp only [hm, if_false, Bool.false_eq_true]
    simp only [List.filter_append]
    congr 1
    congr 1
    by_cases h1 : effOptional true fd = true <;> by_cases h2 : effOptional false fd = true <;>
      simp [h1, h2]

/-- … and it adds it only to members of a real oneof; every other field gets the same
    arguments and the same type expression -/
theorem pydantic_same_outside_oneof (fd : FieldDesc) (h : fd.group = none) :
    fieldArgs true fd = fieldArgs false fd ∧ annotationTy true fd = annotationTy false fd := by
  simp [fieldArgs, annotationTy, effOptional, h]

/-- the number and the field constructor never change -/
theorem pydantic_same_number_and_type (fd : FieldDesc) :
    ∃ args₁ args₂ : List Str,
      fieldCall true fd = "betterproto.".toList ++ (if fd.isMap then "map".toList else fd.fieldType) ++ "_field(".toList
          ++ joinSep ", ".toList (natStr fd.number :: args₁) ++ ")".toList
      ∧ fieldCall false fd = "betterproto.".toList ++ (if fd.isMap then "map".toList else fd.fieldType) ++ "_field(".toList
          ++ joinSep ", ".toList (natStr fd.number :: args₂) ++ ")".toList :=
  ⟨_, _, rfl, rfl⟩

/-! ## 4. `optional=True` on a oneof member does not change the bytes -/

/-- the field description the pydantic variant produces for a oneof member -/
def markOptional (f : FieldD) : FieldD := { f with optional := true }

/-- **"for identical field values the classes encode to identical bytes"** — the wire
    model's per-field encoder gives the same bytes for a oneof member whether or not it
    is additionally marked optional, for every value a member can hold (scalars, enums,
    strings, bytes, messages, Timestamp/Duration, wrappers, `None`) -/
theorem dump_invariant_under_optional_members (S : Schema) (f : FieldD) (hid sel : Bool) (v : Val)
    (hg : f.group.isSome = true) (hv : v ≠ .ph)
    (hl : ∀ xs, v ≠ .list xs) (hd : ∀ ks vs, v ≠ .dict ks vs) :
    dumpSlot S (markOptional f) hid sel v = dumpSlot S f hid sel v := by
  cases v with
  | ph => exact absurd rfl hv
  | list xs => exact absurd rfl (hl xs)
  | dict ks vs => exact absurd rfl (hd ks vs)
  | none => simp [dumpSlot]
  | msg c sl ow unk cur => simp [dumpSlot, markOptional, hg]
  | _ => simp [dumpSlot, markOptional, hg]

/-- an unselected member contributes no bytes in either variant (standard: PLACEHOLDER,
    attribute hidden; pydantic: `None`) -/
theorem unset_member_no_bytes (S : Schema) (f : FieldD) (hid sel : Bool) :
    dumpSlot S f true sel .ph = .ok [] ∧ dumpSlot S (markOptional f) hid sel .none = .ok [] := by
  constructor <;> simp [dumpSlot]

/-! ## 5. the dispatch rendered through the real template is option independent -/

def eraseOpt (r : Gen.StubRow) : Gen.StubRow := { r with opt := "" }

def rowsOf (o : String) : List Gen.StubRow := (Gen.stubTable.filter (·.opt == o)).map eraseOpt

/-- `Gen/StubTable.lean` (regenerated from the working tree on every run): under each of
    the six option sets the plugin output parses, and the stub / base / `__rpc_*` /
    `__mapping__` rows of the probe service are identical to those of the default
    configuration -/
theorem dispatch_independent_of_options :
    Gen.stubOptionSets.all (fun o => rowsOf o == rowsOf "direct" && (rowsOf o).length == 4) = true
    ∧ Gen.stubTable.all (·.ok) = true := by
  decide +kernel

end Bp.C18
