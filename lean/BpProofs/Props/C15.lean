import BpModel.All
import BpProofs.Varint   -- nothing of Varint is used; it brings Mathlib's algebraic `^` into scope, with which `ts_frac_exact` is stated
import BpProofs.TimeArith
/-
  C15 — Timestamp/Duration <-> datetime/timedelta conversion is exact and normalised.
  A datetime is an `Int` count of microseconds since the epoch (aware datetimes of any
  time zone denote such an instant: `dt - DATETIME_ZERO` is time-zone independent), a
  timedelta an `Int` count of microseconds.  All theorems hold for EVERY integer; the
  Python ranges (years 1..9999, ±999999999 days) only bound what `datetime` can hold.
  Model of the code after the D02 / D03 repairs (integer arithmetic).
  (seconds, nanos) of a Timestamp is the FLOOR division of the nanosecond count by 10^9, of a Duration its
  TRUNCATING division (`TimeArith.tsSplit_eq`, `durSplit_eq`, BpProofs/TimeArith.lean): normal form, exactness
  and uniqueness are core's characterisations of the two divisions.
-/
namespace Bp.C15
open Bp

/-- **Timestamp nanos are normalised**: 0 ≤ nanos < 10^9, also before the epoch -/
theorem ts_norm (us : Int) : 0 ≤ (tsSplit us).2 ∧ (tsSplit us).2 < 1000000000 := by
  rw [TimeArith.tsSplit_eq]
  exact ⟨Int.emod_nonneg _ (by decide), Int.emod_lt_of_pos _ (by decide)⟩

/-- **exact**: (seconds, nanos) denote exactly the instant, at nanosecond scale -/
theorem ts_exact (us : Int) : (tsSplit us).1 * 1000000000 + (tsSplit us).2 = us * 1000 := by
  rw [TimeArith.tsSplit_eq]
  exact Int.ediv_mul_add_emod _ _

/-- **the pair is the one the reference produces**: the unique (s, n) with
    s·10^9 + n = instant in ns and 0 ≤ n < 10^9 -/
theorem ts_unique (us s n : Int) (h : s * 1000000000 + n = us * 1000) (h0 : 0 ≤ n) (h1 : n < 1000000000) :
    (s, n) = tsSplit us := by
  have := (Int.ediv_emod_unique (by decide)).2 ⟨(Int.add_comm _ _).trans ((Int.mul_comm _ _) ▸ h), h0, h1⟩
  rw [TimeArith.tsSplit_eq, this.1, this.2]

/-- **decodes back to the identical value** -/
theorem ts_roundtrip (us : Int) : tsJoin (tsSplit us).1 (tsSplit us).2 = us := by
  unfold tsJoin
  rw [TimeArith.rem_eq (ts_exact us) (d := 1000000) (k := 1000), Int.mul_ediv_cancel _ (by decide), Int.add_comm,
    Int.sub_add_cancel]

/-- a Timestamp written by anyone with nanosecond precision is truncated to the
    microsecond below (never rounded up into the next second) -/
theorem ts_join_floor (s n : Int) (h0 : 0 ≤ n) (h1 : n < 1000000000) :
    tsJoin s n * 1000 ≤ s * 1000000000 + n ∧ s * 1000000000 + n < tsJoin s n * 1000 + 1000 := by
  unfold tsJoin; omega

/-- **Duration seconds and nanos never have opposite signs**, |nanos| < 10^9 -/
theorem dur_sign (us : Int) :
    let (s, n) := durSplit us
    (0 ≤ s ∧ 0 ≤ n ∨ s ≤ 0 ∧ n ≤ 0) ∧ -1000000000 < n ∧ n < 1000000000 := by
  rw [TimeArith.durSplit_eq]
  exact TimeArith.tdiv_tmod_sign _ (by decide)

/-- **exact** -/
theorem dur_exact (us : Int) : (durSplit us).1 * 1000000000 + (durSplit us).2 = us * 1000 := by
  rw [TimeArith.durSplit_eq]
  exact Int.tdiv_mul_add_tmod _ _

/-- **the pair is the one the reference produces**: the unique (s, n) denoting the span
    with |n| < 10^9 and no sign disagreement -/
theorem dur_unique (us s n : Int) (h : s * 1000000000 + n = us * 1000)
    (hs : 0 ≤ s ∧ 0 ≤ n ∨ s ≤ 0 ∧ n ≤ 0) (h1 : -1000000000 < n ∧ n < 1000000000) :
    (s, n) = durSplit us := by
  rw [TimeArith.durSplit_eq]
  exact TimeArith.tdiv_tmod_unique (by decide) h hs h1

/-- **decodes back to the identical value** -/
theorem dur_roundtrip (us : Int) : durJoin (durSplit us).1 (durSplit us).2 = us := by
  unfold durJoin
  rw [TimeArith.rem_eq (dur_exact us) (d := 1000000) (k := 1000), TimeArith.roundHalfEven1000_mul, Int.add_comm,
    Int.sub_add_cancel]

/-- JSON: the Timestamp fraction has 0, 3 or 6 digits and denotes the microseconds exactly -/
theorem ts_frac_exact (u : Nat) (h : u < 1000000) :
    (tsFrac u = none ∧ u = 0)
    ∨ (∃ nd d, tsFrac u = some (nd, d) ∧ (nd = 3 ∨ nd = 6) ∧ d < 10 ^ nd ∧ d * 10 ^ (6 - nd) = u ∧ u ≠ 0) := by
  unfold tsFrac
  by_cases h0 : u = 0
  · exact Or.inl ⟨if_pos h0, h0⟩
  · rw [if_neg h0]
    by_cases h1 : u % 1000 = 0
    · exact Or.inr ⟨3, u / 1000, if_pos h1, Or.inl rfl, Nat.div_lt_of_lt_mul h,
        Nat.div_mul_cancel (Nat.dvd_of_mod_eq_zero h1), h0⟩
    · exact Or.inr ⟨6, u, if_neg h1, Or.inr rfl, h, Nat.mul_one u, h0⟩

/-- JSON: the Duration string has 3 or 6 fractional digits, is exact, and reading it
    back gives the identical timedelta -/
theorem dur_json_roundtrip (us : Int) :
    ((durJson us).2.2.1 = 3 ∨ (durJson us).2.2.1 = 6)
    ∧ (durJson us).2.2.2 < 10 ^ (durJson us).2.2.1
    ∧ durFromJson (durJson us).1 (durJson us).2.1 (durJson us).2.2.1 (durJson us).2.2.2 = us := by
  have hu : us.natAbs % 1000000 < 1000 * 1000 := Nat.mod_lt _ (by decide)
  by_cases h : us.natAbs % 1000000 % 1000 = 0
  · simp only [durJson, h, if_true]
    refine ⟨Or.inl trivial, Nat.div_lt_of_lt_mul hu, TimeArith.durFromJson_of_natAbs ?_⟩
    -- the three digits, scaled back, are the microseconds
    show _ + us.natAbs % 1000000 / 1000 * (1000 * 1000) / 1000 = _
    rw [← Nat.mul_assoc, Nat.mul_div_cancel _ (by decide), Nat.div_mul_cancel (Nat.dvd_of_mod_eq_zero h),
      Nat.div_add_mod']
  · simp only [durJson, h, if_false]
    refine ⟨Or.inr trivial, hu, TimeArith.durFromJson_of_natAbs ?_⟩
    show _ + us.natAbs % 1000000 * 1000000 / 1000000 = _
    rw [Nat.mul_div_cancel _ (by decide), Nat.div_add_mod']

/-- on the wire: a Timestamp / Duration is the two-field message (int64 seconds #1,
    int32 nanos #2) of exactly that pair -/
theorem ts_wire (us : Int) : tsBytes us = secNanosBytes (tsSplit us).1 (tsSplit us).2 := rfl
theorem dur_wire (us : Int) : durBytes us = secNanosBytes (durSplit us).1 (durSplit us).2 := rfl

/-! non-vacuity: the repaired D02 witnesses -/
example : durSplit (-500000) = (0, -500000000) := by decide +kernel
example : durSplit (-1) = (0, -1000) := by decide +kernel
example : durSplit 315575999999999999 = (315575999999, 999999000) := by decide +kernel
example : tsSplit (-1) = (-1, 999999000) := by decide +kernel
example : durJson 1 = (false, 0, 6, 1) ∧ durJson (-1500000) = (true, 1, 3, 500) := by decide +kernel

end Bp.C15
