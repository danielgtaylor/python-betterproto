import BpModel.Grpc
import BpModel.Gen.StubTable
import BpProofs.Grpc
/-
  C11 — the generated gRPC stub and the generated server base agree.

  Proved here: (1) for the probe service rendered through the *real* template by the
  plugin of the working tree under all six option sets (`Gen/StubTable.lean`, regenerated
  and re-checked on every run): the helper the stub method calls, the Cardinality that
  helper passes to the channel, the Cardinality in `__mapping__`, the way `__rpc_*` reads
  the request and delivers the response, the request/reply classes and the python names
  all agree with each other and with the streaming flags of the descriptor; the default
  body of every base method raises UNIMPLEMENTED; stub and base use the same route string,
  the model's `route` of the proto names; (2) for ALL package / service / method names:
  distinct RPCs have distinct `route`s
  (so the server's route table has exactly one handler per RPC); (3) for all values:
  per-call timeout / deadline / metadata win over the stub-level defaults.

  NOT proved (partial, DESIGN.md §10): that grpclib's transport delivers each message
  once, in order, and carries the status back — observed end to end by harness/props/c11.py.
-/
namespace Bp.C11
open Bp.Grpc Bp.Gen

def lookup3 (h : String) : Option (String × Bool) := (helperCardinality.find? (·.1 == h)).map (·.2)

/-- what one row of the table must satisfy for the two halves of the template to agree -/
def rowAgrees (r : StubRow) : Bool :=
  r.ok
  -- the stub's branch and the client helper it selects
  && r.stubHelper == helperOf r.clientStreaming r.serverStreaming
  -- the Cardinality that helper passes to channel.request = the one in __mapping__ = the flags
  && lookup3 r.stubHelper == some (r.mapCard, true)
  && r.mapCard == mappingCardOf r.clientStreaming r.serverStreaming
  && r.mapCard == cardName (cardOf r.clientStreaming r.serverStreaming)
  -- adapter shapes: how __rpc_* reads the request(s) and delivers the response(s)
  && r.rpcRecv == recvOf r.clientStreaming
  && r.rpcSend == sendOf r.serverStreaming
  -- caller side shape: request iterator parameter iff client streaming, async generator iff server streaming
  && r.stubIterParam == r.clientStreaming && r.baseIterParam == r.clientStreaming
  && r.stubYields == r.serverStreaming && r.baseYields == r.serverStreaming
  -- request / reply classes
  && r.stubRespType == r.mapRespType
  && r.stubReqType == (if r.clientStreaming then r.mapReqType else "")

/-- **"for all four streaming cardinalities" the call reaches a handler of the same
    cardinality with the same request/reply types** — `decide` over the regenerated table:
    6 option sets × 4 flag combinations. -/
theorem stub_base_agree : stubTable.all rowAgrees = true ∧ stubTable.length = 24 := by
  constructor <;> decide +kernel

/-- all four flag combinations occur under every option set (the table is not vacuous) -/
theorem table_covers_all_cardinalities :
    stubOptionSets.all (fun o => [(false, false), (false, true), (true, false), (true, true)].all (fun (cs, ss) =>
      stubTable.any (fun r => r.opt == o && r.clientStreaming == cs && r.serverStreaming == ss))) = true := by
  decide +kernel

/-- **"invokes exactly the handler for the same RPC"**, table part: the route literal in
    the stub call, the key in `__mapping__` and the model's `route` of the proto names are
    one string, and the mapping entry is bound to the `__rpc_*` adapter of the same method,
    which calls the handler of the same method -/
theorem route_agree :
    stubTable.all (fun r => r.stubRoute == r.mapRoute
      && r.mapRoute == String.ofList (route probePackage.toList probeService.toList r.proto.toList)
      && r.mapRpc == r.rpcName && r.rpcCalls == r.baseName) = true := by
  -- with the route as a string no row is decoded into characters and encoded again
  simp only [ofList_route]
  decide +kernel

/-- python-name agreement: the stub method, the base method, the adapter and the mapping
    entry carry the same python name, which is `pythonize_method_name` of the proto name
    as computed by the working tree -/
theorem pyname_agree :
    stubTable.all (fun r => r.stubName == r.baseName && r.rpcName == r.baseName
      && probePyNames.lookup r.proto == some r.stubName) = true := by
  decide +kernel

/-- **distinct RPCs have distinct routes, for all names**: the route determines package,
    service and method, whenever the service names contain neither `.` nor `/` and the
    packages no `/` (protobuf identifiers never do; the method name is unrestricted).
    Hence a route table built from any set of services has exactly one entry per RPC. -/
theorem routes_injective (pkg svc m pkg' svc' m' : Str)
    (hp : '/' ∉ pkg) (hp' : '/' ∉ pkg') (hs : '/' ∉ svc ∧ '.' ∉ svc) (hs' : '/' ∉ svc' ∧ '.' ∉ svc')
    (h : route pkg svc m = route pkg' svc' m') : pkg = pkg' ∧ svc = svc' ∧ m = m' := by
  unfold route at h
  simp only [List.cons.injEq, true_and] at h
  obtain ⟨e1, e2⟩ := split_unique (slash_not_mem_packagePart_append hp hs.1)
    (slash_not_mem_packagePart_append hp' hs'.1) (by simp) (by simp) h
  obtain ⟨e3, e4⟩ := split_package hs.2 hs'.2 e1
  exact ⟨e3, e4, (List.cons.inj e2).2⟩

/-- contrapositive, as the property states it -/
theorem distinct_rpcs_distinct_routes (pkg svc m pkg' svc' m' : Str)
    (hp : '/' ∉ pkg) (hp' : '/' ∉ pkg') (hs : '/' ∉ svc ∧ '.' ∉ svc) (hs' : '/' ∉ svc' ∧ '.' ∉ svc')
    (hne : (pkg, svc, m) ≠ (pkg', svc', m')) : route pkg svc m ≠ route pkg' svc' m' := by
  intro h
  obtain ⟨a, b, c⟩ := routes_injective pkg svc m pkg' svc' m' hp hp' hs hs' h
  exact hne (by rw [a, b, c])

/-- the guard is needed: a dotted "service name" collides with a longer package -/
example : route "a".toList "b.C".toList "M".toList = route "a.b".toList "C".toList "M".toList := by decide +kernel

/-- non-vacuity: the route of the probe's first method -/
example : route "probe.v1".toList "ProbeSvc".toList "UnaryUnary".toList = "/probe.v1.ProbeSvc/UnaryUnary".toList := by
  symm; apply toList_eq_route; rfl

/-- **per-call timeout / deadline / metadata take precedence over the stub-level
    defaults**, for every combination of None / set on both levels and all values -/
theorem kw_precedence {α : Type} (stub call : Kw α) :
    (resolveKw stub call).timeout = (if call.timeout.isSome then call.timeout else stub.timeout)
    ∧ (resolveKw stub call).deadline = (if call.deadline.isSome then call.deadline else stub.deadline)
    ∧ (resolveKw stub call).metadata = (if call.metadata.isSome then call.metadata else stub.metadata) :=
  ⟨resolve_eq _ _, resolve_eq _ _, resolve_eq _ _⟩

/-- … spelled out: a per-call value is what is sent; without one the stub default is sent;
    the three keywords do not influence each other -/
theorem kw_call_wins {α : Type} (d : Option α) (v : α) : resolve d (some v) = some v := rfl
theorem kw_default_used {α : Type} (d : Option α) : resolve d (none : Option α) = d := rfl

/-- every helper forwards exactly the resolved keywords to `channel.request` (table part) -/
theorem helpers_forward_resolved_kwargs :
    helperCardinality.all (fun (_, _, kw) => kw) = true ∧ helperCardinality.length = 4 := ⟨rfl, rfl⟩

/-- the source of `__resolve_request_kwargs` has, for each of the three keywords, exactly
    the shape `self.k if k is None else k` that `resolve` models (read with `ast` on every run) -/
theorem resolve_source_shape :
    resolveShape = [("timeout", true), ("deadline", true), ("metadata", true)] := rfl

/-- **"a method not overridden answers UNIMPLEMENTED"**, static part: under every option
    set the default body of every base method raises
    `grpclib.GRPCError(grpclib.const.Status.UNIMPLEMENTED)` as its first statement, and is
    an async generator exactly when the RPC is server streaming (so the adapter can
    iterate it) -/
theorem unimplemented_default :
    stubTable.all (fun r => r.baseUnimplemented && r.baseYields == r.serverStreaming) = true := by
  decide +kernel

end Bp.C11
