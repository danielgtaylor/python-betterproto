import BpProofs.SrcTieObjObs
/-
  C14 (observers are pure) / C06 (presence) / C01 (`==`), tied to the SOURCE: the raw-slot
  observers `Message.__bool__`, `betterproto.serialized_on_wire`, `Message.is_set` and
  `Message.__eq__` are translated from the Python AST on every run (harness/extract_srcobj.py →
  BpProofs/Gen/SrcObjObs.lean) and proved EQUAL to the model functions (`slotsEqFresh`, `isSet`,
  `slotsEq` / `msgEq`).

  PURITY is in the types: the translator gives an observer a result WITHOUT a state component
  and refuses (Unsupported → this file no longer builds) any write to an object in its body —
  `super().__setattr__`, `x.__dict__[…] = …`, `x._group_current[…] = …`, a call of `getattr`
  (whose translation returns a state), or a call of a method that is not translated.  So
  "`==` / `bool()` / `is_set` / `serialized_on_wire` as written change nothing" holds by
  construction of `Src.msg_eq`, `Src.msg_bool`, `Src.is_set`, `Src.serialized_on_wire`; the
  theorems below say WHAT they compute.

  Reading as in Props/C07Src.lean (a Message instance is an `MState`, a field name its index;
  the meaning of the object-level operations: BpProofs/PyPreludeObj.lean, trusted).
-/
namespace Bp.C14
open Bp Bp.Py Bp.SrcTieObjObs

/-- **`Message.__bool__` as written** is true exactly when some raw slot is neither PLACEHOLDER
    nor equal to its field's default (the negation of the model's `slotsEqFresh`, which is also
    what the model's emission decision for a sub-message uses) — for every schema, class, state -/
theorem src_bool (S : Schema) (fs : List FieldD) (st : MState) :
    Src.msg_bool S fs st = .ok (!slotsEqFresh S fs st.slots) :=
  msg_bool_eq S fs st

/-- **`serialized_on_wire(m)` as written**: the `_serialized_on_wire` flag, or `bool(m)` -/
theorem src_serialized_on_wire (S : Schema) (fs : List FieldD) (st : MState) :
    Src.serialized_on_wire S fs st = .ok (st.onWire || !slotsEqFresh S fs st.slots) :=
  serialized_on_wire_eq S fs st

/-- **`Message.is_set` as written is the model's `isSet`**: the raw slot is not the dataclass
    default (None for an optional field, PLACEHOLDER otherwise).  Guard: the name is a field. -/
theorem src_is_set (S : Schema) (fs : List FieldD) (st : MState) (idx : Nat) (f : FieldD) (hf : fs[idx]? = some f) :
    Src.is_set S fs st idx = .ok (isSet f (st.slots.getD idx .ph)) := by
  unfold Src.is_set isSet
  simp only [metaByFieldName, hf, res_bind_ok, metaOptional, rawGet]
  generalize st.slots.getD idx .ph = v
  by_cases h : f.optional = true
  · cases v <;> simp [isSame, h]
  · have h' : f.optional = false := by simpa using h
    cases v <;> simp [isSame, h']

/-- **`Message.__eq__` as written is the model's field loop `slotsEq`** (NotImplemented for an
    operand of another class): raw slots in declaration order, PLACEHOLDER on both sides skipped,
    PLACEHOLDER on one side replaced by the field default for the comparison only (nothing is
    stored), `_equal_or_both_nan` deciding.  `ne` stands for Python's `!=` on two field values;
    the only assumption on it is `hne`: what it does not report unequal is equal in the sense of
    `_equal_or_both_nan`.  Guards: both instances have one raw slot per field. -/
theorem src_eq (S : Schema) (fs : List FieldD) (ne : Val → Val → Bool) (sameType : Bool) (a b : MState)
    (hne : ∀ x y, ne x y = false → valEq S x y = true)
    (ha : a.slots.length = fs.length) (hb : b.slots.length = fs.length) :
    Src.msg_eq S fs ne sameType a b
      = .ok (if sameType then EqRes.bool (slotsEq S fs a.slots b.slots) else EqRes.notImplemented) :=
  msg_eq_eq S fs ne sameType a b hne ha hb

/-- … hence for two instances of one class `c` the method as written returns the model's `msgEq`
    — the relation C01's `roundtrip_equal` and C14's `copy_is_original` are stated with -/
theorem src_eq_msgEq (S : Schema) (c : Nat) (ne : Val → Val → Bool) (a b : MState)
    (hne : ∀ x y, ne x y = false → valEq S x y = true)
    (ha : a.slots.length = (fieldsOf S c).length) (hb : b.slots.length = (fieldsOf S c).length) :
    Src.msg_eq S (fieldsOf S c) ne true a b = .ok (EqRes.bool (msgEq S (a.toVal c) (b.toVal c))) := by
  rw [msg_eq_eq S _ ne true a b hne ha hb]
  simp [msgEq, MState.toVal, isMsgVal, EqS.valEq_msg_msg]

/-- **`==` as written ignores what a pure observer may not look at**: `_serialized_on_wire`,
    `_unknown_fields` and `_group_current` of either operand -/
theorem src_eq_ignores_bookkeeping (S : Schema) (fs : List FieldD) (ne : Val → Val → Bool) (sameType : Bool)
    (a b a' b' : MState) (hne : ∀ x y, ne x y = false → valEq S x y = true)
    (ha : a.slots.length = fs.length) (hb : b.slots.length = fs.length)
    (hsa : a'.slots = a.slots) (hsb : b'.slots = b.slots) :
    Src.msg_eq S fs ne sameType a' b' = Src.msg_eq S fs ne sameType a b := by
  rw [msg_eq_eq S fs ne sameType a b hne ha hb, msg_eq_eq S fs ne sameType a' b' hne (by rw [hsa]; exact ha) (by rw [hsb]; exact hb),
    hsa, hsb]

/-! non-vacuity: the translated observers on closed inputs (class {a : int32 (oneof), b : string (oneof), o : optional int32}) -/
def SO : Schema := [{ fields := [{ name := "a", num := 1, ty := .int32, group := some 0 },
                                  { name := "b", num := 2, ty := .string, group := some 0 },
                                  { name := "o", num := 3, ty := .int32, optional := true }], nGroups := 1 }]
def stO : MState := { slots := [.int 0, .ph, .none], onWire := false, unknown := [], cur := [some 0] }
def stP : MState := { slots := [.ph, .ph, .int 0], onWire := true, unknown := [1], cur := [Option.none] }
example : Src.msg_bool SO (fieldsOf SO 0) stO = .ok false := by decide +kernel
example : Src.msg_bool SO (fieldsOf SO 0) stP = .ok true := by decide +kernel
example : Src.serialized_on_wire SO (fieldsOf SO 0) stO = .ok false := by decide +kernel
example : Src.is_set SO (fieldsOf SO 0) stO 0 = .ok true ∧ Src.is_set SO (fieldsOf SO 0) stO 2 = .ok false
    ∧ Src.is_set SO (fieldsOf SO 0) stP 2 = .ok true := by decide +kernel
example : Src.msg_eq SO (fieldsOf SO 0) (fun x y => !valEq SO x y) true stO stO = .ok (.bool true) := by decide +kernel
example : Src.msg_eq SO (fieldsOf SO 0) (fun x y => !valEq SO x y) true stO stP = .ok (.bool false) := by decide +kernel
example : Src.msg_eq SO (fieldsOf SO 0) (fun x y => !valEq SO x y) false stO stO = .ok .notImplemented := by decide +kernel

end Bp.C14
