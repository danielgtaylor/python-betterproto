import BpProofs.SrcTie
import BpProofs.SrcTieDump
import BpProofs.Props.C16
import BpProofs.Props.C09
import BpProofs.Len
/-
  C09, tied to the SOURCE: `__len__` is a second, hand-duplicated copy of the serialisation
  walk.  The arithmetic both copies are built from — `size_varint` against `encode_varint`,
  the key of every wire-type branch of `_len_single` against the key written by
  `_serialize_single`, the length prefix of a length-delimited field — is translated from
  the Python AST of the working tree on every run (BpProofs/Gen/SrcCodec.lean) and proved to
  agree pairwise, for every field number and every payload.

  The WALK itself — the body of the field loop of `__len__`, a hand-made copy of the body of
  the field loop of `dump` (skip on AttributeError / None, the skip test against the default,
  packed list / one record per item `or 2` / map entries / single value) — is translated too
  (harness/extract_srcdump.py → BpProofs/Gen/SrcDump.lean, `Src.len_field` / `Src.dump_field`)
  and proved equal to the model's `lenSlot` / `dumpSlot` (`src_len_field`); the two translated
  copies agree on every field, every value, both flags (`src_field_len_agrees`).
-/
namespace Bp.C09
open Bp Bp.Py

/-- `size_varint(v)` as written is the length of `encode_varint(v)` as written, for every integer -/
theorem src_size_is_encoded_length (v : Int) (fuel : Nat) (hf : v.natAbs + 2 ^ 64 < fuel) :
    Src.size_varint fuel v = (Src.encode_varint fuel v).bind fun bs => .ok ((bs.length : Nat) : Int) := by
  rw [SrcTie.size_varint_eq, SrcTie.encode_varint_eq v fuel hf, C16.size_eq]
  cases dumpVarint v <;> rfl

/-- varint-typed field: `_len_single` adds exactly the length of the key `_serialize_single` writes -/
theorem src_key_len_varint (num fuel : Nat) (size : Int) (hf : num * 8 + 2 ^ 64 < fuel) :
    Src.len_key_varint fuel (num : Int) size =
      (Src.serialize_key_varint fuel (num : Int)).bind fun key => .ok (size + ((key.length : Nat) : Int)) := by
  rw [SrcTie.len_key_varint_eq, SrcTie.serialize_key_varint_eq num fuel hf, C16.size_eq]
  cases dumpVarint ((num * 8 : Nat) : Int) <;> rfl

/-- fixed32-typed field -/
theorem src_key_len_fixed32 (num fuel : Nat) (size : Int) (hf : num * 8 + 5 + 2 ^ 64 < fuel) :
    Src.len_key_fixed32 fuel (num : Int) size =
      (Src.serialize_key_fixed32 fuel (num : Int)).bind fun key => .ok (size + ((key.length : Nat) : Int)) := by
  rw [SrcTie.len_key_fixed32_eq, SrcTie.serialize_key_fixed32_eq num fuel hf, C16.size_eq]
  cases dumpVarint ((num * 8 + 5 : Nat) : Int) <;> rfl

/-- fixed64-typed field -/
theorem src_key_len_fixed64 (num fuel : Nat) (size : Int) (hf : num * 8 + 1 + 2 ^ 64 < fuel) :
    Src.len_key_fixed64 fuel (num : Int) size =
      (Src.serialize_key_fixed64 fuel (num : Int)).bind fun key => .ok (size + ((key.length : Nat) : Int)) := by
  rw [SrcTie.len_key_fixed64_eq, SrcTie.serialize_key_fixed64_eq num fuel hf, C16.size_eq]
  cases dumpVarint ((num * 8 + 1 : Nat) : Int) <;> rfl

/-- length-delimited field, emitting branch: when `_len_single` is handed the length of the
    preprocessed value, it returns exactly the length of what `_serialize_single` appends
    (`key + varint(len(value)) + value`) -/
theorem src_lendelim_len (num fuel : Nat) (value output : Bytes)
    (hf : num * 8 + 2 + value.length + 2 ^ 64 < fuel) :
    Src.len_lendelim fuel (num : Int) ((value.length : Nat) : Int) =
      (Src.serialize_lendelim fuel (num : Int) value output).bind fun out =>
        .ok (((out.length - output.length : Nat)) : Int) := by
  rw [SrcTie.len_lendelim_eq, SrcTie.serialize_lendelim_eq num fuel value output hf, C16.size_eq, C16.size_eq]
  cases dumpVarint ((num * 8 + 2 : Nat) : Int) with
  | error e => rfl
  | ok k =>
    cases dumpVarint ((value.length : Nat) : Int) with
    | error e => rfl
    | ok l =>
      simp only [Except.map, Except.bind, Py.ofR, Res.bind, List.length_append]
      congr 1
      omega

/-- **the whole framing of a field, as written**: everything `_serialize_single` does after
    `_preprocess_single` is the model's `frame` — which key, whether a length prefix, and the
    emission test `len(value) or serialize_empty or wraps` -/
theorem src_serialize_frame (num fuel : Nat) (t : PType) (value : Bytes) (se wraps : Bool)
    (hf : num * 8 + 5 + value.length + 2 ^ 64 < fuel) :
    Src.serialize_frame fuel (num : Int) t value se wraps = Py.ofR (frame num t value se wraps) :=
  SrcTie.serialize_frame_eq num fuel t value se wraps hf

/-- … and everything `_len_single` does after `_len_preprocessed_single` is the model's `lenFrame` -/
theorem src_len_frame (num fuel : Nat) (t : PType) (size : Nat) (se wraps : Bool) :
    Src.len_frame fuel (num : Int) t (size : Int) se wraps =
      Py.ofR ((lenFrame num t size se wraps).map fun (n : Nat) => (n : Int)) :=
  SrcTie.len_frame_eq num fuel t size se wraps

/-- **`_len_single` and `_serialize_single` as written agree on every field**: for every field
    number, proto type, preprocessed value and flag combination, the framing of `_len_single`
    applied to `len(value)` returns the length of what the framing of `_serialize_single`
    returns for `value`, and the two raise together -/
theorem src_frame_len_agrees (num fuel : Nat) (t : PType) (value : Bytes) (se wraps : Bool)
    (hf : num * 8 + 5 + value.length + 2 ^ 64 < fuel) :
    Src.len_frame fuel (num : Int) t ((value.length : Nat) : Int) se wraps =
      (Src.serialize_frame fuel (num : Int) t value se wraps).bind fun out => .ok ((out.length : Nat) : Int) := by
  rw [src_len_frame, src_serialize_frame num fuel t value se wraps hf, lenFrame_eq]
  cases frame num t value se wraps <;> rfl

/-- **the per-field size computation of `Message.__len__` as written is the model's `lenSlot`**:
    for every field descriptor, every raw slot value, both flags and every running total, one
    iteration of the field loop adds exactly `lenSlot S f hid sel v` and raises exactly when it
    raises.  Same reading and guards as `C06.src_dump_field`. -/
theorem src_len_field (S : Schema) (hS : WfSchemaOpt S) (f : FieldD) (hid sel : Bool) (v : Val) (size : Int)
    (hok : SrcTieDump.dynOk f v = true) :
    Src.len_field S (dumpVal S) f (Py.getattrField S f hid v) sel size
      = Py.ofR ((lenSlot S f hid sel v).map fun (n : Nat) => size + (n : Int)) :=
  SrcTieDump.len_field_eq S hS f hid sel v size hok

/-- **the two hand-duplicated loop bodies as written agree**: on every field, every value and
    both flags, the iteration of `__len__` adds to `size` exactly the number of bytes the
    iteration of `dump` appends to the stream, and raises the same exception when that raises
    (`SrcTieDump.len_field_agrees`: `len_field` is `dump_field` with the bytes counted) -/
theorem src_field_len_agrees (S : Schema) (hS : WfSchemaOpt S) (f : FieldD) (hid sel : Bool) (v : Val)
    (stream : Bytes) (size : Int) (hok : SrcTieDump.dynOk f v = true) :
    Src.len_field S (dumpVal S) f (Py.getattrField S f hid v) sel size =
      (Src.dump_field S (dumpVal S) f (Py.getattrField S f hid v) sel stream).bind fun out =>
        .ok (size + ((out.length - stream.length : Nat) : Int)) :=
  SrcTieDump.len_field_agrees S hS f hid sel v stream size hok

/-! non-vacuity: the repaired D01 witness on the translated loop bodies — an optional string set
    to "" is written as two bytes and counted as two -/
def fOptStr : FieldD := { name := "s", num := 1, ty := .string, optional := true }
example : Src.dump_field [] (dumpVal []) fOptStr (Py.getattrField [] fOptStr false (.str [])) false [] = .ok [10, 0] := by decide +kernel
example : Src.len_field [] (dumpVal []) fOptStr (Py.getattrField [] fOptStr false (.str [])) false 5 = .ok 7 := by decide +kernel

end Bp.C09
