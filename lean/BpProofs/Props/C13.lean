import BpModel.Importing
import BpProofs.Importing
import BpProofs.ImportingParse
import BpProofs.ImportingAlias
import BpProofs.ImportingAliasFast
/-
  C13 — Cross-package type references in generated code resolve to the right class.

  Property statements live here (and `objOf_inj`, a step of `alias_determines_package`); the lemmas are in
  BpProofs/Importing*.lean.

  Model (BpModel/Importing.lean): `getTypeReference package sourceType unwrap pydantic`
  returns the reference (`Ref`, rendered verbatim as the string the real function returns)
  and the import it adds (`Import`, rendered verbatim).  `Import.bind cur` is the (name,
  object) the statement binds when executed in the module `<root>.<cur>`; `denote cur b ref`
  is what the forward-reference string evaluates to in that module: `(module, class name)`.
  `classOf ty` is the class name the plugin gives the (nested) type `ty`;
  `fullName pkg ty` is protoc's `.pkg.Outer.Inner`.

  Packages are arbitrary lists of segments: any depth, any relative position (same,
  ancestor, descendant, sibling, cousin, the root package `[]`) — there is no bound.

  Guards (decidable, evaluated by the driver: `WF pkgok`, `WF typeok`, `WF simplepkg`):
    pkgOk p    every segment is non-empty, made of identifier characters, without capitals
    typeOk ty  every part of the type name begins with a capital letter
  Both are forced by the regex of parse_source_type_name (D19 outside them).

  "… when many such references coexist in one module" (last part of the file):
  `aliases_injective` — ALL pairs of import kinds (child / descendant / ancestor / root /
  cousin / unrelated / bundled well-known types): two imports of one module that bind the
  same name bind the same object; `alias_determines_package`; `all_at_once` — in the
  namespace built by all the imports of a module every reference denotes the class of ITS
  package.  Guard `Site.ok cur pydantic` (decidable): `simplePkg` target (D20 outside), not a
  package `betterproto…`, and not the one package `<cur>.betterproto.lib[.pydantic].google.protobuf`
  — `alias_collision_bundled_witness`: that descendant and the bundled well-known types get
  the same alias although no segment contains `_` (a collision beyond D20).

  A closed instance (witness, `example`) is evaluated by the kernel in three moves: `rw [f_fast]` takes
  the model functions to their cheap twins (BpProofs/ImportingFast.lean, proved equal once);
  `delta str pkg; repeat rw [String.toList_ofList]` turns every `"…".toList` of the statement into the
  list of its characters (BpProofs/Lit.lean); `decide +kernel`.
-/
namespace Bp.C13
open Bp.Casing Bp.Naming Bp.Importing

abbrev str (s : String) : List Char := s.toList

/-- packages given as a dotted string, for readable witnesses -/
abbrev pkg (s : String) : Pkg := splitPkg s.toList

/-- **"For any two proto packages in any relative position … a field, map value, oneof member
    or RPC type that refers to a message, nested message or enum of the other package
    resolves … to exactly the class generated for that type."**
    For ALL package paths `cur`, `tgt` and all (nested) type names: the reference string
    returned for `.tgt.Type` in the module of `cur`, evaluated in that module after its
    import statement has run, is the class `classOf ty` of module `<root>.<tgt>`.
    (`tgt` = google.protobuf is the well-known-type case below; a package called
    `betterproto…` would be taken for the runtime library.) -/
theorem reference_resolves (cur tgt : Pkg) (ty : List Str) (unwrap pydantic : Bool)
    (hc : pkgOk cur = true) (ht : pkgOk tgt = true) (hty : typeOk ty = true)
    (hg : tgt ≠ googleProtobuf) (hb : tgt.take 1 ≠ [str "betterproto"]) :
    let r := getTypeReference (dotted cur) (fullName tgt ty) unwrap pydantic
    denote cur (r.imp.bind cur) r.ref = some (.gen tgt, classOf ty) := by
  have hseg : ∀ s ∈ tgt, isClassName s = false ∧ s ≠ [] := fun s hs =>
    have h := List.all_eq_true.1 ht s hs
    ⟨segOk_not_class h, segOk_ne_nil h⟩
  simp only [getTypeReference_fullName cur tgt ty unwrap pydantic hc ht hty hg]
  exact refCore_resolves cur tgt (classOf ty) hseg hb (classOf_isClassName ty hty)

/-- **"Well-known types resolve to betterproto's bundled google.protobuf classes."**
    From every package other than google.protobuf itself, a reference to
    `.google.protobuf.<Name>` that is not unwrapped (RPC types; `unwrap = False`) denotes
    the class `<Name>` of the absolute module `betterproto.lib[.pydantic].google.protobuf`. -/
theorem wkt_resolves_to_bundled (cur : Pkg) (name : Str) (pydantic : Bool)
    (hc : pkgOk cur = true) (hcur : cur ≠ googleProtobuf) (hn : tyPartOk name = true) :
    let r := getTypeReference (dotted cur) (fullName googleProtobuf [name]) false pydantic
    denote cur (r.imp.bind cur) r.ref
      = some (.abs ([str "betterproto", str "lib"] ++ (if pydantic then [str "pydantic"] else []) ++ googleProtobuf),
              pythonizeClassName name) := by
  have hty : typeOk [name] = true := by simp [typeOk, hn]
  have e : getTypeReference (dotted cur) (fullName googleProtobuf [name]) false pydantic
      = referenceAbsolute (bundled pydantic) (pythonizeClassName name) := by
    rw [getTypeReference_false cur googleProtobuf [name] pydantic hc pkgOk_googleProtobuf hty, refCore_redirect,
      if_pos ⟨rfl, hcur⟩, ← classOf_eq]
    rfl
  simp only [e]
  exact absolute_resolves cur _ _

/-- fields of the unwrapped well-known types are not references at all: Timestamp, Duration and (two of)
    the wrappers become `datetime`, `timedelta`, `Optional[<scalar>]` — evaluated instances; every row of
    the wrapper table, for every package: `src_wrapper_unwraps` (Props/C13SrcParse.lean) -/
theorem wkt_unwrapped :
    (getTypeReference (str "a.b") (str ".google.protobuf.Timestamp") true false).ref = .builtin (str "datetime") ∧
    (getTypeReference (str "a.b") (str ".google.protobuf.Duration") true false).ref = .builtin (str "timedelta") ∧
    (getTypeReference (str "a.b") (str ".google.protobuf.Int32Value") true false).ref = .builtin (str "Optional[int]") ∧
    (getTypeReference (str "") (str ".google.protobuf.StringValue") true true).ref = .builtin (str "Optional[str]") := by
  rw [getTypeReference_fast]
  delta str pkg
  repeat rw [String.toList_ofList]
  decide +kernel

/-! ## "also … when many such references coexist in one module"

  FULL STATEMENT (false of the code, D20): two different targets never bind the same name
  in one module:   tgt₁ ≠ tgt₂ → boundName cur (ref cur tgt₁) ≠ boundName cur (ref cur tgt₂).
  First the descendant case under the guard "no segment contains `_`" and the D20 witnesses;
  then (section "all pairs of kinds") the full statement under `Site.ok`. -/

/-- descendant packages imported into one module get pairwise different names when no
    segment contains an underscore -/
theorem descendant_aliases_injective_partial (cur t1 t2 : Pkg) (ty1 ty2 : Str)
    (h1 : t1.take cur.length = cur) (n1 : t1 ≠ cur) (h2 : t2.take cur.length = cur) (n2 : t2 ≠ cur)
    (s1 : ∀ s ∈ t1, s ≠ [] ∧ '_' ∉ s) (s2 : ∀ s ∈ t2, s ≠ [] ∧ '_' ∉ s)
    (hb : boundName cur (referenceDescendent cur t1 ty1) = boundName cur (referenceDescendent cur t2 ty2)) :
    t1 = t2 := by
  rw [boundName_descendent cur t1 ty1 h1 n1 (fun s hs => (s1 s hs).1),
    boundName_descendent cur t2 ty2 h2 n2 (fun s hs => (s2 s hs).1)] at hb
  -- without `_` inside a segment, the `_`-join is split back into the segments below `cur`
  have r1 := splitOn_joinWith '_' _ (drop_ne_nil_of_take h1 n1) (fun w hw => (s1 w (List.mem_of_mem_drop hw)).2)
  have r2 := splitOn_joinWith '_' _ (drop_ne_nil_of_take h2 n2) (fun w hw => (s2 w (List.mem_of_mem_drop hw)).2)
  rw [Option.some.inj hb, r2] at r1
  rw [← append_drop_of_take h1, ← append_drop_of_take h2, r1]

/-- D20 witnesses (replayed on really generated packages): with an underscore in a segment
    two different packages are bound to one name in the same module — from the root package
    `a.b.c` and `a.b_c` (descendants), from `x` the cousins `d.e` and `d_e`. -/
theorem alias_collision_descendant_witness :
    pkg "a.b.c" ≠ pkg "a.b_c" ∧
    boundName [] (getTypeReference (str "") (str ".a.b.c.Msg") true false)
      = boundName [] (getTypeReference (str "") (str ".a.b_c.Msg") true false) := by
  rw [getTypeReference_fast, boundName_fast]
  delta str pkg
  repeat rw [String.toList_ofList]
  decide +kernel

theorem alias_collision_cousin_witness :
    pkg "d.e" ≠ pkg "d_e" ∧
    boundName (pkg "x") (getTypeReference (str "x") (str ".d.e.Msg") true false)
      = boundName (pkg "x") (getTypeReference (str "x") (str ".d_e.Msg") true false) := by
  rw [getTypeReference_fast, boundName_fast]
  delta str pkg
  repeat rw [String.toList_ofList]
  decide +kernel

/-- the same without any underscore: a digit-letter boundary inside a segment
    (`x2y` vs `x2.y`) — `safe_snake_case` splits words there -/
theorem alias_collision_digit_witness :
    pkg "x2y" ≠ pkg "x2.y" ∧
    boundName (pkg "q") (getTypeReference (str "q") (str ".x2y.Msg") true false)
      = boundName (pkg "q") (getTypeReference (str "q") (str ".x2.y.Msg") true false) := by
  rw [getTypeReference_fast, boundName_fast]
  delta str pkg
  repeat rw [String.toList_ofList]
  decide +kernel

/-! ## D19: outside the guards the reference is wrong -/

/-- package `Cap` (capitalised), message `X`, referenced from the root package: parsed as the
    type `Cap.X` of no package, i.e. a sibling class `CapX` of the current module -/
theorem capitalised_package_witness :
    pkgOk (pkg "Cap") = false ∧
    (let r := getTypeReference (str "") (fullName (pkg "Cap") [str "X"]) true false
     denote [] (r.imp.bind []) r.ref = some (.gen [], str "CapX")) := by
  rw [getTypeReference_fast, bind_fast, pkgOk_fast]
  delta str pkg
  repeat rw [String.toList_ofList]
  decide +kernel

/-- message `lower` with nested message `inner` in package `a`, referenced from `a`:
    parsed as type `inner` of the (non-existent) package `a.lower` -/
theorem lower_case_type_witness :
    typeOk [str "lower", str "inner"] = false ∧
    (let r := getTypeReference (str "a") (fullName (pkg "a") [str "lower", str "inner"]) true false
     denote (pkg "a") (r.imp.bind (pkg "a")) r.ref = some (.gen (pkg "a.lower"), str "Inner")) ∧
    classOf [str "lower", str "inner"] = str "LowerInner" := by
  rw [getTypeReference_fast, bind_fast, typeOk_fast, classOf_fast]
  delta str pkg
  repeat rw [String.toList_ofList]
  decide +kernel

/-! ## non-vacuity: one instance of every case, with the verbatim strings -/

example : pkgOk (pkg "a.b_c.v1") = true ∧ typeOk [str "Msg", str "Inner"] = true := by
  rw [pkgOk_fast, typeOk_fast]
  delta str pkg
  repeat rw [String.toList_ofList]
  decide +kernel
example : (getTypeReference (str "a.b") (str ".a.b.Msg") true false).ref.render = str "\"Msg\"" := by
  rw [getTypeReference_fast]
  delta str pkg
  repeat rw [String.toList_ofList]
  decide +kernel
example : let r := getTypeReference (str "a") (str ".a.b.c.Msg.Inner") true false
    r.ref.render = str "\"b_c.MsgInner\"" ∧ r.imp.render = str "from .b import c as b_c" := by
  rw [getTypeReference_fast]
  delta str pkg
  repeat rw [String.toList_ofList]
  decide +kernel
example : let r := getTypeReference (str "a") (str ".a.b.Msg") true false
    r.ref.render = str "\"b.Msg\"" ∧ r.imp.render = str "from . import b" := by
  rw [getTypeReference_fast]
  delta str pkg
  repeat rw [String.toList_ofList]
  decide +kernel
example : let r := getTypeReference (str "a.b") (str ".a.Msg") true false
    r.ref.render = str "\"__a__.Msg\"" ∧ r.imp.render = str "from ... import a as __a__" := by
  rw [getTypeReference_fast]
  delta str pkg
  repeat rw [String.toList_ofList]
  decide +kernel
example : let r := getTypeReference (str "a.b") (str ".Msg") true false
    r.ref.render = str "\"__Msg__\"" ∧ r.imp.render = str "from ... import Msg as __Msg__" := by
  rw [getTypeReference_fast]
  delta str pkg
  repeat rw [String.toList_ofList]
  decide +kernel
example : let r := getTypeReference (str "a.b") (str ".a.c.d.Msg") true false
    r.ref.render = str "\"_c_d__.Msg\"" ∧ r.imp.render = str "from ..c import d as _c_d__" := by
  rw [getTypeReference_fast]
  delta str pkg
  repeat rw [String.toList_ofList]
  decide +kernel
example : let r := getTypeReference (str "a") (str ".google.protobuf.Empty") true false
    r.ref.render = str "\"betterproto_lib_google_protobuf.Empty\"" ∧
    r.imp.render = str "import betterproto.lib.google.protobuf as betterproto_lib_google_protobuf" := by
  rw [getTypeReference_fast]
  delta str pkg
  repeat rw [String.toList_ofList]
  decide +kernel

/-! ## all pairs of import kinds, and all the references of a module at once

  Alias algebra (BpProofs/ImportingAlias.lean).  Every name an import binds in module `cur` is
    `enc k ws` = `_`·k ++ "_".join(ws) ++ (`__` if k > 0)   bound to a MODULE:
        child / descendant   k = 0,            ws = tgt[len(cur):]
        ancestor (not root)  k = len(cur)-len(tgt)+1, ws = [tgt[-1]]
        cousin / unrelated   k = len(cur)-len(shared), ws = tgt[len(shared):]
        bundled google.protobuf   k = 0,       ws = betterproto.lib[.pydantic].google.protobuf (absolute)
    or `_`·len(cur) ++ ClassName ++ `__`   bound to a CLASS of the root package.
  With simple segments the name determines `(k, ws)` (`enc_inj`: count the leading
  underscores, split the rest at `_`), a class name is told from a segment by its first
  character, and `(k, ws)` determines the generated package: `cur[:len(cur)-k] ++ ws`
  in all three relative kinds. -/

/-- **alias injectivity for ALL pairs of kinds.**  Two references made in the module of
    package `cur` — to types of packages in ANY relative position: child, deeper descendant,
    ancestor, the root package, cousin, unrelated, google.protobuf — whose imports bind the
    same name bind the same object. -/
theorem aliases_injective (cur : Pkg) (pydantic : Bool) (s1 s2 : Site) (hc : pkgOk cur = true)
    (h1 : s1.ok cur pydantic = true) (h2 : s2.ok cur pydantic = true)
    (a : Str) (o1 o2 : Obj)
    (b1 : (siteRef cur pydantic s1).imp.bind cur = some (a, o1))
    (b2 : (siteRef cur pydantic s2).imp.bind cur = some (a, o2)) : o1 = o2 := by
  have := form_inj cur pydantic _ _ (siteRef_form hc h1 _ b1).1 (siteRef_form hc h2 _ b2).1 rfl
  injection this

/-- the object a reference's import binds determines the package (and, for the root package,
    the class) -/
theorem objOf_inj (cur : Pkg) (pydantic : Bool) (t1 t2 : Pkg) (ty1 ty2 : List Str)
    (h : (if t1 = googleProtobuf ∧ cur ≠ googleProtobuf then Obj.module (.abs (bundled pydantic))
          else if t1 = [] then .cls (.gen []) (classOf ty1) else .module (.gen t1))
       = (if t2 = googleProtobuf ∧ cur ≠ googleProtobuf then Obj.module (.abs (bundled pydantic))
          else if t2 = [] then .cls (.gen []) (classOf ty2) else .module (.gen t2))) :
    t1 = t2 ∧ (t1 = [] → classOf ty1 = classOf ty2) := by
  have hgp : googleProtobuf ≠ ([] : Pkg) := List.cons_ne_nil _ _
  by_cases c1 : t1 = googleProtobuf ∧ cur ≠ googleProtobuf
  · rw [if_pos c1] at h
    by_cases c2 : t2 = googleProtobuf ∧ cur ≠ googleProtobuf
    · exact ⟨by rw [c1.1, c2.1], fun e => absurd (c1.1 ▸ e) hgp⟩
    · rw [if_neg c2] at h
      by_cases d2 : t2 = []
      · rw [if_pos d2] at h; cases h
      · rw [if_neg d2] at h; injection h with h; cases h
  · rw [if_neg c1] at h
    by_cases c2 : t2 = googleProtobuf ∧ cur ≠ googleProtobuf
    · rw [if_pos c2] at h
      by_cases d1 : t1 = []
      · rw [if_pos d1] at h; cases h
      · rw [if_neg d1] at h; injection h with h; cases h
    · rw [if_neg c2] at h
      by_cases d1 : t1 = [] <;> by_cases d2 : t2 = []
      · rw [if_pos d1, if_pos d2] at h
        injection h with _ h
        exact ⟨by rw [d1, d2], fun _ => h⟩
      · rw [if_pos d1, if_neg d2] at h; cases h
      · rw [if_neg d1, if_pos d2] at h; cases h
      · rw [if_neg d1, if_neg d2] at h
        injection h with h; injection h with h
        exact ⟨h, fun e => absurd e d1⟩

/-- … hence **two different target packages never get the same alias / bound name** (for the
    root package, whose classes are imported one by one: two different classes never do);
    google.protobuf, which is redirected to the bundled library, is told from all generated
    packages too -/
theorem alias_determines_package (cur : Pkg) (pydantic : Bool) (s1 s2 : Site) (hc : pkgOk cur = true)
    (h1 : s1.ok cur pydantic = true) (h2 : s2.ok cur pydantic = true)
    (hb : boundName cur (siteRef cur pydantic s1) = boundName cur (siteRef cur pydantic s2))
    (hsome : boundName cur (siteRef cur pydantic s1) ≠ none) :
    s1.tgt = s2.tgt ∧ (s1.tgt = [] → classOf s1.ty = classOf s2.ty) := by
  obtain ⟨a, ha⟩ := Option.ne_none_iff_exists'.1 hsome
  obtain ⟨o1, e1⟩ := boundName_some ha
  obtain ⟨o2, e2⟩ := boundName_some (hb ▸ ha)
  obtain ⟨f1, g1⟩ := siteRef_form hc h1 _ e1
  obtain ⟨f2, g2⟩ := siteRef_form hc h2 _ e2
  have ho : o1 = o2 := congrArg Prod.snd (form_inj cur pydantic _ _ f1 f2 rfl)
  exact objOf_inj cur pydantic s1.tgt s2.tgt s1.ty s2.ty (g1.symm.trans (ho.trans g2))

/-- **all kinds coexisting**: in the namespace built by ALL the import statements of the
    module of `cur` (executed in any order: `sites` is an arbitrary list, the last binding of a
    name wins), every reference to a type of a generated package denotes the class generated
    for that type in ITS package -/
theorem all_at_once (cur : Pkg) (pydantic : Bool) (sites : List Site) (hc : pkgOk cur = true)
    (hok : ∀ s ∈ sites, s.ok cur pydantic = true) (s : Site) (hs : s ∈ sites) (hg : s.tgt ≠ googleProtobuf) :
    denoteNs cur (moduleNs cur pydantic sites) (siteRef cur pydantic s).ref = some (.gen s.tgt, classOf s.ty) := by
  obtain ⟨p1, p2, -, p4⟩ := Site.ok_parts (hok s hs)
  rw [denoteNs_eq_denote cur pydantic sites hc hok s hs]
  exact reference_resolves cur s.tgt s.ty s.unwrap pydantic hc (simplePkg_pkgOk p1) p4 hg p2

/-- … and every well-known type that is not unwrapped denotes the bundled class -/
theorem all_at_once_wkt (cur : Pkg) (pydantic : Bool) (sites : List Site) (hc : pkgOk cur = true)
    (hcur : cur ≠ googleProtobuf) (hok : ∀ s ∈ sites, s.ok cur pydantic = true) (name : Str)
    (hs : { tgt := googleProtobuf, ty := [name], unwrap := false } ∈ sites) :
    denoteNs cur (moduleNs cur pydantic sites)
        (siteRef cur pydantic { tgt := googleProtobuf, ty := [name], unwrap := false }).ref
      = some (.abs (bundled pydantic), pythonizeClassName name) := by
  have hn : tyPartOk name = true := by
    have := (Site.ok_parts (hok _ hs)).2.2.2
    simpa [typeOk] using this
  rw [denoteNs_eq_denote cur pydantic sites hc hok _ hs]
  exact wkt_resolves_to_bundled cur name pydantic hc hcur hn

/-- the imports of a module never shadow one of its own classes: no bound name looks like a
    class name (class names begin with a capital or a digit, bound names with `_` or a
    lower-case letter) -/
theorem alias_never_a_class_name (cur : Pkg) (pydantic : Bool) (s : Site) (hc : pkgOk cur = true)
    (h : s.ok cur pydantic = true) (a : Str) (ha : boundName cur (siteRef cur pydantic s) = some a) :
    isClassName a = false := by
  obtain ⟨o, e⟩ := boundName_some ha
  exact form_not_className cur pydantic _ (siteRef_form hc h _ e).1

/-- **a collision beyond D20** (no `_`, no digit-letter boundary, no keyword in any segment):
    in the module of package `x`, the descendant package `x.betterproto.lib.google.protobuf`
    and the bundled google.protobuf (`import betterproto.lib.google.protobuf as …`) are both
    bound to `betterproto_lib_google_protobuf`; with both imports in the module, the
    reference to the descendant's `Msg` denotes a class of the bundled library.  This is the
    only shape excluded by `Site.ok` besides D19 / D20. -/
theorem alias_collision_bundled_witness :
    let cur := pkg "x"
    let s1 : Site := { tgt := pkg "x.betterproto.lib.google.protobuf", ty := [str "Msg"], unwrap := true }
    let s2 : Site := { tgt := pkg "google.protobuf", ty := [str "Empty"], unwrap := true }
    simplePkg s1.tgt = true ∧ simplePkg s2.tgt = true ∧ s1.tgt.take 1 ≠ [str "betterproto"] ∧
    (siteRef cur false s1).imp.render = str "from .betterproto.lib.google import protobuf as betterproto_lib_google_protobuf" ∧
    (siteRef cur false s2).imp.render = str "import betterproto.lib.google.protobuf as betterproto_lib_google_protobuf" ∧
    boundName cur (siteRef cur false s1) = boundName cur (siteRef cur false s2) ∧
    (siteRef cur false s1).imp.bind cur ≠ (siteRef cur false s2).imp.bind cur ∧
    denoteNs cur (moduleNs cur false [s1, s2]) (siteRef cur false s1).ref
      = some (.abs (pkg "betterproto.lib.google.protobuf"), str "Msg") := by
  rw [simplePkg_fast, siteRef_fast, boundName_fast, bind_fast, moduleNs_fast]
  delta str pkg
  repeat rw [String.toList_ofList]
  decide +kernel

/-! non-vacuity: module `a.b` referring at once to a child, a deeper descendant, its parent,
    the root package, a cousin, an unrelated package, a sibling type and a well-known type -/
def demoSites : List Site :=
  [ { tgt := pkg "a.b.c", ty := [str "Msg"], unwrap := true },
    { tgt := pkg "a.b.c.d", ty := [str "Msg", str "Inner"], unwrap := true },
    { tgt := pkg "a", ty := [str "Msg"], unwrap := true },
    { tgt := [], ty := [str "Top"], unwrap := true },
    { tgt := pkg "a.c.d", ty := [str "Msg"], unwrap := true },
    { tgt := pkg "z.b", ty := [str "Msg"], unwrap := true },
    { tgt := pkg "a.b", ty := [str "Own"], unwrap := true },
    { tgt := pkg "google.protobuf", ty := [str "Empty"], unwrap := false },
    { tgt := pkg "google.protobuf", ty := [str "Timestamp"], unwrap := true } ]

example : pkgOk (pkg "a.b") = true ∧ demoSites.all (Site.ok (pkg "a.b") false) = true := by
  rw [pkgOk_fast, siteOk_fast]
  delta demoSites str pkg
  repeat rw [String.toList_ofList]
  decide +kernel
example : (moduleNs (pkg "a.b") false demoSites).map (·.1)
    = [str "c", str "c_d", str "__a__", str "__Top__", str "_c_d__", str "__z_b__", str "betterproto_lib_google_protobuf"] := by
  rw [moduleNs_fast]
  delta demoSites str pkg
  repeat rw [String.toList_ofList]
  decide +kernel
example : demoSites.map (fun s => denoteNs (pkg "a.b") (moduleNs (pkg "a.b") false demoSites) (siteRef (pkg "a.b") false s).ref)
    = [some (.gen (pkg "a.b.c"), str "Msg"), some (.gen (pkg "a.b.c.d"), str "MsgInner"), some (.gen (pkg "a"), str "Msg"),
       some (.gen [], str "Top"), some (.gen (pkg "a.c.d"), str "Msg"), some (.gen (pkg "z.b"), str "Msg"),
       some (.gen (pkg "a.b"), str "Own"), some (.abs (pkg "betterproto.lib.google.protobuf"), str "Empty"), none] := by
  rw [moduleNs_fast, siteRef_fast]
  delta demoSites str pkg
  repeat rw [String.toList_ofList]
  decide +kernel

#print axioms reference_resolves
#print axioms aliases_injective
#print axioms alias_determines_package
#print axioms all_at_once
#print axioms all_at_once_wkt
#print axioms alias_never_a_class_name
#print axioms alias_collision_bundled_witness

end Bp.C13
