import BpProofs.SrcTieDump
import BpProofs.Props.C06
/-
  C06, tied to the SOURCE: the per-field emission decision of `Message.dump` — skip on
  AttributeError / None, `selected_in_group`, `serialize_empty`, the skip test against the
  default, the list / dict / single-value shapes, the empty-string special case — is
  translated from the Python AST of the body of the field loop on every run
  (harness/extract_srcdump.py → BpProofs/Gen/SrcDump.lean, `Src.dump_field`) and proved
  EQUAL to the model's `dumpSlot`, which the theorems of Props/C06.lean are about.  The
  corollaries restate those theorems of the source as written.  If the loop body changes what
  it decides, `src_dump_field` stops checking.

  Reading: `Src.dump_field S enc f got sel stream` is one iteration for the field described
  by `f`; `got = Py.getattrField S f hid v` is what `getattr(self, field_name)` yields for the
  raw slot `v` (`hid`: AttributeError for an unselected oneof member; a PLACEHOLDER slot is
  materialised to the default); `sel` is `_include_default_value_for_oneof`; `enc` is
  `bytes(<Message>)`; the result is the stream after the iteration.  What the dynamic Python
  operations mean on `Val` / `FieldD` is fixed in BpProofs/PyPreludeDyn.lean (trusted).
-/
namespace Bp.C06
open Bp Bp.Py Bp.SrcTieDump

/-- **the emission decision of `Message.dump` as written is the model's `dumpSlot`**: for every
    field descriptor, every raw slot value, both flags and every stream content, one iteration of
    the field loop appends exactly the bytes of `dumpSlot S f hid sel v` and raises exactly when
    it raises.  Guards: `dynOk f v` (a Message instance / a non-empty dict sits where the
    descriptor allows one — implied by the typing judgement, `src_guard_of_typed`) and
    `WfSchemaOpt S` (optional fields are singular, non-map). -/
theorem src_dump_field (S : Schema) (hS : WfSchemaOpt S) (f : FieldD) (hid sel : Bool) (v : Val) (stream : Bytes)
    (hok : dynOk f v = true) :
    Src.dump_field S (dumpVal S) f (getattrField S f hid v) sel stream
      = Py.ofR ((dumpSlot S f hid sel v).map fun b => stream ++ b) :=
  dump_field_eq S hS f hid sel v stream hok

/-- the guard of `src_dump_field` holds of every slot that is typed (C17's `slotTypedB`, either
    strictness) for a field of a well-formed schema (C17's `wfFieldB`) -/
theorem src_guard_of_typed (s : Bool) (S : Schema) (n : Nat) (f : FieldD) (v : Val)
    (hw : wfFieldB n f = true) (ht : slotTypedB s S f v = true) : dynOk f v = true :=
  dynOk_of_typed s S n f v hw ht

/-- **an unselected oneof member is not written by the source as written** (getattr raises
    AttributeError, the iteration leaves the stream as it is) -/
theorem src_hidden_skipped (S : Schema) (f : FieldD) (sel : Bool) (v : Val) (stream : Bytes) :
    Src.dump_field S (dumpVal S) f (getattrField S f true v) sel stream = .ok stream := by
  rfl

/-- **an implicit-presence field holding its default is not written by the source as written**:
    plain (no oneof, not optional) field, any scalar / string / bytes / datetime / timedelta
    value equal to the default: the stream is left as it is -/
theorem src_implicit_default_skipped (S : Schema) (f : FieldD) (v : Val) (stream : Bytes)
    (hg : f.group = Option.none) (ho : f.optional = false) (hp : isPlainVal v = true)
    (hd : eqDefault S f.defKind v = true) :
    Src.dump_field S (dumpVal S) f (getattrField S f (hidden f 0 []) v) false stream = .ok stream := by
  have hh : hidden f 0 [] = false := hidden_nogroup _ _ _ hg
  have := implicit_default_skipped S f v hg ho hp hd
  rw [hh] at this ⊢
  rw [dump_field_eq_set S f false v stream (plain_ne_ph v hp) (dynOk_plain f v hp), this]
  simp

/-- … and likewise an empty list in an implicit-presence repeated field -/
theorem src_implicit_empty_list_skipped (S : Schema) (f : FieldD) (stream : Bytes)
    (hg : f.group = Option.none) (ho : f.optional = false) (hk : f.defKind = .list) :
    Src.dump_field S (dumpVal S) f (getattrField S f false (.list [])) false stream = .ok stream := by
  rw [dump_field_eq_set S f false _ stream (by simp) rfl, implicit_empty_list_skipped S f hg ho hk]
  simp

/-- … and a slot still holding PLACEHOLDER (never assigned, never decoded) of an
    implicit-presence field: `getattr` materialises the default, nothing is written -/
theorem src_unset_skipped (S : Schema) (hS : WfSchemaOpt S) (f : FieldD) (stream : Bytes)
    (hg : f.group = Option.none) (ho : f.optional = false) :
    Src.dump_field S (dumpVal S) f (getattrField S f false .ph) false stream = .ok stream := by
  rw [dump_field_eq S hS f false false .ph stream rfl, dumpSlot]
  unfold dumpDefault
  simp only [hg, ho, Option.isSome_none, Bool.or_self, Bool.false_eq_true, if_false]
  cases f.defKind <;> simp

/-- **a selected oneof member / a set proto3-optional field / a set wrapper field is written
    even when it holds the default**: whenever the iteration as written succeeds on such a slot,
    what it appended to the stream starts with the field's own tag -/
theorem src_explicit_emitted (S : Schema) (f : FieldD) (sel : Bool) (v : Val) (stream out : Bytes)
    (hp : isPlainVal v = true)
    (hexp : f.optional = true ∨ (f.group.isSome = true ∧ sel = true) ∨ f.wraps.isSome = true)
    (h : Src.dump_field S (dumpVal S) f (getattrField S f false v) sel stream = .ok out) :
    ∃ wt rest, wireOf f.ty = some wt ∧ out = stream ++ (encNat (f.num * 8 + wt) ++ rest) := by
  rw [dump_field_eq_set S f sel v stream (plain_ne_ph v hp) (dynOk_plain f v hp)] at h
  cases hm : dumpSlot S f false sel v with
  | error e => rw [hm] at h; simp at h
  | ok b =>
    rw [hm] at h
    simp only [appR_ok, Res.ok.injEq] at h
    obtain ⟨wt, rest, hw, hb⟩ := explicit_emitted S f sel v b hp hexp hm
    exact ⟨wt, rest, hw, by rw [← h, hb]⟩

/-- **a plain sub-message field that still equals a fresh instance is written by the source as
    written exactly when `_serialized_on_wire` is set** -/
theorem src_submsg_emitted_iff_onwire (S : Schema) (f : FieldD) (c : Nat) (sl : List Val) (ow : Bool) (unk : Bytes)
    (cur : List (Option Nat)) (hg : f.group = Option.none) (ho : f.optional = false)
    (hf : f.ty = .message) (hw : f.wraps = Option.none)
    (hd : eqDefault S f.defKind (.msg c sl ow unk cur) = true) (stream out : Bytes)
    (h : Src.dump_field S (dumpVal S) f (getattrField S f false (.msg c sl ow unk cur)) false stream = .ok out) :
    (out = stream ↔ ow = false) := by
  have hok : dynOk f (.msg c sl ow unk cur) = true := by simp [dynOk, msgPlace, hf, hw]
  rw [dump_field_eq_set S f false _ stream (by simp) hok] at h
  cases hm : dumpSlot S f false false (.msg c sl ow unk cur) with
  | error e => rw [hm] at h; simp at h
  | ok b =>
    rw [hm] at h
    simp only [appR_ok, Res.ok.injEq] at h
    have := submsg_emitted_iff_onwire S f c sl ow unk cur hg ho hd b hm
    rw [← this, ← h]
    constructor
    · intro he
      have : (stream ++ b).length = stream.length := by rw [he]
      simp only [List.length_append] at this
      exact List.eq_nil_of_length_eq_zero (by omega)
    · intro he; rw [he]; simp

/-! non-vacuity: the translated iteration run on closed inputs — an optional int32 set to 0 is
    written as `08 00`, the same value in a plain field is not written, an unset optional
    (None) is not written; the selected member of a oneof holding "" is written as `12 00`, an
    unselected one (AttributeError) is not -/
def fOpt : FieldD := { name := "o", num := 1, ty := .int32, optional := true }
def fPlain : FieldD := { name := "p", num := 1, ty := .int32 }
def fOneStr : FieldD := { name := "s", num := 2, ty := .string, group := some 0 }
example : Src.dump_field [] (dumpVal []) fOpt (getattrField [] fOpt false (.int 0)) false [7] = .ok [7, 8, 0] := by decide +kernel
example : Src.dump_field [] (dumpVal []) fPlain (getattrField [] fPlain false (.int 0)) false [7] = .ok [7] := by decide +kernel
example : Src.dump_field [] (dumpVal []) fOpt (getattrField [] fOpt false .none) false [7] = .ok [7] := by decide +kernel
example : Src.dump_field [] (dumpVal []) fOneStr (getattrField [] fOneStr false (.str [])) true [] = .ok [18, 0] := by decide +kernel
example : Src.dump_field [] (dumpVal []) fOneStr (getattrField [] fOneStr true .ph) false [] = .ok [] := by decide +kernel

end Bp.C06
