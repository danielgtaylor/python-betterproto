import BpProofs.SrcTieObj
import BpProofs.Props.C07
/-
  C07, tied to the SOURCE: `Message.__setattr__`, `Message.__getattribute__`,
  `betterproto.which_one_of` and `Message._include_default_value_for_oneof` are translated from
  the Python AST on every run (harness/extract_srcobj.py → BpProofs/Gen/SrcObj.lean) and proved
  EQUAL to the model functions the theorems of Props/C07.lean are about (`setAttr`, `getAttr`,
  `whichOneOf`, `selectedInGroup`).  The corollaries restate the C07 sentences of the source as
  written.  If one of these methods changes what it does to the object — resets only the
  selected sibling, forgets to select on a default value, marks the holder on a read, stops
  raising for an unselected member — the tie stops checking.

  Reading: a Message instance of a class with fields `fs` is the model's `MState` (raw slots,
  `_serialized_on_wire`, `_unknown_fields`, `_group_current`), a field / group name is its
  index; `Src.setattr S fs st idx v` is `Message.__setattr__(self, name, v)` (result: the state
  afterwards), `Src.getattribute S fs st idx` is `getattr(self, name)` (result: value and state
  afterwards, or the exception).  What the object-level Python operations mean on `MState` is
  fixed in BpProofs/PyPreludeObj.lean (trusted).
-/
namespace Bp.C07
open Bp Bp.Py Bp.SrcTieObj

/-- **`Message.__setattr__` as written is the model's `setAttr`**: for every schema, class,
    state, field and value the method as written ends, without raising, in exactly the state
    `setAttr` computes — the value stored (a field-less message argument marked present),
    `_serialized_on_wire` set, and for a oneof member the group's selection set to it and EVERY
    other member of the group back to PLACEHOLDER.  Guards: the name is a field of the class, the
    instance has one raw slot per field (`FullVal`, kept by every operation: `full_step`). -/
theorem src_setattr (S : Schema) (fs : List FieldD) (st : MState) (idx : Nat) (v : Val)
    (hi : idx < fs.length) (hl : st.slots.length = fs.length) :
    Src.setattr S fs st idx v = .ok (setAttr S fs st idx v) :=
  setattr_eq S fs st idx v hi hl

/-- the loop of `__setattr__` runs over a Python SET (`oneof_field_by_group[group]`): its result
    does not depend on the iteration order -/
theorem src_setattr_order_independent (S : Schema) (fs : List FieldD) (attr g : Nat) (ms ms' : List (Nat × FieldD))
    (hp : ms.Perm ms') (st : MState) :
    Src.setattr.loop1 S fs attr g ms st = Src.setattr.loop1 S fs attr g ms' st :=
  setattr_loop_perm S fs attr g ms ms' hp st

/-- **`Message.__getattribute__` as written is the model's `getAttr`**: AttributeError exactly
    for a oneof member that is not the selected one of its group; otherwise the raw value, a
    PLACEHOLDER slot being replaced by the field default, which is stored in the slot (and
    nothing else is touched).  Guards: the name is a field of the class; `_group_current` has
    an entry for the field's group (first half of the oneof invariant `Inv`). -/
theorem src_getattribute (S : Schema) (fs : List FieldD) (st : MState) (idx : Nat)
    (hi : idx < fs.length) (hgl : ∀ g, (fs[idx]).group = some g → g < st.cur.length) :
    Src.getattribute S fs st idx = ofR (getAttr S fs st idx) :=
  getattribute_eq S fs st idx hi hgl

/-- **`which_one_of` as written** returns `("", None)` when the group has no selection, otherwise
    the selected name and `getattr` of it (`whichOneOfM`, BpProofs/SrcTieObj.lean).  Guard: the
    selection of the group, if any, names a field of the class whose group has an entry. -/
theorem src_which_one_of (S : Schema) (fs : List FieldD) (st : MState) (g : Nat)
    (hsel : ∀ i, st.cur.getD g Option.none = some i → i < fs.length ∧ ∀ f g', fs[i]? = some f → f.group = some g' → g' < st.cur.length) :
    Src.which_one_of S fs st g = ofR (whichOneOfM S fs st g) :=
  which_one_of_eq S fs st g hsel

/-- … and the name it reports is the model's `whichOneOf` (the observer the JSON half of C07 —
    `json_exclusive` — is stated with); the object keeps its selection, flag and unknown fields -/
theorem src_which_one_of_name (S : Schema) (c : Nat) (st : MState) (g : Nat) (name : Option Nat) (v : Val) (st' : MState)
    (hsel : ∀ i, st.cur.getD g Option.none = some i →
      i < (fieldsOf S c).length ∧ ∀ f g', (fieldsOf S c)[i]? = some f → f.group = some g' → g' < st.cur.length)
    (h : Src.which_one_of S (fieldsOf S c) st g = .ok ((name, v), st')) :
    name = whichOneOf (st.toVal c) g ∧ st'.cur = st.cur ∧ st'.onWire = st.onWire ∧ st'.unknown = st.unknown := by
  rw [which_one_of_eq S _ st g hsel] at h
  unfold whichOneOfM at h
  simp only [whichOneOf, MState.toVal]
  cases hc : st.cur.getD g Option.none with
  | none =>
    rw [hc] at h
    simp only [ofR_ok, Res.ok.injEq, Prod.mk.injEq] at h
    obtain ⟨⟨h1, _⟩, h3⟩ := h
    subst h3
    exact ⟨h1.symm, rfl, rfl, rfl⟩
  | some i =>
    rw [hc] at h
    obtain ⟨⟨v0, st0⟩, hg, h⟩ := bind_inv (Res.ofR_eq_ok h)
    obtain ⟨_, _, _, _, rfl⟩ := getAttr_ok _ _ _ _ hg
    cases h
    exact ⟨rfl, rfl, rfl, rfl⟩

/-- **`_include_default_value_for_oneof` as written is the model's `selectedInGroup`** (what makes
    `dump` / `to_dict` write a selected member that holds its default) -/
theorem src_include_default (S : Schema) (fs : List FieldD) (st : MState) (idx : Nat) (f : FieldD) :
    Src.include_default_value_for_oneof S fs st idx f = .ok (selectedInGroup f idx st.cur) :=
  include_default_eq S fs st idx f

/-- **assigning a member always makes it the selected one, even when assigning its default
    value**: whatever `v` is, after `__setattr__` as written `_group_current[group]` is the
    assigned member (through the tie from `assign_selects`) -/
theorem src_assign_selects (S : Schema) (fs : List FieldD) (st st' : MState) (idx : Nat) (v : Val) (g : Nat)
    (hi : idx < fs.length) (hl : st.slots.length = fs.length)
    (hg : (fs[idx]).group = some g) (hgl : g < st.cur.length)
    (h : Src.setattr S fs st idx v = .ok st') :
    st'.cur.getD g Option.none = some idx ∧ Src.include_default_value_for_oneof S fs st' idx fs[idx] = .ok true := by
  rw [setattr_eq S fs st idx v hi hl] at h
  injection h with h; subst h
  have hs := assign_selects S fs st idx v fs[idx] g (List.getElem?_eq_getElem hi) hg hgl
  refine ⟨hs, ?_⟩
  rw [include_default_eq]
  simp only [selectedInGroup, hg, hs, beq_self_eq_true]

/-- **reading any other member of the group raises AttributeError**: `getattr` as written, on a
    member that is not the selected one of its group (through the tie from `other_member_raises`) -/
theorem src_other_member_raises (S : Schema) (fs : List FieldD) (st : MState) (i : Nat) (g : Nat)
    (hi : i < fs.length) (hg : (fs[i]).group = some g) (hgl : g < st.cur.length)
    (hsel : st.cur.getD g Option.none ≠ some i) :
    Src.getattribute S fs st i = .raise .attr := by
  rw [getattribute_eq S fs st i hi (fun g' e => by rw [hg] at e; injection e with e; subst e; exact hgl),
    other_member_raises S fs st i fs[i] g (List.getElem?_eq_getElem hi) hg hsel]
  rfl

/-- … in particular right after assigning member `idx` as written, reading any other member `j`
    of the same group, as written, raises AttributeError -/
theorem src_assign_hides_siblings (S : Schema) (fs : List FieldD) (st st' : MState) (idx j : Nat) (v : Val) (g : Nat)
    (hi : idx < fs.length) (hj : j < fs.length) (hl : st.slots.length = fs.length)
    (hg : (fs[idx]).group = some g) (hgj : (fs[j]).group = some g) (hgl : g < st.cur.length) (hne : j ≠ idx)
    (h : Src.setattr S fs st idx v = .ok st') :
    Src.getattribute S fs st' j = .raise .attr := by
  obtain ⟨hs, _⟩ := src_assign_selects S fs st st' idx v g hi hl hg hgl h
  have hlen : st'.cur.length = st.cur.length := by
    rw [setattr_eq S fs st idx v hi hl] at h
    injection h with h; subst h
    exact setAttr_cur_length S fs st idx v
  exact src_other_member_raises S fs st' j g hj hgj (by omega) (by rw [hs]; intro e; injection e with e; exact hne e.symm)

/-- **after `__setattr__` as written at most one member of each group is set** — one step of the
    exclusivity invariant: if the oneof invariant `Inv` (every member other than the selected
    one holds PLACEHOLDER / None) holds before the assignment, it holds of the state the source
    as written produces, and hence no two different members of a group hold a value
    (through the tie from `setAttr_inv` / `inv_atMostOne`, the step `inv_step` iterates) -/
theorem src_setattr_exclusive (S : Schema) (fs : List FieldD) (n : Nat) (st st' : MState) (idx : Nat) (v : Val)
    (hw : WfGroups fs n) (hinv : Inv fs n st) (hi : idx < fs.length) (hl : st.slots.length = fs.length)
    (h : Src.setattr S fs st idx v = .ok st') :
    Inv fs n st' ∧ AtMostOne fs st'.slots := by
  rw [setattr_eq S fs st idx v hi hl] at h
  injection h with h; subst h
  have := setAttr_inv S fs n st idx v hw hinv
  exact ⟨this, inv_atMostOne fs n _ this⟩

/-- **a read as written touches nothing but the slot it fills**: `getattr` never changes
    `_serialized_on_wire`, `_group_current` or `_unknown_fields`, and the slot it writes is the
    one it read, with the value it returns (C06 / C14: observers are pure up to lazy defaults) -/
theorem src_read_keeps_presence (S : Schema) (fs : List FieldD) (st st' : MState) (idx : Nat) (v : Val)
    (hi : idx < fs.length) (hgl : ∀ g, (fs[idx]).group = some g → g < st.cur.length)
    (h : Src.getattribute S fs st idx = .ok (v, st')) :
    st'.onWire = st.onWire ∧ st'.cur = st.cur ∧ st'.unknown = st.unknown ∧ st'.slots = setAt st.slots idx v := by
  rw [getattribute_eq S fs st idx hi hgl] at h
  obtain ⟨_, _, _, _, rfl⟩ := getAttr_ok S fs st idx (Res.ofR_eq_ok h)
  exact ⟨rfl, rfl, rfl, rfl⟩

/-! non-vacuity on `S2` (group 0 = {a : int32, b : string}): the translated methods run on closed
    inputs — set a = 5, then b = "" (its default): b is selected, a is back to PLACEHOLDER,
    reading a raises, reading b gives "" -/
def st0 : MState := freshState { fields := fieldsOf S2 0, nGroups := 1 }
def stA : MState := setAttr S2 (fieldsOf S2 0) st0 0 (.int 5)
example : (match Src.setattr S2 (fieldsOf S2 0) st0 0 (.int 5) with
    | .ok st => st.cur == [some 0] && st.onWire && isPlaceholder (rawGet st 1) && !isPlaceholder (rawGet st 0)
    | _ => false) = true := by decide +kernel
example : (match Src.setattr S2 (fieldsOf S2 0) stA 1 (.str []) with
    | .ok st => st.cur == [some 1] && isPlaceholder (rawGet st 0) && !isPlaceholder (rawGet st 1)
    | _ => false) = true := by decide +kernel
example : (match Src.getattribute S2 (fieldsOf S2 0) stA 1 with | .raise .attr => true | _ => false) = true := by decide +kernel
example : (match Src.getattribute S2 (fieldsOf S2 0) stA 0 with | .ok (.int 5, _) => true | _ => false) = true := by decide +kernel
example : (match Src.which_one_of S2 (fieldsOf S2 0) stA 0 with | .ok ((some 0, .int 5), _) => true | _ => false) = true := by decide +kernel
example : (match Src.which_one_of S2 (fieldsOf S2 0) st0 0 with | .ok ((Option.none, .none), _) => true | _ => false) = true := by decide +kernel

end Bp.C07
