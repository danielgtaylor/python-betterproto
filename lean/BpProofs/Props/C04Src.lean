import BpProofs.JsonGuardFast
import BpProofs.SrcTieJson
import BpProofs.Props.C04
import BpProofs.Props.C05
import BpProofs.Props.C07
/-
  C04 / C05 / C07, tied to the SOURCE: the per-field step of `Message.to_dict` — the `getattr` /
  AttributeError fallback to the default, the key `casing(field_name).rstrip("_")`, the message
  branch (datetime / timedelta / wrapper / repeated sub-messages / sub-message with the presence
  test `value != default` of fix D46), the map branch (`{**value}`, the conversion loop over the
  keys), the scalar branch (the emission test, 64-bit ints → `str`, bytes → base64, enum →
  `_dump_enum` with the enum class found in the type hint, float / double → `_dump_float`) — and
  the function `_dump_float` are translated from the Python AST on every run
  (harness/extract_srcjson.py → BpProofs/Gen/SrcJson.lean: `Src.to_dict_field`, `Src.dump_float`)
  and proved EQUAL to the model's `toDictSlot` / `dumpFloat`, which the theorems of Props/C04.lean,
  C05.lean and C07.lean are about.  The corollaries restate those theorems of the source as
  written.  If the loop body changes what it decides or writes, `src_to_dict_field` stops checking.

  Reading: `Src.to_dict_field S E enc cs incl f got sel output` is one iteration for the field
  described by `f`: `got = Py.getattrField S f hid v` is what `getattr(self, field_name)` yields for
  the raw slot `v` (`hid`: AttributeError for an unselected oneof member; a PLACEHOLDER slot is
  materialised to the default), `sel` is `_include_default_value_for_oneof`, `incl` is
  `include_default_values`, `enc` is `<sub-message>.to_dict(casing, include_default_values)`,
  `output` the items of the output dict so far (insertion order); the result is the dict after the
  iteration.  `putJ output k r` leaves `output` as it is for `r = none` and is
  `Py.setItem output k j` (`output[k] = j`: appended when `k` is new, overwritten IN PLACE when it is
  already there) for `r = some j`.  What the Python operations mean on `Val` / `FieldD` / `JVal` is
  fixed in BpProofs/PyPreludeDyn.lean + PyPreludeJson.lean (trusted).

  GUARDS of the tie (BpProofs/SrcTieJson.lean):
    * `dynOkJ f v` (decidable), for a slot that is read as a value: the value has a Python type the
      descriptor allows (list ↔ repeated non-map, dict ↔ map with pairwise distinct keys, Message ↔
      singular message field without wrapper, leaf: see `dynOkJ`).  Implied by the slot typing of
      C04 / C05 (`src_guard_of_typed`).  Outside it the source raises where the model says `raw`.
    * `DefaultOkJ S E cs incl f`, for a slot that reads as the default (hidden oneof member,
      PLACEHOLDER): not a repeated map; and for a plain singular sub-message field
      `include_default_values = False` (with True the source expands the defaults of the fresh
      sub-message recursively, which the model does not model: `raw ph`) and a fresh instance has
      the empty dict.  Implied by `jsonOk` for `incl = false` (`src_default_guard_of_schema`).
  None of the known-finding classes is excluded by these guards — the tie is an equality of
  behaviours, findings included: D15 (key casing) lives in `jsonKey`, which both sides share (the
  casing functions are C19's); D17 (map values / wrapper values written raw) is the behaviour of
  both the source as written and `toDictSlot` — `src_to_dict_field` covers every map value type; D16
  (enum member names) lives in the intrinsic `_dump_enum` ↦ `dumpEnum`.  They are excluded, as
  before, only by the guards of the C04 / C05 theorems the corollaries go through (`jsonOk`,
  `jsonOk5`, `flatSlotOk`).
-/
namespace Bp.C04
open Bp Bp.Py Bp.SrcTieJson

/-- **the per-field step of `Message.to_dict` as written is the model's `toDictSlot`**: for every
    field descriptor, both casings, every `include_default_values`, every oneof state (`hid`, `sel`),
    every raw slot value inside the guards and every output dict, one iteration of the field loop
    leaves the dict as it is when `toDictSlot` is `none`, performs `output[jsonKey cs f.name] = j` when
    it is `some j`, and does not raise -/
theorem src_to_dict_field (S : Schema) (E : Enums) (cs : KeyCase) (incl : Bool) (f : FieldD) (hid sel : Bool) (v : Val)
    (output : JDict) (hok : readsDefault hid v = false → dynOkJ f v = true)
    (hd : readsDefault hid v = true → DefaultOkJ S E cs incl f) :
    Src.to_dict_field S E (toDict S E cs incl) cs incl f (getattrField S f hid v) sel output
      = .ok (putJ output (jsonKey cs f.name) (toDictSlot S E cs incl f hid sel v)) :=
  to_dict_field_eq S E cs incl f hid sel v output hok hd

/-- … which is exactly the step of the model's `toDictKVs` (append `(key, j)` for `some j`, nothing
    for `none`) whenever the key is not in the dict yet (distinct fields have distinct keys: C04's
    `namesOk`) -/
theorem src_to_dict_field_appends (S : Schema) (E : Enums) (cs : KeyCase) (incl : Bool) (f : FieldD) (hid sel : Bool)
    (v : Val) (output : JDict) (hok : readsDefault hid v = false → dynOkJ f v = true)
    (hd : readsDefault hid v = true → DefaultOkJ S E cs incl f) (hkey : jsonKey cs f.name ∉ output.map (·.1)) :
    Src.to_dict_field S E (toDict S E cs incl) cs incl f (getattrField S f hid v) sel output
      = .ok (output ++ (toDictSlot S E cs incl f hid sel v).toList.map fun j => (jsonKey cs f.name, j)) := by
  rw [to_dict_field_eq S E cs incl f hid sel v output hok hd, putJ_fresh output _ _ hkey]

/-- **`_dump_float` as written is the model's `dumpFloat`** on every value: the three strings for
    ±Infinity / NaN, every other value — whole-number floats included — as it is -/
theorem src_dump_float (v : Val) : Src.dump_float v = .ok (dumpFloat v) := dump_float_eq v

/-- the value guard holds of every slot that is typed (`slotOk'`, the judgement of `wellTyped'`) and
    whose dict keys are pairwise distinct -/
theorem src_guard_of_typed (S : Schema) (f : FieldD) (hid sel : Bool) (v : Val)
    (ht : slotOk' S f hid sel v = true) (hk : keysDistinct v = true) : dynOkJ f v = true :=
  dynOkJ_of_slotOk' S f hid sel v ht hk

/-- the default guard holds, without `include_default_values`, of every field of a schema inside `jsonOk` -/
theorem src_default_guard_of_schema (S : Schema) (E : Enums) (cs : KeyCase) (hS : jsonOk S E cs = true) (f : FieldD)
    (hf : fieldJsonOk f = true) : DefaultOkJ S E cs false f :=
  defaultOkJ_of_schema S E cs f (fieldJsonOk_of_jsonOk S E cs hS) hf

/-- **C07, of the source as written: a oneof member that is not the selected one gets no entry**
    (`getattr` raises AttributeError, the step goes on with the default, which is not written) —
    whatever the raw slot holds -/
theorem src_unselected_member_no_entry (S : Schema) (E : Enums) (cs : KeyCase) (hS : jsonOk S E cs = true) (f : FieldD)
    (hf : fieldJsonOk f = true) (hr : f.repeated = false) (v : Val) (output : JDict) :
    Src.to_dict_field S E (toDict S E cs false) cs false f (getattrField S f true v) false output = .ok output := by
  rw [to_dict_field_eq S E cs false f true false v output (by cases v <;> simp [readsDefault])
    (fun _ => src_default_guard_of_schema S E cs hS f hf), toDictSlot_unselected S E cs f hr v]
  rfl

/-- **C07, of the source as written: the selected member gets exactly one entry, under its own key,
    even when it holds its default value** — unless it holds `None` in a message / wrapper / 64-bit /
    enum field (`skipsSelected`, the exact exception of `json_exclusive`) -/
theorem src_selected_member_one_entry (S : Schema) (E : Enums) (cs : KeyCase) (hS : jsonOk S E cs = true) (f : FieldD)
    (hf : fieldJsonOk f = true) (hr : f.repeated = false) (hm : f.ty ≠ .map) (v : Val) (output : JDict)
    (hok : v ≠ .ph → dynOkJ f v = true) :
    (skipsSelected f v = true →
      Src.to_dict_field S E (toDict S E cs false) cs false f (getattrField S f false v) true output = .ok output) ∧
    (skipsSelected f v = false → ∃ j,
      Src.to_dict_field S E (toDict S E cs false) cs false f (getattrField S f false v) true output
        = .ok (setItem output (jsonKey cs f.name) j)) := by
  have h := toDictSlot_selected S E cs f hr hm v
  rw [to_dict_field_eq S E cs false f false true v output
    (fun hrd => hok (by intro e; subst e; simp [readsDefault] at hrd))
    (fun _ => src_default_guard_of_schema S E cs hS f hf)]
  cases hs : toDictSlot S E cs false f false true v with
  | none =>
    rw [hs] at h
    exact ⟨fun _ => rfl, fun hk => (by rw [hk] at h; cases h)⟩
  | some j =>
    rw [hs] at h
    exact ⟨fun hk => (by rw [hk] at h; cases h), fun _ => ⟨j, rfl⟩⟩

/-- **C05, of the source as written: the member one iteration writes for a field (or its absence) is
    the one the canonical proto3 JSON mapping prescribes, under the canonical key** — through
    `C05.canonical_field`, inside its guards -/
theorem src_canonical_field (S : Schema) (E : Enums) (hS : jsonOk5 S E = true) (f : FieldD) (idx : Nat)
    (cur : List (Option Nat)) (h5 : fieldJsonOk5 f = true) (v : Val)
    (hv : slotOk' S f (hidden f idx cur) (selectedInGroup f idx cur) v = true) (hz : noNegZeroSlot S f v = true)
    (hk : keysDistinct v = true) (output : JDict) :
    Src.to_dict_field S E (toDict S E .camel false) .camel false f (getattrField S f (hidden f idx cur) v)
        (selectedInGroup f idx cur) output
      = .ok (putJ output (specKey f.name) (specSlot S E f (hidden f idx cur) v)) := by
  have hj : fieldJsonOk f = true := by
    unfold fieldJsonOk5 at h5
    simp only [Bool.and_eq_true] at h5
    exact h5.1.1
  have hc := C05.canonical_field S E hS f idx cur h5 v hv hz
  rw [to_dict_field_eq S E .camel false f _ _ v output
    (fun _ => src_guard_of_typed S f _ _ v hv hk)
    (fun _ => src_default_guard_of_schema S E .camel (C05.jsonOk_of_jsonOk5 S E hS) f hj), hc.1, hc.2]

/-- **C04, of the source as written: what one iteration writes for a flat field is read back by
    `_from_dict_init` as the original attribute value** — through `field_roundtrip_flat`: the step
    either leaves the dict as it is or stores an object that is not null and decodes to `v` -/
theorem src_field_roundtrip_flat (S : Schema) (E : Enums) (cs : KeyCase) (hS : jsonOk S E cs = true) (f : FieldD)
    (hf : fieldJsonOk f = true) (hid sel : Bool) (v : Val) (he : enumOk (enumOf E f) = true)
    (h : flatSlotOk S E cs f hid sel v = true) (hok : readsDefault hid v = false → dynOkJ f v = true) (output : JDict) :
    Src.to_dict_field S E (toDict S E cs false) cs false f (getattrField S f hid v) sel output = .ok output ∨
    ∃ j, Src.to_dict_field S E (toDict S E cs false) cs false f (getattrField S f hid v) sel output
          = .ok (setItem output (jsonKey cs f.name) j) ∧ j ≠ .null ∧ decodeField S E f j = .ok v := by
  rw [to_dict_field_eq S E cs false f hid sel v output hok (fun _ => src_default_guard_of_schema S E cs hS f hf)]
  cases hs : toDictSlot S E cs false f hid sel v with
  | none => exact Or.inl rfl
  | some j => exact Or.inr ⟨j, rfl, field_roundtrip_flat S E cs f hid sel v he h j hs⟩

/-- distinct fields have distinct keys inside C04's `namesOk` (every key maps back to its own field) -/
theorem src_keys_distinct (cs : KeyCase) (fs : List FieldD) (h : namesOk cs fs = true) : KeysInj cs fs :=
  keysInj_of_namesOk cs fs h

/-- **the whole dict**: running the loop body as written once per field, in `meta_by_field_name`
    order, from the empty dict (`srcLoop`: a hand-written fold whose body is the translated
    `Src.to_dict_field`) builds exactly the items of the model's `toDict`, in the same order —
    for every message whose slots are inside the guards of the tie (`SlotsTieOk`) and whose fields
    have distinct keys (`src_keys_distinct`) -/
theorem src_to_dict_loop (S : Schema) (E : Enums) (cs : KeyCase) (incl : Bool) (c : Nat) (sl : List Val) (ow : Bool)
    (unk : Bytes) (cur : List (Option Nat)) (hinj : KeysInj cs (fieldsOf S c))
    (hok : SlotsTieOk S E cs incl (fieldsOf S c) cur 0 sl) :
    (srcLoop S E cs incl (fieldsOf S c) cur 0 sl []).bind (fun kvs => .ok (mkObj kvs))
      = .ok (toDict S E cs incl (.msg c sl ow unk cur)) := by
  rw [srcLoop_eq S E cs incl _ cur hinj sl 0 [] hok (by simp), toDict_msg]; rfl

/-! non-vacuity: the translated iteration run on closed inputs (camelCase keys as byte lists):
    an int64 is written as its decimal string; the default 0 of a plain field is left out, that of the
    selected oneof member is written; an unselected member is left out whatever its slot holds; an
    unmarked sub-message that differs from its default is written (D46); a key that is already there
    is overwritten in place -/
def fI64 : FieldD := { name := "big", num := 1, ty := .int64 }
def fOne : FieldD := { name := "pick", num := 2, ty := .int32, group := some 0 }
def fSub : FieldD := { name := "sub", num := 3, ty := .message, kind := .user 0 }
def Ssub : Schema := [{ fields := [{ name := "x", num := 1, ty := .int32 }] }]
example : Src.to_dict_field [] [] (toDict [] [] .camel false) .camel false fI64 (getattrField [] fI64 false (.int 5)) false []
    = .ok [(.str [98, 105, 103], .decStr 5)] := by
  -- the key is computed by the kernel alone, the iteration by unfolding
  rw [← (by rw [jsonKey_fast]; decide +kernel : jsonKey .camel fI64.name = .str [98, 105, 103])]
  rfl
example : Src.to_dict_field [] [] (toDict [] [] .camel false) .camel false fI64 (getattrField [] fI64 false (.int 0)) false []
    = .ok [] := by rfl
example : Src.to_dict_field [] [] (toDict [] [] .camel false) .camel false fOne (getattrField [] fOne false (.int 0)) true []
    = .ok [(.str [112, 105, 99, 107], .num 0)] := by
  rw [← (by rw [jsonKey_fast]; decide +kernel : jsonKey .camel fOne.name = .str [112, 105, 99, 107])]
  rfl
example : Src.to_dict_field [] [] (toDict [] [] .camel false) .camel false fOne (getattrField [] fOne true (.int 7)) false []
    = .ok [] := by rfl
example : Src.to_dict_field Ssub [] (toDict Ssub [] .camel false) .camel false fSub
      (getattrField Ssub fSub false (.msg 0 [.int 1] false [] [])) false []
    = .ok [(.str [115, 117, 98], .obj [.str [120]] [.num 1])] := by decide +kernel
example : Src.to_dict_field [] [] (toDict [] [] .camel false) .camel false fI64 (getattrField [] fI64 false (.int 5)) false
      [(.str [98, 105, 103], .null), (.str [122], .null)]
    = .ok [(.str [98, 105, 103], .decStr 5), (.str [122], .null)] := by decide +kernel

end Bp.C04
