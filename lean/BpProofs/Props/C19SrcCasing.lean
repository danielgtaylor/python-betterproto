import BpProofs.SrcTieCasing
import BpProofs.Props.C19
/-
  C19, tied to the SOURCE, regular expressions included.  src/betterproto/casing.py as regenerated on every run
  (harness/extract_srccasing.py → BpProofs/Gen/SrcCasing.lean): the regex STRINGS of the two `re.sub` calls are
  evaluated from the module constants SYMBOLS / WORD / WORD_UPPER and parsed into the regex AST of
  BpProofs/PyRegex.lean, the `substitute_word` closures, `camel_case`, `lowercase_first`, `sanitize_name`,
  `safe_snake_case` are translated statement by statement (at strict = True, the only mode any call site uses).
  Under the semantics of CPython's `re` stated in BpProofs/PyRegex.lean (backtracking matcher, `re.sub` with the
  empty-match rule of CPython ≥ 3.7; validated against the real module by harness/tests/check_regex.py) the
  translated functions ARE the model functions of BpModel/Casing.lean the C19 (and, through `safeSnake`, the C13)
  theorems are about — for ALL strings, no length bound.  The hand-written tokenizer `go` is thereby not an
  assumption resting on the correspondence run: it is proved equal to what `re.sub` does.

  Trusted: BpProofs/PyRegex.lean (meaning of the regex syntax and of `re.sub`), BpProofs/PyPreludeCasing.lean
  (`str.lower` / `capitalize` / `isidentifier` on ASCII, `keyword.iskeyword` = the regenerated keyword list),
  BpProofs/PyPreludeStr.lean (`str * int`, slices), and the translator.
-/
namespace Bp.C19
open Bp Bp.Casing Bp.Naming Bp.PyRe Bp.SrcTieCasing

/-- **one match of the pattern as written = one step of the tokenizer.**  On every non-empty input the pattern of
    `pascal_case`, as parsed from the source, matches at once (nothing is skipped, whatever `must_advance` says), the
    match is non-empty and consists of the symbols `sy` (group 1) and the word `w` (group 2), and `w` is the
    tokenizer's next word (`emit` drops it when it is empty, which happens only when the symbols reach the end). -/
theorem src_match_is_token (s : List Char) (hs : s ≠ []) :
    ∃ sy w rest, s = sy ++ (w ++ rest) ∧ sy.length + w.length ≠ 0 ∧ tokens s = emit w (tokens rest) ∧ (w = [] → rest = []) ∧
      ∀ (adv : Bool) (pos : Nat), matchAt Src.pascal_case.pattern adv pos s
        = some ⟨pos + (sy.length + w.length), rest, [(2, w), (1, sy)]⟩ := by
  obtain ⟨sy, w, rest, h1, h2, h3, h4, h5⟩ := body_sim s
  exact ⟨sy, w, rest, h1, h4 hs, h2, h3, fun adv pos => by rw [pascal_pattern_eq]; exact (h5 1 2 pos).matchAt (by rw [ne_self_add (h4 hs), Bool.and_false])⟩

/-- `snake_case` as written (`re.sub` of `(^)?(SYMBOLS)(WORD_UPPER|WORD)` with its `substitute_word`) is the model's
    `snake`: the tokenizer's words, lower-cased, joined by `_` — for every string -/
theorem src_snake_case (s : List Char) : Src.snake_case s = snake s := snake_case_eq s

/-- `pascal_case` as written (`re.sub` of `(SYMBOLS)(WORD_UPPER|WORD)`) is the model's `pascal` — for every string -/
theorem src_pascal_case (s : List Char) : Src.pascal_case s = pascal s := pascal_case_eq s

/-- `camel_case` as written (`lowercase_first(pascal_case(value))`) is the model's `camel` — for every string -/
theorem src_camel_case (s : List Char) : Src.camel_case s = camel s := by
  rw [Src.camel_case, pascal_case_eq, lowercase_first_eq]
  rfl

/-- `sanitize_name` as written is the model's `sanitize` -/
theorem src_sanitize_name (v : List Char) : Src.sanitize_name v = sanitize v := sanitize_name_eq v

/-- `safe_snake_case` as written is the model's `safeSnake` (= `pythonize_field_name`, `pythonize_method_name`,
    `from_dict`'s key → field map, and the alias function of C13's `reference_absolute` / `reference_cousin`) -/
theorem src_safe_snake_case (s : List Char) : Src.safe_snake_case s = safeSnake s := safe_snake_case_eq s

/-- "maps to a Python name that is a valid identifier and not a keyword": the result of `safe_snake_case` as
    written, for EVERY input string -/
theorem src_field_name_valid (s : List Char) :
    pyIdent (Src.safe_snake_case s) = true ∧ Src.safe_snake_case s ∉ kw := by
  rw [src_safe_snake_case]; exact field_name_valid s

/-- "the mapping is idempotent": `safe_snake_case` and `snake_case` as written, on every string -/
theorem src_field_name_idem (s : List Char) :
    Src.safe_snake_case (Src.safe_snake_case s) = Src.safe_snake_case s ∧
    Src.snake_case (Src.snake_case s) = Src.snake_case s := by
  simp only [src_safe_snake_case, src_snake_case]
  exact ⟨safeSnake_idem s, snake_idem s⟩

/-- "the key to_dict emits (snake_case casing) is mapped by from_dict back to the same field": with the functions
    as written, for every proto name `p` (field `f = safe_snake_case(p)`, key `snake_case(f).rstrip("_")`) -/
theorem src_key_roundtrip_snake (p : List Char) :
    Src.safe_snake_case (rstripU (Src.snake_case (Src.safe_snake_case p))) = Src.safe_snake_case p := by
  simp only [src_safe_snake_case, src_snake_case]
  exact key_roundtrip_snake p

/-- the same for the default camelCase key, when every word of the name begins with two letters (D15 otherwise) -/
theorem src_key_roundtrip_camel_partial (p : List Char) (h : allWordsAlpha2 p = true) :
    Src.safe_snake_case (rstripU (Src.camel_case (Src.safe_snake_case p))) = Src.safe_snake_case p := by
  simp only [src_safe_snake_case, src_camel_case]
  exact key_roundtrip_camel_partial p h

/-- D15 on the source as written: the camelCase key of `address_line_1` is mapped to another field -/
theorem src_key_roundtrip_digit_witness :
    Src.safe_snake_case (str "address_line_1") = str "address_line_1" ∧
    rstripU (Src.camel_case (str "address_line_1")) = str "addressLine1" ∧
    Src.safe_snake_case (str "addressLine1") = str "address_line1" := by
  simp only [src_safe_snake_case, src_camel_case]
  exact key_roundtrip_digit_witness.2

/-! non-vacuity: the regex semantics EVALUATED on the patterns parsed from the source (no model involved) -/
example : Src.snake_case (str "HTTPStatus_codeXYz9a__") = str "http_status_code_x_yz9_a" := by decide +kernel
example : Src.pascal_case (str "HTTPStatus_codeXYz9a__") = str "HttpStatusCodeXYz9A" := by decide +kernel
example : Src.camel_case (str "foo_bar1Baz") = str "fooBar1Baz" := by decide +kernel
example : Src.safe_snake_case (str "class") = str "class_" := by decide +kernel
example : Src.safe_snake_case (str "1a") = str "_1_a" := by decide +kernel
example : Src.snake_case (str "") = str "" ∧ Src.snake_case (str "__") = str "" := by decide +kernel
/-- the empty-match rule of `re.sub`, CPython ≥ 3.7: `re.sub('x*', '-', 'abxd') == '-a-b--d-'` -/
example : sub (.star ⟨false, [('x', 'x')]⟩) (fun _ => str "-") (str "abxd") = str "-a-b--d-" := by decide +kernel

#print axioms src_match_is_token
#print axioms src_snake_case
#print axioms src_pascal_case
#print axioms src_camel_case
#print axioms src_safe_snake_case
#print axioms src_field_name_valid
#print axioms src_key_roundtrip_snake

end Bp.C19
