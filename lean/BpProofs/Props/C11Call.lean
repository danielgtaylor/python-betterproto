import BpModel.GrpcCall
import BpModel.Gen.StubTable
import BpProofs.GrpcCall
import BpProofs.Props.C11
/-
  C11, the central sentence — "a call made through the generated client stub … invokes exactly the handler …, once,
  with a request (or request stream) equal to what the caller sent, and the caller receives the handler's response
  (or response stream) equal and in order, for all four streaming cardinalities.  A method not overridden answers
  UNIMPLEMENTED, a handler's GRPCError status reaches the caller" — about the MODEL of the call protocol
  (BpModel/GrpcCall.lean): the four helpers of `ServiceStub` as lists of stream operations, the generated `__rpc_*`
  adapters and `_call_rpc_handler_server_stream` compiled with the handler (an arbitrary interaction tree) into the
  server task, one grpclib stream as two FIFOs + status.  `call card h reqs` is the run under the canonical schedule;
  Props/C11Sched.lean: every schedule ends the same way (with one exception, a genuine race of the code).

  The specification side is `hFeed`: the handler's body run ON ITS OWN against the request list.  The theorems say
  that helper + transport + adapter add nothing and lose nothing: what the handler is given, what the caller gets.

  Assumed, not proved: the model of grpclib's stream (head of BpModel/GrpcCall.lean); tied to the source:
  Props/C11Src.lean.
-/
namespace Bp.C11
open Bp.Grpc Bp.GrpcCall Bp.Gen

variable {Req Resp : Type}

/-- the caller's argument fits the stub method's signature: one message for a unary request -/
def reqsFit (card : Card) (reqs : List Req) : Bool := csOf card || reqs.length == 1

/-- the handler's body run on its own: on the request iterator over `reqs` (client streaming), on the one message -/
def handlerRun (card : Card) (h : Handler Req Resp) (reqs : List Req) : HOut Req Resp :=
  if csOf card then hFeed true (h.body none) reqs else hFeed false (h.body reqs.head?) []

/-- **the sentence, for every cardinality, every request list, every handler** (of the kind the Base class
    declares: an async generator exactly for a server-streaming RPC).  The handler's body is started exactly ONCE;
    it is given exactly the sent message (unary request) / the answers `hFeed` computes from the sent list (request
    stream: `handler_given_is_sent_prefix`); the server task finishes; the caller's `async for` receives exactly
    the handler's yields in order (server streaming; nothing for a unary response) and the call ends with the
    handler's return value (unary response), with the end of the iteration (response stream), or with the handler's
    GRPCError -/
theorem call_delivers (card : Card) (h : Handler Req Resp) (reqs : List Req)
    (hk : h.isGen = ssOf card) (hr : reqsFit card reqs = true) :
    call card h reqs =
      { calls := 1,
        hIn := if csOf card then (handlerRun card h reqs).given else [reqs.head?],
        served := true,
        yielded := if ssOf card then (handlerRun card h reqs).yields else [],
        result := if ssOf card then genResult (handlerRun card h reqs).fin
                  else coroResult (handlerRun card h reqs).fin } := by
  cases card with
  | unaryUnary => match reqs, hr with | [r], _ => exact call_unaryUnary h hk r
  | unaryStream => match reqs, hr with | [r], _ => exact call_unaryStream h hk r
  | streamUnary => exact call_streamUnary h hk reqs
  | streamStream => exact call_streamStream h hk reqs

/-- **"the handler is invoked exactly once"** -/
theorem handler_invoked_once (card : Card) (h : Handler Req Resp) (reqs : List Req)
    (hk : h.isGen = ssOf card) (hr : reqsFit card reqs = true) : (call card h reqs).calls = 1 := by
  rw [call_delivers card h reqs hk hr]

/-- **"with a request equal to what the caller sent"**, unary request: the handler is given that message -/
theorem handler_given_unary (card : Card) (h : Handler Req Resp) (r : Req) (hc : csOf card = false)
    (hk : h.isGen = ssOf card) : (call card h [r]).hIn = [some r] := by
  rw [call_delivers card h [r] hk (by simp [reqsFit])]; simp [hc]

/-- **"with a request stream equal to what the caller sent"**: the successive pulls of the request iterator are
    answered with the sent messages in order without loss or duplication (`taken ++ unread = reqs`), the end of
    the stream is reported only after the last sent message, and then at every further pull -/
theorem handler_given_is_sent_prefix (card : Card) (h : Handler Req Resp) (reqs : List Req) (hc : csOf card = true)
    (hk : h.isGen = ssOf card) :
    ∃ unread : List Req,
      (call card h reqs).hIn.filterMap id ++ unread = reqs
      ∧ (call card h reqs).hIn =
          ((call card h reqs).hIn.filterMap id).map some
            ++ List.replicate ((call card h reqs).hIn.countP Option.isNone) none
      ∧ ((call card h reqs).hIn.any Option.isNone = true → unread = []) := by
  rw [call_delivers card h reqs hk (by simp [reqsFit, hc])]
  simp only [hc, if_true, handlerRun]
  exact ⟨_, hFeed_given (h.body none) reqs⟩

/-- … so a handler that reads its request stream to the end has been given exactly the sent list -/
theorem handler_given_all (card : Card) (h : Handler Req Resp) (reqs : List Req) (hc : csOf card = true)
    (hk : h.isGen = ssOf card) (hend : (call card h reqs).hIn.any Option.isNone = true) :
    (call card h reqs).hIn.filterMap id = reqs := by
  obtain ⟨u, h1, _, h3⟩ := handler_given_is_sent_prefix card h reqs hc hk
  simpa [h3 hend] using h1

/-- **"the caller receives the handler's response stream equal and in order"** -/
theorem caller_gets_yields (card : Card) (h : Handler Req Resp) (reqs : List Req) (hs : ssOf card = true)
    (hk : h.isGen = ssOf card) (hr : reqsFit card reqs = true) :
    (call card h reqs).yielded = (handlerRun card h reqs).yields := by
  rw [call_delivers card h reqs hk hr]; simp [hs]

/-- **"the caller receives the handler's response"**: the value the handler returns is the value of the call -/
theorem caller_gets_return (card : Card) (h : Handler Req Resp) (reqs : List Req) (x : Resp) (hs : ssOf card = false)
    (hk : h.isGen = ssOf card) (hr : reqsFit card reqs = true)
    (hret : (handlerRun card h reqs).fin = .ret (some x)) :
    (call card h reqs).result = .returned (some x) ∧ (call card h reqs).yielded = [] := by
  rw [call_delivers card h reqs hk hr]; simp [hs, hret, coroResult]

/-- **"a handler's GRPCError status reaches the caller"**, all four cardinalities: the call ends with exactly that
    error — for a response stream after exactly the responses the handler yielded before raising -/
theorem handler_error_reaches_caller (card : Card) (h : Handler Req Resp) (reqs : List Req) (e : GErr)
    (hk : h.isGen = ssOf card) (hr : reqsFit card reqs = true)
    (hraise : (handlerRun card h reqs).fin = .raise e) :
    (call card h reqs).result = .grpcError e
    ∧ (call card h reqs).yielded = (if ssOf card then (handlerRun card h reqs).yields else []) := by
  rw [call_delivers card h reqs hk hr]
  cases hs : ssOf card <;> simp [hraise, coroResult, genResult]

/-- **"a method not overridden answers UNIMPLEMENTED"**: the default body of the Base class, under every
    cardinality, for every request list: the caller gets GRPCError(UNIMPLEMENTED) and no response -/
theorem unimplemented_answers (card : Card) (reqs : List Req) (hr : reqsFit card reqs = true) :
    (call (Resp := Resp) card (unimplementedHandler card) reqs).result = .grpcError unimplementedErr
    ∧ (call (Resp := Resp) card (unimplementedHandler card) reqs).yielded = []
    ∧ unimplementedErr.status = 12 := by
  rw [call_delivers card _ reqs rfl hr]
  cases card <;> simp [unimplementedHandler, handlerRun, csOf, ssOf, hFeed, coroResult, genResult, unimplementedErr]

/-! ### the kind of the handler matters: what the adapters do with the other kind (decided witnesses) -/

/-- WITHOUT the unreachable `yield` a server-streaming handler is a coroutine function:
    `_call_rpc_handler_server_stream` closes the coroutine without running it — its GRPCError does NOT reach the
    caller, who sees an empty stream ending normally (why the template emits `yield` after `raise`; C11-b) -/
theorem coroutine_handler_of_stream_rpc_not_run :
    call (Req := Nat) (Resp := Nat) .unaryStream ⟨false, fun _ => .raise ⟨5, none⟩⟩ [7]
      = ⟨0, [], true, [], .returned none⟩ := by decide +kernel

/-- an async generator as the handler of a unary-response RPC: `await` of it fails, the caller sees UNKNOWN -/
theorem generator_handler_of_unary_rpc :
    call (Req := Nat) (Resp := Nat) .unaryUnary ⟨true, fun _ => .yield 1 (.ret none)⟩ [7]
      = ⟨0, [], true, [], .grpcError internalErr⟩ := rfl

def helperName : Card → String
  | .unaryUnary => "_unary_unary" | .unaryStream => "_unary_stream"
  | .streamUnary => "_stream_unary" | .streamStream => "_stream_stream"
def recvName : RecvShape → String | .recvMessage => "recv_message" | .aiter => "aiter"
def sendName : SendShape → String | .sendMessage => "send_message" | .serverStream => "server_stream"

/-- **the stub helper chosen for (cs, ss) and the `__rpc_*` shape chosen for (cs, ss) are compatible**: under
    every option set, for every RPC of the probe service as rendered by the real template (regenerated table), the
    helper the stub method calls is the one `call` runs for the cardinality of the flags (`helperProg`), the
    Cardinality that helper gives to `channel.request` is the one of `__mapping__` and of the model's program, and
    the adapter reads the request and delivers the response the way `rpcShape` of that cardinality says -/
theorem stub_and_adapter_are_the_models :
    stubTable.all (fun r =>
      let card := cardOf r.clientStreaming r.serverStreaming
      r.stubHelper == helperName card
      && lookup3 r.stubHelper == some (cardName (helperProg (Req := Nat) (α := Unit) card [] ⟨none, none, none⟩ [0]).card, true)
      && r.mapCard == cardName card
      && r.rpcRecv == recvName (rpcShape card).recv
      && r.rpcSend == sendName (rpcShape card).send
      && csOf card == r.clientStreaming && ssOf card == r.serverStreaming
      && r.baseYields == (unimplementedHandler (Req := Nat) (Resp := Nat) card).isGen) = true := by
  decide +kernel

/-! ### non-vacuity -/

private def echo2 : HProg Nat Nat :=
  .recv fun a => match a with
    | none => .ret none
    | some x => .yield (x + 100) (.recv fun b => match b with
      | none => .ret none
      | some y => .yield (y + 100) (.recv fun _ => .ret none))

example : call .streamStream ⟨true, fun _ => echo2⟩ [1, 2]
    = ⟨1, [some 1, some 2, none], true, [101, 102], .returned none⟩ := by decide +kernel
example : call (Req := Nat) .unaryUnary ⟨false, fun r => .ret (r.map (· + 1))⟩ [41]
    = ⟨1, [some 41], true, [], .returned (some 42)⟩ := by decide +kernel
example : call (Req := Nat) (Resp := Nat) .unaryStream ⟨true, fun _ => .yield 1 (.yield 2 (.raise ⟨5, none⟩))⟩ [0]
    = ⟨1, [some 0], true, [1, 2], .grpcError ⟨5, none⟩⟩ := by decide +kernel
example : call (Req := Nat) (Resp := Nat) .streamUnary
      ⟨false, fun _ => .recv fun a => .recv fun b => .ret (some (a.getD 0 + b.getD 0))⟩ [3, 4, 5]
    = ⟨1, [some 3, some 4], true, [], .returned (some 7)⟩ := by decide +kernel
example : reqsFit .unaryUnary [1] = true ∧ reqsFit .streamStream ([] : List Nat) = true := by decide +kernel

end Bp.C11
