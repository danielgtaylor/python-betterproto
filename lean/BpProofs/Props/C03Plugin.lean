import BpProofs.PluginSchemaPkg
import BpProofs.Props.C03
/-
  C03 — "each class has exactly one field per schema field, carrying the schema's field number,
  scalar type, cardinality (singular / optional / repeated / map with its key and value types),
  oneof group and wrapper / Timestamp / Duration mapping" — in the sense the RUNTIME reads them.

  `Props/C03.lean` proves the sentence about what `dataclasses.fields` + `FieldMetadata` + the
  hint *show* (`readBack` / `observe`).  Here the same sentence is proved about the `FieldD` /
  `MsgD` / `Schema` that `ProtoClassMetadata` derives from the generated classes
  (`BpModel/PluginSchema.lean: toSchema`) — the objects every codec theorem (C01, C02, C04–C10,
  C14, C17) quantifies over.  Lemmas: BpProofs/PluginSchema*.lean.  The guards are those of
  `Props/C03.lean` (`validMsg`, `mapRefsLocal` (D31), `noWrapperMapValue` (D30)), for every
  message of every file at every depth (`validPackage`).  The correspondence run
  (harness/props/c03_schema.py) compares `toSchema` with `cls._betterproto` of the really
  generated classes.
-/
namespace Bp.C03
open Bp Bp.Plugin

/-- what `specFieldD` — the SPEC's reading of a descriptor field as a runtime `FieldD` — says:
    the field number, the proto type, the cardinality (`repeated` / `optional` flags, map key and
    value types), the oneof group as the index of its name among the group names, `wraps`, and the
    Timestamp / Duration / generated-class mapping of a message element (of a map's message value) -/
theorem specFieldD_reads (env : Env) (gs : List Name) (n : Name) (s : FieldSpec) (d : FieldD)
    (h : specFieldD env gs n s = some d) :
    d.num = s.number ∧ d.ty = s.ty ∧ d.wraps = s.wraps
    ∧ d.repeated = decide (s.card = .repeated) ∧ d.optional = decide (s.card = .optional)
    ∧ (∀ k v, s.card = .map k v → d.mapK = k ∧ d.mapV = v)
    ∧ groupIdx gs s.group = some d.group
    ∧ (s.ty = .message → s.wraps = none → kindOfElem env s.elem = some d.kind)
    ∧ (∀ k, s.card = .map k .message → s.ty = .map → kindOfElem env s.elem = some d.mapVKind) :=
  specFieldD_some h

/-- **one field, as the runtime reads it.**  For every field `f` of every protoc-valid message
    outside the excluded regions the plugin emits a line `c`, and the `FieldD` the runtime derives
    from that line (`cfieldD`: `FieldMetadata` + `default_gen` + `cls_by_field` + the group index)
    is exactly the `FieldD` the descriptor demands (`specFieldD` of `specOf`) — in particular it is
    defined iff the latter is (the type names resolve inside the package) -/
theorem field_schema_faithful_partial (nm : Naming) (env : Env) (gs : List Name) (full : Name) (m : MsgP) (f : FieldP)
    (hv : validMsg full m = true) (hl : mapRefsLocal full m = true) (hw : noWrapperMapValue m = true)
    (hf : f ∈ m.fields) :
    ∃ c s, compileField nm m f = some c ∧ specOf full m f = some s
      ∧ cfieldD env gs c = specFieldD env gs (nm.fld f.name) s :=
  let ⟨c, _, s, C⟩ := field_compiled nm hv hl hw hf
  ⟨c, s, C.compile, C.spec, C.fieldD env gs⟩

/-- **one class**: `ProtoClassMetadata` of the class generated for a valid message = the `MsgD`
    the descriptor demands: the fields in declaration order, the oneof groups numbered in order of
    first occurrence -/
theorem class_schema_faithful_partial (nm : Naming) (env : Env) (full : Name) (m : MsgP)
    (hv : validMsg full m = true) (hl : mapRefsLocal full m = true) (hw : noWrapperMapValue m = true) :
    ∃ cs, compileFields nm m m.fields = some cs ∧ classD env cs = specMsgD nm env full m :=
  class_schema_faithful nm env full m hv hl hw

/-- **the whole package.**  For every list of files all of whose messages (at every depth) are in
    the domain and on which the plugin does not raise: the runtime schema of the emitted classes
    (`toSchema`) is, class by class and field by field, the schema the descriptors demand
    (`specSchema`: the non-map-entry messages in traversal order, each read by `specMsgD`) -/
theorem schema_faithful_partial (nm : Naming) (pkg : Name) (files : List FileP) (cs : List Class)
    (hv : validPackage files = true) (hc : compilePackage nm files = some cs) :
    toSchema nm pkg cs = specSchema nm (envOf nm pkg cs) files :=
  toSchema_eq_spec nm pkg files cs hv hc

/-- … hence `toSchema` is defined exactly when every type name the descriptors mention resolves
    to a class of the package -/
theorem schema_defined_iff_partial (nm : Naming) (pkg : Name) (files : List FileP) (cs : List Class)
    (hv : validPackage files = true) (hc : compilePackage nm files = some cs) :
    (toSchema nm pkg cs).isSome = (specSchema nm (envOf nm pkg cs) files).isSome := by
  rw [schema_faithful_partial nm pkg files cs hv hc]

/-- one `MsgD` per message class, in class order -/
theorem schema_length (nm : Naming) (pkg : Name) (cs : List Class) (S : Schema)
    (h : toSchema nm pkg cs = some S) : S.length = (msgClasses cs).length :=
  mapMOpt_length h

/-! ### non-vacuity: a nested schema with a map, a oneof, an optional, a wrapper, a Timestamp -/

/-- `message Demo { … message Inner { Demo up = 1; Kind k = 2; } }` (Props/C03.lean `demo` + a nested message) -/
def inner : MsgP := .mk (ch "Inner")
  [ { name := ch "up", number := 1, label := .optional, type := 11, typeName := ch ".p.Demo" },
    { name := ch "k", number := 2, label := .optional, type := 14, typeName := ch ".p.Demo.Kind" } ] [] [] [] false

def demo2 : MsgP := .mk (ch "Demo") (demo.fields ++
  [ { name := ch "in", number := 11, label := .repeated, type := 11, typeName := ch ".p.Demo.Inner" } ])
  (demo.nested ++ [inner]) demo.enums demo.oneofs false

def demoFile : FileP := ⟨ch "p", [demo2], []⟩

/-- what is compared of a `FieldD` (everything but the name) -/
structure FKey where
  num : Nat
  ty : PType
  repeated : Bool
  optional : Bool
  group : Option Nat
  wraps : Option PType
  kind : MsgKind
  mapK : PType
  mapV : PType
  mapVKind : MsgKind
  enumRef : Option Nat
  deriving DecidableEq, Repr

def fieldKey (f : FieldD) : FKey :=
  ⟨f.num, f.ty, f.repeated, f.optional, f.group, f.wraps, f.kind, f.mapK, f.mapV, f.mapVKind, f.enumRef⟩
def schemaKey (S : Schema) : List (Nat × List FKey) := S.map fun d => (d.nGroups, d.fields.map fieldKey)

example : validPackage [demoFile] = true := by
  delta validPackage inDomain validMsg validField validEntry noWrapperMapValue
  simp only [spec_tables.1, spec_tables.2.1, spec_tables.2.2]
  decide +kernel

example : ((compilePackage idNaming [demoFile]).bind (toSchema idNaming (ch "p"))).map schemaKey = some
    [ (1, [ ⟨1, .int64, false, false, none, none, .user 0, .int32, .int32, .user 0, none⟩,
            ⟨2, .string, true, false, none, none, .user 0, .int32, .int32, .user 0, none⟩,
            ⟨3, .uint32, false, true, none, none, .user 0, .int32, .int32, .user 0, none⟩,
            ⟨4, .bytes, false, false, some 0, none, .user 0, .int32, .int32, .user 0, none⟩,
            ⟨5, .message, false, false, some 0, none, .timestamp, .int32, .int32, .user 0, none⟩,
            ⟨6, .message, false, false, none, some .uint64, .user 0, .int32, .int32, .user 0, none⟩,
            ⟨7, .message, true, false, none, none, .duration, .int32, .int32, .user 0, none⟩,
            ⟨8, .enum, false, false, none, none, .user 0, .int32, .int32, .user 0, some 0⟩,
            ⟨9, .map, false, false, none, none, .user 0, .sint32, .message, .user 0, none⟩,
            ⟨10, .message, false, false, none, none, .user 0, .int32, .int32, .user 0, none⟩,
            ⟨11, .message, true, false, none, none, .user 1, .int32, .int32, .user 0, none⟩ ]),
      (0, [ ⟨1, .message, false, false, none, none, .user 0, .int32, .int32, .user 0, none⟩,
            ⟨2, .enum, false, false, none, none, .user 0, .int32, .int32, .user 0, some 0⟩ ]) ] := by decide +kernel

/-- a reference that leaves the package does not resolve: `toSchema` is undefined (the guard of
    `schema_defined_iff_partial` is not vacuous) -/
theorem cross_package_reference_unresolved :
    let m : MsgP := .mk (ch "M") [{ name := ch "x", number := 1, label := .optional, type := 11, typeName := ch ".q.X" }] [] [] [] false
    validPackage [⟨ch "p", [m], []⟩] = true
    ∧ (compilePackage idNaming [⟨ch "p", [m], []⟩]).isSome = true
    ∧ (compilePackage idNaming [⟨ch "p", [m], []⟩]).bind (toSchema idNaming (ch "p")) = none := by
  decide +kernel

end Bp.C03
