import BpModel.All
import BpProofs.ChanTerm
import BpProofs.Props.C12
/-
  C12 — AsyncChannel: **termination of every schedule, without a fairness assumption**.
  Only property statements live here; the measure `mu`, the extra invariant `PutOk` and the
  per-action decrease are in BpProofs/ChanTerm.lean.

  Props/C12.lean states liveness as safety ("in a quiescent state of a closed channel no receiver
  is blocked") and leaves "a quiescent state is eventually reached" to the fairness of the event
  loop.  The theorems below remove that caveat for the model: there is NO infinite sequence of
  enabled scheduler choices (ready handle runs, `wait_for` timer firings).  Every program is
  finite, a wake-up is consumed by the task it wakes, a spurious wake-up is paid for by the `put` /
  `get` / cancellation that caused it, every timer fires at most once and every `close()` spawns
  one finite `_flush_queue` task.  So whatever the scheduler picks, after at most
  `schedBound progs` choices no choice is enabled any more; in particular every way of running
  ready handles reaches a quiescent state, to which `quiescent_closed_no_blocked_receiver`
  applies.

  `mu s` = Σ over live tasks (1 if it holds a ready handle + 1 if `_must_cancel` + 4 per item still
  to put + 3 for a future `close()` + 2 for a future `cancel()` + 2 for a receiver on which no timer has fired
  (timed or not) + 1 for an unstarted flusher) + 2·qsize + (4 per live receiver while the channel is not flushed).
-/
namespace Bp.C12
open Bp.Chan

/-- the hypothesis of the termination theorems (the invariant `Inv` of C12 plus "only a task with
    something left to put is ever suspended inside `Queue.put()`") holds in every reachable state -/
theorem reachable_tinv (maxsize : Nat) (progs : List Prog) (cs : List Choice) : TInv (reach maxsize progs cs) :=
  run_tinv (init_tinv maxsize progs) cs

/-- **every enabled scheduler choice strictly decreases the measure** in a reachable state:
    running the ready handle of a task (all its atomic actions until it suspends or finishes) as
    well as firing a live `wait_for` timer -/
theorem step_decreases {s : Sys} {c : Choice} (h : TInv s) (he : enabled s c = true) : mu (step s c) < mu s :=
  step_term h he

/-- the same for the states of a run: whatever was scheduled before (`cs`, valid or not), the next
    enabled choice decreases the measure -/
theorem reachable_step_decreases (maxsize : Nat) (progs : List Prog) (cs : List Choice) (c : Choice)
    (he : enabled (reach maxsize progs cs) c = true) :
    mu (step (reach maxsize progs cs) c) < mu (reach maxsize progs cs) :=
  step_term (reachable_tinv maxsize progs cs) he

/-- the measure of the initial state is an explicit function of the configuration:
    `1 + 4n (+3 with close)` per sender of `n` items, 7 per receiver, 4 per closer, 3 per canceller;
    it does not depend on the buffer limit -/
theorem bound_explicit (maxsize : Nat) (progs : List Prog) : mu (init maxsize progs) = schedBound progs :=
  mu_init maxsize progs

/-- **every schedule of enabled choices is finite, with an explicit bound**: a schedule in which
    every choice is enabled when it is taken (`validSched`) has at most `mu (init …)` choices -/
theorem schedules_bounded (maxsize : Nat) (progs : List Prog) (cs : List Choice)
    (hv : validSched (init maxsize progs) cs = true) : cs.length ≤ mu (init maxsize progs) := by
  have := sched_term (init_tinv maxsize progs) cs hv
  omega

/-- … and the bound written out -/
theorem schedules_bounded_explicit (maxsize : Nat) (progs : List Prog) (cs : List Choice)
    (hv : validSched (init maxsize progs) cs = true) : cs.length ≤ schedBound progs := by
  rw [← mu_init maxsize progs]; exact schedules_bounded maxsize progs cs hv

/-- **no infinite schedule**: of every infinite sequence of choices some finite prefix contains a
    choice that is not enabled when taken — no scheduler, fair or unfair, keeps the system busy forever -/
theorem no_infinite_schedule (maxsize : Nat) (progs : List Prog) (f : Nat → Choice) :
    ∃ n, validSched (init maxsize progs) ((List.range n).map f) = false := by
  refine ⟨schedBound progs + 1, ?_⟩
  cases hv : validSched (init maxsize progs) ((List.range (schedBound progs + 1)).map f)
  · rfl
  · have := schedules_bounded_explicit maxsize progs _ hv
    simp only [List.length_map, List.length_range] at this
    omega

/-- **every maximal schedule is quiescent**: a valid schedule that cannot be extended by running a
    ready handle (live timers may remain: a timeout need not ever fire) has reached a quiescent state -/
theorem maximal_schedule_quiescent (maxsize : Nat) (progs : List Prog) (cs : List Choice)
    (hmax : ∀ t, validSched (init maxsize progs) (cs ++ [.run t]) = false)
    (hv : validSched (init maxsize progs) cs = true) :
    quiescent (reach maxsize progs cs) = true := by
  cases hq : quiescent (reach maxsize progs cs)
  · obtain ⟨t, ht⟩ := not_quiescent hq
    have := hmax t
    rw [validSched_append, hv] at this
    simp only [validSched, enabled, Bool.and_true, Bool.true_and] at this
    rw [ht] at this
    cases this
  · rfl

/-- **every schedule can be run to quiescence in boundedly many steps**: every valid schedule `cs`
    has a valid extension `cs ++ cs'`, of total length ≤ the bound, that ends in a quiescent state.
    (By `schedules_bounded` and `maximal_schedule_quiescent` ANY way of extending `cs` by ready
    handles until none is left is such an extension; no choice of the scheduler can avoid it.) -/
theorem run_to_quiescence (maxsize : Nat) (progs : List Prog) (cs : List Choice)
    (hv : validSched (init maxsize progs) cs = true) :
    ∃ cs', validSched (init maxsize progs) (cs ++ cs') = true ∧ (cs ++ cs').length ≤ schedBound progs ∧
      quiescent (reach maxsize progs (cs ++ cs')) = true := by
  obtain ⟨cs', hv', hq⟩ := exists_quiescent (reachable_tinv maxsize progs cs)
  have hval : validSched (init maxsize progs) (cs ++ cs') = true := by
    rw [validSched_append, hv]; exact hv'
  refine ⟨cs', hval, schedules_bounded_explicit maxsize progs _ hval, ?_⟩
  show quiescent (run (init maxsize progs) (cs ++ cs')) = true
  rw [run_append]; exact hq

/-- **no stranded receiver, without fairness**: every maximal valid schedule has at most
    `schedBound progs` choices and ends in a quiescent state in which, if the channel has been
    closed, no receiver is blocked inside `get()` -/
theorem terminates_no_blocked_receiver (maxsize : Nat) (progs : List Prog) (cs : List Choice)
    (hv : validSched (init maxsize progs) cs = true)
    (hmax : ∀ t, validSched (init maxsize progs) (cs ++ [.run t]) = false) :
    cs.length ≤ schedBound progs ∧ quiescent (reach maxsize progs cs) = true ∧
    ((reach maxsize progs cs).closed = true →
      (reach maxsize progs cs).waiting = 0 ∧
      ∀ (t : Nat) (x : Task), (reach maxsize progs cs).tasks[t]? = some x → x.wait.inGet = false) := by
  have hq := maximal_schedule_quiescent maxsize progs cs hmax hv
  exact ⟨schedules_bounded_explicit maxsize progs cs hv, hq,
    fun hc => quiescent_closed_no_blocked_receiver maxsize progs cs hq hc⟩

/-- … and such a maximal schedule is reached from every valid schedule, within the bound -/
theorem eventually_no_blocked_receiver (maxsize : Nat) (progs : List Prog) (cs : List Choice)
    (hv : validSched (init maxsize progs) cs = true) :
    ∃ cs', validSched (init maxsize progs) (cs ++ cs') = true ∧ (cs ++ cs').length ≤ schedBound progs ∧
      quiescent (reach maxsize progs (cs ++ cs')) = true ∧
      ((reach maxsize progs (cs ++ cs')).closed = true →
        (reach maxsize progs (cs ++ cs')).waiting = 0 ∧
        ∀ (t : Nat) (x : Task), (reach maxsize progs (cs ++ cs')).tasks[t]? = some x → x.wait.inGet = false) := by
  obtain ⟨cs', h1, h2, h3⟩ := run_to_quiescence maxsize progs cs hv
  exact ⟨cs', h1, h2, h3, fun hc => quiescent_closed_no_blocked_receiver maxsize progs (cs ++ cs') h3 hc⟩

/- non-vacuity: a sender of 2 items with close (buffer limit 1, so it blocks in `put`), three
    receivers (one with a `wait_for` timer that fires), a canceller of receiver 1 -/

/-- the configuration of the examples -/
def demo : List Prog := [.sender false 2 true, .receiver false, .receiver true, .receiver false, .canceller 1]
/-- receivers 1, 2 block; the sender puts item 0 (waking 1) and blocks on the full buffer; the
    canceller cancels 1 while it is woken (`_must_cancel`); 3 takes item 0 (waking the sender) and
    blocks; 1 ends Cancelled; the timer of 2 fires; the sender puts item 1 (waking 3), finishes and
    closes; 2 ends with Timeout; 3 takes item 1 and finishes (closed and empty); the flusher
    (task 5) finds nobody waiting and finishes -/
def demoSched : List Choice :=
  [.run 1, .run 2, .run 0, .run 4, .run 3, .run 1, .fire 2, .run 0, .run 2, .run 3, .run 5]

example : validSched (init 1 demo) demoSched = true := by decide +kernel
example : quiescent (reach 1 demo demoSched) = true := by decide +kernel
example : (reach 1 demo demoSched).closed = true := by decide +kernel
example : (reach 1 demo demoSched).recvLog = [(3, .data 0 0), (3, .data 0 1)] := by decide +kernel
example : (reach 1 demo demoSched).tasks.map Task.out = [.ok, .cancelled, .timeout, .ok, .ok, .ok] := by decide +kernel
/-- the bound for this configuration, the length of this schedule, and the measure along it -/
example : schedBound demo = 36 ∧ demoSched.length = 11 ∧ mu (reach 1 demo demoSched) = 0 := by decide +kernel
/-- the schedule is maximal: no ready handle is left (the hypothesis of `maximal_schedule_quiescent`) -/
example : ∀ t < 6, validSched (init 1 demo) (demoSched ++ [.run t]) = false := by decide +kernel
/-- the measure strictly decreases along the schedule -/
example : (List.range 12).map (fun n => mu (reach 1 demo (demoSched.take n))) =
    [36, 35, 34, 32, 30, 28, 20, 19, 16, 11, 2, 0] := by decide +kernel

end Bp.C12
