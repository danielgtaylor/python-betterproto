import BpModel.All
import BpProofs.Load
import BpProofs.Props.C09
/-
  C10 — delimited streams read back intact; truncation never yields a partial message.
  (Model of `dump(stream, SIZE_DELIMITED)` / `load(stream, SIZE_DELIMITED)` after the
  D01 and D12 repairs: the reader takes exactly the announced number of bytes.)
-/
namespace Bp.C10
open Bp Gen

/-- one frame on the wire: canonical varint of the body length, then the body -/
def frameOf (body : Bytes) : Bytes := encNat body.length ++ body

/-- the writer emits exactly `frameOf bytes(m)` -/
theorem writer_frame (S : Schema) (m : Val) (body : Bytes) (h : dumpVal S m = .ok body) :
    dumpDelimited S m = .ok (frameOf body) := C09.dump_delimited S m body h

/-- **each load consumes exactly its own message**: from a stream that starts with one
    frame, the reader parses precisely the body (as `parse` would) and leaves precisely
    what follows — whatever the body contains (empty bodies, unknown fields, another
    message type) and whatever follows -/
theorem reader_frame (S : Schema) (m0 : Val) (body rest : Bytes) (hlen : body.length < 2 ^ 64) :
    loadDelimited S m0 (frameOf body ++ rest)
      = (parseInto S m0 body).bind fun v => .ok (v, rest) := by
  unfold loadDelimited frameOf
  rw [List.append_assoc, loadVarint_encNat body.length (body ++ rest) hlen]
  simp only []
  rw [List.drop_left]
  have h1 : ¬ (body ++ rest).length < body.length := by simp
  simp only [h1, if_false, List.take_left, List.drop_left]

/-- an empty message is a one-byte frame and does not swallow its successor (D12 witness) -/
theorem empty_frame (S : Schema) (m0 : Val) (rest : Bytes) :
    loadDelimited S m0 (frameOf [] ++ rest) = (parseInto S m0 []).bind fun v => .ok (v, rest) :=
  reader_frame S m0 [] rest (by decide)

/-- streams: writing a list of bodies and reading them back with successive loads -/
def frameAll : List Bytes → Bytes
  | [] => []
  | b :: bs => frameOf b ++ frameAll bs

def loadMany (S : Schema) : List Val → Bytes → R (List Val × Bytes)
  | [], bs => .ok ([], bs)
  | m0 :: ms, bs =>
    (loadDelimited S m0 bs).bind fun (v, rest) =>
      (loadMany S ms rest).bind fun (vs, rest') => .ok (v :: vs, rest')

def parseAll (S : Schema) : List Val → List Bytes → R (List Val)
  | m0 :: ms, b :: bs => (parseInto S m0 b).bind fun v => (parseAll S ms bs).bind fun vs => .ok (v :: vs)
  | _, _ => .ok []

/-- **any sequence of messages written with SIZE_DELIMITED is read back by successive
    loads as the sequence of their individual decodings**, consuming exactly the frames
    and leaving the rest of the stream untouched (receivers may be of different types:
    `m0s` is arbitrary) -/
theorem stream_roundtrip (S : Schema) (m0s : List Val) (bodies : List Bytes) (rest : Bytes)
    (hl : m0s.length = bodies.length) (hlen : ∀ b ∈ bodies, b.length < 2 ^ 64) :
    loadMany S m0s (frameAll bodies ++ rest) = (parseAll S m0s bodies).bind fun vs => .ok (vs, rest) := by
  induction m0s generalizing bodies with
  | nil =>
    cases bodies with
    | nil => rfl
    | cons b bs => simp at hl
  | cons m0 ms ih =>
    cases bodies with
    | nil => simp at hl
    | cons b bs =>
      simp only [frameAll, loadMany, parseAll, List.append_assoc]
      rw [reader_frame S m0 b _ (hlen b (by simp))]
      cases parseInto S m0 b with
      | error e => rfl
      | ok v =>
        simp only [bind_ok]
        rw [ih bs (by simpa using hl) (fun x hx => hlen x (by simp [hx]))]
        cases parseAll S ms bs <;> rfl

/-- **a stream cut inside a frame never yields a message**: every proper prefix of a
    frame makes the load raise.  The statement does not say which exception; in the model a
    cut in the length prefix ends in EOFError, a cut in the body in ValueError. -/
theorem cut_frame_rejected (S : Schema) (m0 : Val) (body : Bytes) (hlen : body.length < 2 ^ 64) (n : Nat)
    (hn : n < (frameOf body).length) :
    ∃ e, loadDelimited S m0 ((frameOf body).take n) = .error e := by
  unfold loadDelimited frameOf at *
  have hv := loadVarint_encNat body.length body hlen
  by_cases hp : n < (encNat body.length).length
  · -- inside the prefix
    rw [loadVarint_trunc _ _ _ n hv hp]
    exact ⟨_, rfl⟩
  · -- the prefix is whole, the body is short
    rw [take_split _ (Nat.le_of_not_lt hp), loadVarint_prefix _ _ _ hv]
    simp only []
    rw [List.take_left, List.drop_left, List.drop_left, if_pos]
    · exact ⟨_, rfl⟩
    · rw [List.length_append] at hn
      rw [List.length_take]; omega

/-- … and a stream cut after `j` whole frames yields exactly the first `j` loads of the
    uncut stream (then the next load raises by `cut_frame_rejected` or hits end of input) -/
theorem cut_between_frames (S : Schema) (m0 : Val) (body tail : Bytes) (hlen : body.length < 2 ^ 64) (n : Nat)
    (hn : (frameOf body).length ≤ n) :
    loadDelimited S m0 ((frameOf body ++ tail).take n)
      = (parseInto S m0 body).bind fun v => .ok (v, tail.take (n - (frameOf body).length)) := by
  rw [List.take_append, List.take_of_length_le hn]
  exact reader_frame S m0 body _ hlen

/-! non-vacuity: two frames, the first one empty -/
def S1 : Schema := [{ fields := [{ name := "i", num := 2, ty := .int32 }] }]
example : frameAll [[], [0x10, 0x05]] = [0, 2, 0x10, 0x05] := by decide +kernel
example : (loadMany S1 [fresh S1 0, fresh S1 0] [0, 2, 0x10, 0x05, 0xff]).map (·.2) = .ok [0xff] := by decide +kernel

end Bp.C10
