import BpProofs.SrcTieTemplate
import BpProofs.Props.C13
/-
  C13 ("… resolves, once the generated packages are imported, to exactly the class generated for that type — also when
  packages depend on each other circularly and when many such references coexist in one module"), the part the
  TEMPLATES decide: WHICH import lines the generated module contains and WHERE.  Tied to the source of
  src/betterproto/templates/header.py.j2 and template.py.j2 as regenerated on every run
  (harness/extract_srctemplate.py → BpProofs/Gen/SrcTemplate.lean: `Src.render_header`, `Src.render_template`,
  `Src.render_module`, functions from an ABSTRACT context — any `output_file` whatsoever — to the list of rendered
  pieces).  `Tpl.text` of the list is the string `Template.render` returns.

  The named parts (`Tpl.enumsBlock`, `messagesBlock`, `stubsBlock`, `basesBlock`, `moduleImportLines`, …) are those of
  BpProofs/TemplateModel.lean; `Tpl.header_eq` / `Tpl.template_eq` (SrcTieTemplate.lean) prove by `rfl` that the
  templates as written are exactly these parts in this order.

  What the theorems say about the source as written, for ALL contexts:
    * the cross-package imports (`imports_end`, the import texts `get_type_reference` adds — BpModel/Importing.lean's
      `Import.render`) are emitted by the BODY template only, each element exactly once, each as a line of its own at
      column 0, in one block that stands AFTER every enum class, every message class and every client Stub of the
      module and before the server Base classes; nothing else of the module depends on `imports_end`;
    * NO deduplication / case folding happens on the way (`|sort|unique` would merge `Money` / `money`);
    * the header: one `import <m>` line per element of `python_module_imports`; `from datetime import …` iff
      `datetime_imports` is non-empty, listing exactly its elements; `import betterproto` always; the grpclib /
      `ServiceBase` imports iff the file has services; the `TYPE_CHECKING` block iff `imports_type_checking_only` is
      non-empty, with exactly its elements.
  The Base classes follow the import block in the source as written (they are the only thing that does): their
  annotations are strings or typing-compiler output and their bodies run after import, so a circular package import
  that is still in progress when the block runs is not touched by them; this is what the code does, stated as it is.

  Trusted: BpProofs/PyPreludeTemplate.lean (meaning of the Jinja constructs), Jinja's lexer / parser, the translator.
  Validated against the real Jinja by harness/tests/check_srctemplate.py.
-/
namespace Bp.C13
open Bp Bp.Tpl

/-! ## the body template: where `imports_end` goes -/

/-- **the `imports_end` block: position, and nothing else depends on it.**  For every context `c` and every value
    `s` of `imports_end`: the body template as written renders
      (all enum classes) (all message classes) (all client stubs)  "\n"  (one line per element of `s`)  "\n"
      (all server Base classes)
    where the parts before and after are those of `c` — they do not change with `s`. -/
theorem src_imports_end_position (c : OutputFile) (s : PySet) :
    Src.render_template { c with imports_end := s }
      = (enumsBlock c ++ messagesBlock c ++ stubsBlock c) ++ Piece.lit "\n" ::
          (s.flatMap (fun i => [Piece.expr "output_file.imports_end[]" i, Piece.lit "\n"]) ++ Piece.lit "\n" :: basesBlock c) := by
  rw [template_eq]
  simp only [template, nl, List.append_eq, List.append_assoc, List.cons_append, List.nil_append, importsEndLines]
  rfl

/-- the parts around the block: one class per enum, one per message, one Stub and one Base per service, in the
    order of the context's lists (so "after every class / stub" is after ALL of them) -/
theorem src_blocks (c : OutputFile) :
    messagesBlock c = c.messages.flatMap (messageClass c.pydantic_dataclasses) ∧
    stubsBlock c = c.services.flatMap (stubClass c.typing_compiler) ∧
    basesBlock c = c.services.flatMap (baseClass c.typing_compiler) ∧
    enumsBlock c = c.enums.flatMap (enumClass c.pydantic_dataclasses) := by
  refine ⟨rfl, rfl, rfl, ?_⟩
  unfold enumsBlock
  cases h : c.enums <;> simp

/-- the header emits nothing of `imports_end` -/
theorem src_header_ignores_imports_end (c : OutputFile) (s : PySet) :
    Src.render_header { c with imports_end := s } = Src.render_header c := rfl

/-- **each element exactly once**: `imports_end` is a Python set (`Nodup`: its iteration order lists every element
    once); the block then contains the piece of each element exactly once … -/
theorem src_imports_end_each_once (s : PySet) (hs : s.Nodup) (i : Str) (hi : i ∈ s) :
    (s.flatMap (fun i => [Piece.expr "output_file.imports_end[]" i, Piece.lit "\n"])).count (Piece.expr "output_file.imports_end[]" i) = 1 := by
  have := count_importsEndLines s i
  unfold importsEndLines at this
  rw [this]
  rw [hs.count, if_pos hi]

/-- … and, as text, the block is the elements each followed by a newline, in iteration order: every import is a
    line of its own (the piece before the block is `"\n"`, see `src_imports_end_position`, so the first one starts
    at column 0 as well) -/
theorem src_imports_end_text (s : PySet) :
    text (s.flatMap (fun i => [Piece.expr "output_file.imports_end[]" i, Piece.lit "\n"])) = s.flatMap (fun i => i ++ ['\n']) := by
  rw [text_flatMap]
  simp [text, Piece.text]

/-- **no case folding, no deduplication**: two imports that differ only in case are both emitted (Jinja's
    `|unique` — case-insensitive — would drop one; the source applies no filter to `imports_end`) -/
theorem src_imports_end_keeps_case_variants (c : OutputFile) :
    let a := "from .. import Money as _Money__".toList
    let b := "from .. import money as _money__".toList
    ∃ pre post, Src.render_template { c with imports_end := [a, b] }
        = pre ++ [Piece.expr "output_file.imports_end[]" a, Piece.lit "\n", Piece.expr "output_file.imports_end[]" b, Piece.lit "\n"] ++ post := by
  intro a b
  refine ⟨(enumsBlock c ++ messagesBlock c ++ stubsBlock c) ++ [Piece.lit "\n"], Piece.lit "\n" :: basesBlock c, ?_⟩
  rw [src_imports_end_position]
  simp

/-! ## the namespace the emitted lines build -/

section ns
open Bp.Importing

/-- **composition with `all_at_once` (Props/C13.lean)**: let `sites` be the reference sites of the module of package
    `cur` and let `imports_end` hold the texts (`Import.render`) of their imports — every site's import is there or is
    "no import", nothing else is there; listed in ANY order, a set has none.  Then (1) the body template as written
    emits exactly these texts, each as a line of its own, in one block between blank lines, and (2) in the namespace
    that executing these lines in that order builds (`Import.bind`, BpModel/Importing.lean), every reference of the
    module to a type of a generated package denotes the class generated for that type in ITS package.
    (That Python reads an import text as `Import.bind` says is validated by really importing generated packages —
    check C13 —, not proved.) -/
theorem src_imports_end_namespace (cur : Pkg) (pydantic : Bool) (sites : List Site) (hc : pkgOk cur = true)
    (hok : ∀ s ∈ sites, s.ok cur pydantic = true)
    (imps : List Import)
    (hcover : ∀ s ∈ sites, (siteRef cur pydantic s).imp = .none ∨ (siteRef cur pydantic s).imp ∈ imps)
    (honly : ∀ i ∈ imps, ∃ s ∈ sites, (siteRef cur pydantic s).imp = i)
    (c : OutputFile) (hctx : c.imports_end = imps.map Import.render) :
    (∃ pre post, text (Src.render_template c)
        = pre ++ '\n' :: (imps.flatMap (fun i => i.render ++ ['\n'])) ++ '\n' :: post) ∧
    ∀ s ∈ sites, s.tgt ≠ googleProtobuf →
      denoteNs cur (imps.filterMap (Import.bind cur)) (siteRef cur pydantic s).ref
        = some (.gen s.tgt, classOf s.ty) := by
  constructor
  · refine ⟨text (enumsBlock c ++ messagesBlock c ++ stubsBlock c), text (basesBlock c), ?_⟩
    have e : Src.render_template c = _ := src_imports_end_position c c.imports_end
    simp only [e, text_append, text_cons, src_imports_end_text, hctx]
    rw [List.flatMap_map]
    simp [Piece.text]
  · intro s hs hg
    rw [← all_at_once cur pydantic sites hc hok s hs hg]
    symm
    apply denoteNs_same_set
    · intro b hb
      obtain ⟨s', hs', hb'⟩ := List.mem_filterMap.1 hb
      rcases hcover s' hs' with h | h
      · rw [h] at hb'; cases hb'
      · exact List.mem_filterMap.2 ⟨_, h, hb'⟩
    · intro b hb
      obtain ⟨i, hi, hb'⟩ := List.mem_filterMap.1 hb
      obtain ⟨s', hs', rfl⟩ := honly i hi
      exact List.mem_filterMap.2 ⟨s', hs', hb'⟩
    · intro b hb b' hb' e
      have hforms := moduleNs_form cur pydantic sites hc hok
      exact form_inj cur pydantic b b' (hforms b hb) (hforms b' hb') e

/-- non-vacuity: a cousin reference from `a.b` to `c.d.Msg` -/
example :
    let cur := pkg "a.b"
    let s : Site := { tgt := pkg "c.d", ty := [str "Msg"], unwrap := false }
    pkgOk cur = true ∧ s.ok cur false = true ∧ s.tgt ≠ googleProtobuf ∧
    (siteRef cur false s).imp.render = str "from ...c import d as __c_d__" := by
  decide +kernel

end ns

/-- **the header, line group by line group**, for every context -/
theorem src_header_shape (c : OutputFile) :
    Src.render_header c
      = preamble c ++ allEnums c ++ allMessages c ++ allServices c ++ [Piece.lit ")\n\n"]
        ++ moduleImportLines c.python_module_imports ++ [Piece.lit "\n"]
        ++ dataclassImport c.pydantic_dataclasses ++ [Piece.lit "\n"]
        ++ datetimeImport c.datetime_imports
        ++ typingImportLines c.typing_compiler ++ [Piece.lit "\n"]
        ++ pydanticImport c.pydantic_imports
        ++ [Piece.lit "\nimport betterproto\n"]
        ++ grpcImports c.services ++ [Piece.lit "\n"]
        ++ typeCheckingBlock c.imports_type_checking_only := by
  rw [header_eq]
  simp only [header, nl, betterprotoImport, List.append_eq, List.append_assoc]

/-- the head of the header (`preamble`: the first three pieces as written, whose wording the model leaves open) is
    nothing but comment lines and blank lines — the one expression, the list of input files, stands inside the
    comment line `# sources: …` — followed by the opening of `__all__ = (`: no import, no statement hides there -/
theorem src_preamble_is_comments (c : OutputFile) : preambleOk (preamble c) = true := by
  show preambleOk [Piece.lit _, Piece.expr _ _, Piece.lit _] = true
  -- the one expression does not enter the test: what is left is a fact about the two literals
  simp only [preambleOk]
  decide +kernel

/-- **one `import <m>` line per element of `python_module_imports`**: the lines are those of a permutation of the
    set (its `|sort`), nothing added, nothing dropped -/
theorem src_module_import_lines (s : PySet) :
    ∃ l : List Str, l.Perm s ∧
      text (moduleImportLines s) = l.flatMap (fun m => "import ".toList ++ m ++ ['\n']) :=
  ⟨jsort s, jsort_perm s, text_moduleImportLines s⟩

/-- **`from datetime import …` iff `datetime_imports` is non-empty** … -/
theorem src_datetime_import_iff (s : PySet) : datetimeImport s = [] ↔ s = [] := by
  unfold datetimeImport
  cases s <;> simp

/-- … **and it lists exactly the elements of the set** (a permutation, comma separated), on one line -/
theorem src_datetime_import_text (s : PySet) (h : s ≠ []) :
    ∃ l : List Str, l.Perm s ∧
      text (datetimeImport s) = "from datetime import ".toList ++ jjoin ", ".toList l ++ ['\n'] := by
  refine ⟨jsort s, jsort_perm s, ?_⟩
  unfold datetimeImport
  cases s with
  | nil => exact absurd rfl h
  | cons x r =>
    simp only [List.isEmpty_cons, Bool.not_false, if_true, List.append_eq]
    rw [text_append, text_append, text_commaList]
    simp [text, Piece.text]

/-- the same for `from pydantic import …` -/
theorem src_pydantic_import_iff (s : PySet) : pydanticImport s = [] ↔ s = [] := by
  unfold pydanticImport
  cases s <;> simp

/-- **`import betterproto` always** -/
theorem src_betterproto_always (c : OutputFile) : Piece.lit "\nimport betterproto\n" ∈ Src.render_header c := by
  rw [src_header_shape]
  simp

/-- **the grpclib / `ServiceBase` imports iff the file has services** -/
theorem src_grpc_imports_iff (sv : List Service) :
    grpcImports sv = (if sv = [] then []
      else [Piece.lit "from betterproto.grpc.grpclib_server import ServiceBase\nimport grpclib\n"]) := by
  unfold grpcImports
  cases sv <;> simp

/-- **the `TYPE_CHECKING` block iff `imports_type_checking_only` is non-empty**, with one indented line per element -/
theorem src_type_checking_block (s : PySet) :
    typeCheckingBlock s = (if s = [] then []
      else Piece.lit "from typing import TYPE_CHECKING\n\nif TYPE_CHECKING:\n" ::
        (jsort s).flatMap (fun i => [Piece.lit "    ", Piece.expr "(output_file.imports_type_checking_only|sort)[]" i, Piece.lit "\n"])) ∧ (jsort s).Perm s := by
  refine ⟨?_, jsort_perm s⟩
  unfold typeCheckingBlock
  cases s <;> simp

/-- what compiler.py passes to ruff: header, then body -/
theorem src_module (c : OutputFile) :
    text (Src.render_module c) = text (Src.render_header c) ++ text (Src.render_template c) :=
  text_append _ _

/-- non-vacuity: a context with two case-variant imports, a module import and a datetime import -/
example :
    let c : OutputFile := {
      input_filenames := ["a.proto".toList], enums := [], messages := [], services := [],
      python_module_imports := ["warnings".toList], datetime_imports := ["timedelta".toList, "datetime".toList],
      pydantic_imports := [], imports_type_checking_only := [],
      imports_end := ["from .. import Money as _Money__".toList, "from .. import money as _money__".toList],
      pydantic_dataclasses := false,
      typing_compiler := { optional := id, dict := fun a _ => a, union := fun a _ => a, iterable := id,
                           async_iterable := id, async_iterator := id, imports := [], import_lines := [] } }
    String.ofList (text (Src.render_template c))
      = "\nfrom .. import Money as _Money__\nfrom .. import money as _money__\n\n" ∧
    String.ofList (text (datetimeImport c.datetime_imports)) = "from datetime import datetime, timedelta\n" := by
  show String.ofList _ = String.ofList _ ∧ String.ofList _ = String.ofList _
  exact ⟨congrArg String.ofList (by decide +kernel), congrArg String.ofList (by decide +kernel)⟩

end Bp.C13
