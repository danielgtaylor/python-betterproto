import BpProofs.SrcTieObjCopy
/-
  C14 (copy / deepcopy are faithful), tied to the SOURCE: `Message.__copy_state_to` — the whole
  body of `__copy__` / `__deepcopy__` after `self.__class__()` — is translated from the Python
  AST on every run (harness/extract_srcobj.py → BpProofs/Gen/SrcObjCopy.lean) and proved EQUAL
  to the model's `shallowCopy` / `deepCopy` (BpModel/Ops.lean), which `C14.copy_bytes_faithful`,
  `copy_is_original`, `copies_keep_presence` are about.  A body that replays the state through
  the constructor / `__setattr__`, drops `_unknown_fields` or `_serialized_on_wire`, or stores a
  reference to the original's `_group_current` no longer translates or no longer proves.

  Reading as in Props/C07Src.lean; `clone` is the fresh instance `self.__class__()`
  (`freshState`), `dup` is the identity for `copy.copy` and `copy.deepcopy` (the model's
  `deepCopy S`) for `copy.deepcopy`.
-/
namespace Bp.C14
open Bp Bp.Py Bp.SrcTieObjCopy

/-- **`copy.copy(m)` as written is the model's `shallowCopy`**: the clone receives every
    non-PLACEHOLDER raw slot (the same value), `_serialized_on_wire`, `_unknown_fields` and the
    entries of `_group_current` of the original, and nothing else.  Guard: one raw slot per field. -/
theorem src_copy (S : Schema) (c : Nat) (st : MState) (hl : st.slots.length = (fieldsOf S c).length) :
    ∃ st', Src.copy_state_to S (fieldsOf S c) st (freshState { fields := fieldsOf S c, nGroups := groupsOf S c }) id = .ok st'
      ∧ st'.toVal c = shallowCopy S (st.toVal c) :=
  ⟨_, copy_state_to_eq S _ st _ id hl (freshState_slots _), copyM_shallow S c st⟩

/-- **`copy.deepcopy(m)` as written is the model's `deepCopy`** (`dup` = the recursive copy) -/
theorem src_deepcopy (S : Schema) (c : Nat) (st : MState) (hl : st.slots.length = (fieldsOf S c).length) :
    ∃ st', Src.copy_state_to S (fieldsOf S c) st (freshState { fields := fieldsOf S c, nGroups := groupsOf S c }) (deepCopy S) = .ok st'
      ∧ st'.toVal c = deepCopy S (st.toVal c) :=
  ⟨_, copy_state_to_eq S _ st _ (deepCopy S) hl (freshState_slots _), copyM_deep S c st⟩

/-- **what a copy as written keeps verbatim**, whatever `dup` is: `_serialized_on_wire`,
    `_unknown_fields`, the oneof selection; and a slot of the copy is set exactly when the
    original's is -/
theorem src_copy_keeps (S : Schema) (fs : List FieldD) (st clone st' : MState) (dup : Val → Val)
    (hl : st.slots.length = fs.length) (hc : clone.slots = fs.map freshV)
    (h : Src.copy_state_to S fs st clone dup = .ok st') :
    st'.onWire = st.onWire ∧ st'.unknown = st.unknown ∧ st'.cur = st.cur ∧ st'.slots = copySlots dup fs st.slots := by
  rw [copy_state_to_eq S fs st clone dup hl hc] at h
  injection h with h; subst h
  exact ⟨rfl, rfl, rfl, rfl⟩

/-! non-vacuity -/
def SC : Schema := [{ fields := [{ name := "a", num := 1, ty := .int32, group := some 0 },
                                  { name := "o", num := 3, ty := .int32, optional := true }], nGroups := 1 }]
example : (match Src.copy_state_to SC (fieldsOf SC 0) { slots := [.int 0, .ph], onWire := true, unknown := [9], cur := [some 0] }
      (freshState { fields := fieldsOf SC 0, nGroups := 1 }) id with
    | .ok st => st.cur == [some 0] && st.onWire && st.unknown == [9] && isNone (rawGet st 1) && !isPlaceholder (rawGet st 0)
    | _ => false) = true := by decide +kernel

end Bp.C14
