import BpProofs.SrcTieTime
import BpProofs.Props.C15
/-
  C15, tied to the SOURCE: the same statements about the functions `Bp.Src.duration_*` /
  `Bp.Src.timestamp_*`, which are regenerated from the Python AST of the methods of
  `_Duration` / `_Timestamp` in src/betterproto/__init__.py on every run
  (harness/extract_srctime.py → BpProofs/Gen/SrcTime.lean).  If the source of one of these
  methods changes what it computes, the corresponding theorem below stops checking.

  A datetime is an `Int` count of microseconds since the epoch, a timedelta an `Int` count
  of microseconds, a Timestamp / Duration message its pair (seconds, nanos).  The methods
  are loop-free, so there is no fuel; every theorem is for EVERY integer (the finite
  ranges of `datetime` / `timedelta` are not modelled, see BpProofs/PyPreludeTime.lean).
-/
namespace Bp.C15
open Bp Bp.Py

/-- `_Duration.from_timedelta` as written returns the message `durSplit` of the model —
    every timedelta -/
theorem src_duration_from_timedelta (us : Int) : Src.duration_from_timedelta us = .ok (durSplit us) := by
  unfold Src.duration_from_timedelta durSplit
  simp only [SrcTie.tdFloorDiv_one_us, Py.divmod, Py.abs, decide_eq_true_eq, Int.natCast_ediv, Int.natCast_emod,
    Nat.cast_ofNat]
  split <;> rfl

/-- `_Duration.to_timedelta` as written is the model's `durJoin`.  The hypothesis is the
    int32 range of `nanos`: it is not needed by the proof, it is the range in which the
    float intrinsic `Py.timedeltaSecondsFloatMicros` (`timedelta(seconds=s,
    microseconds=n / 1e3)`) is justified to be faithful to CPython -/
theorem src_duration_to_timedelta (s n : Int) (_hn : -2147483648 ≤ n ∧ n < 2147483648) :
    Src.duration_to_timedelta s n = .ok (durJoin s n) := rfl

/-- `_Duration.delta_to_json` as written produces the text
    sign ++ seconds ++ "." ++ zero-padded digits ++ "s" whose four parameters are the
    model's `durJson` (sign flag, whole seconds of the magnitude, 3 or 6 digits, their value) -/
theorem src_duration_delta_to_json (us : Int) :
    Src.duration_delta_to_json us =
      .ok ((durJson us).1, ((durJson us).2.1 : Int), ((durJson us).2.2.1 : Int), ((durJson us).2.2.2 : Int)) := by
  unfold Src.duration_delta_to_json durJson
  simp only [SrcTie.tdFloorDiv_one_us, Py.divmod, Py.abs, Py.fmtSecs, Bool.if_false_right, Bool.and_true,
    decide_eq_true_eq]
  -- the source tests the microseconds as an `Int`, the model as a `Nat`
  have hc : (us.natAbs : Int) % 1000000 % 1000 = 0 ↔ us.natAbs % 1000000 % 1000 = 0 := by norm_cast
  simp only [hc]
  split <;> simp only [Int.natCast_ediv, Int.natCast_emod, Nat.cast_ofNat]

/-- `_Timestamp.from_datetime` as written returns the message `tsSplit` of the model —
    every instant, also before the epoch -/
theorem src_timestamp_from_datetime (us : Int) : Src.timestamp_from_datetime us = .ok (tsSplit us) := by
  unfold Src.timestamp_from_datetime tsSplit
  simp only [Py.dtSub, Py.epochUtc, Int.sub_zero, SrcTie.td_components, Py.divmod]

/-- `_Timestamp.to_datetime` as written is the model's `tsJoin` -/
theorem src_timestamp_to_datetime (s n : Int) : Src.timestamp_to_datetime s n = .ok (tsJoin s n) := by
  unfold Src.timestamp_to_datetime tsJoin Py.timedelta Py.dtAdd Py.epochUtc
  rw [Int.zero_mul, Int.zero_add]
  exact congrArg Res.ok (Int.zero_add _)

/- (`timestamp_to_json`: the whole method is tied in Props/C15SrcJson.lean — `src_timestamp_to_json`,
   `src_timestamp_json_form`: 0 / 3 / 6 fractional digits denoting the microseconds exactly) -/

/-- **decodes back to the identical value, stated of the source as written**:
    `to_datetime` applied to the message `from_datetime` builds returns the datetime -/
theorem src_ts_roundtrip (us : Int) :
    (Src.timestamp_from_datetime us).bind (fun m => Src.timestamp_to_datetime m.1 m.2) = .ok us := by
  rw [src_timestamp_from_datetime]
  show Src.timestamp_to_datetime (tsSplit us).1 (tsSplit us).2 = .ok us
  rw [src_timestamp_to_datetime, ts_roundtrip]

/-- **Timestamp nanos are normalised and the message is exact, of the source as written**:
    `from_datetime` returns (s, n) with 0 ≤ n < 10^9 and s·10^9 + n = the instant in ns -/
theorem src_ts_norm_exact (us : Int) :
    ∃ s n, Src.timestamp_from_datetime us = .ok (s, n) ∧ 0 ≤ n ∧ n < 1000000000
      ∧ s * 1000000000 + n = us * 1000 :=
  ⟨(tsSplit us).1, (tsSplit us).2, src_timestamp_from_datetime us, (ts_norm us).1, (ts_norm us).2, ts_exact us⟩

/-- **Duration seconds and nanos never have opposite signs, |nanos| < 10^9, exact — of the
    source as written**: `from_timedelta` returns such a pair for every timedelta -/
theorem src_dur_sign (us : Int) :
    ∃ s n, Src.duration_from_timedelta us = .ok (s, n)
      ∧ (0 ≤ s ∧ 0 ≤ n ∨ s ≤ 0 ∧ n ≤ 0) ∧ -1000000000 < n ∧ n < 1000000000
      ∧ s * 1000000000 + n = us * 1000 := by
  have h := dur_sign us
  exact ⟨(durSplit us).1, (durSplit us).2, src_duration_from_timedelta us, h.1, h.2.1, h.2.2, dur_exact us⟩

/-- **decodes back to the identical value, of the source as written**: `to_timedelta`
    applied to the message `from_timedelta` builds returns the timedelta (its nanos are
    within the int32 range the float intrinsic is justified for) -/
theorem src_dur_roundtrip (us : Int) :
    (Src.duration_from_timedelta us).bind (fun m => Src.duration_to_timedelta m.1 m.2) = .ok us := by
  rw [src_duration_from_timedelta]
  show Src.duration_to_timedelta (durSplit us).1 (durSplit us).2 = .ok us
  have h : -1000000000 < (durSplit us).2 ∧ (durSplit us).2 < 1000000000 := (dur_sign us).2
  rw [src_duration_to_timedelta _ _ ⟨Int.le_of_lt (Int.lt_trans (by decide) h.1), Int.lt_trans h.2 (by decide)⟩,
    dur_roundtrip]

/-- **JSON, of the source as written**: the text `delta_to_json` builds has 3 or 6 fractional
    digits that fit, and reading its parameters back (`durFromJson`, the model of
    `delta_from_json`, which parses a string and is not translated) gives the timedelta -/
theorem src_dur_json_roundtrip (us : Int) :
    ∃ (neg : Bool) (s nd d : Nat), Src.duration_delta_to_json us = .ok (neg, (s : Int), (nd : Int), (d : Int))
      ∧ (nd = 3 ∨ nd = 6) ∧ d < 10 ^ nd ∧ durFromJson neg s nd d = us :=
  ⟨_, _, _, _, src_duration_delta_to_json us, (dur_json_roundtrip us).1, (dur_json_roundtrip us).2.1,
    (dur_json_roundtrip us).2.2⟩

/-! non-vacuity: the translated source evaluated on the D02 / D03 witnesses -/
example : Src.duration_from_timedelta (-500000) = .ok (0, -500000000) := by decide +kernel
example : Src.timestamp_from_datetime (-1) = .ok (-1, 999999000) := by decide +kernel
example : Src.timestamp_to_datetime (-1) 999999999 = .ok (-1) := by decide +kernel
example : Src.duration_delta_to_json (-1500000) = .ok (true, 1, 3, 500) := by decide +kernel
example : Src.duration_delta_to_json 1 = .ok (false, 0, 6, 1) := by decide +kernel

end Bp.C15
