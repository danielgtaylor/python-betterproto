import BpProofs.SrcTieTyping
import BpProofs.Props.C18
/-
  C18, tied to the SOURCE: the methods of the three typing compilers of
  src/betterproto/plugin/typing_compiler.py (`DirectImportTypingCompiler` = typing.direct,
  `TypingImportTypingCompiler` = typing.root, `NoTyping310TypingCompiler` = typing.310), as regenerated
  from the Python AST of the working tree on every run (harness/extract_srctyping.py →
  BpProofs/Gen/SrcTyping.lean), ARE the functions of BpModel/Typing.lean the C18 theorems are about:
  same returned annotation text for ALL argument strings, never an exception, and the import each
  method requests (`self._imports[module].add(name)` / `self._imported = True`).

  A translated instance method takes the state of the object (`self._imports`: the list of the
  (module, name) pairs added so far; `self._imported`: a Bool) and returns `Py.Res (text × state afterwards)`.
  `requested c m` (BpProofs/SrcTieTyping.lean; the model has no such function) is the pair method `m` of
  compiler `c` adds.  `srcDirect / srcRoot / src310 fuel` are the three classes as written, seen as objects
  with seven methods; `Impl.render` builds an annotation by calling them as `FieldCompiler.annotation` does,
  `Impl.site` writes an annotation position of template.py.j2 by calling them as the template does.

  Not translated: `imports()` of the Direct / 310 compilers (a dict comprehension over the defaultdict) and
  `TypingCompiler.import_lines`; that FieldCompiler / the template call the methods in the way `Impl.render` /
  `Impl.site` say is validated by the correspondence run of harness/props/c18.py, not proved.
  Trusted: BpProofs/PyPrelude.lean, PyPreludeStr.lean, PyPreludeTyping.lean (meaning of the Python primitives).
-/
namespace Bp.C18
open Bp Bp.Py Bp.Typing Bp.SrcTieTyping

/-! ## the tie: each method as written is the model's -/

/-- **typing.direct.**  Every method of `DirectImportTypingCompiler` as written returns, for ALL argument
    strings and any prior `_imports`, the text of the model's `.direct` compiler and adds exactly the
    `typing` name it wrote (`requested .direct m = [("typing", m.typingName)]`) -/
theorem src_direct_is_model (fuel : Nat) (imports : List (Str × Str)) (t k : Str) (ts : List Str) :
    Src.DirectImportTypingCompiler.optional fuel imports t
        = .ok (optional .direct t, imports ++ [("typing".toList, "Optional".toList)])
    ∧ Src.DirectImportTypingCompiler.list fuel imports t
        = .ok (list .direct t, imports ++ [("typing".toList, "List".toList)])
    ∧ Src.DirectImportTypingCompiler.dict fuel imports k t
        = .ok (dict .direct k t, imports ++ [("typing".toList, "Dict".toList)])
    ∧ Src.DirectImportTypingCompiler.union fuel imports ts
        = .ok (union .direct ts, imports ++ [("typing".toList, "Union".toList)])
    ∧ Src.DirectImportTypingCompiler.iterable fuel imports t
        = .ok (iterable .direct t, imports ++ [("typing".toList, "Iterable".toList)])
    ∧ Src.DirectImportTypingCompiler.async_iterable fuel imports t
        = .ok (asyncIterable .direct t, imports ++ [("typing".toList, "AsyncIterable".toList)])
    ∧ Src.DirectImportTypingCompiler.async_iterator fuel imports t
        = .ok (asyncIterator .direct t, imports ++ [("typing".toList, "AsyncIterator".toList)]) :=
  have h := srcDirect_isModel fuel
  ⟨h.optional imports t, h.list imports t, h.dict imports k t, h.union imports ts, h.iterable imports t,
   h.asyncIterable imports t, h.asyncIterator imports t⟩

/-- **typing.root.**  Every method of `TypingImportTypingCompiler` as written returns the text of the model's
    `.root` compiler and leaves `_imported` True, whatever it was -/
theorem src_root_is_model (fuel : Nat) (imported : Bool) (t k : Str) (ts : List Str) :
    Src.TypingImportTypingCompiler.optional fuel imported t = .ok (optional .root t, true)
    ∧ Src.TypingImportTypingCompiler.list fuel imported t = .ok (list .root t, true)
    ∧ Src.TypingImportTypingCompiler.dict fuel imported k t = .ok (dict .root k t, true)
    ∧ Src.TypingImportTypingCompiler.union fuel imported ts = .ok (union .root ts, true)
    ∧ Src.TypingImportTypingCompiler.iterable fuel imported t = .ok (iterable .root t, true)
    ∧ Src.TypingImportTypingCompiler.async_iterable fuel imported t = .ok (asyncIterable .root t, true)
    ∧ Src.TypingImportTypingCompiler.async_iterator fuel imported t = .ok (asyncIterator .root t, true) :=
  have h := srcRoot_isModel fuel
  ⟨h.optional imported t, h.list imported t, h.dict imported k t, h.union imported ts, h.iterable imported t,
   h.asyncIterable imported t, h.asyncIterator imported t⟩

/-- … and its `imports()` as written is `{"typing": None}` exactly when a method has run (`_imported`), else `{}`;
    it does not change the object -/
theorem src_root_imports (fuel : Nat) (imported : Bool) :
    Src.TypingImportTypingCompiler.imports fuel imported
      = .ok (if imported then [("typing".toList, none)] else [], imported) := by
  unfold Src.TypingImportTypingCompiler.imports
  cases imported <;> rfl

/-- `NoTyping310TypingCompiler._fmt` as written is the model's `fmt`, for ALL strings (the empty string and the
    one-character string `"` included: Python's `type[1:-1]` is then empty) -/
theorem src_fmt_is_model (fuel : Nat) (t : Str) : Src.NoTyping310TypingCompiler._fmt fuel t = .ok (fmt t) :=
  fmt_eq fuel t

/-- **typing.310.**  Every method of `NoTyping310TypingCompiler` as written returns, for ALL argument strings,
    the (quoted) text of the model's `.c310` compiler; `optional / list / dict / union` leave `_imports`
    untouched, the three iterable methods add their ABC of `collections.abc` -/
theorem src_c310_is_model (fuel : Nat) (imports : List (Str × Str)) (t k : Str) (ts : List Str) :
    Src.NoTyping310TypingCompiler.optional fuel imports t = .ok (optional .c310 t, imports)
    ∧ Src.NoTyping310TypingCompiler.list fuel imports t = .ok (list .c310 t, imports)
    ∧ Src.NoTyping310TypingCompiler.dict fuel imports k t = .ok (dict .c310 k t, imports)
    ∧ Src.NoTyping310TypingCompiler.union fuel imports ts = .ok (union .c310 ts, imports)
    ∧ Src.NoTyping310TypingCompiler.iterable fuel imports t
        = .ok (iterable .c310 t, imports ++ [("collections.abc".toList, "Iterable".toList)])
    ∧ Src.NoTyping310TypingCompiler.async_iterable fuel imports t
        = .ok (asyncIterable .c310 t, imports ++ [("collections.abc".toList, "AsyncIterable".toList)])
    ∧ Src.NoTyping310TypingCompiler.async_iterator fuel imports t
        = .ok (asyncIterator .c310 t, imports ++ [("collections.abc".toList, "AsyncIterator".toList)]) := by
  have h := src310_isModel fuel
  have e : ∀ s : List (Str × Str), s ++ [] = s := List.append_nil
  exact ⟨(h.optional imports t).trans (by rw [addRequested, rq_c310_optional, e]),
    (h.list imports t).trans (by rw [addRequested, rq_c310_list, e]),
    (h.dict imports k t).trans (by rw [addRequested, rq_c310_dict, e]),
    (h.union imports ts).trans (by rw [addRequested, rq_c310_union, e]),
    h.iterable imports t, h.asyncIterable imports t, h.asyncIterator imports t⟩

/-- the three classes as written, as objects: each behaves as the model's compiler (text, no exception,
    requested import), uniformly in the method -/
theorem src_objects_are_model (fuel : Nat) :
    (srcDirect fuel).IsModel .direct (fun s m => s ++ requested .direct m)
    ∧ (srcRoot fuel).IsModel .root (fun _ _ => true)
    ∧ (src310 fuel).IsModel .c310 (fun s m => s ++ requested .c310 m) :=
  ⟨srcDirect_isModel fuel, srcRoot_isModel fuel, src310_isModel fuel⟩

/-! ## C18 of the source as written -/

/-- **An annotation built by calling the compilers as written is the model's rendering**, for every type
    expression the plugin can build (arbitrary nesting): the text is `render c e`, no call raises, and
    `_imports` grows by what the called methods request, in call order (`_imported`: True as soon as any
    method ran) -/
theorem src_render_is_model (fuel : Nat) (e : Ty) (s₁ s₃ : List (Str × Str)) (b : Bool) :
    (srcDirect fuel).render e s₁ = .ok (render .direct e, s₁ ++ (methodsOf e).flatMap (requested .direct))
    ∧ (srcRoot fuel).render e b = .ok (render .root e, b || !(methodsOf e).isEmpty)
    ∧ (src310 fuel).render e s₃ = .ok (render .c310 e, s₃ ++ (methodsOf e).flatMap (requested .c310)) := by
  refine ⟨?_, ?_, ?_⟩
  · rw [Impl.render_eq (srcDirect_isModel fuel), foldl_addRequested]
  · rw [Impl.render_eq (srcRoot_isModel fuel), foldl_true]
  · rw [Impl.render_eq (src310_isModel fuel), foldl_addRequested]

/-- **"defines the same … types as the default configuration", of the source as written** (`denote_render`
    through the tie): for every valid type expression, the three compilers as written — each called on its own
    rendering of the arguments — succeed, and the three annotation texts denote one and the same type,
    `shapeOf e` -/
theorem src_same_denotation (fuel : Nat) (e : Ty) (hv : e.valid = true) (s₁ s₃ : List (Str × Str)) (b : Bool) :
    ∃ (a₁ a₂ a₃ : Str) (s₁' s₃' : List (Str × Str)) (b' : Bool),
      (srcDirect fuel).render e s₁ = .ok (a₁, s₁') ∧ (srcRoot fuel).render e b = .ok (a₂, b')
      ∧ (src310 fuel).render e s₃ = .ok (a₃, s₃')
      ∧ denote a₁ = some (shapeOf e) ∧ denote a₂ = some (shapeOf e) ∧ denote a₃ = some (shapeOf e) := by
  obtain ⟨h1, h2, h3⟩ := src_render_is_model fuel e s₁ s₃ b
  exact ⟨_, _, _, _, _, _, h1, h2, h3, denote_render .direct e hv, denote_render .root e hv, denote_render .c310 e hv⟩

/-- the same method by method (`method_agree` through the tie): each of the seven methods AS WRITTEN, applied by
    the three classes to their own rendering of the same argument(s), returns texts with one denotation -/
theorem src_methods_same_denotation (fuel : Nat) (e e' : Ty) (k n : Str) (hv : e.valid = true) (hv' : e'.valid = true)
    (hk : validName k = true) (hn : validName n = true) (s₁ s₃ : List (Str × Str)) (b : Bool) :
    let D (r : Py.Res (Str × List (Str × Str))) : Option Shape :=
      match r with | .ok (a, _) => denote a | _ => none
    let B (r : Py.Res (Str × Bool)) : Option Shape := match r with | .ok (a, _) => denote a | _ => none
    (D (Src.DirectImportTypingCompiler.optional fuel s₁ (render .direct e)) = some (shapeOf (.optional e))
      ∧ B (Src.TypingImportTypingCompiler.optional fuel b (render .root e)) = some (shapeOf (.optional e))
      ∧ D (Src.NoTyping310TypingCompiler.optional fuel s₃ (render .c310 e)) = some (shapeOf (.optional e)))
    ∧ (D (Src.DirectImportTypingCompiler.list fuel s₁ (render .direct e)) = some (shapeOf (.list e))
      ∧ B (Src.TypingImportTypingCompiler.list fuel b (render .root e)) = some (shapeOf (.list e))
      ∧ D (Src.NoTyping310TypingCompiler.list fuel s₃ (render .c310 e)) = some (shapeOf (.list e)))
    ∧ (D (Src.DirectImportTypingCompiler.dict fuel s₁ k (render .direct e)) = some (shapeOf (.dict k e))
      ∧ B (Src.TypingImportTypingCompiler.dict fuel b k (render .root e)) = some (shapeOf (.dict k e))
      ∧ D (Src.NoTyping310TypingCompiler.dict fuel s₃ k (render .c310 e)) = some (shapeOf (.dict k e)))
    ∧ (D (Src.DirectImportTypingCompiler.union fuel s₁ [render .direct e, render .direct e']) = some (shapeOf (.union e e'))
      ∧ B (Src.TypingImportTypingCompiler.union fuel b [render .root e, render .root e']) = some (shapeOf (.union e e'))
      ∧ D (Src.NoTyping310TypingCompiler.union fuel s₃ [render .c310 e, render .c310 e']) = some (shapeOf (.union e e')))
    ∧ (D (Src.DirectImportTypingCompiler.iterable fuel s₁ n) = some (shapeOf (.iterable n))
      ∧ B (Src.TypingImportTypingCompiler.iterable fuel b n) = some (shapeOf (.iterable n))
      ∧ D (Src.NoTyping310TypingCompiler.iterable fuel s₃ n) = some (shapeOf (.iterable n)))
    ∧ (D (Src.DirectImportTypingCompiler.async_iterable fuel s₁ n) = some (shapeOf (.asyncIterable n))
      ∧ B (Src.TypingImportTypingCompiler.async_iterable fuel b n) = some (shapeOf (.asyncIterable n))
      ∧ D (Src.NoTyping310TypingCompiler.async_iterable fuel s₃ n) = some (shapeOf (.asyncIterable n)))
    ∧ (D (Src.DirectImportTypingCompiler.async_iterator fuel s₁ n) = some (shapeOf (.asyncIterator n))
      ∧ B (Src.TypingImportTypingCompiler.async_iterator fuel b n) = some (shapeOf (.asyncIterator n))
      ∧ D (Src.NoTyping310TypingCompiler.async_iterator fuel s₃ n) = some (shapeOf (.asyncIterator n))) := by
  intro D B
  have hD := (srcDirect_isModel fuel).denotes (denote_render .direct) D (fun _ _ => rfl) s₁ e e' k n hv hv' hk hn
  have hR := (srcRoot_isModel fuel).denotes (denote_render .root) B (fun _ _ => rfl) b e e' k n hv hv' hk hn
  have h3 := (src310_isModel fuel).denotes (denote_render .c310) D (fun _ _ => rfl) s₃ e e' k n hv hv' hk hn
  exact ⟨⟨hD.1, hR.1, h3.1⟩, ⟨hD.2.1, hR.2.1, h3.2.1⟩, ⟨hD.2.2.1, hR.2.2.1, h3.2.2.1⟩,
    ⟨hD.2.2.2.1, hR.2.2.2.1, h3.2.2.2.1⟩, ⟨hD.2.2.2.2.1, hR.2.2.2.2.1, h3.2.2.2.2.1⟩,
    ⟨hD.2.2.2.2.2.1, hR.2.2.2.2.2.1, h3.2.2.2.2.2.1⟩, ⟨hD.2.2.2.2.2.2, hR.2.2.2.2.2.2, h3.2.2.2.2.2.2⟩⟩

/-- **what the compilers as written return is well quoted** (`field_annotation_wellquoted` through the tie): the
    annotation each class builds for a valid type expression — in particular the text the typing.310 compiler
    as written returns, with its own quotes and `_fmt` stripping those of its arguments — is a sequence of
    complete, non-adjacent string literals and quote-free code -/
theorem src_render_wellquoted (fuel : Nat) (e : Ty) (hv : e.valid = true) (s : List (Str × Str)) (b : Bool) :
    (∃ a s', (srcDirect fuel).render e s = .ok (a, s') ∧ wellQuoted a = true)
    ∧ (∃ a b', (srcRoot fuel).render e b = .ok (a, b') ∧ wellQuoted a = true)
    ∧ (∃ a s', (src310 fuel).render e s = .ok (a, s') ∧ wellQuoted a = true) := by
  obtain ⟨h1, h2, h3⟩ := src_render_is_model fuel e s s b
  exact ⟨⟨_, _, h1, field_annotation_wellquoted .direct e hv⟩, ⟨_, _, h2, field_annotation_wellquoted .root e hv⟩,
    ⟨_, _, h3, field_annotation_wellquoted .c310 e hv⟩⟩

/-- **every template site, written with the compilers as written, is well quoted** (`annotation_wellquoted`
    through the tie): at each of the thirteen annotation positions of the (repaired) service template, calling
    the methods of any of the three classes as written the way the template does succeeds and gives exactly the
    model's `siteText`, which is well quoted — for all message type names -/
theorem src_sites_wellquoted (fuel : Nat) (st : Site) (tin tout : Str) (h1 : validName tin = true)
    (h2 : validName tout = true) (s : List (Str × Str)) (b : Bool) :
    (∃ s', (srcDirect fuel).site tin tout st s = .ok (siteText .direct tin tout st, s'))
    ∧ (∃ b', (srcRoot fuel).site tin tout st b = .ok (siteText .root tin tout st, b'))
    ∧ (∃ s', (src310 fuel).site tin tout st s = .ok (siteText .c310 tin tout st, s'))
    ∧ ∀ c, wellQuoted (siteText c tin tout st) = true :=
  ⟨Impl.site_eq (srcDirect_isModel fuel) tin tout st s, Impl.site_eq (srcRoot_isModel fuel) tin tout st b,
   Impl.site_eq (src310_isModel fuel) tin tout st s, fun c => annotation_wellquoted c st tin tout h1 h2⟩

/-- `root_is_prefixed_direct`, of the source as written: what `TypingImportTypingCompiler` returns is what
    `DirectImportTypingCompiler` returns with `typing.` in front — for ALL argument strings -/
theorem src_root_is_prefixed_direct (fuel : Nat) (t : Str) (ts : List Str) (s : List (Str × Str)) (b : Bool) :
    ∃ a u : Str, ∃ s' s'' : List (Str × Str),
      Src.DirectImportTypingCompiler.optional fuel s t = .ok (a, s')
      ∧ Src.TypingImportTypingCompiler.optional fuel b t = .ok ("typing.".toList ++ a, true)
      ∧ Src.DirectImportTypingCompiler.union fuel s ts = .ok (u, s'')
      ∧ Src.TypingImportTypingCompiler.union fuel b ts = .ok ("typing.".toList ++ u, true) := by
  obtain ⟨h1, _, _, h4, _⟩ := root_is_prefixed_direct t t ts
  exact ⟨_, _, _, _, (srcDirect_isModel fuel).optional s t, ((srcRoot_isModel fuel).optional b t).trans (by rw [h1]),
    (srcDirect_isModel fuel).union s ts, ((srcRoot_isModel fuel).union b ts).trans (by rw [h4])⟩

/-! non-vacuity: the translated source run on concrete arguments (the verbatim strings) -/
example : Src.DirectImportTypingCompiler.optional 0 [] "int".toList
    = .ok ("Optional[int]".toList, [("typing".toList, "Optional".toList)]) := by
  simp only [String.reduceToList]; decide +kernel
example : Src.TypingImportTypingCompiler.dict 0 false "str".toList "\"Foo\"".toList
    = .ok ("typing.Dict[str, \"Foo\"]".toList, true) := by
  simp only [String.reduceToList]; decide +kernel
example : Src.NoTyping310TypingCompiler.optional 0 [] "\"a.Foo\"".toList = .ok ("\"a.Foo | None\"".toList, []) := by
  simp only [String.reduceToList]; decide +kernel
example : Src.NoTyping310TypingCompiler.union 0 [] ["\"AsyncIterable[Req]\"".toList, "\"Iterable[Req]\"".toList]
    = .ok ("\"AsyncIterable[Req] | Iterable[Req]\"".toList, []) := by
  simp only [String.reduceToList]; decide +kernel
example : Src.NoTyping310TypingCompiler.async_iterator 0 [("collections.abc".toList, "Iterable".toList)] "Rep".toList
    = .ok ("\"AsyncIterator[Rep]\"".toList,
           [("collections.abc".toList, "Iterable".toList), ("collections.abc".toList, "AsyncIterator".toList)]) := by
  simp only [String.reduceToList]; decide +kernel
example : Src.NoTyping310TypingCompiler._fmt 0 "\"".toList = .ok [] := by
  simp only [String.reduceToList]; decide +kernel
example : (src310 0).render (.dict "str".toList (.optional (.ref "a.Foo".toList))) []
    = .ok ("\"dict[str, a.Foo | None]\"".toList, []) := by
  simp only [String.reduceToList]; decide +kernel
example : (srcDirect 0).render (.dict "str".toList (.optional (.ref "a.Foo".toList))) []
    = .ok ("Dict[str, Optional[\"a.Foo\"]]".toList,
           [("typing".toList, "Optional".toList), ("typing".toList, "Dict".toList)]) := by
  simp only [String.reduceToList]; decide +kernel

#print axioms src_direct_is_model
#print axioms src_root_is_model
#print axioms src_root_imports
#print axioms src_fmt_is_model
#print axioms src_c310_is_model
#print axioms src_objects_are_model
#print axioms src_render_is_model
#print axioms src_same_denotation
#print axioms src_methods_same_denotation
#print axioms src_render_wellquoted
#print axioms src_sites_wellquoted
#print axioms src_root_is_prefixed_direct

end Bp.C18
