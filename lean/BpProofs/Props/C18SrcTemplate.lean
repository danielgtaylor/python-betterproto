import BpProofs.Props.C11SrcTemplate
import BpModel.Typing
/-
  C18 ("for every supported combination of plugin options (typing.direct, typing.root, typing.310; standard or pydantic
  dataclasses) the generated package … defines the same classes …"), the part the TEMPLATES decide, tied to the source
  of src/betterproto/templates/template.py.j2 / header.py.j2 as regenerated on every run (harness/extract_srctemplate.py
  → BpProofs/Gen/SrcTemplate.lean; `Tpl.template_eq` / `Tpl.header_eq`: the templates as written ARE the named parts
  of BpProofs/TemplateModel.lean, by `rfl`).

  The option flags reach the templates through two attributes of the context only: `output_file.pydantic_dataclasses`
  and `output_file.typing_compiler`.  For ALL contexts:
    * the typing compiler is used by the Stub and Base classes only, at the annotation sites listed by
      `Bp.Typing.Site` (BpModel/Typing.lean) and NOWHERE else: every method / class text is assembled from the site
      parts and parts that do not take the compiler (`src_stub_method_sites`, `src_base_method_sites`,
      `src_base_class_sites`, `src_typing_compiler_only_in_services`);
    * at each site the text the template writes is `Typing.siteText` — the function `Props/C18.lean`'s
      `annotation_wellquoted` is about — when the context's compiler is one of the three real ones (`ofCompiler`):
      `src_site_*`.  The list of sites IS the template; it is not read off a rendered probe;
    * `pydantic_dataclasses` changes exactly: the `dataclass` import of the header, the decorator line of every
      message class, the `check_oneof` validator of messages with oneof fields, the `__get_pydantic_core_schema__`
      method of enums — and nothing else (`src_message_class_options`, `src_enum_class_options`,
      `src_dataclass_decorator`, `src_dataclass_import`).
  Trusted: BpProofs/PyPreludeTemplate.lean, Jinja's lexer / parser, the translator.
-/
namespace Bp.C18
open Bp Bp.Tpl

/-- the context's typing compiler when the plugin option selects compiler `k` (its methods: BpModel/Typing.lean, tied to
    typing_compiler.py by SrcTieTyping.lean; `union(a, b)` is the call with two types); `imports()` / `import_lines()`
    are whatever the calls made so far have accumulated -/
def ofCompiler (k : Typing.Compiler) (imports : PyDict) (lines : List Str) : TypingCompiler :=
  { optional := Typing.optional k, dict := Typing.dict k, union := fun a b => Typing.union k [a, b],
    iterable := Typing.iterable k, async_iterable := Typing.asyncIterable k,
    async_iterator := Typing.asyncIterator k, imports := imports, import_lines := lines }

/-! ## the typing compiler: used at the sites, and only there -/

/-- only the services' classes take the typing compiler: enums and messages are rendered without it … -/
theorem src_typing_compiler_only_in_services (c : OutputFile) (tc : TypingCompiler) :
    Src.render_template { c with typing_compiler := tc }
      = enumsBlock c ++ messagesBlock c ++ c.services.flatMap (stubClass tc) ++ [Piece.lit "\n"]
        ++ importsEndLines c.imports_end ++ [Piece.lit "\n"] ++ c.services.flatMap (baseClass tc) := by
  rw [template_eq]
  simp only [template, nl, List.append_eq, List.append_assoc]
  rfl

/-- … a stub method is: its name, the request parameter site, the keyword-only parameter sites, the return site
    (the template writes the quotes around it), and a remainder that does not take the compiler -/
theorem src_stub_method_sites (tc : TypingCompiler) (svc : Str) (m : Method) :
    stubMethod tc svc m
      = [Piece.lit "    async def ", Piece.expr "output_file.services[].methods[].py_name" m.py_name, Piece.lit "(self"]
        ++ stubParam tc m ++ stubKwargs tc ++ stubReturn tc m
        ++ ([Piece.lit "\":\n"] ++ optComment "output_file.services[].methods[].comment" m.comment ++ stubDeprecation svc m ++ stubBody m
            ++ [Piece.lit "\n"]) := by
  simp only [stubMethod, nl, List.append_eq, List.append_assoc]

/-- a default server method likewise: parameter site, return site, compiler-free rest -/
theorem src_base_method_sites (tc : TypingCompiler) (m : Method) :
    baseMethod tc m
      = [Piece.lit "    async def ", Piece.expr "output_file.services[].methods[].py_name" m.py_name, Piece.lit "(self"]
        ++ baseParam tc m ++ [Piece.lit ") -> "] ++ baseReturn tc m
        ++ ([Piece.lit ":\n"] ++ optComment "output_file.services[].methods[].comment" m.comment ++ raiseUnimplemented ++ unreachableYield m
            ++ [Piece.lit "\n"]) := by
  simp only [baseMethod, nl, List.append_eq, List.append_assoc]

/-- a Base class: the default methods, the `__rpc_*` adapters (no compiler), the `__mapping__` head (one site), the
    rows (no compiler) -/
theorem src_base_class_sites (tc : TypingCompiler) (s : Service) :
    baseClass tc s
      = [Piece.lit "class ", Piece.expr "output_file.services[].py_name" s.py_name, Piece.lit "Base(ServiceBase):\n"]
        ++ optComment "output_file.services[].comment" s.comment ++ [Piece.lit "\n"]
        ++ s.methods.flatMap (baseMethod tc) ++ [Piece.lit "\n"]
        ++ s.methods.flatMap rpcMethod ++ mappingHead tc ++ s.methods.flatMap mappingRow
        ++ [Piece.lit "        }\n\n"] :=
  Bp.C11.src_base_class tc s

/-! ## each site writes `Typing.siteText` -/

section sites
-- every theorem of this section takes `k imports lines m`; `tcK` is the context's typing compiler when the option
-- selects compiler `k`
variable (k : Typing.Compiler) (imports : PyDict) (lines : List Str) (m : Method)
local notation "tcK" => ofCompiler k imports lines

/-- `stubUnaryParam` / `stubIterParam` -/
theorem src_site_stub_param :
    text (stubParam tcK m) =
      if m.client_streaming then
        "            , ".toList ++ m.py_input_message_param ++ "_iterator: ".toList
          ++ Typing.siteText k m.py_input_message_type m.py_output_message_type .stubIterParam
      else ", ".toList ++ m.py_input_message_param ++ ": ".toList ++ Typing.siteText k m.py_input_message_type m.py_output_message_type .stubUnaryParam := by
  unfold stubParam
  cases m.client_streaming <;>
    simp [text, Piece.text, ofCompiler, Typing.siteText, Typing.quoted, Typing.dq, strip_eq]

/-- `stubTimeout`, `stubDeadline`, `stubMetadata` (and the opening quote of the return annotation) -/
theorem src_site_stub_kwargs :
    text (stubKwargs tcK) =
      ",\n            *\n            , timeout: ".toList ++ Typing.siteText k m.py_input_message_type m.py_output_message_type .stubTimeout
      ++ " = None\n            , deadline: ".toList ++ Typing.siteText k m.py_input_message_type m.py_output_message_type .stubDeadline
      ++ " = None\n            , metadata: ".toList ++ Typing.siteText k m.py_input_message_type m.py_output_message_type .stubMetadata
      ++ " = None\n            ) -> \"".toList := by
  -- the literals of the template are those of the statement: nothing is turned into characters
  simp only [stubKwargs, text, Piece.text, ofCompiler, Typing.siteText, List.flatMap_cons, List.flatMap_nil,
    List.append_assoc, List.append_nil]

/-- `stubReturnUnary` / `stubReturnStream`: the quotes are the template's -/
theorem src_site_stub_return :
    '"' :: (text (stubReturn tcK m) ++ ['"']) =
      Typing.siteText k m.py_input_message_type m.py_output_message_type (if m.server_streaming then .stubReturnStream else .stubReturnUnary) := by
  unfold stubReturn
  cases m.server_streaming <;>
    simp [text, Piece.text, ofCompiler, Typing.siteText, Typing.quoted, Typing.dq, strip_eq]

/-- `baseUnaryParam` / `baseIterParam` -/
theorem src_site_base_param :
    text (baseParam tcK m) =
      if m.client_streaming then
        "            , ".toList ++ m.py_input_message_param ++ "_iterator: ".toList
          ++ Typing.siteText k m.py_input_message_type m.py_output_message_type .baseIterParam
      else ", ".toList ++ m.py_input_message_param ++ ": ".toList ++ Typing.siteText k m.py_input_message_type m.py_output_message_type .baseUnaryParam := by
  unfold baseParam
  cases m.client_streaming <;>
    simp [text, Piece.text, ofCompiler, Typing.siteText, Typing.quoted, Typing.dq]

/-- `baseReturnUnary` / `baseReturnStream` -/
theorem src_site_base_return :
    text (baseReturn tcK m) =
      Typing.siteText k m.py_input_message_type m.py_output_message_type (if m.server_streaming then .baseReturnStream else .baseReturnUnary) := by
  unfold baseReturn
  cases m.server_streaming <;>
    simp [text, Piece.text, ofCompiler, Typing.siteText, Typing.quoted, Typing.dq]

/-- `rpcStream`: the head line of an `__rpc_*` adapter (no compiler call) -/
theorem src_site_rpc_stream :
    text ((rpcMethod m).take 7) =
      "    async def __rpc_".toList ++ m.py_name ++ "(self, stream: ".toList
        ++ Typing.siteText k m.py_input_message_type m.py_output_message_type .rpcStream ++ ") -> None:\n".toList := by
  simp [rpcMethod, text, Piece.text, Typing.siteText, Typing.quoted, Typing.dq]

/-- `mappingReturn` -/
theorem src_site_mapping_return :
    text (mappingHead tcK) =
      "\n    def __mapping__(self) -> ".toList ++ Typing.siteText k m.py_input_message_type m.py_output_message_type .mappingReturn
        ++ ":\n        return {\n".toList := by
  simp only [mappingHead, text, Piece.text, ofCompiler, Typing.siteText, List.flatMap_cons, List.flatMap_nil,
    List.append_assoc, List.append_nil]

end sites

/-- the sites tied above are all of `Typing.Site` -/
theorem src_sites_complete : Typing.Site.all =
    [.stubUnaryParam, .stubIterParam, .stubTimeout, .stubDeadline, .stubMetadata, .stubReturnUnary,
     .stubReturnStream, .baseUnaryParam, .baseIterParam, .baseReturnUnary, .baseReturnStream, .rpcStream,
     .mappingReturn] ∧ ∀ s : Typing.Site, s ∈ Typing.Site.all := by
  refine ⟨rfl, ?_⟩
  intro s
  cases s <;> decide

/-- **the decorator line of a message class, per option** -/
theorem src_dataclass_decorator :
    dataclassDecorator false = [Piece.lit "@dataclass(eq=False, repr=False)\n"] ∧
    dataclassDecorator true = [Piece.lit "@dataclass(eq=False, repr=False, config={\"extra\": \"forbid\"})\n"] :=
  ⟨rfl, rfl⟩

/-- the `dataclass` the decorator names is imported by the header, per option -/
theorem src_dataclass_import (c : OutputFile) :
    dataclassImport c.pydantic_dataclasses ∈ [[Piece.lit "from dataclasses import dataclass\n"],
      [Piece.lit "from pydantic.dataclasses import dataclass"]] ∧
    dataclassImport false = [Piece.lit "from dataclasses import dataclass\n"] ∧
    dataclassImport true = [Piece.lit "from pydantic.dataclasses import dataclass"] := by
  refine ⟨?_, rfl, rfl⟩
  cases c.pydantic_dataclasses <;> simp [dataclassImport]

/-- **a message class under the two dataclass options**: the same class statement, comment, field lines (each
    `field.get_field_string()`), `pass`, `__post_init__`; the options change the decorator and add the `check_oneof`
    validator when the message has oneof fields — nothing else -/
theorem src_message_class_options (m : Message) :
    ∃ core : List Piece, ∀ pydantic : Bool,
      messageClass pydantic m = dataclassDecorator pydantic ++ core ++ oneofValidator pydantic m ++ [Piece.lit "\n"] ∧
      oneofValidator false m = [] ∧ (m.has_oneof_fields = false → oneofValidator pydantic m = []) := by
  refine ⟨[Piece.lit "class ", Piece.expr "output_file.messages[].py_name" m.py_name, Piece.lit "(betterproto.Message):\n"]
      ++ optComment "output_file.messages[].comment" m.comment ++ m.fields.flatMap fieldLine ++ passIfEmpty m.fields
      ++ [Piece.lit "\n"] ++ postInit m ++ [Piece.lit "\n"], ?_⟩
  intro p
  refine ⟨?_, rfl, ?_⟩
  · simp only [messageClass, nl, List.append_eq, List.append_assoc]
  · intro h
    simp [oneofValidator, h]

/-- an enum class under the two options: the same entries; pydantic adds `__get_pydantic_core_schema__` -/
theorem src_enum_class_options (e : EnumDef) :
    ∃ core : List Piece, ∀ pydantic : Bool,
      enumClass pydantic e = core ++ enumPydanticSchema pydantic ++ [Piece.lit "\n"] ∧
      enumPydanticSchema false = [] := by
  refine ⟨[Piece.lit "class ", Piece.expr "output_file.enums[].py_name" e.py_name, Piece.lit "(betterproto.Enum):\n"]
      ++ optComment "output_file.enums[].comment" e.comment ++ e.entries.flatMap enumEntry ++ [Piece.lit "\n"], ?_⟩
  intro p
  refine ⟨?_, rfl⟩
  simp only [enumClass, nl, List.append_eq, List.append_assoc]

/-- the Stub / Base classes do not read `pydantic_dataclasses` at all -/
theorem src_services_ignore_pydantic (c : OutputFile) (p : Bool) :
    stubsBlock { c with pydantic_dataclasses := p } = stubsBlock c ∧
    basesBlock { c with pydantic_dataclasses := p } = basesBlock c := ⟨rfl, rfl⟩

/-- non-vacuity: the stub-iterator site under typing.310 -/
example :
    let m : Method := {
      py_name := "m".toList, comment := [], route := "/p.S/M".toList, client_streaming := true,
      server_streaming := true, py_input_message_param := "req".toList, py_input_message_type := "In".toList,
      py_output_message_type := "Out".toList, proto_obj := { options := { deprecated := false } } }
    String.ofList (text (stubParam (ofCompiler .c310 [] []) m))
      = "            , req_iterator: \"AsyncIterable[In] | Iterable[In]\"" := by
  show String.ofList _ = String.ofList _
  exact congrArg String.ofList (by decide +kernel)

end Bp.C18
