import BpProofs.SrcTiePyDict
import BpProofs.SrcTieFromPyDict
import BpProofs.SrcTiePyDictRt
import BpProofs.JsonRtMain
import BpProofs.Props.C04
import BpProofs.Props.C04Src
/-
  C14 (touching C04), tied to the SOURCE: `Message.to_pydict`, `to_json`, `from_json`.

  The per-field step of `Message.to_pydict` — the `getattr` / AttributeError fallback to the default
  (the D05 repair), the key `casing(field_name).rstrip("_")`, the message branch (datetime / timedelta
  written as they are, wrapper, repeated sub-messages, None, the presence test
  `_serialized_on_wire or … or value != default` of fix D46), the map branch (`{**value}`: the
  conversion goes into a COPY — the D04 repair —, the loop over the keys), the scalar branch — is
  translated from the Python AST on every run (harness/extract_srcpydict.py →
  BpProofs/Gen/SrcPyDict.lean: `Src.to_pydict_field`) and proved EQUAL to the model's `toPyDictSlot`
  (BpModel/PyDict.lean), errors included.  So are the bodies of `to_json` (`json.dumps` of
  `self.to_dict(...)` with both parameters handed on, no option but `indent`) and `from_json`
  (`self.from_dict(json.loads(value))`), and the default values of the keyword parameters.

  PURITY, as far as the translation itself shows it: `Src.to_pydict_field` is a function of the
  outcome of `getattr`, of `_include_default_value_for_oneof` and of the output dict — the state of
  the instance is not an argument and not a result.  A statement of the loop body that writes to the
  message or to one of its containers (`value[k] = …` on the live dict, the D04 defect; `setattr`;
  `.append`) is outside the translated subset: the translation FAILS, this file does not build.
  What the reads themselves do to the instance (lazy defaults) is Props/C14PyDict.lean.

  Reading: `Src.to_pydict_field S enc cs incl f got sel output` is one iteration for the field
  described by `f`: `got = Py.getattrField S f hid v` is what `getattr(self, field_name)` yields for
  the raw slot `v`, `sel` is `_include_default_value_for_oneof`, `incl` is `include_default_values`,
  `enc` is `<sub-message>.to_pydict(casing, include_default_values)`, `output` the items of the
  output dict so far.  `putR output k r` raises `e` for `r = error e`, leaves `output` as it is for
  `r = ok none` and is `output[k] = j` for `r = ok (some j)`.

  GUARDS of the tie (as for `to_dict`, BpProofs/SrcTieJson.lean): `dynOkJ f v` (decidable; the value
  has a Python type the descriptor allows; implied by the slot typing `slotOk'` of C04), and for a
  slot that reads as the default of a plain sub-message field `DefaultOkP`: `include_default_values =
  False` (with True the source expands the defaults of the fresh sub-message recursively, which the
  model does not: `raw ph`) and a fresh instance has the empty pydict (implied by `fieldJsonOk`).
-/
namespace Bp.C14
open Bp Bp.Py Bp.SrcTieJson Bp.SrcTiePyDict Bp.SrcTieFromPyDict

/-- **the per-field step of `Message.to_pydict` as written is the model's `toPyDictSlot`**: for every
    field descriptor, both casings, every `include_default_values`, every oneof state (`hid`, `sel`),
    every raw slot value inside the guards and every output dict, one iteration of the field loop
    raises exactly when the model does (the same exception class), leaves the dict as it is when the
    model says `none`, and performs `output[jsonKey cs f.name] = j` when it says `some j` -/
theorem src_to_pydict_field (S : Schema) (cs : KeyCase) (incl : Bool) (f : FieldD) (hid sel : Bool) (v : Val)
    (output : JDict) (hok : readsDefault hid v = false → dynOkJ f v = true)
    (hd : readsDefault hid v = true → DefaultOkP S cs incl f) :
    Src.to_pydict_field S (toPyDict S cs incl) cs incl f (getattrField S f hid v) sel output
      = putR output (jsonKey cs f.name) (toPyDictSlot S cs incl f hid sel v) :=
  to_pydict_field_eq S cs incl f hid sel v output hok hd

/-- **the whole dict**: running the loop body as written once per field, in `meta_by_field_name`
    order, from the empty dict (`srcLoopP`: a hand-written fold whose body is the translated
    `Src.to_pydict_field`) returns exactly the model's `toPyDict m` — the same dict, items in the
    same order, or the same exception — for every message whose slots are inside the guards of the
    tie and whose fields have distinct keys (`C04.src_keys_distinct`) -/
theorem src_to_pydict_loop (S : Schema) (cs : KeyCase) (incl : Bool) (c : Nat) (sl : List Val) (ow : Bool)
    (unk : Bytes) (cur : List (Option Nat)) (hinj : KeysInj cs (fieldsOf S c))
    (hok : SlotsTieOkP S cs incl (fieldsOf S c) cur 0 sl) :
    (srcLoopP S cs incl (fieldsOf S c) cur 0 sl []).bind (fun kvs => .ok (mkObj kvs))
      = ofR (toPyDict S cs incl (.msg c sl ow unk cur)) := by
  rw [srcLoopP_eq S cs incl _ cur hinj sl 0 [] hok (by simp), toPyDict_msg]
  cases toPyDictKVs S cs incl (fieldsOf S c) cur 0 sl <;> simp [Except.bind, Res.ok_bind]

/-- **`m.to_pydict(casing)` as written, on every typed message**: for a schema inside C04's `jsonOk`, a
    message whose slots are typed (`slotsOk'`, the judgement of `wellTyped'`) and whose dict slots have
    pairwise distinct keys, the field loop as written returns exactly the model's `toPyDict m` (all guards
    of the tie are discharged) -/
theorem src_to_pydict_of_typed (S : Schema) (E : Enums) (cs : KeyCase) (hS : jsonOk S E cs = true) (c : Nat)
    (sl : List Val) (ow : Bool) (unk : Bytes) (cur : List (Option Nat))
    (ht : slotsOk' S (fieldsOf S c) cur 0 sl = true) (hk : ∀ v ∈ sl, keysDistinct v = true) :
    (srcLoopP S cs false (fieldsOf S c) cur 0 sl []).bind (fun kvs => .ok (mkObj kvs))
      = ofR (toPyDict S cs false (.msg c sl ow unk cur)) :=
  src_to_pydict_loop S cs false c sl ow unk cur (C04.src_keys_distinct cs _ (namesOk_of_jsonOk S E cs hS c))
    (slotsTieOkP_of_typed S cs (fieldJsonOk_of_jsonOk S E cs hS) _ cur sl 0 ht hk)

/-- the default guard holds, without `include_default_values`, of every field of a schema inside `jsonOk` -/
theorem src_pydict_default_guard (S : Schema) (E : Enums) (cs : KeyCase) (hS : jsonOk S E cs = true) (f : FieldD) :
    DefaultOkP S cs false f :=
  defaultOkP_of_schema S cs f (fieldJsonOk_of_jsonOk S E cs hS)

/-- **the keyword defaults of `to_pydict` as written**: `casing=Casing.CAMEL`, `include_default_values=False`
    (what `m.to_pydict()` — the observer C14 names — means) -/
theorem src_to_pydict_defaults :
    Src.to_pydict.default_casing = KeyCase.camel ∧ Src.to_pydict.default_include_default_values = false := ⟨rfl, rfl⟩

/-- **D05, of the source as written: an unselected oneof member does not make `to_pydict` raise** —
    `getattr` raises AttributeError, the step goes on with the field default and writes nothing
    (singular member, inside `fieldJsonOk`), whatever the raw slot holds -/
theorem src_to_pydict_unselected_member (S : Schema) (E : Enums) (cs : KeyCase) (hS : jsonOk S E cs = true) (f : FieldD)
    (hf : fieldJsonOk f = true) (v : Val) (output : JDict) :
    Src.to_pydict_field S (toPyDict S cs false) cs false f (getattrField S f true v) false output = .ok output := by
  rw [to_pydict_field_eq S cs false f true false v output (by cases v <;> simp [readsDefault])
    (fun _ => src_pydict_default_guard S E cs hS f), toPyDictSlot_hid, toPyDictDefault_none S f (fj_of f hf)]
  rfl

/-- **D04, of the source as written: the conversion of a map field goes into a new dict** — for a
    `map<K, Msg>` field the object stored in the output is built from the converted values, and the
    iteration has no other result: the attribute value `.dict ks vs` is an input only -/
theorem src_to_pydict_map_is_copied (S : Schema) (cs : KeyCase) (incl : Bool) (f : FieldD) (sel : Bool) (ks vs : List Val)
    (output : JDict) (hok : dynOkJ f (.dict ks vs) = true) :
    Src.to_pydict_field S (toPyDict S cs incl) cs incl f (.value (.dict ks vs)) sel output
      = (ofR (toPyDictMapVals S cs incl vs)).bind fun pvs =>
          .ok (if (!ks.isEmpty || incl) = true then setItem output (jsonKey cs f.name) (.obj (ks.map keyJ) pvs) else output) := by
  have hmap : (f.ty == PType.map) = true := by
    simp only [dynOkJ, Bool.and_eq_true] at hok; exact hok.1.1
  rw [SrcTiePyDict.field_value S cs incl f sel (.dict ks vs) output nofun hok, toPyDictSlot]
  simp only [Bool.false_eq_true, if_false, hmap, if_true]
  cases toPyDictMapVals S cs incl vs with
  | error e => rfl
  | ok pvs =>
    simp only [Except.bind, ofR_ok, Res.ok_bind, putR_ok]
    split <;> rfl

/-! ### from_pydict -/

/-- **the per-key step of `Message.from_pydict` as written is the model's** (`keyStepP`: the lookup
    `meta_by_field_name.get(safe_snake_case(key))` — TypeError for a key that is not a str, `continue` for a
    key that names no field —, the skip of `None`, and `fromPyField`): for a message-typed field
    `getattr(self, name)` FIRST (AttributeError for a oneof member that is not the selected one; the
    default is stored in a PLACEHOLDER slot), then by what came back: a list — `cls().from_pydict(item)`
    appended per item, `cls()` being a TypeError for `datetime` / `timedelta` / `Optional[…]`; a datetime /
    timedelta / a wrapper field — the object under the key as it is; anything else —
    `v.from_pydict(value[key])` IN PLACE (AttributeError on None); for a `map<K, Message>` field the
    entries are converted into the dict `getattr` returned; every other field receives the object as it
    is; finally `setattr(self, name, v)` unless `v is None`.  Same state or same exception class. -/
theorem src_from_pydict_key (S : Schema) (c : Nat) (st : MState) (key : JKey) (p : PVal) (hok : StepOk S c st key p) :
    Src.from_pydict_key S c (decP S) st key p = ofR (keyStepP S c st key p) :=
  from_pydict_key_eq S c st key p hok

/-- **the whole method**: `self._serialized_on_wire = True`, the loop body as written once per key
    (`srcKeysLoop`), `return self` — is the model's `fromPyDictI` -/
theorem src_from_pydict (S : Schema) (c : Nat) (sl : List Val) (ow : Bool) (unk : Bytes) (cur : List (Option Nat))
    (ks : List JKey) (ps : List PVal)
    (hok : KeysTieOk S c { slots := sl, onWire := true, unknown := unk, cur := cur } ks ps) :
    (srcKeysLoop S c { slots := sl, onWire := true, unknown := unk, cur := cur } ks ps).bind (fun st => .ok (st.toVal c))
      = ofR (fromPyDictI S (.msg c sl ow unk cur) (.obj ks ps)) := by
  rw [srcKeysLoop_eq S c ks ps _ hok]
  show _ = ofR ((fromPyKeys S c { slots := sl, onWire := true, unknown := unk, cur := cur } ks ps).bind
    fun st => .ok (st.toVal c))
  cases fromPyKeys S c { slots := sl, onWire := true, unknown := unk, cur := cur } ks ps <;> rfl

/-- **a oneof member of message type cannot be loaded by `from_pydict` as written**: on an instance in
    which the member is not the selected one (a fresh instance: every member), the step for its key
    raises AttributeError — whatever the dict holds for it other than None, which is skipped (`hidden`: `getattr`
    raises) -/
theorem src_from_pydict_unselected_message_member (S : Schema) (c : Nat) (st : MState) (bs : Bytes) (i : Nat) (f : FieldD)
    (p : PVal) (hfn : findName (fieldsOf S c) (Casing.safeSnake (bs.map Char.ofNat)) 0 = some (i, f))
    (hm : (f.ty == PType.message) = true) (hh : hidden f i st.cur = true) (hp : p ≠ .null)
    (hlen : ∀ ks ps, p = .obj ks ps → ks.length = ps.length) :
    Src.from_pydict_key S c (decP S) st (.str bs) p = .raise .attr := by
  have hfi : (fieldsOf S c)[i]? = some f := by
    simpa using (Bp.SrcTieFromDict.findName_spec (fieldsOf S c) _ 0 i f hfn).2.1
  have hg : getAttr S (fieldsOf S c) st i = .error .attr := getAttr_hidden S _ st i f hfi hh
  rw [key_foundP S c st bs i f p hfn hlen (by rw [Bool.and_eq_true, beq_iff_eq.mp hm]; exact fun h => nomatch h.1),
    fromPyField_eq S c st i f p hp, if_pos hm, hg]
  rfl

/-- **the round trip with both top-level loops as written**: for every schema inside `pyDictOk` and every value
    inside the guards of `from_pydict_to_pydict` (Props/C14PyDictRt.lean) whose dict slots have distinct keys, the
    field loop of `to_pydict` as written (`srcLoopP`) returns a dict `kvs` without raising, and the key loop of
    `from_pydict` as written (`srcKeysLoop`), run on that dict and a fresh instance (`Cls()` with
    `_serialized_on_wire = True`), returns a message `m'` with `m ≈ m'` (`DEqv`) and the same bytes.  All guards of
    both ties are discharged along the run.  (The recursive calls inside the two loop bodies are the model's.) -/
theorem src_from_pydict_to_pydict (S : Schema) (cs : KeyCase) (c : Nat) (sl : List Val) (ow : Bool) (unk : Bytes)
    (cur : List (Option Nat)) (hok : pyDictOk S cs = true) (hgroups : groupsOk S = true)
    (hwt : wellTyped' S (.msg c sl ow unk cur) = true) (hsel : selOk S (.msg c sl ow unk cur) = true)
    (hkeys : dictKeysOk (.msg c sl ow unk cur) = true) (hkd : ∀ v ∈ sl, keysDistinct v = true) :
    ∃ kvs m', srcLoopP S cs false (fieldsOf S c) cur 0 sl [] = .ok kvs ∧
      (srcKeysLoop S c (freshOn S c) (kvs.map (·.1)) (kvs.map (·.2))).bind (fun st => .ok (st.toVal c)) = .ok m' ∧
      DEqv S (.msg c sl ow unk cur) m' ∧ dumpVal S m' = dumpVal S (.msg c sl ow unk cur) := by
  obtain ⟨kvs, h1, h2⟩ := src_loops_roundtrip S cs hok hgroups c sl ow unk cur hwt hsel hkeys hkd
  obtain ⟨_, b, d⟩ := roundtrip_class S [] cs ⟨(pyDictOk_schema S cs hok).1, hgroups⟩ c sl ow unk cur hwt hsel
  exact ⟨kvs, _, h1, h2, b, d⟩

/-! ### to_json / from_json -/

/-- **the body of `Message.to_json` as written**: `json.dumps(self.to_dict(casing=casing,
    include_default_values=include_default_values), indent=indent)` — both parameters are handed on
    as given and no option of `json.dumps` other than `indent` (layout) is used; it is the model's
    `toJson`, TypeError where `to_dict(m)` holds an object JSON cannot serialise -/
theorem src_to_json (S : Schema) (E : Enums) (m : Val) (indent : Indent) (incl : Bool) (cs : KeyCase) :
    Src.to_json (fun cs incl => toDict S E cs incl m) indent incl cs
      = (match toJson S E cs incl m with
         | some j => .ok ⟨j⟩
         | Option.none => .raise .type) := by
  unfold Src.to_json jsonDumps toJson
  rfl

/-- **the keyword defaults of `to_json` as written**: `indent=None`, `include_default_values=False`,
    `casing=Casing.CAMEL` -/
theorem src_to_json_defaults :
    Src.to_json.default_include_default_values = false ∧ Src.to_json.default_casing = KeyCase.camel := ⟨rfl, rfl⟩

/-- **the body of `Message.from_json` as written**: `self.from_dict(json.loads(value))`, the INSTANCE
    form of `from_dict` — the model's `fromJson` -/
theorem src_from_json (S : Schema) (E : Enums) (m : Val) (t : JsonText) :
    Src.from_json (fun j => ofR (fromDictI S E m j)) t = ofR (fromJson S E m t.parsed) := by
  unfold Src.from_json jsonLoads fromJson
  rfl

/-- **C04 through the JSON text, of the two wrappers as written**: for every schema inside the guards
    of `C04.roundtrip_all` and every well-typed value, `Cls().from_json(m.to_json(casing=cs))` — both
    bodies as written, the text produced by the one read by the other — returns a message `m'` that is
    equivalent to `m` (`DEqv`) and encodes to the same bytes -/
theorem src_json_roundtrip (S : Schema) (E : Enums) (cs : KeyCase) (c : Nat) (sl : List Val) (ow : Bool) (unk : Bytes)
    (cur : List (Option Nat)) (indent : Indent)
    (hjson : jsonOk S E cs = true) (hgroups : groupsOk S = true)
    (hwt : wellTyped' S (.msg c sl ow unk cur) = true) (hsel : selOk S (.msg c sl ow unk cur) = true) :
    ∃ m', (Src.to_json (fun cs incl => toDict S E cs incl (.msg c sl ow unk cur)) indent
              Src.to_json.default_include_default_values cs).bind
            (fun t => Src.from_json (fun j => ofR (fromDictI S E (fresh S c) j)) t) = .ok m' ∧
      DEqv S (.msg c sl ow unk cur) m' ∧ dumpVal S m' = dumpVal S (.msg c sl ow unk cur) := by
  obtain ⟨_, t2, m', _, hi, _, _, hq, hb⟩ := C04.roundtrip_all S E cs c sl ow unk cur hjson hgroups hwt hsel
  refine ⟨m', ?_, hq, hb⟩
  rw [src_to_json]
  show (match toJson S E cs false (.msg c sl ow unk cur) with
        | some j => (Res.ok ⟨j⟩ : Res JsonText)
        | Option.none => .raise .type).bind _ = _
  unfold toJson
  rw [t2]
  simp only [Res.ok_bind]
  rw [src_from_json]
  unfold fromJson
  rw [hi]; rfl

/-! non-vacuity: the translated iteration run on closed inputs: an int64 stays an int (no decimal
    string), bytes stay bytes, a datetime stays a datetime; the default 0 of a plain field is left out,
    that of the selected oneof member is written; an unselected member is left out whatever its slot
    holds; a sub-message is converted; a repeated Timestamp raises AttributeError -/
def fI64 : FieldD := { name := "big", num := 1, ty := .int64 }
def fByt : FieldD := { name := "raw", num := 2, ty := .bytes }
def fTs : FieldD := { name := "at", num := 3, ty := .message, kind := .timestamp }
def fOne : FieldD := { name := "pick", num := 4, ty := .int32, group := some 0 }
def fSub : FieldD := { name := "sub", num := 5, ty := .message, kind := .user 0 }
def fTss : FieldD := { name := "ats", num := 6, ty := .message, kind := .timestamp, repeated := true }
def Ssub : Schema := [{ fields := [{ name := "x", num := 1, ty := .int32 }] }]
example : Src.to_pydict_field [] (toPyDict [] .camel false) .camel false fI64 (getattrField [] fI64 false (.int 5)) false []
    = .ok [(.str [98, 105, 103], .num 5)] := by
  -- the key is computed by the kernel alone, the iteration by unfolding
  rw [← (by rw [jsonKey_fast]; decide +kernel : jsonKey .camel fI64.name = .str [98, 105, 103])]
  rfl
example : Src.to_pydict_field [] (toPyDict [] .camel false) .camel false fByt (getattrField [] fByt false (.byt [1, 2])) false []
    = .ok [(.str [114, 97, 119], .raw (.byt [1, 2]))] := by
  rw [← (by rw [jsonKey_fast]; decide +kernel : jsonKey .camel fByt.name = .str [114, 97, 119])]
  rfl
example : Src.to_pydict_field [] (toPyDict [] .camel false) .camel false fTs (getattrField [] fTs false (.ts 7)) false []
    = .ok [(.str [97, 116], .raw (.ts 7))] := by
  rw [← (by rw [jsonKey_fast]; decide +kernel : jsonKey .camel fTs.name = .str [97, 116])]
  rfl
example : Src.to_pydict_field [] (toPyDict [] .camel false) .camel false fI64 (getattrField [] fI64 false (.int 0)) false []
    = .ok [] := by rfl
example : Src.to_pydict_field [] (toPyDict [] .camel false) .camel false fOne (getattrField [] fOne false (.int 0)) true []
    = .ok [(.str [112, 105, 99, 107], .num 0)] := by
  rw [← (by rw [jsonKey_fast]; decide +kernel : jsonKey .camel fOne.name = .str [112, 105, 99, 107])]
  rfl
example : Src.to_pydict_field [] (toPyDict [] .camel false) .camel false fOne (getattrField [] fOne true (.int 7)) false []
    = .ok [] := by rfl
example : Src.to_pydict_field Ssub (toPyDict Ssub .camel false) .camel false fSub
      (getattrField Ssub fSub false (.msg 0 [.int 1] false [] [])) false []
    = .ok [(.str [115, 117, 98], .obj [.str [120]] [.num 1])] := by
  rw [← (by rw [jsonKey_fast]; decide +kernel : jsonKey .camel fSub.name = .str [115, 117, 98]),
    ← (by rw [jsonKey_fast]; decide +kernel : jsonKey .camel "x" = .str [120])]
  rfl
example : Src.to_pydict_field [] (toPyDict [] .camel false) .camel false fTss (getattrField [] fTss false (.list [.ts 1])) false []
    = .raise .attr := by rfl

/-! non-vacuity of the `from_pydict` tie: the translated step run on closed inputs.  `Ssub2`: class 0 = `Top { Sub sub = 1;
    int32 n = 2; oneof g { Sub pick = 3; } }`, class 1 = `Sub { int32 x = 1; }`.  A scalar is stored; a sub-message is
    filled in place and stored; a key that names no field is skipped; the message-typed oneof member raises. -/
def Ssub2 : Schema := [
  { fields := [{ name := "sub", num := 1, ty := .message, kind := .user 1 }, { name := "n", num := 2, ty := .int32 },
               { name := "pick", num := 3, ty := .message, kind := .user 1, group := some 0 }], nGroups := 1 },
  { fields := [{ name := "x", num := 1, ty := .int32 }] }]
def st0 : MState := { slots := [.ph, .ph, .ph], onWire := true, unknown := [], cur := [Option.none] }
def isOkSlots (r : Res MState) (p : List Val → Bool) : Bool := match r with | .ok st => p st.slots | _ => false
example : isOkSlots (Src.from_pydict_key Ssub2 0 (decP Ssub2) st0 (.str [110]) (.num 7))
    (fun sl => match sl with | [.ph, .int 7, .ph] => true | _ => false) = true := by
  -- the key is computed through the fast casing functions, the iteration by the kernel on the translated body
  rw [Src.from_pydict_key, show safeSnakeCase (.str [110]) = .ok ['n'] by
    unfold safeSnakeCase; rw [Casing.safeSnake_fast]; decide +kernel]
  decide +kernel
example : isOkSlots (Src.from_pydict_key Ssub2 0 (decP Ssub2) st0 (.str [115, 117, 98]) (.obj [.str [120]] [.num 5]))
    (fun sl => match sl with | [.msg 1 [.int 5] true [] [], .ph, .ph] => true | _ => false) = true := by decide +kernel
example : isOkSlots (Src.from_pydict_key Ssub2 0 (decP Ssub2) st0 (.str [122]) (.num 7))
    (fun sl => match sl with | [.ph, .ph, .ph] => true | _ => false) = true := by
  rw [Src.from_pydict_key, show safeSnakeCase (.str [122]) = .ok ['z'] by
    unfold safeSnakeCase; rw [Casing.safeSnake_fast]; decide +kernel]
  decide +kernel
example : (match Src.from_pydict_key Ssub2 0 (decP Ssub2) st0 (.str [112, 105, 99, 107]) (.obj [.str [120]] [.num 5]) with
    | .raise .attr => true | _ => false) = true := by
  rw [Src.from_pydict_key, show safeSnakeCase (.str [112, 105, 99, 107]) = .ok ['p', 'i', 'c', 'k'] by
    unfold safeSnakeCase; rw [Casing.safeSnake_fast]; decide +kernel]
  decide +kernel
/-- the guards of `src_from_pydict_key` are satisfiable: a key that names no field (nothing is asked of the state) -/
example : StepOk Ssub2 0 st0 (.str [122]) (.num 7) := by
  refine ⟨fun ks ps h => ?_, fun i f hk _ => ?_⟩
  · cases h
  · have hq : (findName (fieldsOf Ssub2 0) (Casing.fieldOfKey ([122].map Char.ofNat)) 0).isNone = true := by
      rw [Casing.fieldOfKey_fast]; decide +kernel
    rw [Except.ok.inj hk] at hq
    exact Bool.noConfusion hq

end Bp.C14
