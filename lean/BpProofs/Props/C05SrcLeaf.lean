import BpProofs.SrcTieLeaf
import BpProofs.SrcTieLeafEnum
import BpProofs.Props.C20Src
import BpModel.Gen.WireTables
import BpProofs.PyPreludeFromDict
/-
  C05, the JSON LEAF codecs tied to the SOURCE: `_parse_float`, `_dump_enum`, `_parse_enum` as
  regenerated from the Python AST of src/betterproto/__init__.py on every run
  (harness/extract_srcleaf.py → BpProofs/Gen/SrcLeaf.lean).  "NaN / Infinity are strings" and
  "enums are value names" of the property text, stated of the functions as written.

  `Src.parse_float fl t j`: `fl` is the builtin `float` (applied where the code calls it on its
  argument), `t` the proto type of the field (the width of the bit pattern representing the float),
  `j` the JSON value (`.fstr 0/1/2` = the texts "Infinity" / "-Infinity" / "NaN").
  `Src.dump_enum cls v` / `Src.parse_enum cls j` are built AROUND `EnumType.__call__`,
  `Enum.from_string`, `Enum.try_value` as translated from enum.py (Props/C20Src.lean).
-/
namespace Bp.C05
open Bp Bp.Py Bp.EnumM Bp.PyEnum Bp.PyLeaf Bp.SrcTieLeaf Bp.SrcTieEnum

/-- the three constants the translated functions compare with / return are the spec's spellings
    (`INFINITY`, `NEG_INFINITY`, `NAN` as regenerated into BpModel/Gen/WireTables.lean) -/
theorem src_float_constants :
    Gen.jsonInfinity = "Infinity" ∧ Gen.jsonNegInfinity = "-Infinity" ∧ Gen.jsonNaN = "NaN"
    ∧ eqStrConst (.fstr 0) Gen.jsonInfinity = true ∧ eqStrConst (.fstr 1) Gen.jsonNegInfinity = true
    ∧ eqStrConst (.fstr 2) Gen.jsonNaN = true := by decide +kernel

/-- **the three spec strings are handled by `_parse_float` ITSELF**: whatever the builtin `float`
    does (CPython's happens to accept these spellings too), "Infinity" ↦ +∞, "-Infinity" ↦ −∞,
    "NaN" ↦ the quiet NaN -/
theorem src_parse_float_specials (fl : JVal → Res Val) (t : PType) :
    Src.parse_float fl t (.fstr 0) = .ok (floatLit t "inf")
    ∧ Src.parse_float fl t (.fstr 1) = .ok (floatNeg (floatLit t "inf"))
    ∧ Src.parse_float fl t (.fstr 2) = .ok (floatLit t "nan") :=
  ⟨rfl, rfl, rfl⟩

/-- … and every other value — ints, bools, numeric strings, other strings, None, lists — goes to
    `float(value)` unchanged: `_parse_float` adds nothing and catches nothing there -/
theorem src_parse_float_other (fl : JVal → Res Val) (t : PType) (j : JVal) (hc : canonFloatJ j = true)
    (hk : ∀ k, k < 3 → j ≠ .fstr k) : Src.parse_float fl t j = fl j := by
  unfold Src.parse_float
  rw [Res.bind_ok]
  cases j with
  | fstr k =>
    match k, hk with
    | 0, hk => exact absurd rfl (hk 0 (by omega))
    | 1, hk => exact absurd rfl (hk 1 (by omega))
    | 2, hk => exact absurd rfl (hk 2 (by omega))
    | n + 3, _ => rfl
  | str u =>
    simp only [canonFloatJ, Bool.not_eq_true', Bool.or_eq_false_iff] at hc
    simp only [eqStrConst, hc.1.1, hc.1.2, hc.2, Bool.false_eq_true, if_false]
  | _ => rfl

/-- **`_parse_float` as written is the model's `parseFloat`** (with the builtin `float` of
    BpProofs/PyPreludeLeaf.lean), on every JSON value except a general `str` that spells one of the
    three constants (those texts are represented by `.fstr k`; see `src_parse_float_str_witness`) -/
theorem src_parse_float (t : PType) (j : JVal) (hc : canonFloatJ j = true) :
    Src.parse_float (floatOf t) t j = ofR (parseFloat t j) := by
  rw [← floatOf_eq]
  by_cases hk : ∀ k, k < 3 → j ≠ .fstr k
  · exact src_parse_float_other _ t j hc hk
  · push Not at hk
    obtain ⟨k, hk3, rfl⟩ := hk
    have hs := src_parse_float_specials (floatOf t) t
    match k, hk3 with
    | 0, _ => exact hs.1
    | 1, _ => exact hs.2.1
    | 2, _ => exact hs.2.2

/-- the excluded representation: a `str` whose characters are "Infinity" is recognised by the
    comparison as written, where the model (`parseFloat … (.str _)`) says "not modelled" -/
theorem src_parse_float_str_witness :
    Src.parse_float (floatOf .double) .double (.str ("Infinity".toList.map Char.toNat)) = .ok (.f64 0x7ff0000000000000)
    ∧ parseFloat .double (.str ("Infinity".toList.map Char.toNat)) = .error .notImpl := ⟨rfl, rfl⟩

/-- **`_dump_enum` as written is the model's `dumpEnum`** (BpModel/EnumM.lean), for every class
    object and number: the `.name` of what `enum_class(value)` returns, the number itself when that
    raises ValueError -/
theorem src_dump_enum {ν : Type} [DecidableEq ν] (cls : ClsObj ν) (v : Int) :
    Src.dump_enum cls v = .ok (EnumM.dumpEnum cls.st v) := by
  unfold Src.dump_enum EnumM.dumpEnum
  rw [SrcTieEnum.call_eq]
  unfold call
  cases assoc v cls.st.valueMap with
  | some m => rfl
  | none => rfl

/-- **`_parse_enum` as written is the model's `parseEnum`**: `from_string` for a name (ValueError
    for an unknown one; the class is unchanged), `try_value` for a number (never raises) -/
theorem src_parse_enum {ν : Type} [DecidableEq ν] (cls : ClsObj ν) (j : JEnum ν) :
    Src.parse_enum cls j
      = (ofR (EnumM.parseEnum cls.st j).2).bind fun m => .ok (m, { cls with st := (EnumM.parseEnum cls.st j).1 }) := by
  cases j with
  | name n =>
    unfold Src.parse_enum
    simp only [EnumM.parseEnum]
    rw [SrcTieEnum.from_string_eq]
  | num v =>
    unfold Src.parse_enum
    simp only [EnumM.parseEnum]
    rw [SrcTieEnum.try_value_eq]
    rfl

/-- **enums are value names, of the source as written**: on the class `EnumType.__new__` as written
    builds from a definition `d`, `_dump_enum` as written gives the FIRST name declared with the
    number when there is one, and the number itself otherwise — never null -/
theorem src_dump_enum_name {ν : Type} [DecidableEq ν] (d : Decl ν) (hnd : NamesNodup d = true) (v : Int) :
    ∃ cls, Src.EnumType.new d = .ok cls
      ∧ ((∃ n0, FirstName d v n0 ∧ Src.dump_enum cls v = .ok (some (.name n0)))
         ∨ (¬ Defined d v ∧ Src.dump_enum cls v = .ok (some (.num v)))) := by
  refine ⟨obj (mk d), (C20.src_new d hnd).1, ?_⟩
  rw [src_dump_enum]
  by_cases hd : Defined d v
  · obtain ⟨n0, hf⟩ := defined_firstName d v hd
    obtain ⟨oid, ho⟩ := mk_valueMap_first d v n0 hf
    exact Or.inl ⟨n0, hf, by simp [EnumM.dumpEnum, call, obj, ho]⟩
  · exact Or.inr ⟨hd, by simp [EnumM.dumpEnum, call, obj, mk_valueMap_none d v hd]⟩

/-- **bridge to the `to_dict` tie**: the intrinsic `Py.dumpEnumOf e v` of
    BpProofs/PyPreludeJson.lean (= `Bp.dumpEnum e`, which `Src.to_dict_field` calls) is `_dump_enum`
    as written on the class built for `e` -/
theorem src_dump_enum_bridge (e : EnumDef) (v : Int) :
    ∃ j, Src.dump_enum (clsOf e) v = .ok (some j) ∧ jOfEnum j = Py.dumpEnumOf e (.int v) := by
  obtain ⟨oid, h⟩ := valueMap_clsOf e v
  rw [src_dump_enum]
  unfold EnumM.dumpEnum call clsOf
  simp only [obj]
  rw [h]
  simp only [Py.dumpEnumOf, Bp.dumpEnum]
  cases enumByNum e v with
  | some m => exact ⟨.name m.py, rfl, rfl⟩
  | none => exact ⟨.num v, rfl, rfl⟩

/-- **bridge to the `from_dict` tie**: the model's `parseEnum e` behind the intrinsic `Py.parseEnum`
    of BpProofs/PyPreludeFromDict.lean is the number of what `_parse_enum` as written returns -/
theorem src_parse_enum_bridge (e : EnumDef) (hnd : NamesNodup (declOf e) = true) (j : JEnum Bytes) :
    (Src.parse_enum (clsOf e) j).bind (fun p => .ok (Val.int p.1.number)) = ofR (Bp.parseEnum e (jOfEnum j)) := by
  rw [src_parse_enum]
  cases j with
  | name n =>
    simp only [EnumM.parseEnum, jOfEnum, Bp.parseEnum, clsOf, obj, fromString]
    -- `from_string` and `enumByPy` both take the first declaration of the name (`hnd` is not needed)
    have := memberMap_clsOf e n
    cases h : enumByPy e n <;> cases h' : assoc n (mk (declOf e)).memberMap <;> rw [h, h'] at this
    · rfl
    · cases this
    · cases this
    · exact congrArg (fun i => Res.ok (Val.int i)) (Option.some.inj this)
  | num v =>
    simp only [EnumM.parseEnum, jOfEnum, Bp.parseEnum, clsOf, obj]
    have := tryValue_number (mk (declOf e)) v (mk_inv _)
    simp [ofR, Res.bind, this]

/-- **bridge to the `from_dict` tie**: the intrinsic `Py.parseFloat meta j` of
    BpProofs/PyPreludeFromDict.lean is `_parse_float` as written -/
theorem src_parse_float_bridge (f : FieldD) (j : JVal) (hc : canonFloatJ j = true) :
    Py.parseFloat f j = Src.parse_float (floatOf f.ty) f.ty j := by
  rw [src_parse_float f.ty j hc]; rfl

example : Src.parse_float (floatOf .float) .float (.fstr 1) = .ok (.f32 0xff800000) := rfl
example : Src.parse_float (floatOf .double) .double (.fnum 0x3ff0000000000000) = .ok (.f64 0x3ff0000000000000) := rfl
example : Src.parse_float (floatOf .double) .double .null = .raise .type := rfl
example : Src.dump_enum C20.exCls 1 = .ok (some (.name 0)) ∧ Src.dump_enum C20.exCls 7 = .ok (some (.num 7)) := by decide +kernel
example : (Src.parse_enum C20.exCls (.name 2)).bind (fun p => .ok p.1.number) = .ok 1
    ∧ Src.parse_enum C20.exCls (.name 9) = .raise .value := ⟨by decide +kernel, rfl⟩
/-- the hypotheses of `src_parse_float_other`: a numeric string -/
example : canonFloatJ (.str [49, 46, 53]) = true ∧ ∀ k, k < 3 → JVal.str [49, 46, 53] ≠ .fstr k :=
  ⟨by decide +kernel, fun _ _ h => by cases h⟩
/-- the bridge on the enum `A = 1; B = 2; ALIAS = 1` of the JSON model -/
def exE : EnumDef := [⟨[65], [65], 1⟩, ⟨[66], [66], 2⟩, ⟨[67], [67], 1⟩]
example : NamesNodup (declOf exE) = true := by decide +kernel
example : Src.dump_enum (clsOf exE) 1 = .ok (some (.name [65])) ∧ Src.dump_enum (clsOf exE) 5 = .ok (some (.num 5)) := by decide +kernel
example : (Src.parse_enum (clsOf exE) (.name [67])).bind (fun p => .ok p.1.number) = .ok 1 := by decide +kernel
example : NamesNodup C20.exD = true := by decide +kernel

end Bp.C05
