import BpModel.All
import BpProofs.Len
/-
  C09 — len(m) equals the encoded size and dump() writes exactly bytes(m).
  `BpModel/Len.lean` (model of `__len__`, `_len_single`, `_len_preprocessed_single`) and
  `BpModel/Dump.lean` (model of `dump`, `_serialize_single`, `_preprocess_single`) are written
  separately, branch for branch as in the code; these theorems relate the two walks.
-/
namespace Bp.C09
open Bp

/-- **len(m) == len(bytes(m))** for every schema and every value — well-typed or not:
    when `bytes(m)` raises, `len(m)` raises too; there is no hypothesis. -/
theorem len_eq (S : Schema) (m : Val) :
    lenVal S m = Except.map List.length (dumpVal S m) := lenVal_eq S m

/-- the same, read as the property states it -/
theorem len_eq_bytes (S : Schema) (m : Val) (bs : Bytes) (h : dumpVal S m = .ok bs) :
    lenVal S m = .ok bs.length := by rw [len_eq, h]; rfl

/-- **dump(stream, SIZE_DELIMITED)** writes the varint encoding of `len(bytes(m))`
    followed by `bytes(m)` -/
theorem dump_delimited (S : Schema) (m : Val) (bs : Bytes) (h : dumpVal S m = .ok bs) :
    dumpDelimited S m = .ok (encNat bs.length ++ bs) := by
  unfold dumpDelimited dumpDelimitedWith
  rw [len_eq_bytes S m bs h, h]
  simp [dumpVarint_nat]

/-- … and fails exactly when `bytes(m)` fails -/
theorem dump_delimited_error (S : Schema) (m : Val) (e : PyErr) (h : dumpVal S m = .error e) :
    dumpDelimited S m = .error e := by
  unfold dumpDelimited
  rw [len_eq, h]; rfl

/-- the decoder reads the prefix back as the body length, consuming exactly the bytes of
    `encNat bs.length`, whatever follows (so a reader can skip exactly one message) -/
theorem delimited_prefix_readable (S : Schema) (m : Val) (bs rest : Bytes)
    (h : dumpVal S m = .ok bs) (hlen : bs.length < 2 ^ 64) :
    ∃ out, dumpDelimited S m = .ok out ∧
      loadVarint (out ++ rest) = .ok (bs.length, (encNat bs.length).length) := by
  refine ⟨_, dump_delimited S m bs h, ?_⟩
  rw [List.append_assoc]
  exact loadVarint_encNat bs.length (bs ++ rest) hlen

/-- one loop iteration: the size `__len__` adds for a field is the number of bytes
    `dump` writes for it (any field descriptor, any slot value, any oneof state) -/
theorem field_len_eq (S : Schema) (f : FieldD) (hid sel : Bool) (v : Val) :
    lenSlot S f hid sel v = Except.map List.length (dumpSlot S f hid sel v) := lenSlot_eq S f hid sel v

/-- `_len_single` vs `_serialize_single` -/
theorem single_len_eq (S : Schema) (num : Nat) (t : PType) (v : Val) (se : Bool) (w : Option PType) :
    lenScalar S num t v se w = Except.map List.length (serializeScalar S num t v se w) :=
  lenScalar_eq S num t v se w

/-! non-vacuity: the repaired D01 witness — an optional string set to "" encodes to two
    bytes and `len` agrees (before the repair `__len__` lacked `or meta.optional`) -/
def wS : Schema := [{ fields := [{ name := "s", num := 1, ty := .string, optional := true }] }]
example : dumpVal wS (.msg 0 [.str []] true [] []) = .ok [10, 0] := by decide +kernel
example : lenVal wS (.msg 0 [.str []] true [] []) = .ok 2 := by decide +kernel

end Bp.C09
