import BpModel.All
import BpProofs.NestedDefs
import BpProofs.RtScalar
import BpProofs.RtFlat
import BpProofs.RtSub
import BpProofs.LoadFuel
/-
  C01, map fields: decoding the bytes of a map-typed slot restores the dict — one
  length-delimited record per entry, whose payload is the two-field entry message
  `entryD f` (key = #1, value = #2), parsed by the nested loader and inserted with
  `dictInsert`.
-/
namespace Bp
open Gen

theorem mapKey_scalar (t : PType) (h : isMapKeyType t = true) : isScalarType t = true := by
  cases t with
  | message | map => exact absurd h (by decide)
  | _ => rfl

theorem keysDistinct_of_nodup (t : PType) (ht : isMapKeyType t = true) :
    ∀ (ks : List Val), (∀ x ∈ ks, scalarOk t x = true) → ks.Nodup → KeysDistinct ks := by
  intro ks hks hnd
  refine (keysDistinct_iff_pairwise ks).2 (hnd.imp_of_mem fun {a b} ha hb hne => ?_)
  rw [← Bool.not_eq_true, keyEq_typed t a b ht (hks a ha) (hks b hb)]
  exact hne

/-- the value half of an entry, as `dumpEntries` writes it: `dumpRec S 2 f.mapV none false`, spelled out -/
def dumpEntryVal (S : Schema) (f : FieldD) : Val → R Bytes
  | .msg c slots _ unknown cur =>
    (dumpSlots S (fieldsOf S c) cur 0 slots).bind fun body =>
      if f.mapV == PType.message then frame 2 f.mapV (body ++ unknown) false false else .error .type
  | v => serializeScalar S 2 f.mapV v false Option.none

theorem frame_map (num : Nat) (pre : Bytes) (w : Bool) :
    frame num PType.map pre true w = .ok (encNat (num * 8 + 2) ++ encNat pre.length ++ pre) := by
  rw [frame_of (wt := wireLenDelim) rfl, Bool.true_or, framed, if_neg (fun h => nomatch h.2.2), rawRec, if_pos rfl,
    List.append_assoc]
  rfl

theorem entry_numsDistinct (f : FieldD) : NumsDistinct (entryD f).fields :=
  numsDistinct_pair _ _ (show (1 : Nat) ≠ 2 by decide)

/-- what decoding the bytes `out` of ONE field `i` of an entry does to an entry state in
    which that field is still unset: afterwards the field reads as `x'`, the other slots
    are untouched -/
def EntryStep (S : Schema) (rec : Loader) (d : MsgD) (i : Nat) (fi : FieldD) (out : Bytes) (x' : Val) : Prop :=
  ∀ st : MState, i < st.slots.length → st.slots.getD i .ph = Val.ph →
    ∃ st', FoldsTo S rec d st out st'
      ∧ materialize S fi (st'.slots.getD i .ph) = x' ∧ st'.slots.length = st.slots.length
      ∧ ∀ j, j ≠ i → st'.slots.getD j .ph = st.slots.getD j .ph

theorem entryStep_nil (S : Schema) (rec : Loader) (d : MsgD) (i : Nat) (fi : FieldD) (x' : Val)
    (h : defaultOf S fi = x') : EntryStep S rec d i fi [] x' := by
  intro st _ hfr
  refine ⟨st, .nil S rec d st, ?_, rfl, fun _ _ => rfl⟩
  rw [hfr]
  exact h

/-- **the codec of an item `x` of a field `fi` of an entry** (of the helper class of a map entry, a Timestamp /
    Duration, a wrapper: singular, no presence of its own). Such a field is written with `serialize_empty = False`:
    besides the item codec, an item with an empty record is not written at all and reads back as the default of
    the field, which has to be as good as `x` -/
structure EntryRt (S : Schema) (rec : Loader) (fi : FieldD) (Rv : Val → Val → Prop) (x : Val) : Prop where
  item : ItemRt S rec fi Rv x
  empty : dumpRec S fi.num fi.ty fi.wraps false x = .ok [] →
    Rv x (defaultOf S fi) ∧ dumpRec S fi.num fi.ty fi.wraps false (defaultOf S fi) = .ok []

theorem EntryRt.mono {S : Schema} {rec : Loader} {fi : FieldD} {Rv Rv' : Val → Val → Prop} {x : Val}
    (h : EntryRt S rec fi Rv x) (hR : ∀ y, Rv x y → Rv' x y) : EntryRt S rec fi Rv' x :=
  ⟨h.item.mono hR, fun he => ⟨hR _ (h.empty he).1, (h.empty he).2⟩⟩

theorem entryStep_of_rt (S : Schema) (rec : Loader) (d : MsgD) (i : Nat) (fi : FieldD) (Rv : Val → Val → Prop) (x : Val)
    (out : Bytes) (hd : NumsDistinct d.fields) (hi : d.fields[i]? = some fi)
    (hr : fi.repeated = false) (ho : fi.optional = false) (hg : fi.group = Option.none)
    (hmap : (fi.ty == PType.map) = false)
    (h : EntryRt S rec fi Rv x) (hout : dumpRec S fi.num fi.ty fi.wraps false x = .ok out) (hlen : out.length < 2 ^ 64) :
    ∃ y, EntryStep S rec d i fi out y ∧ Rv x y ∧ dumpRec S fi.num fi.ty fi.wraps false y = .ok out := by
  by_cases hoe : out = []
  · subst hoe
    exact ⟨_, entryStep_nil S rec d i fi _ rfl, h.empty hout⟩
  · obtain ⟨y, hrec, hrel, hy, _, hre⟩ := h.item false out hout hoe hlen
    refine ⟨y, fun st hil hfr => ?_, hrel, hre⟩
    refine ⟨_, fold_record S rec d st _ i fi out y hd hi hrec
      (store_item S d st i fi y hi hil hmap (default_notlist S fi hr) hy.mark (by rw [hfr]; simp [freshVal, ho])
        (fun g hgg => by rw [hg] at hgg; cases hgg)),
      ?_, by simp [afterStore, setAt], fun j hj => getD_setAt_ne _ _ _ _ (Ne.symm hj)⟩
    show materialize S fi ((setAt st.slots i y).getD i .ph) = y
    rw [getD_setAt_self _ _ _ hil]
    exact hy.materialize fi

/-- a scalar: only an empty string / bytes is written as nothing, and that is the default -/
theorem entryRt_scalar (S : Schema) (rec : Loader) (fi : FieldD) (x : Val) (hff : FlatField fi) (hr : fi.repeated = false)
    (ho : fi.optional = false) (hx : scalarOk fi.ty x = true) : EntryRt S rec fi (fun a b => a = b) x := by
  refine ⟨itemRt_scalar S rec fi x hff hx, fun he => ?_⟩
  have hout := he
  rw [dumpRec_nonmsg S _ _ _ _ x (scalarOk_plain fi.ty x hx).2, hff.nw] at hout
  have hxe := (serializeScalar_empty_iff S fi.num fi.ty x false [] hff.sc hx hout).mp rfl
  have hdef : defaultOf S fi = x := by
    show defaultOfKind S fi.defKind = x
    rw [flat_defKind_singular fi hff hr, ho]
    rcases hxe.2 with e | e
    · subst e; rw [(scalarOk_str fi.ty [] hx).1]; rfl
    · subst e; rw [scalarOk_byt fi.ty [] hx]; rfl
  rw [hdef]
  exact ⟨rfl, he⟩

theorem entryStep_scalar (S : Schema) (rec : Loader) (d : MsgD) (i : Nat) (fi : FieldD) (x : Val) (out : Bytes)
    (hd : NumsDistinct d.fields) (hi : d.fields[i]? = some fi) (hff : FlatField fi)
    (hr : fi.repeated = false) (ho : fi.optional = false) (hg : fi.group = Option.none)
    (hx : scalarOk fi.ty x = true)
    (hout : serializeScalar S fi.num fi.ty x false Option.none = .ok out) (hlen : out.length < 2 ^ 64) :
    EntryStep S rec d i fi out x := by
  obtain ⟨y, hstep, rfl, _⟩ := entryStep_of_rt S rec d i fi (fun a b => a = b) x out hd hi hr ho hg (flat_notmap fi hff)
    (entryRt_scalar S rec fi x hff hr ho hx)
    (by rw [dumpRec_nonmsg S _ _ _ _ x (scalarOk_plain fi.ty x hx).2, hff.nw, hout]) hlen
  exact hstep

/-- decoding `p` with the two-field class `d` (a map entry, seconds / nanos) gives an instance whose fields read `x0`, `x1` -/
def ReadsPair (S : Schema) (rec : Loader) (d : MsgD) (p : Bytes) (x0 x1 : Val) : Prop :=
  ∃ st, rec d (freshState d) p = .ok st
    ∧ materialize S d.fields[0]! (st.slots.getD 0 .ph) = x0 ∧ materialize S d.fields[1]! (st.slots.getD 1 .ph) = x1

theorem two_field_decode (S : Schema) (rec rec' : Loader) (hu : Unfolds S rec rec') (d : MsgD)
    (a b : Bytes) (x0 x1 : Val)
    (hs : (freshState d).slots = [Val.ph, Val.ph])
    (h0 : EntryStep S rec' d 0 d.fields[0]! a x0) (h1 : EntryStep S rec' d 1 d.fields[1]! b x1) :
    ReadsPair S rec d (a ++ b) x0 x1 := by
  obtain ⟨st1, hf1, hm1, hl1, ho1⟩ := h0 { freshState d with onWire := true } (by rw [hs]; decide) (by rw [hs]; rfl)
  obtain ⟨st2, hf2, hm2, hl2, ho2⟩ := h1 st1 (by rw [hl1, hs]; decide) (by rw [ho1 1 (by decide), hs]; rfl)
  obtain ⟨pfs, hp, hj, hf⟩ := hf1.append hf2
  refine ⟨st2, ?_, ?_, hm2⟩
  · rw [hu, ← hj, loadFields_join _ hp, bind_ok]
    exact hf
  · rw [ho2 0 (by decide)]; exact hm1

theorem store_map (S : Schema) (d : MsgD) (st : MState) (k : Nat) (f : FieldD) (accK accV : List Val) (key v : Val)
    (hkl : k < st.slots.length) (hty : f.ty = PType.map) (hg : f.group = Option.none)
    (hcurv : materialize S f (st.slots.getD k .ph) = Val.dict accK accV) :
    storeValue S d (prepCurrent S d st k f) k f (Val.dict [key] [v])
      = .ok { st with slots := setAt st.slots k (Val.dict (dictInsert accK accV key v).fst (dictInsert accK accV key v).snd) } := by
  have hh : hidden f k st.cur = false := hidden_nogroup _ _ _ hg
  unfold prepCurrent
  rw [if_neg (by simp [hh])]
  unfold storeValue
  dsimp only
  rw [if_pos (by rw [hty]; rfl), getD_setAt_self _ _ _ hkl, hcurv]
  simp only [setAt_setAt]

theorem encNat_app_ne_nil (n : Nat) (x : Bytes) : encNat n ++ x ≠ [] :=
  List.append_ne_nil_of_left_ne_nil (encNat_ne_nil n) x

/-- field #2 of the entry class (`(entryD f).fields[1]!`, by `rfl`) -/
def entryValF (f : FieldD) : FieldD :=
  { name := "value", num := 2, ty := f.mapV, kind := f.mapVKind, enumRef := f.enumRef }

/-- **one entry**: its record is read back as one field of `f`, which decodes to a one-entry dict — the payload is
    parsed by the nested loader with the entry class, key and value each a field of it -/
theorem entry_record (S : Schema) (rec rec' : Loader) (hu : Unfolds S rec rec') (f : FieldD) (Rv : Val → Val → Prop)
    (hty : f.ty = PType.map) (hkty : isMapKeyType f.mapK = true) (hvty : (f.mapV == PType.map) = false)
    (hnum : numOk f.num = true) (key v : Val) (sk sv : Bytes) (hkey : scalarOk f.mapK key = true)
    (hval : EntryRt S rec' (entryValF f) Rv v) (hsk : serializeScalar S 1 f.mapK key false Option.none = .ok sk)
    (hsv : dumpRec S 2 f.mapV Option.none false v = .ok sv) (hl : (sk ++ sv).length < 2 ^ 64) :
    ∃ v', RecordOf S rec f (encNat (f.num * 8 + 2) ++ encNat (sk ++ sv).length ++ (sk ++ sv)) (Val.dict [key] [v'])
      ∧ Rv v v' ∧ dumpRec S 2 f.mapV Option.none false v' = .ok sv := by
  have hl' := hl
  rw [List.length_append] at hl'
  have hkstep := entryStep_scalar S rec' (entryD f) 0 (entryD f).fields[0]! key sk (entry_numsDistinct f) rfl
    ⟨mapKey_scalar _ hkty, rfl, rfl, fun h => by cases h⟩ rfl rfl rfl hkey hsk (by omega)
  obtain ⟨v', hvstep, hrel, hsv'⟩ := entryStep_of_rt S rec' (entryD f) 1 (entryValF f) Rv v sv (entry_numsDistinct f)
    rfl rfl rfl rfl hvty hval hsv (by omega)
  obtain ⟨est, h1, h2, h3⟩ := two_field_decode S rec rec' hu (entryD f) sk sv key v' rfl hkstep hvstep
  refine ⟨v', ⟨_, loadField_len f.num (sk ++ sv) hnum hl, rfl, rfl, wireFits_of f 2 (by rw [hty]; rfl), ?_⟩, hrel, hsv'⟩
  rw [decodeValue_eq_map S _ f _ rfl hty]
  show (rec (entryD f) (freshState (entryD f)) (sk ++ sv)).bind _ = _
  rw [h1]
  simp only [bind_ok]
  rw [h2, h3]

/-- map field: one record per entry, each parsed by the nested loader and inserted — as
    the keys are pairwise different — at the end of the dict -/
theorem entries_fold (S : Schema) (rec rec' : Loader) (hu : Unfolds S rec rec') (d : MsgD) (k : Nat) (f : FieldD)
    (Rv : Val → Val → Prop)
    (hd : NumsDistinct d.fields) (hk : d.fields[k]? = some f)
    (hty : f.ty = PType.map) (hkty : isMapKeyType f.mapK = true) (hvty : (f.mapV == PType.map) = false)
    (hnum : numOk f.num = true) (hg : f.group = Option.none) :
    ∀ (ks vs accK accV : List Val) (st : MState) (b : Bytes), ks.length = vs.length → accK.length = accV.length →
      (∀ x ∈ ks, scalarOk f.mapK x = true) →
      (∀ x ∈ vs, EntryRt S rec' (entryValF f) Rv x) →
      KeysDistinct (accK ++ ks) →
      dumpEntries S f ks vs = .ok b → b.length < 2 ^ 64 → k < st.slots.length →
      materialize S f (st.slots.getD k .ph) = Val.dict accK accV →
      ∃ vs', List.Forall₂ Rv vs vs' ∧ dumpEntries S f ks vs' = dumpEntries S f ks vs
        ∧ FoldsTo S rec d st b (if ks = [] then st
            else { st with slots := setAt st.slots k (Val.dict (accK ++ ks) (accV ++ vs')) }) := by
  intro ks
  induction ks with
  | nil =>
    intro vs accK accV st b hl _ _ _ _ hb _ _ _
    obtain rfl := List.eq_nil_of_length_eq_zero hl.symm
    rw [dumpEntries_nil_left] at hb; injection hb with hb; subst hb
    exact ⟨[], List.Forall₂.nil, rfl, FoldsTo.nil S rec d st⟩
  | cons key ks ih =>
    intro vs accK accV st b hl hal hkeys hvals hdist hb hbl hkl hcurv
    obtain ⟨v, vs, rfl⟩ := List.exists_cons_of_length_eq_add_one hl.symm
    have hl' : ks.length = vs.length := by simpa using hl
    obtain ⟨hkey, hkeys'⟩ := List.forall_mem_cons.mp hkeys
    obtain ⟨hval, hvals'⟩ := List.forall_mem_cons.mp hvals
    rw [dumpEntries_cons'] at hb
    obtain ⟨sk, hsk, hb⟩ := bind_inv hb
    obtain ⟨sv, hsv, hb⟩ := bind_inv hb
    rw [hty, frame_map, bind_ok] at hb
    obtain ⟨r, hr, hb⟩ := bind_inv hb
    injection hb with hb
    subst hb
    simp only [List.length_append] at hbl
    obtain ⟨v', hrec, hrel, hsv'⟩ := entry_record S rec rec' hu f Rv hty hkty hvty hnum key v sk sv hkey hval hsk hsv
      (by rw [List.length_append]; omega)
    -- the key is new
    have hnew : ∀ k' ∈ accK, keyEq k' key = false := fun k' hk' =>
      (List.pairwise_append.1 ((keysDistinct_iff_pairwise _).1 hdist)).2.2 k' hk' key List.mem_cons_self
    have h1 := fold_record S rec d st _ k f _ (Val.dict [key] [v']) hd hk hrec
      (by rw [store_map S d st k f accK accV key v' hkl hty hg hcurv, dictInsert_append accK accV key v' hal hnew])
    obtain ⟨vs2, he2, hd2, h2⟩ :=
      ih vs (accK ++ [key]) (accV ++ [v'])
        { st with slots := setAt st.slots k (Val.dict (accK ++ [key]) (accV ++ [v'])) } r
        hl' (by simp [hal]) hkeys' hvals'
        (by rw [List.append_assoc]; exact hdist) hr (by omega) (by simp [setAt]; exact hkl)
        (by simp only; rw [getD_setAt_self _ _ _ hkl]; rfl)
    refine ⟨v' :: vs2, List.Forall₂.cons hrel he2, by rw [dumpEntries_cons', dumpEntries_cons', hsv, hsv', hd2], ?_⟩
    have h := h1.append h2
    by_cases hxs : ks = []
    · subst hxs
      obtain rfl := List.eq_nil_of_length_eq_zero hl'.symm
      cases he2
      simpa using h
    · simpa only [hxs, if_false, List.cons_ne_nil, setAt_setAt, List.append_assoc, List.singleton_append] using h

theorem map_defKind (f : FieldD) (hty : f.ty = PType.map) (hr : f.repeated = false) : f.defKind = DefKind.dict := by
  unfold FieldD.defKind
  rw [hr, hty]; rfl

theorem dumpSlot_map (S : Schema) (f : FieldD) (ks vs : List Val) (hty : f.ty = PType.map)
    (hr : f.repeated = false) (ho : f.optional = false) (hg : f.group = Option.none) :
    dumpSlot S f false false (.dict ks vs) = if ks.isEmpty = true then .ok [] else dumpEntries S f ks vs := by
  rw [dumpSlot]
  simp only [Bool.false_eq_true, if_false, hg, ho, Option.isSome_none, Bool.or_self, Bool.not_false,
    Bool.and_true, map_defKind f hty hr, eqDefault_dict]

/-- **a map slot**, whatever kind of values it holds -/
theorem slotStep_map (S : Schema) (rec rec' : Loader) (hu : Unfolds S rec rec') (d : MsgD) (k : Nat)
    (f : FieldD) (sel : Bool) (ks vs : List Val)
    (Rv : Val → Val → Prop) (R : FieldD → Val → Val → Prop)
    (hd : NumsDistinct d.fields) (hk : d.fields[k]? = some f)
    (hty : f.ty = PType.map) (hkty : isMapKeyType f.mapK = true) (hvty : (f.mapV == PType.map) = false)
    (hnum : numOk f.num = true)
    (hr : f.repeated = false) (ho : f.optional = false) (hg : f.group = Option.none)
    (hlen : ks.length = vs.length) (hks : ∀ x ∈ ks, scalarOk f.mapK x = true)
    (hvals : ∀ x ∈ vs, EntryRt S rec' (entryValF f) Rv x)
    (hdist : KeysDistinct ks) (hsel : sel = false)
    (hR : ∀ vs', List.Forall₂ Rv vs vs' → R f (.dict ks vs) (.dict ks vs')) :
    SlotStep S rec d R k f false sel (.dict ks vs) := by
  subst hsel
  apply slotStep_of_nonempty
  intro b hb hbe st b' hb' hbl hkl how hfresh _
  obtain rfl : b = b' := by rw [hb] at hb'; injection hb'
  have hmat : materialize S f (st.slots.getD k .ph) = Val.dict [] [] := by
    rw [hfresh]; simp [freshVal, ho, materialize, defaultOf, map_defKind f hty hr, defaultOfKind]
  rw [dumpSlot_map S f ks vs hty hr ho hg] at hb
  have hxe : ks ≠ [] := by
    intro hc; subst hc; rw [if_pos (by rfl)] at hb; injection hb with hb; exact hbe hb.symm
  have hne : ¬ks.isEmpty = true := by rw [List.isEmpty_iff]; exact hxe
  rw [if_neg hne] at hb
  obtain ⟨vs', he1, hd1, pfs, hp1, hj1, hf1⟩ :=
    entries_fold S rec rec' hu d k f Rv hd hk hty hkty hvty hnum hg ks vs [] [] st b hlen rfl hks hvals
      (by simpa using hdist) hb hbl hkl hmat
  refine ⟨pfs, .dict ks vs', hp1, hj1, fun _ => ⟨hR vs' he1, ?_⟩, ?_⟩
  · rw [dumpSlot_map S f ks vs' hty hr ho hg, if_neg hne, hd1, hb]
  · rw [if_neg hbe, hf1]
    simp only [hxe, if_false, List.nil_append]
    simp [afterStore, hg, how]

theorem entry_value_flat (f : FieldD) (hvty : isScalarType f.mapV = true) : FlatField (entryValF f) :=
  ⟨hvty, rfl, rfl, fun h => by cases h⟩

theorem entry_value_sub (f : FieldD) (c : Nat) (hvty : f.mapV = PType.message) (hvk : f.mapVKind = MsgKind.user c) :
    SubField (entryValF f) c :=
  ⟨hvty, rfl, hvk, rfl, fun h => by cases h⟩

/-- a message as the item of an entry field: a length-delimited record, decoded by the nested loader
    (`RoundTrips64`) — or nothing at all, when the message encodes to no byte, and then the field reads back as a
    FRESH instance of the class (the default materialised in the unset slot, `serialized_on_wire` false), which
    `ValEqv.emptyMsg` relates to it -/
theorem entryRt_msg (S : Schema) (rec : Loader) (fi : FieldD) (c : Nat) (x : Val)
    (hsf : SubField fi c) (hr : fi.repeated = false) (ho : fi.optional = false) (hdc : ∃ dc, S[c]? = some dc)
    (hx : ∃ sl ow unk cur, x = Val.msg c sl ow unk cur) (hrt : RoundTrips64 S rec x) :
    EntryRt S rec fi (ValEqv S) x := by
  obtain ⟨dc, hdc⟩ := hdc
  refine ⟨itemRt_msg S rec fi c dc x hsf hdc hx hrt, fun he => ?_⟩
  obtain ⟨sl, ow, unk, cur, rfl⟩ := hx
  have hdv : defaultOf S fi = fresh S c := by
    show defaultOfKind S fi.defKind = fresh S c
    rw [sub_defKind fi c hsf hr, ho]; rfl
  have hfr : ∀ sl' ow' unk' cur', dumpRec S fi.num fi.ty fi.wraps false (.msg c sl' ow' unk' cur')
      = (dumpVal S (.msg c sl' ow' unk' cur')).bind fun p => frame fi.num PType.message p false false := by
    intro sl' ow' unk' cur'; rw [hsf.ty]; exact dumpRec_msg S _ _ false c sl' ow' unk' cur' hsf.nw
  rw [hfr] at he
  obtain ⟨p, hp, he⟩ := bind_inv he
  obtain rfl := ((frame_nil_iff _ _ _ _ _).mp he).2.1
  rw [hdv]
  refine ⟨ValEqv.emptyMsg c sl ow unk cur hp, ?_⟩
  unfold fresh
  rw [hfr, ← fresh, dump_fresh]
  rfl

/-- **a map slot with message values**. A value that encodes to no byte has an entry without value record, for
    which the decoder materialises `fresh S c` (`serialized_on_wire` FALSE; see the counterexample below): the
    pair `ValEqv.emptyMsg` relates. -/
theorem slotStep_mapM' (S : Schema) (n : Nat) (d : MsgD) (k : Nat) (f : FieldD) (c : Nat) (dc : MsgD) (sel : Bool)
    (ks vs : List Val)
    (hd : NumsDistinct d.fields) (hk : d.fields[k]? = some f) (hmf : MapFieldM f c) (hdc : S[c]? = some dc)
    (hlen : ks.length = vs.length) (hks : ∀ x ∈ ks, scalarOk f.mapK x = true)
    (hinner : ∀ x ∈ vs, (∃ sl ow unk cur, x = Val.msg c sl ow unk cur) ∧ RoundTrips S (loadInto S n) x)
    (hdist : KeysDistinct ks) (hsel : sel = false) :
    SlotStep S (loadInto S (n + 1)) d (fun _ v v' => ValEqv S v v') k f false sel (.dict ks vs) :=
  slotStep_map S _ _ (unfolds_succ S n) d k f sel ks vs (ValEqv S) _ hd hk hmf.ty hmf.kty (by rw [hmf.vty]; rfl) hmf.num
    hmf.rep hmf.opt hmf.grp hlen hks
    (fun x hx => entryRt_msg S _ _ c x (entry_value_sub f c hmf.vty hmf.vk) rfl rfl ⟨dc, hdc⟩ (hinner x hx).1
      fun _ _ _ => (hinner x hx).2)
    hdist hsel
    (fun vs' h => ValEqv.dict ks vs vs' (listEqv_of_forall₂ S vs vs' h))

/-- the same with the side condition `hne` (a value whose encoding is empty is exactly the fresh instance; `mapValOkB`
    below decides it), which the statement does not need: under it no pair is related through `ValEqv.emptyMsg` -/
theorem slotStep_mapM (S : Schema) (n : Nat) (d : MsgD) (k : Nat) (f : FieldD) (c : Nat) (dc : MsgD) (sel : Bool)
    (ks vs : List Val)
    (hd : NumsDistinct d.fields) (hk : d.fields[k]? = some f) (hmf : MapFieldM f c) (hdc : S[c]? = some dc)
    (hlen : ks.length = vs.length) (hks : ∀ x ∈ ks, scalarOk f.mapK x = true)
    (hinner : ∀ x ∈ vs, (∃ sl ow unk cur, x = Val.msg c sl ow unk cur) ∧ RoundTrips S (loadInto S n) x)
    (hne : ∀ x ∈ vs, dumpVal S x = .ok [] → x = fresh S c)
    (hdist : KeysDistinct ks) (hsel : sel = false) :
    SlotStep S (loadInto S (n + 1)) d (fun _ v v' => ValEqv S v v') k f false sel (.dict ks vs) :=
  slotStep_mapM' S n d k f c dc sel ks vs hd hk hmf hdc hlen hks hinner hdist hsel

/-! The same without side condition, for `ValEqv` extended on map values by exactly the one case: a message
  that encodes to nothing against the fresh default the map decoder puts in its place. (`ValEqv` itself has
  this case as the rule `emptyMsg`.) -/

/-- a map value and its decoded copy: equivalent, or — when the original encodes to no
    byte, so that the entry carries no value record — the fresh default of the class -/
def MapValEqv (S : Schema) (c : Nat) (x x' : Val) : Prop :=
  ValEqv S x x' ∨ (dumpVal S x = .ok [] ∧ x' = fresh S c)

/-- same keys, values related by `MapValEqv` -/
def MapDictEqv (S : Schema) (c : Nat) (v v' : Val) : Prop :=
  ∃ ks vs vs', v = Val.dict ks vs ∧ v' = Val.dict ks vs' ∧ List.Forall₂ (MapValEqv S c) vs vs'

theorem slotStep_mapM_weak (S : Schema) (n : Nat) (d : MsgD) (k : Nat) (f : FieldD) (c : Nat) (dc : MsgD) (sel : Bool)
    (ks vs : List Val)
    (hd : NumsDistinct d.fields) (hk : d.fields[k]? = some f) (hmf : MapFieldM f c) (hdc : S[c]? = some dc)
    (hlen : ks.length = vs.length) (hks : ∀ x ∈ ks, scalarOk f.mapK x = true)
    (hinner : ∀ x ∈ vs, (∃ sl ow unk cur, x = Val.msg c sl ow unk cur) ∧ RoundTrips S (loadInto S n) x)
    (hdist : KeysDistinct ks) (hsel : sel = false) :
    SlotStep S (loadInto S (n + 1)) d (fun _ v v' => MapDictEqv S c v v') k f false sel (.dict ks vs) :=
  slotStep_map S _ _ (unfolds_succ S n) d k f sel ks vs (MapValEqv S c) _ hd hk hmf.ty hmf.kty
    (by rw [hmf.vty]; rfl) hmf.num hmf.rep hmf.opt hmf.grp hlen hks
    (fun x hx => (entryRt_msg S _ _ c x (entry_value_sub f c hmf.vty hmf.vk) rfl rfl ⟨dc, hdc⟩ (hinner x hx).1
      fun _ _ _ => (hinner x hx).2).mono fun _ h => Or.inl h)
    hdist hsel
    (fun vs' h => ⟨ks, vs, vs', rfl, rfl, h⟩)

/-- raw slots of a fresh instance -/
def slotsFreshB : List FieldD → List Val → Bool
  | [], [] => true
  | f :: fs, .none :: vs => f.optional && slotsFreshB fs vs
  | f :: fs, .ph :: vs => !f.optional && slotsFreshB fs vs
  | _, _ => false

/-- `x` is exactly `fresh S c` -/
def isFreshB (S : Schema) (c : Nat) : Val → Bool
  | .msg c' sl ow unk cur =>
    c' == c && !ow && unk.isEmpty && cur == List.replicate (groupsOf S c) Option.none && slotsFreshB (fieldsOf S c) sl
  | _ => false

/-- the values `slotStep_mapM` covers: non-empty encoding, or exactly the fresh instance -/
def mapValOkB (S : Schema) (c : Nat) (x : Val) : Bool :=
  (match dumpVal S x with
   | .ok [] => false
   | _ => true) || isFreshB S c x

theorem slotsFreshB_eq : ∀ (fs : List FieldD) (vs : List Val), slotsFreshB fs vs = true →
    vs = fs.map fun f => if f.optional then Val.none else Val.ph
  | [], [], _ => rfl
  | [], _ :: _, h => by simp [slotsFreshB] at h
  | _ :: _, [], h => by simp [slotsFreshB] at h
  | f :: fs, v :: vs, h => by
    cases v <;> simp [slotsFreshB] at h
    · rw [List.map_cons, h.1, slotsFreshB_eq fs vs h.2]; rfl
    · rw [List.map_cons, h.1, slotsFreshB_eq fs vs h.2]; rfl

theorem isFreshB_eq (S : Schema) (c : Nat) (x : Val) (h : isFreshB S c x = true) : x = fresh S c := by
  cases x <;> simp [isFreshB] at h
  obtain ⟨⟨⟨⟨h1, h2⟩, h3⟩, h4⟩, h5⟩ := h
  subst h1; subst h2; subst h3; subst h4
  rw [slotsFreshB_eq _ _ h5]
  rfl

theorem mapValOkB_spec (S : Schema) (c : Nat) (x : Val) (h : mapValOkB S c x = true)
    (he : dumpVal S x = .ok []) : x = fresh S c := by
  unfold mapValOkB at h
  rw [he] at h
  exact isFreshB_eq S c x (by simpa using h)

/-! examples: non-vacuity, and the counterexample behind the side condition -/

/-- class 0: one int32; class 1: `map<int32, Class0> m = 1; map<string, float> s = 2` -/
def SMap : Schema :=
  [ { fields := [{ name := "i", num := 1, ty := .int32 }] },
    { fields := [{ name := "m", num := 1, ty := .map, mapK := .int32, mapV := .message, mapVKind := .user 0 },
                 { name := "s", num := 2, ty := .map, mapK := .string, mapV := .float }] } ]

example : MapFieldM (SMap[1]!.fields[0]!) 0 := ⟨rfl, rfl, rfl, rfl, rfl, rfl, rfl, rfl, rfl⟩
example : MapFieldS (SMap[1]!.fields[1]!) := ⟨rfl, rfl, rfl, rfl, rfl, rfl, rfl, rfl⟩

/-- scalar values come back bit for bit: the empty-string key (not written, read back as
    the default), the value `-0.0` (no default check inside an entry: it IS written) -/
def mS : Val := .msg 1 [.ph, .dict [.str [], .str [97]] [.f32 0x80000000, .f32 0]] false [] []
example : dumpVal SMap mS = .ok [18, 5, 21, 0, 0, 0, 128, 18, 8, 10, 1, 97, 21, 0, 0, 0, 0] := by decide +kernel
example : parse SMap 1 [18, 5, 21, 0, 0, 0, 128, 18, 8, 10, 1, 97, 21, 0, 0, 0, 0]
    = .ok (.msg 1 [.ph, .dict [.str [], .str [97]] [.f32 0x80000000, .f32 0]] true [] []) := by decide +kernel

/-- a message value with a non-empty encoding comes back with `serialized_on_wire` set -/
def mM1 : Val := .msg 1 [.dict [.int 7] [.msg 0 [.int 5] false [] []], .ph] false [] []
example : dumpVal SMap mM1 = .ok [10, 6, 8, 7, 18, 2, 8, 5] := by decide +kernel
example : parse SMap 1 [10, 6, 8, 7, 18, 2, 8, 5]
    = .ok (.msg 1 [.dict [.int 7] [.msg 0 [.int 5] true [] []], .ph] true [] []) := by decide +kernel
example : mapValOkB SMap 0 (.msg 0 [.int 5] false [] []) = true := by decide +kernel
example : mapValOkB SMap 0 (fresh SMap 0) = true := by decide +kernel

/-- COUNTEREXAMPLE: a map value that encodes to nothing but is not the fresh instance —
    here an instance marked `serialized_on_wire` (e.g. one that was itself parsed from
    empty input); likewise `.msg 0 [.int 0] false [] []` (field set to its default).  The
    entry carries the key only; the decoder materialises a fresh `Class0()` whose
    `serialized_on_wire` is FALSE. `ValEqv` relates the two through its constructor
    `emptyMsg` (which exists for exactly this case: no observable of the property tells them apart). -/
def xBad : Val := .msg 0 [.ph] true [] []
def mBad : Val := .msg 1 [.dict [.int 7] [xBad], .ph] false [] []
example : mapValOkB SMap 0 xBad = false := by decide +kernel
example : mapValOkB SMap 0 (.msg 0 [.int 0] false [] []) = false := by decide +kernel
example : dumpVal SMap xBad = .ok [] := by decide +kernel
example : dumpVal SMap mBad = .ok [10, 2, 8, 7] := by decide +kernel
example : parse SMap 1 [10, 2, 8, 7] = .ok (.msg 1 [.dict [.int 7] [.msg 0 [.ph] false [] []], .ph] true [] []) := by decide +kernel
/-- the decoded map value is not `serialized_on_wire` (by `decide`, on a projection) -/
def firstMapValOnWire : Val → Option Bool
  | .msg _ (.dict _ (x :: _) :: _) _ _ _ => some (onWireOf x)
  | _ => Option.none
example : ((dumpVal SMap mBad).bind (parse SMap 1)).map firstMapValOnWire = .ok (some false) := by decide +kernel
example : fresh SMap 0 = .msg 0 [.ph] false [] [] := rfl
/-- … while the weaker relation holds, and the re-encoding is the same -/
example : MapValEqv SMap 0 xBad (.msg 0 [.ph] false [] []) := Or.inr ⟨by decide, rfl⟩
example : dumpVal SMap (.msg 1 [.dict [.int 7] [.msg 0 [.ph] false [] []], .ph] true [] []) = .ok [10, 2, 8, 7] := by decide +kernel

end Bp

#print axioms Bp.entries_fold
#print axioms Bp.slotStep_map
#print axioms Bp.slotStep_mapM
#print axioms Bp.slotStep_mapM_weak
#print axioms Bp.mapValOkB_spec
#print axioms Bp.keysDistinct_of_nodup
