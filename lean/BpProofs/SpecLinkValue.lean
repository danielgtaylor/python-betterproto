import BpModel.All
import BpModel.Spec
import BpProofs.SpecLinkSim
/-
  C02, link between the model of betterproto and the spec-level decoder: the value
  one record denotes — `decodeValue` (model) against `valueOf` / `unpackElems` / the map
  entry decoding of `stepRec` (spec), given that the nested decoders agree on the payload.
-/
namespace Bp.Link
open Bp Gen

/-- scalars, datetimes, timedeltas -/
def isLeafB : Val → Bool
  | .int _ | .bool _ | .f32 _ | .f64 _ | .str _ | .byt _ | .ts _ | .dur _ => true
  | _ => false

/-- what the store step needs to know about a decoded element and its spec counterpart -/
def GoodVal (S : Schema) (v v' : Val) : Prop :=
  nv v = nv v' ∧ v' ≠ .none ∧ (∀ ys, v ≠ .list ys) ∧ storedVal S v = v

theorem goodVal_leaf (S : Schema) (v v' : Val) (hl : isLeafB v = true) (h : nv v = nv v') : GoodVal S v v' := by
  refine ⟨h, ?_, ?_, ?_⟩
  · intro hc; subst hc; cases v <;> simp [isLeafB, nv] at hl h
  · intro ys hc; subst hc; simp [isLeafB] at hl
  · cases v <;> simp [isLeafB, storedVal] at hl ⊢

theorem varintVal_leaf (t : PType) (n : Nat) : isLeafB (Spec.varintVal t n) = true := by
  cases t <;> simp [Spec.varintVal, isLeafB]

theorem postFixed_leaf (t : PType) (p : Bytes) (v : Val) (h : postFixed t p = .ok v) : isLeafB v = true := by
  have := postFixed_typed false t p v (by simp) h
  cases v <;> simp [scalarTypedB] at this <;> rfl

theorem nv_int_inv (y : Val) (s : Int) (h : nv y = .int s) : y = .int s := by
  cases y <;> simp [nv] at h
  rw [h]

theorem defaultOfKind_scalar_leaf (S : Schema) (t : PType) : isLeafB (defaultOfKind S (scalarDef t)) = true := by
  cases t <;> rfl

theorem materialize_leaf (S : Schema) (fld : FieldD) (a : Val) (ht : slotTypedB false S fld a = true)
    (hr : fld.repeated = false) (hs : isScalarTy fld.ty = true) (hn : noneOkB fld = false)
    (hk : defaultOf S fld = defaultOfKind S (scalarDef fld.ty)) : isLeafB (materialize S fld a) = true := by
  unfold isScalarTy at hs
  simp only [Bool.and_eq_true, bne_iff_ne, ne_eq] at hs
  cases a <;> simp only [materialize, isLeafB]
  · rw [hk]; exact defaultOfKind_scalar_leaf S _
  · rw [slotTypedB, hn] at ht; simp at ht
  · rw [slotTypedB, hr] at ht; simp at ht
  · rw [slotTypedB] at ht; simp [hs.2] at ht
  · rw [slotTypedB] at ht; simp [msgFieldB, hs.1] at ht

theorem defaultOf_scalarField (S : Schema) (fld : FieldD) (hr : fld.repeated = false) (ho : fld.optional = false)
    (hw : fld.wraps = Option.none) (hs : isScalarTy fld.ty = true) :
    defaultOf S fld = defaultOfKind S (scalarDef fld.ty) := by
  unfold isScalarTy at hs
  simp only [Bool.and_eq_true, bne_iff_ne, ne_eq] at hs
  simp [defaultOf, FieldD.defKind, hr, ho, hw, hs.1, hs.2]

theorem noneOk_scalarField (fld : FieldD) (hr : fld.repeated = false) (ho : fld.optional = false)
    (hw : fld.wraps = Option.none) (hs : isScalarTy fld.ty = true) : noneOkB fld = false := by
  unfold isScalarTy at hs
  simp only [Bool.and_eq_true, bne_iff_ne, ne_eq] at hs
  have := scalarDef_ne_none fld.ty
  simp [noneOkB, FieldD.defKind, hr, ho, hw, hs.1, hs.2, this]

/-- slot `i` of a nested decode, read with `getattr`, is the spec's "absent ⇒ default" of field `i` -/
theorem Sim.field {S : Schema} {d : MsgD} {st : MState} {m : Spec.AbsMsg} (hsim : Sim S d st m) (i : Nat)
    (fld : FieldD) (k : DefKind) (hf : d.fields[i]? = some fld) (hdk : defaultOf S fld = defaultOfKind S k)
    (hno : noneOkB fld = false) :
    nv (materialize S fld (st.slots.getD i .ph)) = nv (Spec.orDefault S k (m.fields.getD i .ph)) :=
  materialize_orDefault S fld k _ _ hdk (hsim.getD i) (slot_ne_none S d st i fld hsim.typed hf hno) (hsim.nonone i)

/-- the nested decoders agree on the payload, seen from the field -/
structure SubOk (S : Schema) (rec : Loader) (sub : Spec.SubDecoder) (f : FieldD) (p : Bytes) : Prop where
  ok : ∀ (c : Nat) (d' : MsgD) (st' : MState), subDesc S f = some d' → rec d' (freshState d') p = .ok st' →
    ∃ m, sub c d' p = some m ∧ m.cls = c ∧ Sim S d' st' m

theorem secNanos_sim (S : Schema) (rec : Loader) (sub : Spec.SubDecoder) (f : FieldD) (p : Bytes) (st : MState)
    (hsub : SubOk S rec sub f p) (hd : subDesc S f = some secNanosD)
    (hr : rec secNanosD (freshState secNanosD) p = .ok st) (s n : Int)
    (hs : materialize S secNanosD.fields[0]! (st.slots.getD 0 .ph) = .int s)
    (hn : materialize S secNanosD.fields[1]! (st.slots.getD 1 .ph) = .int n) :
    ∃ m, sub 0 secNanosD p = some m ∧ Spec.orDefault S .int (m.fields.getD 0 .ph) = .int s
      ∧ Spec.orDefault S .int (m.fields.getD 1 .ph) = .int n := by
  obtain ⟨m, hm1, _, hsim⟩ := hsub.ok 0 secNanosD st hd hr
  have e0 := hsim.field 0 secNanosD.fields[0]! .int rfl rfl rfl
  have e1 := hsim.field 1 secNanosD.fields[1]! .int rfl rfl rfl
  rw [hs] at e0; rw [hn] at e1
  exact ⟨m, hm1, nv_int_inv _ s e0.symm, nv_int_inv _ n e1.symm⟩

theorem goodField_time (f : FieldD) (hg : goodFieldB f = true) (hty : f.ty = .message)
    (hk : f.kind = .timestamp ∨ f.kind = .duration) : f.wraps = Option.none := by
  cases hh : f.wraps with
  | none => rfl
  | some w => rcases hk with hk | hk <;> simp [goodFieldB, hty, hk, hh] at hg

theorem value_sim (S : Schema) (rec : Loader) (sub : Spec.SubDecoder)
    (f : FieldD) (pf : PField) (v : Val)
    (hw : wfFieldB S.length f = true) (hg : goodFieldB f = true)
    (hsub : pf.wt = 2 → SubOk S rec sub f pf.payload)
    (h64 : pf.vint < 2 ^ 64)
    (hn0 : pf.wt = 0 → isNarrowTy f.ty = true → pf.vint < 2 ^ 32)
    (hwt : pf.wt = Spec.wireTypeOf f.ty) (hmap : f.ty ≠ .map)
    (h : decodeValue S rec f pf = .ok v) :
    ∃ v', Spec.valueOf S sub f (toRec pf) = some v' ∧ GoodVal S v v' := by
  have hfixed : ∀ w, pf.wt = w → w ≠ 0 → w ≠ 2 → postFixed f.ty pf.payload = .ok v →
      ∃ v', Spec.valueOf S sub f (toRec pf) = some v' ∧ GoodVal S v v' := by
    intro w hwt h0 h2 hv
    obtain ⟨v', e1, e2⟩ := postFixed_eq f.ty pf.payload v hv
    exact ⟨v', by simp [Spec.valueOf, toRec, hwt, h0, h2, e1], goodVal_leaf S _ _ (postFixed_leaf _ _ _ hv) e2⟩
  rcases wt_cases f.ty with ⟨h0, _⟩ | ⟨h5, _⟩ | ⟨h1, _⟩ | ⟨h2, hnp, hty⟩
  · -- VARINT
    rw [h0] at hwt
    rw [decodeValue_eq_varint S rec f pf hwt] at h
    cases h
    refine ⟨Spec.varintVal f.ty pf.vint, by simp [Spec.valueOf, toRec, hwt], ?_⟩
    rw [postVarint_eq f.ty pf.vint h64 (hn0 hwt)]
    exact goodVal_leaf S _ _ (varintVal_leaf _ _) rfl
  · -- I32
    rw [h5] at hwt
    rw [decodeValue_eq_fixed S rec f pf (Or.inl hwt)] at h
    exact hfixed 5 hwt (by decide) (by decide) h
  · -- I64
    rw [h1] at hwt
    rw [decodeValue_eq_fixed S rec f pf (Or.inr hwt)] at h
    exact hfixed 1 hwt (by decide) (by decide) h
  · -- LEN
    rw [h2] at hwt
    have hsub := hsub hwt
    have hval : Spec.valueOf S sub f (toRec pf) = Spec.lenVal S sub f pf.payload := by
      simp [Spec.valueOf, toRec, hwt]
    rw [hval]
    cases decodeValue_decodes S rec f pf v ((wireFits_iff f pf.wt).2 (Or.inl (hwt.trans h2.symm))) h with
    | chunk _ _ hp => rw [hnp] at hp; cases hp
    | varint _ hw0 => rw [hwt] at hw0; cases hw0
    | fixed _ _ hp => rw [hnp] at hp; cases hp
    | entry _ hm => exact absurd hm hmap
    | str hs hu => exact ⟨.str pf.payload, by simp [Spec.lenVal, hs, hu], goodVal_leaf S _ _ rfl rfl⟩
    | byt hb => exact ⟨.byt pf.payload, by simp [Spec.lenVal, hb], goodVal_leaf S _ _ rfl rfl⟩
    | ts st s n hty hk hr hs hn =>
      have hwr := goodField_time f hg hty (Or.inl hk)
      obtain ⟨m, hm1, f0, f1⟩ :=
        secNanos_sim S rec sub f _ st hsub (by simp [subDesc, hty, hwr, hk]) hr s n hs hn
      simp only [List.getD_eq_getElem?_getD] at f0 f1
      exact ⟨.ts (tsJoin s n), by simp [Spec.lenVal, hty, hwr, hk, hm1, f0, f1], goodVal_leaf S _ _ rfl rfl⟩
    | dur st s n hty hk hr hs hn =>
      have hwr := goodField_time f hg hty (Or.inr hk)
      obtain ⟨m, hm1, f0, f1⟩ :=
        secNanos_sim S rec sub f _ st hsub (by simp [subDesc, hty, hwr, hk]) hr s n hs hn
      simp only [List.getD_eq_getElem?_getD] at f0 f1
      exact ⟨.dur (durJoin s n), by simp [Spec.lenVal, hty, hwr, hk, hm1, f0, f1], goodVal_leaf S _ _ rfl rfl⟩
    | wrap c w st hty hk hwr hr =>
      have hws := wfField_wrap hw c w hty hk hwr
      obtain ⟨m, hm1, _, hsim⟩ := hsub.ok 0 (wrapperD w) st (by simp [subDesc, hty, hwr]) hr
      have hfld : (wrapperD w).fields[0]? = some (wrapperD w).fields[0]! := rfl
      have hdk := defaultOf_scalarField S (wrapperD w).fields[0]! rfl rfl rfl hws
      have hno := noneOk_scalarField (wrapperD w).fields[0]! rfl rfl rfl hws
      have e0 := hsim.field 0 _ (scalarDef w) hfld hdk hno
      have hleaf := materialize_leaf S (wrapperD w).fields[0]! (st.slots.getD 0 .ph)
        (slotsTyped_getD false S _ _ 0 _ hsim.typed.2 hfld) rfl hws hno hdk
      refine ⟨Spec.orDefault S (scalarDef w) (m.fields.getD 0 .ph), ?_, goodVal_leaf S _ _ hleaf e0⟩
      simp [Spec.lenVal, hty, hwr, hm1]
    | sub c d' st hty hk hwr hd' hr =>
      obtain ⟨m, hm1, hm2, hsim⟩ := hsub.ok c d' st (by simp [subDesc, hty, hwr, hk, hd']) hr
      refine ⟨m.toVal, by simp [Spec.lenVal, hty, hwr, hk, hd', hm1], ?_, ?_, ?_, ?_⟩
      · simp [Spec.AbsMsg.toVal, nv, hsim.slots, hsim.sel, hm2]
      · simp [Spec.AbsMsg.toVal]
      · intro ys hc; cases hc
      · simp [storedVal]

theorem chunk_sim (S : Schema) (rec : Loader) (f : FieldD) (pf : PField) (v : Val)
    (hp : isPacked f.ty = true) (hwt : pf.wt = 2)
    (hn : isNarrowTy f.ty = true → narrowElems (pf.payload.length + 1) pf.payload = true)
    (h : decodeValue S rec f pf = .ok v) :
    ∃ vs vs', v = .list vs ∧ Spec.unpackElems f.ty (pf.payload.length + 1) pf.payload = some vs'
      ∧ nvs vs = nvs vs' := by
  rw [decodeValue_eq_packed S rec f pf hwt hp] at h
  obtain ⟨vs, hd, h⟩ := bind_inv h
  cases h
  obtain ⟨vs', h1, h2⟩ := decodePacked_eq f.ty hp _ pf.payload vs hn hd
  exact ⟨vs, vs', rfl, h1, h2⟩

theorem entry_sim (S : Schema) (rec : Loader) (sub : Spec.SubDecoder)
    (f : FieldD) (pf : PField) (v : Val)
    (hw : wfFieldB S.length f = true)
    (hsub : SubOk S rec sub f pf.payload)
    (hwt : pf.wt = 2) (hty : f.ty = .map)
    (h : decodeValue S rec f pf = .ok v) :
    ∃ k x e, v = .dict [k] [x] ∧ sub 0 (entryD f) pf.payload = some e
      ∧ nv k = nv (Spec.orDefault S (scalarDef f.mapK) (e.fields.getD 0 .ph))
      ∧ nv x = nv (Spec.orDefault S (Spec.entryKind f) (e.fields.getD 1 .ph))
      ∧ Spec.orDefault S (scalarDef f.mapK) (e.fields.getD 0 .ph) ≠ .none
      ∧ Spec.orDefault S (Spec.entryKind f) (e.fields.getD 1 .ph) ≠ .none := by
  obtain ⟨hks, hvm, _⟩ := wfField_map hw hty
  rw [decodeValue_eq_len S rec f pf hwt (by rw [hty]; rfl), if_pos (by rw [hty]; rfl)] at h
  obtain ⟨st, hr, h⟩ := bind_inv h
  cases h
  obtain ⟨e, he1, _, hsim⟩ := hsub.ok 0 (entryD f) st (by simp [subDesc, hty]) hr
  have hf0 : (entryD f).fields[0]? = some (keyFieldOf f) := rfl
  have hf1 : (entryD f).fields[1]? = some (valFieldOf f) := rfl
  have e0' : (entryD f).fields[0]! = keyFieldOf f := rfl
  have e1' : (entryD f).fields[1]! = valFieldOf f := rfl
  -- the key
  have hdk := defaultOf_scalarField S (keyFieldOf f) rfl rfl rfl hks
  have hno := noneOk_scalarField (keyFieldOf f) rfl rfl rfl hks
  have k0 := hsim.field 0 _ (scalarDef f.mapK) hf0 hdk hno
  -- the value
  have hvm' : (f.mapV == PType.map) = false := by simpa using hvm
  have hvk : (valFieldOf f).defKind = Spec.entryKind f := by
    by_cases hm : (f.mapV == PType.message) = true <;>
      simp [FieldD.defKind, valFieldOf, Spec.entryKind, hvm', hm]
  have hdv : defaultOf S (valFieldOf f) = defaultOfKind S (Spec.entryKind f) := by
    rw [defaultOf, hvk]
  have hkn : Spec.entryKind f ≠ .none := by
    unfold Spec.entryKind
    split
    · exact msgKindDef_ne_none _
    · exact scalarDef_ne_none _
  have hnov : noneOkB (valFieldOf f) = false := by
    have h1 : (valFieldOf f).optional = false := rfl
    have h2 : ((valFieldOf f).defKind == DefKind.none) = false := by rw [hvk]; simpa using hkn
    simp [noneOkB, h1, h2]
  have k1 := hsim.field 1 _ (Spec.entryKind f) hf1 hdv hnov
  refine ⟨_, _, e, rfl, he1, ?_, ?_, ?_, ?_⟩
  · rw [e0']; exact k0
  · rw [e1']; exact k1
  · exact orDefault_ne_none S _ _ (scalarDef_ne_none _) (hsim.nonone 0)
  · exact orDefault_ne_none S _ _ hkn (hsim.nonone 1)

end Bp.Link
