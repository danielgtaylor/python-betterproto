import BpModel.All
import BpProofs.RtMain
import BpProofs.OkView
/-
  C01, totality of the encoder on the domain of the round-trip theorem: every well-typed
  message value (`MsgOk`, BpProofs/NestedDefs.lean) CAN be encoded — `dumpVal` returns
  `.ok`.  The round-trip theorem `roundtrip_nested_partial` takes the encoding as a
  hypothesis; with `msgOk_encodable` that hypothesis is discharged.

  Over the encoder's own totality lemmas (BpProofs/Presence.lean: a slot, a list, a dict have bytes as
  soon as every item has a record; the materialised default of an unset slot has bytes) one fact is left:
  a well-typed item of each kind has a record (`dumpRec_ok`).  The rest is the walk over `MsgOk` by shape
  of slot (BpProofs/OkView.lean).
-/
namespace Bp
open Gen

theorem prepScalar_time_ok (S : Schema) (isDur : Bool) (x : Val) (hx : timeValOk isDur x = true) :
    ∃ p, prepScalar S PType.message Option.none x = .ok p := by
  cases isDur with
  | false =>
    obtain ⟨us, rfl, hus⟩ := timeValOk_ts x hx
    obtain ⟨hs, hn⟩ := tsSplit_range us hus
    exact secNanosBytes_ok _ _ hs.1 (by omega)
  | true =>
    obtain ⟨us, rfl, hus⟩ := timeValOk_dur x hx
    obtain ⟨hs, hn⟩ := durSplit_range us hus
    exact secNanosBytes_ok _ _ hs.1 (by omega)

theorem wrapperBytes_ok (S : Schema) (w : PType) (v : Val) (hw : isScalarType w = true)
    (hv : scalarOk w v = true) : ∃ p, wrapperBytes S w v = .ok p := by
  by_cases hdef : scalarIsDefault S w v = true
  · unfold wrapperBytes; rw [if_pos hdef]; exact ⟨_, rfl⟩
  · rw [wrapperBytes_nondefault S w v hw hdef]
    exact serializeScalar_ok S 1 w v false hw hv

/-- the one fact by kind of item: a well-typed item makes a record, under any number and flag -/
theorem dumpRec_ok (S : Schema) (num : Nat) (t : PType) (w : Option PType) (se : Bool) (K : ItemKind) (x : Val)
    (hc : Carries t w K) (hx : ItemOk S (fun m => ∃ bs, dumpVal S m = .ok bs) K x) :
    ∃ b, dumpRec S num t w se x = .ok b := by
  cases hx with
  | scalar t x hx =>
    cases hc with
    | scalar _ ht => rw [dumpRec_nonmsg S _ _ _ _ x (scalarOk_plain t x hx).2]; exact serializeScalar_ok S num t x se ht hx
  | wrapped w x hx =>
    cases hc with
    | wrapped _ hw =>
      rw [dumpRec_nonmsg S _ _ _ _ x (scalarOk_plain w x hx).2, serializeScalar, prepScalar_wrap S w x hx]
      exact bind_total (wrapperBytes_ok S w x hw hx) fun _ => frame_ok _ _ _ _ _
  | time b x hx =>
    cases hc
    rw [dumpRec_nonmsg S _ _ _ _ x (isTimeVal_plain x (timeValOk_isTime b x hx)).2, serializeScalar]
    exact bind_total (prepScalar_time_ok S b x hx) fun _ => frame_ok _ _ _ _ _
  | msg c sl ow unk cur _ ih =>
    cases hc
    rw [dumpRec_msg S _ _ _ _ _ _ _ _ rfl]
    exact bind_total ih fun _ => frame_ok _ _ _ _ _

/- This holds for ANY `hid` / `sel`, not only for the values the loop of `Message.dump` computes from
   `_group_current`: no branch of `dumpSlot` fails on a well-typed slot (in particular `dumpDefault` is total),
   so the oneof invariant that `MsgOk` carries is not needed for encodability. -/
theorem dumpSlot_shape_ok (S : Schema) (f : FieldD) (v : Val)
    (h : SlotShape S (fun m => ∃ bs, dumpVal S m = .ok bs) f v) (hid sel : Bool) :
    ∃ bs, dumpSlot S f hid sel v = .ok bs := by
  cases h with
  | unset => exact dumpSlot_ph_ok S f hid sel (dumpDefault_ok S f sel)
  | none => exact ⟨[], by rw [dumpSlot]⟩
  | one K _ hf hv =>
    exact dumpSlot_one_ok S f hid sel v (itemOk_oneVal S _ K v hv) fun _ => dumpRec_ok S _ _ _ _ K v hf.carries hv
  | many K xs hf hxs =>
    refine dumpSlot_list_ok S f hid sel xs (fun hp => ?_) fun _ =>
      dumpItems_ok S f xs fun x hx => dumpRec_ok S _ _ _ _ K x hf.carries (hxs x hx)
    -- only scalar types are packed
    cases hf with
    | scalar hf _ =>
      obtain ⟨b, hb, _⟩ := prepPacked_ok S f.ty xs hp fun x hx => by cases hxs x hx; assumption
      exact ⟨b, hb⟩
    | wrapped _ hf | time _ hf | msg _ hf => rw [hf.ty] at hp; cases hp
  | map K ks vs hf _ hks hvs =>
    obtain ⟨hc, hty, hk⟩ := hf.carries
    exact dumpSlot_dict_ok S f hid sel ks vs <| dumpEntries_ok S f ks vs
      (fun k hkm => serializeScalar_ok S 1 f.mapK k false (mapKey_scalar _ hk) (hks k hkm))
      fun x hx => dumpRec_ok S _ _ _ _ K x hc (hvs x hx)

/-- stated for a suffix `F.drop idx` of the field list, which is what `dumpSlots` walks -/
theorem dumpSlots_shapes_ok (S : Schema) (fs : List FieldD) (vs : List Val)
    (h : List.Forall₂ (SlotShape S (fun m => ∃ bs, dumpVal S m = .ok bs)) fs vs) :
    ∀ (F : List FieldD) (cur : List (Option Nat)) (idx : Nat), F.drop idx = fs → ∃ bs, dumpSlots S F cur idx vs = .ok bs := by
  induction h with
  | nil => exact fun _ _ _ _ => ⟨[], by rw [dumpSlots]⟩
  | cons h1 _ ih => exact fun F cur idx hF => dumpSlots_cons_ok S F cur idx _ _ _ _ hF (dumpSlot_shape_ok S _ _ h1) ih

theorem dumpVal_msg_ok (S : Schema) (c : Nat) (d : MsgD) (sl : List Val) (ow : Bool) (unk : Bytes)
    (cur : List (Option Nat)) (hd : S[c]? = some d) (h : ∃ body, dumpSlots S d.fields cur 0 sl = .ok body) :
    ∃ bs, dumpVal S (.msg c sl ow unk cur) = .ok bs := by
  have hfo : fieldsOf S c = d.fields := fieldsOf_some S c d hd
  rw [dumpVal_msg, hfo]
  exact bind_total h fun _ => ⟨_, rfl⟩

theorem msgOk_encodable (S : Schema) : ∀ (m : Val), MsgOk S m → ∃ bs, dumpVal S m = .ok bs :=
  MsgOk.walk S fun c d sl ow unk cur hd _ hsl =>
    dumpVal_msg_ok S c d sl ow unk cur hd (dumpSlots_shapes_ok S d.fields sl hsl d.fields cur 0 rfl)

theorem slotOk_encodable (S : Schema) (f : FieldD) : ∀ (v : Val), SlotOk S f v → ∀ (hid sel : Bool),
    ∃ bs, dumpSlot S f hid sel v = .ok bs :=
  fun v h => dumpSlot_shape_ok S f v (SlotOk.shape S (msgOk_encodable S) f v h)

theorem slotsOk_dumpSlots (S : Schema) (fs : List FieldD) (cur : List (Option Nat)) (vs : List Val)
    (h : SlotsOk S fs vs) : ∃ bs, dumpSlots S fs cur 0 vs = .ok bs :=
  dumpSlots_shapes_ok S fs vs (SlotsOk.shapes S (fun _ _ _ _ _ _ _ hm _ => msgOk_encodable S _ hm) fs vs h) fs cur 0 rfl

theorem msgsOk_item_ok (S : Schema) (num : Nat) (se : Bool) (c : Nat) (xs : List Val) (h : MsgsOk S c xs) :
    ∀ x ∈ xs, ∃ b, dumpRec S num .message Option.none se x = .ok b := fun x hx => by
  obtain ⟨⟨sl, ow, unk, cur, rfl⟩, hm⟩ := msgsOk_mem S c xs h x hx
  exact dumpRec_ok S _ _ _ _ (.msg c) _ (.msg c) (.msg c sl ow unk cur hm (msgOk_encodable S _ hm))

theorem msgsOk_dumpItems (S : Schema) (f : FieldD) (c : Nat) (xs : List Val) (hsf : SubField f c)
    (h : MsgsOk S c xs) : ∃ b, dumpItems S f xs = .ok b :=
  dumpItems_ok S f xs (by rw [hsf.ty, hsf.nw]; exact msgsOk_item_ok S _ _ c xs h)

theorem msgsOk_dumpEntries (S : Schema) (f : FieldD) (c : Nat) (ks vs : List Val) (hmf : MapFieldM f c)
    (hks : ∀ x ∈ ks, scalarOk f.mapK x = true) (h : MsgsOk S c vs) : ∃ b, dumpEntries S f ks vs = .ok b :=
  dumpEntries_ok S f ks vs
    (fun k hk => serializeScalar_ok S 1 f.mapK k false (mapKey_scalar _ hmf.kty) (hks k hk))
    (by rw [hmf.vty]; exact msgsOk_item_ok S _ _ c vs h)

end Bp

#print axioms Bp.msgOk_encodable
#print axioms Bp.slotOk_encodable
#print axioms Bp.slotsOk_dumpSlots
#print axioms Bp.msgsOk_dumpItems
#print axioms Bp.msgsOk_dumpEntries
