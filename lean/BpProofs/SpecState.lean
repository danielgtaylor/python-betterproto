import BpModel.All
import BpProofs.LoadStep
/-
  C02: what `field_name_by_number.get(number)` returns (`findField_spec`): nothing iff no field
  declares the number, else the index of the LAST field that declares it; `findField_sound`,
  `findField_none` are its two readings.  Shared by the round trip, the insensitivity theorems and
  the link to the spec decoder.
-/
namespace Bp
open Gen

/-- `field_name_by_number.get(num)`: no field declares the number, or the LAST one that does is found -/
theorem findField_go_spec (num : Nat) (fs : List FieldD) (i : Nat) (acc : Option Nat) :
    (findField.go num fs i acc = acc ∧ ∀ f ∈ fs, f.num ≠ num)
    ∨ ∃ k f, findField.go num fs i acc = some (i + k) ∧ fs[k]? = some f ∧ f.num = num
        ∧ ∀ j fj, k < j → fs[j]? = some fj → fj.num ≠ num := by
  induction fs generalizing i acc with
  | nil => exact .inl ⟨by rw [findField.go], fun _ h => by cases h⟩
  | cons f fs ih =>
    rw [findField.go]
    rcases ih (i + 1) (if f.num == num then some i else acc) with ⟨h, hno⟩ | ⟨k, f', h, hk, hn, hlast⟩
    · by_cases hf : f.num = num
      · refine .inr ⟨0, f, by rw [h, if_pos (beq_iff_eq.mpr hf)]; rfl, rfl, hf, fun j fj hj hfj => ?_⟩
        obtain ⟨j, rfl⟩ : ∃ j', j = j' + 1 := ⟨j - 1, by omega⟩
        exact hno fj (List.mem_of_getElem? hfj)
      · refine .inl ⟨by rw [h, if_neg (by simpa using hf)], fun x hx => ?_⟩
        rcases List.mem_cons.mp hx with rfl | hx
        · exact hf
        · exact hno x hx
    · refine .inr ⟨k + 1, f', by rw [h]; congr 1; omega, hk, hn, fun j fj hj hfj => ?_⟩
      obtain ⟨j, rfl⟩ : ∃ j', j = j' + 1 := ⟨j - 1, by omega⟩
      exact hlast j fj (by omega) hfj

theorem findField_spec (fs : List FieldD) (num : Nat) :
    (findField fs num = Option.none ∧ ∀ f ∈ fs, f.num ≠ num)
    ∨ ∃ k f, findField fs num = some k ∧ fs[k]? = some f ∧ f.num = num
        ∧ ∀ j fj, k < j → fs[j]? = some fj → fj.num ≠ num := by
  have := findField_go_spec num fs 0 Option.none
  simp only [Nat.zero_add] at this
  exact this

theorem findField_sound (fs : List FieldD) (num idx : Nat) (h : findField fs num = some idx) :
    ∃ f, fs[idx]? = some f ∧ f.num = num := by
  rcases findField_spec fs num with ⟨h0, _⟩ | ⟨k, f, hk, hf, hn, _⟩
  · rw [h0] at h; cases h
  · rw [hk] at h; cases h; exact ⟨f, hf, hn⟩

theorem findField_none (fs : List FieldD) (num : Nat) (h : findField fs num = Option.none) : ∀ f ∈ fs, f.num ≠ num := by
  rcases findField_spec fs num with ⟨_, hno⟩ | ⟨k, _, hk, _⟩
  · exact hno
  · rw [hk] at h; cases h

end Bp
