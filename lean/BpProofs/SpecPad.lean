import BpModel.All
import BpProofs.SpecCore
import BpProofs.SpecWf
/-
  C02: records written with ANY well-shaped varints (minimal or
  padded, up to 10 bytes) for tag, length and value are framed to the same record.
-/
namespace Bp
open Gen Spec

theorem loadField_tagged (tg body rest : Bytes) (hs : varintShape tg = true) (hl : tg.length ≤ 10)
    (hnum : varintValue tg % 2 ^ 64 / 8 ≠ 0) (v : Nat) (p : Bytes)
    (hp : loadPayload (varintValue tg % 2 ^ 64 % 8) (body ++ rest) = .ok (v, p, body.length)) :
    loadField (tg ++ body ++ rest)
      = .ok ({ num := varintValue tg % 2 ^ 64 / 8, wt := varintValue tg % 2 ^ 64 % 8, vint := v, payload := p,
               raw := tg ++ body }, rest) := by
  have := loadField_of_tag tg (body ++ rest) _ v body.length p (loadVarint_shape tg (body ++ rest) hs hl)
    (by simpa using hnum) hp
  rwa [List.take_left, List.drop_left, ← List.append_assoc] at this

theorem loadPayload_shape_varint (vl rest : Bytes) (hs : varintShape vl = true) (hl : vl.length ≤ 10) :
    loadPayload 0 (vl ++ rest) = .ok (varintValue vl % 2 ^ 64, [], vl.length) := by
  rw [show (0 : Nat) = wireVarint from rfl, loadPayload_varint_eq, loadVarint_shape vl rest hs hl]

theorem loadPayload_shape_len (ln p rest : Bytes) (hs : varintShape ln = true) (hl : ln.length ≤ 10)
    (hlen : varintValue ln % 2 ^ 64 = p.length) :
    loadPayload 2 (ln ++ p ++ rest) = .ok (0, p, (ln ++ p).length) := by
  rw [show (2 : Nat) = wireLenDelim from rfl, loadPayload_lenDelim_eq, List.append_assoc,
    loadVarint_shape ln (p ++ rest) hs hl, hlen]
  simp only [List.drop_left, List.take_left, List.length_append, Nat.not_lt.mpr (Nat.le_add_right _ _), if_false]

theorem loadPayload_shape_fixed (wt w : Nat) (p rest : Bytes) (hwt : (wt = 1 ∧ w = 8) ∨ (wt = 5 ∧ w = 4))
    (hlen : p.length = w) : loadPayload wt (p ++ rest) = .ok (0, p, p.length) := by
  subst hlen
  rw [loadPayload_fixed_eq hwt, if_neg (by simp), List.take_left]

end Bp
