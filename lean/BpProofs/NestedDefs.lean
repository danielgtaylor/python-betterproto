import BpModel.All
import BpProofs.Eqv
import BpProofs.RtFlat
import BpProofs.FieldKinds
/-
  C01: the domain of the round-trip theorem — well-typedness of slots and messages at every depth
  (`SlotOk`, `MsgOk`) — and the statement `RoundTrips` for one message and one loader.
-/
namespace Bp
open Gen

mutual
/-- a raw slot value that is well-typed for its field: flat fields as in `flatSlotOk`;
    message-typed fields: unset, None, a well-typed message, a list of such; Timestamp /
    Duration, wrapper and map fields as commented below -/
inductive SlotOk (S : Schema) : FieldD → Val → Prop
  | flat (f : FieldD) (v : Val) : FlatField f → flatSlotOk f v = true → SlotOk S f v
  -- an unset slot of ANY field kind emits nothing
  | unsetAny (f : FieldD) : f.optional = false → SlotOk S f Val.ph
  | noneAny (f : FieldD) : f.optional = true → SlotOk S f Val.none
  | unsetSub (f : FieldD) (c : Nat) : SubField f c → f.optional = false → SlotOk S f Val.ph
  | noneSub (f : FieldD) (c : Nat) : SubField f c → f.optional = true → SlotOk S f Val.none
  | sub (f : FieldD) (c : Nat) (sl : List Val) (ow : Bool) (unk : Bytes) (cur : List (Option Nat)) :
      SubField f c → f.repeated = false → MsgOk S (.msg c sl ow unk cur) → SlotOk S f (.msg c sl ow unk cur)
  | subs (f : FieldD) (c : Nat) (xs : List Val) :
      SubField f c → f.repeated = true → MsgsOk S c xs → SlotOk S f (.list xs)
  -- Timestamp / Duration fields (datetime / timedelta values in the protobuf-valid range)
  | unsetTime (f : FieldD) (isDur : Bool) : TimeField f isDur → f.optional = false → SlotOk S f Val.ph
  | noneTime (f : FieldD) (isDur : Bool) : TimeField f isDur → f.optional = true → SlotOk S f Val.none
  | ts (f : FieldD) (us : Int) : TimeField f false → tsOk us = true → SlotOk S f (.ts us)
  | dur (f : FieldD) (us : Int) : TimeField f true → durOk us = true → SlotOk S f (.dur us)
  -- wrapper fields (`Optional[scalar]`): unset, None (not as a oneof member: a member set to None
  -- selects it without emitting anything, and the selection is lost), or a well-typed scalar
  | unsetWrap (f : FieldD) (w : PType) : WrapField f w → f.optional = false → SlotOk S f Val.ph
  | noneWrap (f : FieldD) (w : PType) : WrapField f w → f.group = Option.none → SlotOk S f Val.none
  | wrap (f : FieldD) (w : PType) (v : Val) : WrapField f w → scalarOk w v = true → SlotOk S f v
  -- REPEATED wrapper fields (`List[Optional[scalar]]`): a list of well-typed scalars of the wrapped type. No item
  -- is `None`: `None` is written exactly like the wrapped default (`tag 00`) and read back as that default, and a
  -- repeated message field of the reference implementation cannot hold a null element
  | wraps (f : FieldD) (w : PType) (xs : List Val) : WrapsField f w → (∀ x ∈ xs, scalarOk w x = true) →
      SlotOk S f (.list xs)
  -- map fields: unset, or a dict with well-typed pairwise different keys and well-typed scalar values
  -- / well-typed messages of the value class
  | unsetMapS (f : FieldD) : MapFieldS f → SlotOk S f Val.ph
  | unsetMapM (f : FieldD) (c : Nat) : MapFieldM f c → SlotOk S f Val.ph
  | mapS (f : FieldD) (ks vs : List Val) : MapFieldS f → ks.length = vs.length →
      (∀ x ∈ ks, scalarOk f.mapK x = true) → (∀ x ∈ vs, scalarOk f.mapV x = true) → KeysDistinct ks →
      SlotOk S f (.dict ks vs)
  | mapM (f : FieldD) (c : Nat) (ks vs : List Val) : MapFieldM f c → ks.length = vs.length →
      (∀ x ∈ ks, scalarOk f.mapK x = true) → MsgsOk S c vs → KeysDistinct ks →
      SlotOk S f (.dict ks vs)
  -- repeated Timestamp / Duration fields: a list of in-range datetimes / timedeltas
  | tss (f : FieldD) (xs : List Val) : TimesField f false → (∀ x ∈ xs, timeValOk false x = true) →
      SlotOk S f (.list xs)
  | durs (f : FieldD) (xs : List Val) : TimesField f true → (∀ x ∈ xs, timeValOk true x = true) →
      SlotOk S f (.list xs)
  -- maps with Timestamp (`isDur = false`) / Duration (`isDur = true`) values; keys as in `mapS`
  | mapT (f : FieldD) (isDur : Bool) (ks vs : List Val) : MapFieldT f isDur → ks.length = vs.length →
      (∀ x ∈ ks, scalarOk f.mapK x = true) → (∀ x ∈ vs, timeValOk isDur x = true) → KeysDistinct ks →
      SlotOk S f (.dict ks vs)
/-- a well-typed, reachable message instance -/
inductive MsgOk (S : Schema) : Val → Prop
  | mk (c : Nat) (d : MsgD) (sl : List Val) (ow : Bool) (unk : Bytes) (cur : List (Option Nat)) :
      S[c]? = some d → NumsDistinct d.fields → WfGroups d.fields d.nGroups →
      (∀ f ∈ d.fields, f.group.isSome = true → f.optional = false) →
      cur.length = d.nGroups →
      (∀ g i, cur.getD g Option.none = some i → ∃ f, d.fields[i]? = some f ∧ f.group = some g) →
      (∀ i f g, d.fields[i]? = some f → f.group = some g → cur.getD g Option.none ≠ some i → sl.getD i .ph = Val.ph) →
      (∀ g i, cur.getD g Option.none = some i → sl.getD i .ph ≠ Val.ph) →
      SlotsOk S d.fields sl → UnkOk d unk →
      MsgOk S (.msg c sl ow unk cur)
/-- slot list against field list, same length -/
inductive SlotsOk (S : Schema) : List FieldD → List Val → Prop
  | nil : SlotsOk S [] []
  | cons (f : FieldD) (v : Val) (fs : List FieldD) (vs : List Val) :
      SlotOk S f v → SlotsOk S fs vs → SlotsOk S (f :: fs) (v :: vs)
/-- a list of well-typed messages of class `c` -/
inductive MsgsOk (S : Schema) : Nat → List Val → Prop
  | nil (c : Nat) : MsgsOk S c []
  | cons (c : Nat) (sl : List Val) (ow : Bool) (unk : Bytes) (cur : List (Option Nat)) (xs : List Val) :
      MsgOk S (.msg c sl ow unk cur) → MsgsOk S c xs → MsgsOk S c (.msg c sl ow unk cur :: xs)
end

/-- the round-trip statement for ONE message value and ONE nested loader: what the walk over
    `MsgOk` (`MsgOk.walk`, BpProofs/OkView.lean) knows of every message nested in the one at hand -/
def RoundTrips (S : Schema) (rec : Loader) (m : Val) : Prop :=
  ∀ (c : Nat) (d : MsgD) (sl : List Val) (ow : Bool) (unk : Bytes) (cur : List (Option Nat)) (bs : Bytes),
    m = .msg c sl ow unk cur → S[c]? = some d → dumpVal S m = .ok bs →
    ∃ sl', rec d (freshState d) bs = .ok { slots := sl', onWire := true, unknown := unk, cur := cur }
      ∧ ValEqv S m (.msg c sl' true unk cur)
      ∧ dumpVal S (.msg c sl' true unk cur) = .ok bs

end Bp
