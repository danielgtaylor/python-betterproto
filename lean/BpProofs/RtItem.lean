import BpModel.All
import BpProofs.Rt
import BpProofs.RtScalar
import BpProofs.LoadStep
/-
  C01, the item codec. Whatever a field holds — one value, a list, the values of a dict — the encoder writes ONE
  record per item (`dumpRec`, BpProofs/Presence.lean) and the decoder reads it back as one field. `ItemRt` says what
  the round trip needs of that: a record that is not empty decodes to an item related to the original and written
  as the same record. It is proved once per kind of item (scalar: RtFlat, message: RtSub, Timestamp / Duration:
  RtTime, wrapper: RtWrap); this file has the theorems per container that need nothing else of the item: a
  singular slot (`slotStep_one`) and a repeated one (`slotStep_many`). Map entries are in RtMap.
-/
namespace Bp
open Gen

theorem markEmpty_onWire (S : Schema) (c : Nat) (sl : List Val) (unk : Bytes) (cur : List (Option Nat)) :
    markEmpty S (.msg c sl true unk cur) = .msg c sl true unk cur := by
  rw [markEmpty]
  by_cases h : (fieldsOf S c).isEmpty = true
  · rw [if_pos h]
  · rw [if_neg h]

theorem markEmpty_notlist (S : Schema) (v : Val) (h : ∀ xs, v ≠ Val.list xs) (xs : List Val) :
    markEmpty S v ≠ Val.list xs := by
  cases v with
  | msg c sl ow unk cur =>
    rw [markEmpty]
    by_cases h : (fieldsOf S c).isEmpty = true
    · rw [if_pos h]; intro e; cases e
    · rw [if_neg h]; intro e; cases e
  | list ys => exact absurd rfl (h ys)
  | _ => exact h xs

/-- `setattr` on a field whose oneof siblings are all unset: the plain assignment of the marked value -/
theorem setAttr_gen (S : Schema) (fs : List FieldD) (st : MState) (k : Nat) (f : FieldD) (v : Val)
    (hk : fs[k]? = some f) (hm : MatesUnset fs st.slots k f) :
    setAttr S fs st k v = afterStore st k f (markEmpty S v) := by
  unfold setAttr afterStore
  simp only [hk]
  cases hg : f.group with
  | none => rfl
  | some g =>
    simp only
    rw [resetGroup_id g k fs st.slots 0 (fun j fj s hf hs hgj hne => hm g hg j fj s hf hs hgj (by omega))]

/-- storing into a repeated field: the (materialised) list is extended in place -/
theorem store_repeated (S : Schema) (d : MsgD) (st : MState) (k : Nat) (f : FieldD) (acc : List Val) (v : Val)
    (hkl : k < st.slots.length) (hmap : (f.ty == PType.map) = false) (hg : f.group = Option.none)
    (hcurv : materialize S f (st.slots.getD k .ph) = Val.list acc) :
    storeValue S d (prepCurrent S d st k f) k f v
      = .ok { st with slots := setAt st.slots k (match v with
                                                  | .list ys => Val.list (acc ++ ys)
                                                  | y => Val.list (acc ++ [y])) } := by
  have hh : hidden f k st.cur = false := hidden_nogroup _ _ _ hg
  unfold prepCurrent
  rw [if_neg (by simp [hh])]
  unfold storeValue
  dsimp only
  rw [if_neg (by simp [hmap]), getD_setAt_self _ _ _ hkl, hcurv]
  cases v <;> simp [setAt_setAt]

/-- `y` can be assigned to a slot as one item: neither a sentinel nor a container, and `setattr` leaves it as it is
    (a message: already marked `serialized_on_wire`) -/
structure IsItem (S : Schema) (y : Val) : Prop where
  one : isOneVal y = true
  mark : markEmpty S y = y

theorem isItem_of_plain (S : Schema) (y : Val) (h : isPlainVal y = true) : IsItem S y := by
  cases y with
  | ph | none | list | dict | msg => cases h
  | _ => exact ⟨rfl, rfl⟩

theorem IsItem.notlist {S : Schema} {y : Val} (h : IsItem S y) (ys : List Val) : y ≠ Val.list ys := by
  intro e; have := h.one; rw [e] at this; cases this

theorem IsItem.materialize {S : Schema} {y : Val} (h : IsItem S y) (f : FieldD) : materialize S f y = y :=
  materialize_of_ne_ph S f fun e => by have := h.one; rw [e] at this; cases this

/-- the decoded copy `y` is at least as present as `x`: what is passed as `serialize_empty` for `x` is passed for
    `y`, and `y` is skipped as a default only if `x` is -/
structure AsPresent (S : Schema) (x y : Val) : Prop where
  se : ∀ sel, seOf sel x = true → seOf sel y = true
  dflt : onWireOf y = true ∨ (onWireOf y = onWireOf x ∧ ∀ k, eqDefault S k y = eqDefault S k x)

theorem AsPresent.refl (S : Schema) (x : Val) : AsPresent S x x := ⟨fun _ h => h, .inr ⟨rfl, fun _ => rfl⟩⟩

/-- **the item codec** for an item `x` of field `f`: a record written for `x` (under whatever `serialize_empty`)
    that is not empty is read back as one field of `f`, which decodes to an item `y` related to `x`, as present as
    `x`, and written as the same record -/
def ItemRt (S : Schema) (rec : Loader) (f : FieldD) (Rv : Val → Val → Prop) (x : Val) : Prop :=
  ∀ se a, dumpRec S f.num f.ty f.wraps se x = .ok a → a ≠ [] → a.length < 2 ^ 64 →
    ∃ y, RecordOf S rec f a y ∧ Rv x y ∧ IsItem S y ∧ AsPresent S x y ∧ dumpRec S f.num f.ty f.wraps se y = .ok a

theorem ItemRt.mono {S : Schema} {rec : Loader} {f : FieldD} {Rv Rv' : Val → Val → Prop} {x : Val}
    (h : ItemRt S rec f Rv x) (hR : ∀ y, Rv x y → Rv' x y) : ItemRt S rec f Rv' x := by
  intro se a ha hne hl
  obtain ⟨y, h1, h2, h3⟩ := h se a ha hne hl
  exact ⟨y, h1, hR y h2, h3⟩

/-- a record that is written is `frame` of some payload, whatever `serialize_empty` -/
theorem dumpRec_frame (S : Schema) (num : Nat) (t : PType) (w : Option PType) (se : Bool) (x : Val) (a : Bytes)
    (h : dumpRec S num t w se x = .ok a) :
    ∃ pre W, ∀ se', dumpRec S num t w se' x = frame num t pre se' W := by
  cases x with
  | msg c sl ow unk cur =>
    rw [dumpRec] at h
    obtain ⟨body, hb, h⟩ := bind_inv h
    by_cases hc : (t == PType.message && w.isNone) = true
    · exact ⟨body ++ unk, false, fun se' => by rw [dumpRec, hb, bind_ok, if_pos hc]⟩
    · rw [if_neg hc] at h; cases h
  | _ =>
    rw [dumpRec_nonmsg S num t w se _ rfl, serializeScalar] at h
    obtain ⟨pre, hp, h⟩ := bind_inv h
    exact ⟨pre, w.isSome, fun se' => by rw [dumpRec_nonmsg S num t w se' _ rfl, serializeScalar, hp, bind_ok]⟩

/-- under `serialize_empty = True` a record is never empty (so the `or b"\n\x00"` of `dumpItems` is idle) -/
theorem dumpRec_forced_ne_nil (S : Schema) (num : Nat) (t : PType) (w : Option PType) (x : Val) (a : Bytes)
    (h : dumpRec S num t w true x = .ok a) : a ≠ [] := by
  obtain ⟨pre, W, e⟩ := dumpRec_frame S num t w true x a h
  rw [e] at h
  exact frame_ne_nil h fun _ => .inr (.inl rfl)

/-- one round of `dumpItems` that succeeds: the item's record, which `serialize_empty` forces (so the `or b"\n\x00"`
    is idle), then the rest -/
theorem dumpItems_cons_inv {S : Schema} {f : FieldD} {x : Val} {xs : List Val} {b : Bytes}
    (h : dumpItems S f (x :: xs) = .ok b) :
    ∃ a r, dumpRec S f.num f.ty f.wraps true x = .ok a ∧ a ≠ [] ∧ dumpItems S f xs = .ok r ∧ b = a ++ r := by
  rw [dumpItems_cons'] at h
  obtain ⟨a, ha, h⟩ := bind_inv h
  obtain ⟨r, hr, h⟩ := bind_inv h
  have hne := dumpRec_forced_ne_nil S _ _ _ x a ha
  refine ⟨a, r, ha, hne, hr, ?_⟩
  cases a with
  | nil => exact absurd rfl hne
  | cons _ _ => exact (Except.ok.inj h).symm

/-- a record that is not empty is written under every larger `serialize_empty` too -/
theorem dumpRec_se_mono (S : Schema) (num : Nat) (t : PType) (w : Option PType) (se se' : Bool) (x : Val) (a : Bytes)
    (h : dumpRec S num t w se x = .ok a) (hne : a ≠ []) (hse : se = true → se' = true) :
    dumpRec S num t w se' x = .ok a := by
  obtain ⟨pre, W, e⟩ := dumpRec_frame S num t w se x a h
  rw [e] at h ⊢
  exact frame_se_mono h hne hse

/-- the codec of an item that travels as a length-delimited record (a message, a Timestamp / Duration, a wrapper),
    from what `postLen` makes of its payload `pay`; `W` is the `wraps` flag of `frame` -/
theorem itemRt_of_payload (S : Schema) (rec : Loader) (f : FieldD) (Rv : Val → Val → Prop) (x : Val) (pay : R Bytes)
    (W : Bool) (hl : LenT f.ty) (hnum : numOk f.num = true)
    (hx : ∀ se, dumpRec S f.num f.ty f.wraps se x = pay.bind fun p => frame f.num f.ty p se W)
    (h : ∀ p, pay = .ok p → p.length < 2 ^ 64 → ∃ y, postLen S rec f p = .ok y ∧ Rv x y ∧ IsItem S y ∧ AsPresent S x y
      ∧ ∀ se, dumpRec S f.num f.ty f.wraps se y = frame f.num f.ty p se W) :
    ItemRt S rec f Rv x := by
  intro se a ha hne hla
  have ha' := ha
  rw [hx] at ha
  obtain ⟨p, hp, ha⟩ := bind_inv ha
  have hfr := ha
  rw [frame_len _ _ _ _ _ hl] at ha
  by_cases hc : (p.length != 0 || se || W) = true
  · rw [if_pos hc] at ha
    injection ha with ha
    subst ha
    have hpl : p.length < 2 ^ 64 := by simp only [List.length_append] at hla; omega
    obtain ⟨y, hpost, hrel, hy, hpres, hre⟩ := h p hp hpl
    exact ⟨y, ⟨_, loadField_len f.num p hnum hpl, rfl, rfl, wireFits_of f 2 hl.1.find,
      by rw [decodeValue_len S rec f _ rfl hl.1.packed hl.2]; exact hpost⟩, hrel, hy, hpres,
      by rw [hre, hfr]⟩
  · rw [if_neg hc] at ha; injection ha with ha; exact absurd ha.symm hne

/-- **storing a value that `setattr` leaves as it is into a singular field whose slot is still fresh**: whatever
    path `load` takes (hidden oneof member: default assigned first; otherwise default materialised first) the
    result is the plain assignment -/
theorem store_item (S : Schema) (d : MsgD) (st : MState) (k : Nat) (f : FieldD) (v : Val)
    (hk : d.fields[k]? = some f) (hlen : k < st.slots.length)
    (hmap : (f.ty == PType.map) = false) (hdef : ∀ xs, defaultOf S f ≠ Val.list xs)
    (hv : markEmpty S v = v)
    (hfresh : st.slots.getD k .ph = freshVal f)
    (hm : MatesUnset d.fields st.slots k f) :
    storeValue S d (prepCurrent S d st k f) k f v = .ok (afterStore st k f v) := by
  -- `getattr` finds no list (the default, assigned or materialised), so `v` is assigned with `setattr`
  have hc : ∀ xs, (if hidden f k st.cur then storedVal S (defaultOf S f) else materialize S f (st.slots.getD k .ph))
      ≠ Val.list xs := by
    intro xs
    split
    · rw [storedVal_eq]; exact markEmpty_notlist S _ hdef xs
    · rw [hfresh]
      unfold freshVal
      by_cases ho : f.optional = true
      · simp [ho, materialize]
      · simp [ho, materialize]; exact hdef xs
  rw [storeValue_prepCurrent S d st k f v hk, current_eq S d st k f hk, if_pos hlen, slotUpdate_assign f _ v hmap hc, map_ok]
  unfold commit
  rw [Bool.true_or, if_pos rfl, setAttr_gen S d.fields st k f v hk hm, hv]

/-- the bytes `b` are records which, folded from `st`, give `st'` -/
def FoldsTo (S : Schema) (rec : Loader) (d : MsgD) (st : MState) (b : Bytes) (st' : MState) : Prop :=
  ∃ pfs, (∀ q ∈ pfs, Parsed q) ∧ joinRaw pfs = b ∧ foldFields S rec d st pfs = .ok st'

theorem FoldsTo.nil (S : Schema) (rec : Loader) (d : MsgD) (st : MState) : FoldsTo S rec d st [] st :=
  ⟨[], by simp, rfl, rfl⟩

theorem FoldsTo.append {S : Schema} {rec : Loader} {d : MsgD} {st st1 st2 : MState} {a b : Bytes}
    (h1 : FoldsTo S rec d st a st1) (h2 : FoldsTo S rec d st1 b st2) : FoldsTo S rec d st (a ++ b) st2 := by
  obtain ⟨p1, hp1, rfl, hf1⟩ := h1
  obtain ⟨p2, hp2, rfl, hf2⟩ := h2
  exact ⟨p1 ++ p2, fun q hq => (List.mem_append.mp hq).elim (hp1 q) (hp2 q), joinRaw_append p1 p2,
    by rw [foldFields_append_s, hf1, bind_ok, hf2]⟩

/-- one parsed record of the known field `k`, folded -/
theorem fold_record (S : Schema) (rec : Loader) (d : MsgD) (st st' : MState) (k : Nat) (f : FieldD) (a : Bytes) (y : Val)
    (hd : NumsDistinct d.fields) (hk : d.fields[k]? = some f) (hrec : RecordOf S rec f a y)
    (hst : storeValue S d (prepCurrent S d st k f) k f y = .ok st') : FoldsTo S rec d st a st' := by
  obtain ⟨pf, hl, hn, hraw, hfit, hdec⟩ := hrec
  refine ⟨[pf], fun q hq => by rw [List.mem_singleton.mp hq]; exact ⟨_, _, hl []⟩, by simp [joinRaw, hraw], ?_⟩
  rw [foldFields, applyField_known_eq S rec d st pf k f hd hk hn hfit, hdec, bind_ok, hst]; rfl

/-- **a singular slot**, whatever kind of item it holds -/
theorem slotStep_one (S : Schema) (rec : Loader) (d : MsgD) (R : FieldD → Val → Val → Prop) (Rv : Val → Val → Prop)
    (k : Nat) (f : FieldD) (hid sel : Bool) (x : Val)
    (hd : NumsDistinct d.fields) (hk : d.fields[k]? = some f) (hmap : (f.ty == PType.map) = false)
    (hr : f.repeated = false) (hx : isOneVal x = true)
    (h : ItemRt S rec f Rv x) (hR : ∀ y, Rv x y → R f x y) :
    SlotStep S rec d R k f hid sel x := by
  apply slotStep_of_nonempty
  intro b hb hbe st b' hb' hbl hkl _ hfresh hpre
  obtain rfl : b = b' := by rw [hb] at hb'; injection hb'
  rw [dumpSlot_one S f hid sel x hx] at hb
  by_cases hh : hid = true
  · rw [if_pos hh] at hb; injection hb with hb; exact absurd hb.symm hbe
  rw [if_neg hh] at hb
  by_cases hsk : (eqDefault S f.defKind x && !((f.group.isSome || f.optional) || onWireOf x || sel)) = true
  · rw [if_pos hsk] at hb; injection hb with hb; exact absurd hb.symm hbe
  rw [if_neg hsk] at hb
  obtain ⟨y, hrec, hrel, hy, hpres, hre⟩ := h _ b hb hbe hbl
  have hmates := (hpre hbe).2
  obtain ⟨pfs, h1, h2, h3⟩ := fold_record S rec d st _ k f b y hd hk hrec
    (store_item S d st k f y hk hkl hmap (default_notlist S f hr) hy.mark hfresh hmates)
  refine ⟨pfs, y, h1, h2, fun _ => ⟨hR y hrel, ?_⟩, by rw [if_neg hbe]; exact h3⟩
  -- re-encoding: `y` is not skipped either, and its `serialize_empty` is at least that of `x`
  rw [dumpSlot_one S f hid sel y hy.one, if_neg hh]
  have hsk' : ¬(eqDefault S f.defKind y && !((f.group.isSome || f.optional) || onWireOf y || sel)) = true := by
    rcases hpres.dflt with how | ⟨how, hed⟩
    · rw [how]; simp
    · rw [how, hed]; exact hsk
  rw [if_neg hsk']
  refine dumpRec_se_mono S _ _ _ _ _ y b hre hbe fun hse => ?_
  rcases Bool.or_eq_true_iff.mp hse with h1 | h1
  · rw [hpres.se sel h1]; rfl
  · rw [h1]; exact Bool.or_true _

/-- a selected member that is set emits at least its tag: it is written with `serialize_empty = True` -/
theorem one_selected_emits (S : Schema) (f : FieldD) (v : Val) (b : Bytes) (hv : isOneVal v = true)
    (hg : f.group.isSome = true) (hb : dumpSlot S f false true v = .ok b) : b ≠ [] := by
  rw [dumpSlot_one S f false true v hv, if_neg Bool.false_ne_true, if_neg (by simp), hg, Bool.true_or, Bool.or_true] at hb
  exact dumpRec_forced_ne_nil S _ _ _ v b hb

theorem store_repeated_item (S : Schema) (d : MsgD) (st : MState) (k : Nat) (f : FieldD) (acc : List Val) (y : Val)
    (hkl : k < st.slots.length) (hmap : (f.ty == PType.map) = false) (hg : f.group = Option.none)
    (hcurv : materialize S f (st.slots.getD k .ph) = Val.list acc) (hy : ∀ ys, y ≠ Val.list ys) :
    storeValue S d (prepCurrent S d st k f) k f y
      = .ok { st with slots := setAt st.slots k (.list (acc ++ [y])) } := by
  rw [store_repeated S d st k f acc y hkl hmap hg hcurv]
  cases y with
  | list ys => exact absurd rfl (hy ys)
  | _ => rfl

/-- non-packed repeated field: one record per item, each decoded on its own and appended -/
theorem records_fold (S : Schema) (rec : Loader) (d : MsgD) (k : Nat) (f : FieldD) (Rv : Val → Val → Prop)
    (hd : NumsDistinct d.fields) (hk : d.fields[k]? = some f) (hmap : (f.ty == PType.map) = false)
    (hg : f.group = Option.none) :
    ∀ (xs acc : List Val) (st : MState) (b : Bytes), (∀ x ∈ xs, ItemRt S rec f Rv x) →
      dumpItems S f xs = .ok b → b.length < 2 ^ 64 → k < st.slots.length →
      materialize S f (st.slots.getD k .ph) = Val.list acc →
      ∃ ys, List.Forall₂ Rv xs ys ∧ dumpItems S f ys = dumpItems S f xs
        ∧ FoldsTo S rec d st b (if xs = [] then st else { st with slots := setAt st.slots k (.list (acc ++ ys)) }) := by
  intro xs
  induction xs with
  | nil =>
    intro acc st b _ hb _ _ _
    rw [dumpItems] at hb; injection hb with hb; subst hb
    exact ⟨[], List.Forall₂.nil, rfl, FoldsTo.nil S rec d st⟩
  | cons x xs ih =>
    intro acc st b hx hb hbl hkl hcurv
    obtain ⟨a, r, ha, hane, hr, rfl⟩ := dumpItems_cons_inv hb
    simp only [List.length_append] at hbl
    obtain ⟨y, hrec, hrel, hy, _, hre⟩ := hx x List.mem_cons_self true a ha hane (by omega)
    have h1 := fold_record S rec d st _ k f a y hd hk hrec
      (store_repeated_item S d st k f acc y hkl hmap hg hcurv hy.notlist)
    obtain ⟨ys2, he2, hd2, h2⟩ :=
      ih (acc ++ [y]) { st with slots := setAt st.slots k (.list (acc ++ [y])) } r
        (fun z hz => hx z (List.mem_cons_of_mem _ hz)) hr (by omega) (by simp [setAt]; exact hkl)
        (by simp only; rw [getD_setAt_self _ _ _ hkl]; rfl)
    refine ⟨y :: ys2, List.Forall₂.cons hrel he2, by rw [dumpItems_cons', dumpItems_cons', hre, ha, hd2], ?_⟩
    have h := h1.append h2
    by_cases hxs : xs = []
    · subst hxs
      cases he2
      simpa using h
    · simpa only [hxs, if_false, List.cons_ne_nil, setAt_setAt, List.append_assoc, List.singleton_append] using h

/-- the slot of a repeated field: nothing for the empty list, else one packed record or one record per item -/
theorem dumpSlot_many (S : Schema) (f : FieldD) (xs : List Val)
    (hr : f.repeated = true) (ho : f.optional = false) (hg : f.group = Option.none) :
    dumpSlot S f false false (.list xs) =
      if xs.isEmpty then .ok []
      else if isPacked f.ty then (prepPacked S f.ty xs).bind fun buf => frame f.num .bytes buf false false
      else dumpItems S f xs := by
  have hdk := defKind_rep f hr
  rw [dumpSlot]
  simp only [Bool.false_eq_true, if_false, hg, ho, Option.isSome_none, Bool.or_self, Bool.not_false,
    Bool.and_true, hdk, eqDefault_list]

theorem dumpSlot_items (S : Schema) (f : FieldD) (xs : List Val) (hnp : isPacked f.ty = false)
    (hr : f.repeated = true) (ho : f.optional = false) (hg : f.group = Option.none) :
    dumpSlot S f false false (.list xs) = dumpItems S f xs := by
  rw [dumpSlot_many S f xs hr ho hg, hnp]
  cases xs <;> rfl

/-- **a repeated slot that is not packed**, whatever kind of items it holds -/
theorem slotStep_many (S : Schema) (rec : Loader) (d : MsgD) (k : Nat) (f : FieldD) (sel : Bool) (xs : List Val)
    (Rv : Val → Val → Prop) (R : FieldD → Val → Val → Prop)
    (hd : NumsDistinct d.fields) (hk : d.fields[k]? = some f) (hmap : (f.ty == PType.map) = false)
    (hnp : isPacked f.ty = false)
    (hr : f.repeated = true) (ho : f.optional = false) (hg : f.group = Option.none) (hsel : sel = false)
    (hitems : ∀ x ∈ xs, ItemRt S rec f Rv x)
    (hR : ∀ ys, List.Forall₂ Rv xs ys → R f (.list xs) (.list ys)) :
    SlotStep S rec d R k f false sel (.list xs) := by
  subst hsel
  apply slotStep_of_nonempty
  intro b hb hbe st b' hb' hbl hkl how hfresh _
  obtain rfl : b = b' := by rw [hb] at hb'; injection hb'
  have hdk := defKind_rep f hr
  have hfr : st.slots.getD k .ph = Val.ph := by rw [hfresh]; simp [freshVal, ho]
  have hmat : materialize S f (st.slots.getD k .ph) = Val.list [] := by
    rw [hfr]; simp [materialize, defaultOf, hdk, defaultOfKind]
  rw [dumpSlot_items S f xs hnp hr ho hg] at hb
  have hxe : xs ≠ [] := by
    intro hc; subst hc; rw [dumpItems] at hb; injection hb with hb; exact hbe hb.symm
  obtain ⟨ys, he1, hd1, pfs, hp1, hj1, hf1⟩ :=
    records_fold S rec d k f Rv hd hk hmap hg xs [] st b hitems hb hbl hkl hmat
  refine ⟨pfs, .list ys, hp1, hj1, fun _ => ⟨hR ys he1, ?_⟩, ?_⟩
  · rw [dumpSlot_items S f ys hnp hr ho hg, hd1, hb]
  · rw [if_neg hbe, hf1]
    simp only [hxe, if_false, List.nil_append]
    simp [afterStore, hg, how]

end Bp

#print axioms Bp.records_fold
