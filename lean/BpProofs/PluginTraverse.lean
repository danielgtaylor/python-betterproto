import BpModel.PluginSchema
/-
  The plugin either raises or maps its input item by item.  The model writes that four times (`compileFields`,
  `readItems`, `compilePackage`, `mapMOpt`); here all are read through `mapMOpt`, and `mapMOpt f l = some r` as
  `l.map f = r.map some` (`mapMOpt_iff`): two lists that correspond item by item, along which a pointwise fact is
  carried by `map_transport` / `filterMap_transport` / `flatMap_transport`.
  Then `traverse` (string prefixes) against `allTypes` (nesting paths).
-/
namespace Bp.Plugin
open Bp

section pointwise
variable {α β γ δ : Type}

/-- along `l.map f = r.map g` the lists correspond item by item; a fact about corresponding items is a fact about
    the lists -/
theorem map_transport {f : α → γ} {g : β → γ} {h : α → δ} {k : β → δ} : ∀ {l : List α} {r : List β},
    l.map f = r.map g → (∀ a b, a ∈ l → f a = g b → h a = k b) → l.map h = r.map k
  | [], [], _, _ => rfl
  | [], _ :: _, e, _ => by cases e
  | _ :: _, [], e, _ => by cases e
  | a :: l, b :: r, e, H => by
    simp only [List.map_cons, List.cons.injEq] at e ⊢
    exact ⟨H a b List.mem_cons_self e.1, map_transport e.2 fun a' b' ha => H a' b' (List.mem_cons_of_mem _ ha)⟩

theorem filterMap_transport {f : α → γ} {g : β → γ} {h : α → Option δ} {k : β → Option δ} {l : List α} {r : List β}
    (e : l.map f = r.map g) (H : ∀ a b, a ∈ l → f a = g b → h a = k b) : l.filterMap h = r.filterMap k := by
  have := congrArg (List.filterMap id) (map_transport e H)
  rwa [List.filterMap_map, List.filterMap_map] at this

theorem flatMap_transport {f : α → γ} {g : β → γ} {h : α → List δ} {k : β → List δ} {l : List α} {r : List β}
    (e : l.map f = r.map g) (H : ∀ a b, a ∈ l → f a = g b → h a = k b) : l.flatMap h = r.flatMap k := by
  rw [List.flatMap_def, List.flatMap_def, map_transport e H]

/-- the items carry a key (first component) and the keys of one side are distinct: as many items on both sides, the
    other side's keys distinct too, and every item of the first side has its partner -/
theorem keyed_one_each {κ : Type} {f : α → γ × κ} {g : β → γ × κ} {l : List α} {r : List β}
    (e : l.map f = r.map g) (hn : (r.map fun b => (g b).1).Nodup) :
    l.length = r.length ∧ (l.map fun a => (f a).1).Nodup ∧ ∀ b ∈ r, ∃ a ∈ l, f a = g b := by
  refine ⟨by simpa using congrArg List.length e, ?_, fun b hb => ?_⟩
  · rw [map_transport e fun a b _ h => congrArg Prod.fst h]; exact hn
  · exact List.mem_map.1 (e ▸ List.mem_map.2 ⟨b, hb, rfl⟩ : g b ∈ l.map f)

theorem mapMOpt_iff {f : α → Option β} : ∀ {l : List α} {r : List β}, mapMOpt f l = some r ↔ l.map f = r.map some
  | [], r => by cases r <;> simp [mapMOpt]
  | a :: l, [] => by cases ha : f a <;> cases hl : mapMOpt f l <;> simp [mapMOpt, ha, hl]
  | a :: l, b :: r => by
    have ih := mapMOpt_iff (f := f) (l := l) (r := r)
    cases ha : f a <;> cases hl : mapMOpt f l <;> simp [mapMOpt, ha, hl, ← ih]

theorem mapMOpt_map_iff {f : α → Option β} {φ : List β → γ} {l : List α} {c : γ} :
    (mapMOpt f l).map φ = some c ↔ ∃ r, l.map f = r.map some ∧ c = φ r := by
  cases hm : mapMOpt f l with
  | none => simpa using fun r h1 => by rw [mapMOpt_iff.2 h1] at hm; cases hm
  | some r =>
    constructor
    · intro h; cases h; exact ⟨r, mapMOpt_iff.1 hm, rfl⟩
    · rintro ⟨r', h1, rfl⟩; rw [mapMOpt_iff.2 h1] at hm; cases hm; rfl

theorem mapMOpt_length {f : α → Option β} {l : List α} {r : List β} (h : mapMOpt f l = some r) :
    r.length = l.length := by
  simpa using (congrArg List.length (mapMOpt_iff.1 h)).symm

theorem mapMOpt_mem {f : α → Option β} {l : List α} {r : List β} (h : mapMOpt f l = some r) :
    ∀ d ∈ r, ∃ a ∈ l, f a = some d := fun d hd =>
  List.mem_map.1 ((mapMOpt_iff.1 h) ▸ List.mem_map.2 ⟨d, hd, rfl⟩)

theorem mapMOpt_isSome {f : α → Option β} : ∀ {l : List α}, (∀ a ∈ l, (f a).isSome = true) → (mapMOpt f l).isSome = true
  | [], _ => rfl
  | a :: l, h => by
    have h1 := h a List.mem_cons_self
    have h2 := mapMOpt_isSome (f := f) fun x hx => h x (List.mem_cons_of_mem _ hx)
    unfold mapMOpt
    cases ha : f a with
    | none => rw [ha] at h1; cases h1
    | some b =>
      cases hl : mapMOpt f l with
      | none => rw [hl] at h2; cases h2
      | some bs => rfl

theorem mapMOpt_congr {f : α → Option γ} {g : β → Option γ} : ∀ {l : List α} {r : List β},
    l.map f = r.map g → mapMOpt f l = mapMOpt g r
  | [], [], _ => rfl
  | [], _ :: _, e => by cases e
  | _ :: _, [], e => by cases e
  | a :: l, b :: r, e => by
    simp only [List.map_cons, List.cons.injEq] at e
    simp only [mapMOpt, e.1, mapMOpt_congr e.2]

theorem mapMOpt_map {α α' β β'} (f : α → Option β) (f' : α' → Option β') (g : α → α') (h : β → β') :
    ∀ l : List α, (∀ a ∈ l, f' (g a) = (f a).map h) → mapMOpt f' (l.map g) = (mapMOpt f l).map (List.map h)
  | [], _ => rfl
  | a :: r, H => by
    simp only [List.map_cons, mapMOpt, mapMOpt_map f f' g h r (fun x hx => H x (List.mem_cons_of_mem _ hx)),
      H a List.mem_cons_self]
    cases f a <;> cases mapMOpt f r <;> rfl

end pointwise

theorem compileFields_eq (nm : Naming) (m : MsgP) : ∀ fs, compileFields nm m fs = mapMOpt (compileField nm m) fs
  | [] => rfl
  | f :: fs => by
    simp only [compileFields, mapMOpt, compileFields_eq nm m fs]
    cases compileField nm m f <;> cases mapMOpt (compileField nm m) fs <;> rfl

theorem compileFields_iff {nm : Naming} {m : MsgP} {fs : List FieldP} {cs : List CField} :
    compileFields nm m fs = some cs ↔ fs.map (compileField nm m) = cs.map some := by
  rw [compileFields_eq]; exact mapMOpt_iff

theorem readItems_eq (nm : Naming) : ∀ items, readItems nm items = (mapMOpt (readItem nm) items).map (·.filterMap id)
  | [] => rfl
  | it :: r => by
    simp only [readItems, mapMOpt, readItems_eq nm r]
    cases readItem nm it with
    | none => rfl
    | some oc => cases oc <;> cases mapMOpt (readItem nm) r <;> rfl

theorem compilePackage_eq (nm : Naming) : ∀ files, compilePackage nm files = (mapMOpt (compileFile nm) files).map List.flatten
  | [] => rfl
  | fl :: r => by
    simp only [compilePackage, mapMOpt, compilePackage_eq nm r]
    cases compileFile nm fl <;> cases mapMOpt (compileFile nm) r <;> rfl

/-- the classes are what the items yield, map entries (inner `none`) dropped -/
theorem readItems_iff {nm : Naming} {items : List Item} {cs : List Class} :
    readItems nm items = some cs ↔ ∃ ocs : List (Option Class), items.map (readItem nm) = ocs.map some ∧ cs = ocs.filterMap id := by
  rw [readItems_eq]; exact mapMOpt_map_iff

theorem compilePackage_iff {nm : Naming} {files : List FileP} {cs : List Class} :
    compilePackage nm files = some cs ↔ ∃ css : List (List Class), files.map (compileFile nm) = css.map some ∧ cs = css.flatten := by
  rw [compilePackage_eq]; exact mapMOpt_map_iff

theorem flatName_snoc (path : List Name) (n : Name) : flatName (path ++ [n]) = flatName path ++ '_' :: n := by
  induction path with
  | nil => simp [flatName]
  | cons a r ih => simp [flatName, ih]

/-- what an item contributes to the class list: its flattened name and kind (map entries: nothing) -/
def itemKey : Item → Option (Name × TypeKind)
  | .enum flat _ => some (flat, .enum)
  | .msg flat m => if m.mapEntry then none else some (flat, .message)

def typeKey (t : List Name × TypeKind) : Name × TypeKind := (flatName t.1, t.2)

theorem travEnums_key (path : List Name) (es : List EnumP) :
    (travEnums (flatName path) es).filterMap itemKey = es.map fun e => typeKey (path ++ [e.name], TypeKind.enum) := by
  induction es with
  | nil => rfl
  | cons e r ih => simp [travEnums, itemKey, typeKey, flatName_snoc, ih]

mutual
theorem travMsgs_key (path : List Name) : ∀ ms : List MsgP,
    (travMsgs (flatName path) ms).filterMap itemKey = (msgsTypes path ms).map typeKey
  | [] => rfl
  | m :: ms => by
    simp only [travMsgs, msgsTypes, List.filterMap_append, List.map_append]
    rw [travMsg_key path m, travMsgs_key path ms]
theorem travMsg_key (path : List Name) : ∀ m : MsgP,
    (travMsg (flatName path) m).filterMap itemKey = (msgTypes path m).map typeKey
  | .mk n fs ns es os me => by
    have h1 := travEnums_key (path ++ [n]) es
    have h2 := travMsgs_key (path ++ [n]) ns
    rw [flatName_snoc] at h1 h2
    simp only [travMsg, msgTypes, List.filterMap_cons, List.filterMap_append, List.map_append, h1, h2]
    cases me <;> simp [itemKey, MsgP.mapEntry, typeKey, flatName_snoc, List.map_map]
end

theorem traverse_key (fl : FileP) :
    (traverse fl).filterMap itemKey = (allTypes fl).map typeKey := by
  unfold traverse allTypes
  have h1 := travEnums_key [] fl.enums
  have h2 := travMsgs_key [] fl.messages
  simp only [flatName] at h1 h2
  simp only [List.filterMap_append, List.map_append, h1, h2, List.map_map]
  rfl

def Class.kind : Class → TypeKind
  | .message _ _ => .message
  | .enum _ _ => .enum

/-- the three ways `read_protobuf_type` answers: an enum class, nothing for a map entry, a message class -/
theorem readItem_cases {nm : Naming} {it : Item} {oc : Option Class} (h : readItem nm it = some oc) :
    (∃ flat e, it = .enum flat e ∧ oc = some (compileEnum nm flat e))
    ∨ (∃ flat m, it = .msg flat m ∧ m.mapEntry = true ∧ oc = none)
    ∨ (∃ flat m fs, it = .msg flat m ∧ m.mapEntry = false ∧ compileFields nm m m.fields = some fs
        ∧ oc = some (.message (nm.cls flat) fs)) := by
  cases it with
  | enum flat e => cases h; exact .inl ⟨flat, e, rfl, rfl⟩
  | msg flat m =>
    simp only [readItem] at h
    cases hme : m.mapEntry with
    | true =>
      simp only [hme, if_true, Option.some.injEq] at h
      exact .inr (.inl ⟨flat, m, rfl, hme, h.symm⟩)
    | false =>
      simp only [hme, Bool.false_eq_true, if_false] at h
      cases hc : compileFields nm m m.fields with
      | none => simp [hc] at h
      | some fs =>
        simp only [hc, Option.map_some, Option.some.injEq] at h
        exact .inr (.inr ⟨flat, m, fs, rfl, hme, hc, h.symm⟩)

theorem readItem_key {nm : Naming} {it : Item} {oc : Option Class} (h : readItem nm it = some oc) :
    (itemKey it).map (fun k => (nm.cls k.1, k.2)) = oc.map fun c => (c.pyName, c.kind) := by
  rcases readItem_cases h with ⟨_, _, rfl, rfl⟩ | ⟨_, _, rfl, hme, rfl⟩ | ⟨_, _, _, rfl, hme, _, rfl⟩
  · rfl
  · simp [itemKey, hme]
  · simp [itemKey, hme, Class.pyName, Class.kind]

theorem readItems_keys (nm : Naming) (items : List Item) (cs : List Class) (h : readItems nm items = some cs) :
    cs.map (fun c => (c.pyName, c.kind)) = (items.filterMap itemKey).map fun k => (nm.cls k.1, k.2) := by
  obtain ⟨ocs, hm, rfl⟩ := readItems_iff.1 h
  rw [List.map_filterMap, List.map_filterMap]
  exact (filterMap_transport hm fun it oc _ hr => by simpa using readItem_key hr).symm

end Bp.Plugin
