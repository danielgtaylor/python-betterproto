import BpModel.All
import BpModel.Spec
import BpProofs.SpecLink
/-
  C02, link between the model of betterproto and the spec-level decoder: the byte-level statement
  `load_complete` under the guard on the records the class knows (`narrow32U`), and under `narrow32`
  as its corollary (why two guards: above `narrowFieldU` in `BpProofs/SpecLinkSim.lean`).
-/
namespace Bp.Link
open Bp Gen

theorem narrowField_mono (S : Schema) (nb nb' : MsgD → Bytes → Bool) (d : MsgD) (pf : PField)
    (h : ∀ d', nb d' pf.payload = true → nb' d' pf.payload = true)
    (hn : narrowField S nb d pf = true) : narrowField S nb' d pf = true := by
  cases hf : findField d.fields pf.num with
  | none => unfold narrowField; rw [hf]
  | some idx =>
    cases hfi : d.fields[idx]? with
    | none => unfold narrowField; rw [hf]; simp only [hfi]
    | some f =>
      obtain ⟨h0, h2⟩ := (narrowField_iff S nb d pf idx f hf hfi).1 hn
      exact (narrowField_iff S nb' d pf idx f hf hfi).2
        ⟨h0, fun hw => ⟨(h2 hw).1, fun d' hd' => h d' ((h2 hw).2 d' hd')⟩⟩

theorem narrow32U_of_narrow32 (S : Schema) : ∀ (n : Nat) (d : MsgD) (bs : Bytes),
    narrow32 S n d bs = true → narrow32U S n d bs = true := by
  intro n
  induction n with
  | zero => intro d bs _; rfl
  | succ n ih =>
    intro d bs h
    simp only [narrow32] at h
    simp only [narrow32U]
    cases hp : loadFields bs with
    | error e => rfl
    | ok pfs =>
      rw [hp] at h
      simp only [List.all_eq_true] at h ⊢
      intro pf hpf
      unfold narrowFieldU
      rw [Bool.or_eq_true]
      exact Or.inr (narrowField_mono S _ _ d pf (fun d' => ih d' pf.payload) (h pf hpf))

theorem load_complete_bytesU (S : Schema) (hS : GoodSchema S) (c : Nat) (d : MsgD) (hd : S[c]? = some d)
    (bs : Bytes) (v : Val) (hn : narrow32U S (bs.length + 1) d bs = true) (h : parse S c bs = .ok v) :
    ∃ a, Spec.decodeBytes S c bs = some a ∧ a.nrm = absOf v := by
  rw [parse_fresh S c d bs hd] at h
  obtain ⟨st, hl, h⟩ := bind_inv h
  cases h
  obtain ⟨m, hm1, hm2, hsim⟩ := loadInto_sim S hS (bs.length + 1) bs c d st (goodSchema_class S hS c d hd) hn hl
  refine ⟨m, by rw [decodeBytes_eq_sub S c d hd bs, hm1], ?_⟩
  simp only [Spec.AbsMsg.nrm, MState.toVal, absOf, hm2, hsim.slots, hsim.sel]

theorem load_complete_bytes (S : Schema) (hS : GoodSchema S) (c : Nat) (d : MsgD) (hd : S[c]? = some d)
    (bs : Bytes) (v : Val) (hn : narrow32 S (bs.length + 1) d bs = true) (h : parse S c bs = .ok v) :
    ∃ a, Spec.decodeBytes S c bs = some a ∧ a.nrm = absOf v :=
  load_complete_bytesU S hS c d hd bs v (narrow32U_of_narrow32 S _ d bs hn) h

end Bp.Link

#print axioms Bp.Link.narrow32U_of_narrow32
#print axioms Bp.Link.load_complete_bytesU
