import BpProofs.Gen.SrcMsg
import BpProofs.SrcTieDump
import BpProofs.SrcTieLoad
/-
  THE TIE BETWEEN THE TRANSLATED WHOLE METHODS AND THE HAND-WRITTEN MODEL, encoder side.

  `Bp.Src.msg_dump`, `msg_len`, `msg_bytes`, … (BpProofs/Gen/SrcMsg.lean) are regenerated from the
  Python AST of `Message.dump`, `__len__`, `__bytes__`, `SerializeToString`, `__getstate__`,
  `__reduce__` on every run; their loops call the translated loop bodies `Src.dump_field` /
  `Src.len_field` (Gen/SrcDump.lean).  `Src.value_bytes fuel S depth m` ties the recursive knot:
  `bytes(<nested Message>)` inside the intrinsics is the translated `__bytes__` itself, one nesting
  level down.  The theorems below say, for every schema and every value inside the guard,

      Src.value_bytes fuel S depth m            = Py.ofR (dumpVal S m)
      Src.value_len fuel S depth m              = Py.ofR (lenVal S m)        (as an int)
      Src.value_dump fuel S depth m stream (-1) = stream ++ dumpDelimited S m

  for every nesting budget `depth > depthOf m` (`value_len` / `value_dump` hand the nested calls their whole
  budget, so `depth ≥ depthOf m` is enough for them).

  Guards:
    * `msgDynOk S m` (decidable): at every nesting level one raw slot per field and `dynOk f v`
      (the guard of `SrcTieDump.dump_field_eq`) for every slot.  Every typed message of a
      well-formed schema satisfies it (`msgDynOk_of_typed`, SrcTieMsgGuard.lean).
    * `WfSchemaOpt S` (optional fields are singular non-map fields), as in `dump_field_eq`.
    * `depthOf m < depth`: the nesting budget covers the value (one level is kept for the lazily
      materialised default of a message-typed field).
    * for `dump(stream, SIZE_DELIMITED)`: the `while` loop of `dump_varint` gets enough fuel.

  How the knot is tied: (1) the translated loop bodies depend on `enc` only through its values on the
  Message instances found in the slot that are not skipped by the default test, so for EVERY `enc` that
  agrees with `dumpVal S` on those (`FieldsAgree`, over `SrcTieDump.dump_field_rel`) the translated methods
  equal the model (`msg_dump_model`, by induction over the fields); (2) by induction on `depth`,
  `value_bytes depth` agrees with `dumpVal S` on every guarded value of smaller depth (`enc_agree`,
  `value_bytes_eq`), and on a fresh default instance at every depth ≥ 1 (`value_bytes_fresh`).
-/
namespace Bp.SrcTieMsg
open Bp Bp.Py Gen Bp.SrcTieDump

theorem include_default_eq (st : MState) (idx : Nat) (f : FieldD) :
    Src.msg_include_default st idx f = selectedInGroup f idx st.cur := by
  unfold Src.msg_include_default selectedInGroup
  simp only [metaGroup, Msg.groupCurrentGet]
  cases f.group <;> rfl

mutual
/-- nesting depth of Message instances in a value -/
def depthOf : Val → Nat
  | .msg _ sl _ _ _ => depthList sl + 1
  | .list xs => depthList xs
  | .dict ks vs => max (depthList ks) (depthList vs)
  | _ => 0
def depthList : List Val → Nat
  | [] => 0
  | x :: xs => max (depthOf x) (depthList xs)
end

mutual
/-- the guard of `dump_field_eq` at every nesting level, and one raw slot per field (decidable) -/
def msgDynOk (S : Schema) : Val → Bool
  | .msg c sl _ _ _ => slotsDynOk S (fieldsOf S c) sl
  | .list xs => allDynOk S xs
  | .dict ks vs => allDynOk S ks && allDynOk S vs
  | _ => true
def slotsDynOk (S : Schema) : List FieldD → List Val → Bool
  | [], [] => true
  | f :: fs, v :: vs => dynOk f v && msgDynOk S v && slotsDynOk S fs vs
  | _, _ => false
def allDynOk (S : Schema) : List Val → Bool
  | [] => true
  | x :: xs => msgDynOk S x && allDynOk S xs
end

section model
-- every lemma of this section that mentions the schema takes `S` as its first explicit argument
variable (S : Schema)

theorem getD_of_getElem? (sl : List Val) (i : Nat) (v : Val) (h : sl[i]? = some v) : sl.getD i .ph = v := by
  simp [List.getD, h]

/-- `enc` and `enc'` agree wherever the loop bodies of the fields `items` of `st` may call them -/
def FieldsAgree (enc enc' : Val → R Bytes) (st : MState) (items : List (Nat × FieldD)) : Prop :=
  ∀ p ∈ items, ∀ v, Msg.getattrOf S st p.1 p.2 = .value v →
    needed S p.2 (Src.msg_include_default st p.1 p.2) v = true → AgreeL enc enc' (subs v)

theorem dump_loop_model (hS : WfSchemaOpt S) (enc : Val → R Bytes) (fs : List FieldD) (st : MState) :
    ∀ (rfs : List FieldD) (rsl : List Val) (i : Nat) (stream : Bytes),
      fs.drop i = rfs → st.slots.drop i = rsl → slotsDynOk S rfs rsl = true →
      FieldsAgree S enc (dumpVal S) st (Msg.itemsFrom i rfs) →
      Src.msg_dump.loop1 S enc st (Msg.itemsFrom i rfs) stream = appR stream (dumpSlots S fs st.cur i rsl)
  | [], [], i, stream, _, _, _, _ => by rw [Msg.itemsFrom, Src.msg_dump.loop1, dumpSlots]; simp
  | [], v :: rsl, i, stream, _, _, hg, _ => by simp [slotsDynOk] at hg
  | f :: rfs, [], i, stream, _, _, hg, _ => by simp [slotsDynOk] at hg
  | f :: rfs, v :: rsl, i, stream, h1, h2, hg, hag => by
    simp only [slotsDynOk, Bool.and_eq_true] at hg
    obtain ⟨hf, hfs⟩ := drop_cons fs i f rfs h1
    obtain ⟨hv, hvs⟩ := drop_cons st.slots i v rsl h2
    rw [Msg.itemsFrom] at hag
    have hag1 := hag (i, f) List.mem_cons_self
    simp only [Msg.getattrOf, getD_of_getElem? _ _ _ hv, include_default_eq] at hag1
    rw [Msg.itemsFrom, Src.msg_dump.loop1, dumpSlots]
    simp only [hf, Msg.getattrOf, getD_of_getElem? _ _ _ hv, include_default_eq,
      dump_field_rel S enc hS f _ _ v stream hg.1.1 hag1,
      fun s => dump_loop_model hS enc fs st rfs rsl (i + 1) s hfs hvs hg.2 fun p hp => hag p (List.mem_cons_of_mem _ hp),
      appR_bind, Res.ofR_bind, Res.ofR_ok, Res.bind_assoc, Res.ok_bind, List.append_assoc]

theorem len_loop_counts (enc : Val → R Bytes) (st : MState) :
    ∀ (items : List (Nat × FieldD)) (size : Int) (s : Bytes), Src.msg_len.loop1 S enc st items (size + s.length) =
      (Src.msg_dump.loop1 S enc st items s).bind fun out => .ok (size + (out.length : Int))
  | [], size, s => by rw [Src.msg_len.loop1, Src.msg_dump.loop1]; rfl
  | (i, f) :: items, size, s => by
    rw [Src.msg_len.loop1, Src.msg_dump.loop1, len_field_counts]
    simp only [Res.bind_assoc, Res.ok_bind, len_loop_counts enc st items size]

theorem msg_bytes_loop (fuel : Nat) (S : Schema) (enc : Val → R Bytes) (fs : List FieldD) (st : MState) :
    Src.msg_bytes fuel S enc fs st =
      (Src.msg_dump.loop1 S enc st (Msg.metaItems fs) []).bind fun out => .ok (out ++ Msg.unknownFields st) := by
  have h0 : (decide ((0 : Int) = -1)) = false := by decide
  simp only [Src.msg_bytes, Src.msg_dump, h0, Bool.false_eq_true, if_false, Res.bind_ok]

theorem msg_len_bytes (fuel : Nat) (S : Schema) (enc : Val → R Bytes) (fs : List FieldD) (st : MState) :
    Src.msg_len fuel S enc fs st = (Src.msg_bytes fuel S enc fs st).bind fun b => .ok (b.length : Int) := by
  have h := len_loop_counts S enc st (Msg.metaItems fs) 0 []
  rw [List.length_nil, Nat.cast_zero, Int.add_zero] at h
  rw [msg_bytes_loop, Src.msg_len, h]
  simp [Res.bind_assoc, Py.len]

/-- `self.dump(stream)` (no delimiter) appends `bytes(self)` of the model -/
theorem msg_dump_model (hS : WfSchemaOpt S) (enc : Val → R Bytes) (fuel : Nat) (c : Nat) (st : MState) (stream : Bytes)
    (hg : slotsDynOk S (fieldsOf S c) st.slots = true) (hag : FieldsAgree S enc (dumpVal S) st (Msg.metaItems (fieldsOf S c))) :
    Src.msg_dump fuel S enc (fieldsOf S c) st stream 0 = appR stream (dumpVal S (st.toVal c)) := by
  have h0 : (decide ((0 : Int) = -1)) = false := by decide
  unfold Src.msg_dump
  simp only [h0, Bool.false_eq_true, if_false, Msg.metaItems]
  rw [dump_loop_model S hS enc (fieldsOf S c) st (fieldsOf S c) st.slots 0 stream rfl rfl hg hag, MState.toVal, dumpVal_msg]
  simp only [appR_bind, Res.ofR_bind, Res.ofR_ok, Res.bind_assoc, Res.ok_bind, List.append_assoc, Msg.unknownFields]

theorem msg_bytes_model (hS : WfSchemaOpt S) (enc : Val → R Bytes) (fuel : Nat) (c : Nat) (st : MState)
    (hg : slotsDynOk S (fieldsOf S c) st.slots = true) (hag : FieldsAgree S enc (dumpVal S) st (Msg.metaItems (fieldsOf S c))) :
    Src.msg_bytes fuel S enc (fieldsOf S c) st = ofR (dumpVal S (st.toVal c)) := by
  unfold Src.msg_bytes
  simp only [msg_dump_model S hS enc fuel c st [] hg hag, appR_bind, List.nil_append, Res.bind_ok]

theorem msg_len_model (hS : WfSchemaOpt S) (enc : Val → R Bytes) (fuel : Nat) (c : Nat) (st : MState)
    (hg : slotsDynOk S (fieldsOf S c) st.slots = true) (hag : FieldsAgree S enc (dumpVal S) st (Msg.metaItems (fieldsOf S c))) :
    Src.msg_len fuel S enc (fieldsOf S c) st
      = ofR ((lenVal S (st.toVal c)).map fun (n : Nat) => (n : Int)) := by
  rw [msg_len_bytes, msg_bytes_model S hS enc fuel c st hg hag, lenVal_eq]
  simp only [Res.ofR_map, Res.bind_assoc, Res.ok_bind]

/-- `self.dump(stream, SIZE_DELIMITED)`: the varint of `len(self)`, then the fields -/
theorem msg_dump_delimited_model (hS : WfSchemaOpt S) (enc : Val → R Bytes) (fuel : Nat) (c : Nat) (st : MState) (stream : Bytes)
    (hg : slotsDynOk S (fieldsOf S c) st.slots = true) (hag : FieldsAgree S enc (dumpVal S) st (Msg.metaItems (fieldsOf S c)))
    (hf : ∀ bs, dumpVal S (st.toVal c) = .ok bs → bs.length + 2 ^ 64 < fuel) :
    Src.msg_dump fuel S enc (fieldsOf S c) st stream (-1) = appR stream (dumpDelimited S (st.toVal c)) := by
  have hnodelim := msg_dump_model S hS enc fuel c st
  unfold Src.msg_dump at hnodelim ⊢
  have h0 : (decide ((0 : Int) = -1)) = false := by decide
  simp only [h0, Bool.false_eq_true, if_false] at hnodelim
  simp only [msg_len_model S hS enc fuel c st hg hag]
  unfold dumpDelimited dumpDelimitedWith
  rw [lenVal_eq]
  cases hd : dumpVal S (st.toVal c) with
  | error e => rfl
  | ok body =>
    have hfuel := hf body hd
    simp only [Bp.map_ok, ofR_ok, res_bind_ok, Bp.bind_ok]
    rw [SrcTie.dump_varint_eq _ stream fuel (by simpa using hfuel), dumpVarint_nat]
    simp only [ofR_ok, res_bind_ok, Bp.bind_ok]
    rw [hnodelim (stream ++ encNat body.length) hg hag, hd]
    simp


end model

section knot
-- every lemma of this section that mentions the schema takes `S` as its first explicit argument
variable (S : Schema)

theorem depth_mem : ∀ (xs : List Val) (x : Val), x ∈ xs → depthOf x ≤ depthList xs
  | [], x, h => by simp at h
  | y :: ys, x, h => by
    rw [depthList]
    rcases List.mem_cons.mp h with h | h
    · subst h; omega
    · have := depth_mem ys x h; omega

theorem allDynOk_mem : ∀ (xs : List Val) (x : Val), allDynOk S xs = true → x ∈ xs → msgDynOk S x = true
  | [], x, _, h => by simp at h
  | y :: ys, x, hg, h => by
    rw [allDynOk, Bool.and_eq_true] at hg
    rcases List.mem_cons.mp h with h | h
    · subst h; exact hg.1
    · exact allDynOk_mem ys x hg.2 h

theorem subs_cases (v x : Val) (h : x ∈ subs v) :
    x = v ∨ (∃ xs, v = .list xs ∧ x ∈ xs) ∨ (∃ ks vs, v = .dict ks vs ∧ x ∈ vs) := by
  simp only [subs, List.mem_cons, List.mem_append, List.mem_map] at h
  rcases h with h | h | h
  · exact Or.inl h
  · cases v with
    | list xs => exact Or.inr (Or.inl ⟨xs, rfl, h⟩)
    | _ => simp [listItems] at h
  · obtain ⟨kv, hkv, rfl⟩ := h
    cases v with
    | dict ks vs => exact Or.inr (Or.inr ⟨ks, vs, rfl, (List.of_mem_zip hkv).2⟩)
    | _ => simp [dictItems] at hkv

theorem subs_depth (v x : Val) (h : x ∈ subs v) : depthOf x ≤ depthOf v := by
  rcases subs_cases v x h with rfl | ⟨xs, rfl, hx⟩ | ⟨ks, vs, rfl, hx⟩
  · exact Nat.le_refl _
  · rw [depthOf]; exact depth_mem xs x hx
  · rw [depthOf]; have := depth_mem vs x hx; omega

theorem subs_dynOk (v x : Val) (hg : msgDynOk S v = true) (h : x ∈ subs v) : msgDynOk S x = true := by
  rcases subs_cases v x h with rfl | ⟨xs, rfl, hx⟩ | ⟨ks, vs, rfl, hx⟩
  · exact hg
  · rw [msgDynOk] at hg; exact allDynOk_mem S xs x hg hx
  · rw [msgDynOk, Bool.and_eq_true] at hg; exact allDynOk_mem S vs x hg.2 hx

theorem slotsDynOk_get : ∀ (fs : List FieldD) (sl : List Val), slotsDynOk S fs sl = true →
    ∀ (i : Nat) (f : FieldD), fs[i]? = some f → ∃ v, sl[i]? = some v ∧ msgDynOk S v = true ∧ depthOf v ≤ depthList sl
  | [], _, _, i, f, hf => by simp at hf
  | f0 :: fs, [], h, _, _, _ => by simp [slotsDynOk] at h
  | f0 :: fs, v :: sl, h, 0, f, hf => by
    rw [slotsDynOk, Bool.and_eq_true, Bool.and_eq_true] at h
    exact ⟨v, rfl, h.1.2, by rw [depthList]; omega⟩
  | f0 :: fs, v :: sl, h, i + 1, f, hf => by
    rw [slotsDynOk, Bool.and_eq_true, Bool.and_eq_true] at h
    obtain ⟨w, h1, h2, h3⟩ := slotsDynOk_get fs sl h.2 i f (by simpa using hf)
    exact ⟨w, by simpa using h1, h2, by rw [depthList]; omega⟩

theorem itemsFrom_mem : ∀ (fs : List FieldD) (j : Nat) (p : Nat × FieldD), p ∈ Msg.itemsFrom j fs →
    j ≤ p.1 ∧ fs[p.1 - j]? = some p.2
  | [], j, p, h => by simp [Msg.itemsFrom] at h
  | f :: fs, j, p, h => by
    rw [Msg.itemsFrom] at h
    rcases List.mem_cons.mp h with h | h
    · subst h; simp
    · obtain ⟨h1, h2⟩ := itemsFrom_mem fs (j + 1) p h
      refine ⟨by omega, ?_⟩
      have : p.1 - j = (p.1 - (j + 1)) + 1 := by omega
      rw [this]; simpa using h2

theorem metaItems_mem (fs : List FieldD) (p : Nat × FieldD) (h : p ∈ Msg.metaItems fs) : fs[p.1]? = some p.2 := by
  have := (itemsFrom_mem fs 0 p h).2
  simpa using this

/-- a Message instance among what the loop body sees of a default value is the fresh instance of
    the class of a message-typed field -/
theorem subs_default (f : FieldD) (x : Val) (h : x ∈ subs (defaultOf S f)) (hm : isMsgVal x = true) :
    ∃ c, f.defKind = .msg c ∧ defaultOf S f = fresh S c ∧ x = fresh S c := by
  unfold defaultOf at h ⊢
  cases hk : f.defKind with
  | msg c =>
    rw [hk] at h
    simp only [defaultOfKind, fresh, subs, listItems, dictItems, List.map_nil, List.append_nil, List.mem_singleton] at h
    exact ⟨c, rfl, rfl, by rw [h]; rfl⟩
  | _ =>
    rw [hk] at h
    simp only [defaultOfKind, subs, listItems, dictItems, List.zip_nil_left, List.map_nil, List.append_nil,
      List.mem_singleton] at h
    subst h
    simp [isMsgVal] at hm

theorem needed_default (hS : WfSchemaOpt S) (f : FieldD) (c : Nat) (hk : f.defKind = .msg c)
    (hg : f.group = Option.none) (ho : f.optional = false) :
    needed S f false (fresh S c) = false := by
  have h1 := eqDefault_fresh S c hS
  have h2 : isMsgVal (fresh S c) = true := rfl
  have h3 : onWireOf (fresh S c) = false := rfl
  simp [needed, hk, h1, h2, h3, hg, ho]


theorem lenVal_nonmsg (v : Val) (h : isMsgVal v = false) : lenVal S v = .error .type := by
  cases v with
  | msg c sl ow unk cur => simp [isMsgVal] at h
  | _ => rfl

/-- `bytes(x)` as the intrinsics of the loop bodies see it with `depth` nesting levels left -/
def encAt (fuel : Nat) (S : Schema) (depth : Nat) : Val → R Bytes := fun x => Msg.toR (Src.value_bytes fuel S depth x)

@[simp] theorem toR_ofR {α : Type} (r : R α) : Msg.toR (ofR r) = r := by cases r <;> rfl

theorem value_bytes_msg (fuel : Nat) (S : Schema) (k c : Nat) (sl : List Val) (ow : Bool) (unk : Bytes) (cur : List (Option Nat)) :
    Src.value_bytes fuel S (k + 1) (.msg c sl ow unk cur)
      = Src.msg_bytes fuel S (encAt fuel S k) (fieldsOf S c) { slots := sl, onWire := ow, unknown := unk, cur := cur } := by
  rw [Src.value_bytes]; rfl

theorem freshSlots_guard : ∀ fs : List FieldD,
    slotsDynOk S fs (fs.map fun f => if f.optional then Val.none else Val.ph) = true
  | [] => rfl
  | f :: fs => by
    rw [List.map_cons, slotsDynOk, freshSlots_guard fs]
    cases f.optional <;> rfl

/-- **`bytes(<fresh instance>)` as written is empty at every nesting budget ≥ 1**, whatever the
    nested calls would return: every slot is None, hidden, or a default that the default test skips -/
theorem value_bytes_fresh (hS : WfSchemaOpt S) (fuel k c : Nat) :
    Src.value_bytes fuel S (k + 1) (fresh S c) = .ok [] := by
  unfold fresh
  rw [value_bytes_msg]
  have hag : FieldsAgree S (encAt fuel S k) (dumpVal S)
      { slots := (fieldsOf S c).map fun f => if f.optional then Val.none else Val.ph, onWire := false, unknown := [],
        cur := List.replicate (groupsOf S c) Option.none } (Msg.metaItems (fieldsOf S c)) := by
    intro p hp v hgot hneed x hx hmsg
    have hf := metaItems_mem _ p hp
    have hsl : ((fieldsOf S c).map fun f => if f.optional then Val.none else Val.ph).getD p.1 .ph
        = if p.2.optional then Val.none else Val.ph := by
      simp [List.getD, List.getElem?_map, hf]
    simp only [Msg.getattrOf, hidden_replicate, hsl] at hgot
    rw [include_default_eq] at hneed
    cases hgp : p.2.group with
    | some g => simp [hgp, getattrField] at hgot
    | none =>
      have hsel : selectedInGroup p.2 p.1 (List.replicate (groupsOf S c) Option.none) = false := by
        simp [selectedInGroup, hgp]
      simp only [hgp, Option.isSome_none] at hgot
      cases ho : p.2.optional with
      | true =>
        simp only [ho, if_true, getattrField, Bool.false_eq_true, if_false, Got.value.injEq] at hgot
        subst hgot
        simp only [subs, listItems, dictItems, List.map_nil, List.append_nil, List.mem_singleton] at hx
        subst hx; simp [isMsgVal] at hmsg
      | false =>
        simp only [ho, Bool.false_eq_true, if_false, getattrField, Got.value.injEq] at hgot
        subst hgot
        obtain ⟨c', hk, hdef, hx'⟩ := subs_default S p.2 x hx hmsg
        rw [hdef, hsel, needed_default S hS p.2 c' hk hgp ho] at hneed
        cases hneed
  rw [msg_bytes_model S hS _ fuel c _ (freshSlots_guard S _) hag]
  have := dump_fresh S c
  unfold fresh at this
  simp only [MState.toVal, this, ofR_ok]

/-- the nested calls agree with the model on everything the loop bodies of a guarded instance hand
    them, once they do so on every guarded value of smaller depth -/
theorem enc_agree (hS : WfSchemaOpt S) (fuel k : Nat) (hk : 0 < k)
    (ih : ∀ x, msgDynOk S x = true → depthOf x < k → Src.value_bytes fuel S k x = ofR (dumpVal S x))
    (c : Nat) (st : MState) (hg : slotsDynOk S (fieldsOf S c) st.slots = true) (hd : depthList st.slots < k) :
    FieldsAgree S (encAt fuel S k) (dumpVal S) st (Msg.metaItems (fieldsOf S c)) := by
  intro p hp v hgot hneed x hx hmsg
  have hf := metaItems_mem _ p hp
  obtain ⟨w, hw, hwg, hwd⟩ := slotsDynOk_get S _ _ hg p.1 p.2 hf
  simp only [Msg.getattrOf, getD_of_getElem? _ _ _ hw] at hgot
  cases hh : hidden p.2 p.1 st.cur with
  | true => simp [hh, getattrField] at hgot
  | false =>
    rw [hh] at hgot
    by_cases hph : w = .ph
    · subst hph
      simp only [getattrField, Bool.false_eq_true, if_false, Got.value.injEq] at hgot
      subst hgot
      obtain ⟨c', _, _, hx'⟩ := subs_default S p.2 x hx hmsg
      subst hx'
      obtain ⟨j, rfl⟩ : ∃ j, k = j + 1 := ⟨k - 1, by omega⟩
      simp only [encAt, value_bytes_fresh S hS fuel j c', dump_fresh, Msg.toR]
    · rw [getattr_set S p.2 w hph, Got.value.injEq] at hgot
      subst hgot
      have h1 := subs_depth _ _ hx
      have h2 := subs_dynOk S _ _ hwg hx
      simp only [encAt, ih x h2 (by omega), toR_ofR]

theorem value_bytes_eq (hS : WfSchemaOpt S) (fuel : Nat) : ∀ (depth : Nat) (m : Val),
    msgDynOk S m = true → depthOf m < depth → Src.value_bytes fuel S depth m = ofR (dumpVal S m)
  | 0, _, _, hd => by omega
  | k + 1, m, hg, hd => by
    cases m with
    | msg c sl ow unk cur =>
      rw [msgDynOk] at hg
      rw [depthOf] at hd
      have hag := enc_agree S hS fuel k (by omega) (value_bytes_eq hS fuel k) c
        { slots := sl, onWire := ow, unknown := unk, cur := cur } hg (by simp only [] at hd ⊢; omega)
      rw [value_bytes_msg, msg_bytes_model S hS _ fuel c _ hg hag]
      rfl
    | _ => rw [Src.value_bytes, dumpVal_nonmsg S _ rfl]; rfl

/-- the agreement of `enc_agree` for the methods that call `bytes(<nested>)` with the full budget -/
theorem enc_agree_top (hS : WfSchemaOpt S) (fuel depth c : Nat) (sl : List Val) (ow : Bool) (unk : Bytes)
    (cur : List (Option Nat)) (hg : msgDynOk S (.msg c sl ow unk cur) = true) (hd : depthOf (.msg c sl ow unk cur) ≤ depth) :
    FieldsAgree S (encAt fuel S depth) (dumpVal S) { slots := sl, onWire := ow, unknown := unk, cur := cur }
      (Msg.metaItems (fieldsOf S c)) := by
  rw [msgDynOk] at hg
  rw [depthOf] at hd
  exact enc_agree S hS fuel depth (by omega) (value_bytes_eq S hS fuel depth) c _ hg (by simp only [] at hd ⊢; omega)

theorem value_len_eq (hS : WfSchemaOpt S) (fuel depth : Nat) (m : Val)
    (hg : msgDynOk S m = true) (hd : depthOf m ≤ depth) :
    Src.value_len fuel S depth m = ofR ((lenVal S m).map fun (n : Nat) => (n : Int)) := by
  cases m with
  | msg c sl ow unk cur =>
    have hag := enc_agree_top S hS fuel depth c sl ow unk cur hg hd
    rw [msgDynOk] at hg
    exact msg_len_model S hS _ fuel c _ hg hag
  | _ => unfold Src.value_len; rw [lenVal_nonmsg S _ rfl]; rfl

theorem value_dump_eq (hS : WfSchemaOpt S) (fuel depth : Nat) (m : Val) (stream : Bytes)
    (hg : msgDynOk S m = true) (hd : depthOf m ≤ depth) :
    Src.value_dump fuel S depth m stream 0 = appR stream (dumpVal S m) := by
  cases m with
  | msg c sl ow unk cur =>
    have hag := enc_agree_top S hS fuel depth c sl ow unk cur hg hd
    rw [msgDynOk] at hg
    exact msg_dump_model S hS _ fuel c _ _ hg hag
  | _ => unfold Src.value_dump; rw [dumpVal_nonmsg S _ rfl]; rfl

/-- `hf`: the `while` loop of `dump_varint` has enough fuel for the varint of `len(m)` -/
theorem value_dump_delimited_eq (hS : WfSchemaOpt S) (fuel depth : Nat) (m : Val) (stream : Bytes)
    (hg : msgDynOk S m = true) (hd : depthOf m ≤ depth)
    (hf : ∀ bs, dumpVal S m = .ok bs → bs.length + 2 ^ 64 < fuel) :
    Src.value_dump fuel S depth m stream (-1) = appR stream (dumpDelimited S m) := by
  cases m with
  | msg c sl ow unk cur =>
    have hag := enc_agree_top S hS fuel depth c sl ow unk cur hg hd
    rw [msgDynOk] at hg
    exact msg_dump_delimited_model S hS _ fuel c { slots := sl, onWire := ow, unknown := unk, cur := cur } _ hg hag hf
  | _ => unfold Src.value_dump dumpDelimited; rw [lenVal_nonmsg S _ rfl]; rfl

end knot

end Bp.SrcTieMsg
