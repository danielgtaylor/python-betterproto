import BpModel.Casing
import BpProofs.CharFast
/-
  Character-level facts of the casing model, read off the code-point forms of `CharFast`: below 128 one sweep over
  the arithmetic forms, above it every character is a symbol that both case maps leave alone.
-/
namespace Bp.Casing

theorem fast_rows : ∀ n < 128,
    (Fast.cls (Char.ofNat n) ≠ .up → Fast.lowerC (Char.ofNat n) = Char.ofNat n) ∧
    (Fast.cls (Char.ofNat n) ≠ .lo → Fast.upperC (Char.ofNat n) = Char.ofNat n) ∧
    (Fast.cls (Char.ofNat n) = .up →
      Fast.cls (Fast.lowerC (Char.ofNat n)) = .lo ∧ Fast.upperC (Fast.lowerC (Char.ofNat n)) = Char.ofNat n) ∧
    (Fast.cls (Char.ofNat n) = .lo →
      Fast.cls (Fast.upperC (Char.ofNat n)) = .up ∧ Fast.lowerC (Fast.upperC (Char.ofNat n)) = Char.ofNat n) := by
  decide +kernel

theorem char_facts (c : Char) :
    (cls c ≠ .up → lowerC c = c) ∧ (cls c ≠ .lo → upperC c = c) ∧
    (cls c = .up → cls (lowerC c) = .lo ∧ upperC (lowerC c) = c) ∧
    (cls c = .lo → cls (upperC c) = .up ∧ lowerC (upperC c) = c) := by
  rw [cls_fast, lowerC_fast, upperC_fast]
  by_cases h : c.toNat < 128
  · have := fast_rows c.toNat h
    rwa [Char.ofNat_toNat] at this
  · have hc : Fast.cls c = .sym := by
      simp only [Fast.cls]
      rw [if_neg (by omega), if_neg (by omega), if_neg (by omega)]
    have hl : Fast.lowerC c = c := if_neg (by omega)
    have hu : Fast.upperC c = c := if_neg (by omega)
    simp [hc, hl, hu]

/-- the classes as intervals of code points -/
theorem cls_iff (c : Char) :
    (cls c = .up ↔ 65 ≤ c.toNat ∧ c.toNat ≤ 90) ∧ (cls c = .lo ↔ 97 ≤ c.toNat ∧ c.toNat ≤ 122) ∧
    (cls c = .dg ↔ 48 ≤ c.toNat ∧ c.toNat ≤ 57) := by
  rw [cls_fast, Fast.cls]
  -- the three intervals are disjoint
  by_cases h1 : 65 ≤ c.toNat ∧ c.toNat ≤ 90 <;> by_cases h2 : 97 ≤ c.toNat ∧ c.toNat ≤ 122 <;>
    by_cases h3 : 48 ≤ c.toNat ∧ c.toNat ≤ 57 <;> simp only [h1, h2, h3, if_false] <;> simp <;> omega

theorem lowerC_of_not_up {c : Char} (h : cls c ≠ .up) : lowerC c = c := (char_facts c).1 h
theorem upperC_of_not_lo {c : Char} (h : cls c ≠ .lo) : upperC c = c := (char_facts c).2.1 h
theorem cls_lowerC_of_up {c : Char} (h : cls c = .up) : cls (lowerC c) = .lo := ((char_facts c).2.2.1 h).1
theorem cls_upperC_of_lo {c : Char} (h : cls c = .lo) : cls (upperC c) = .up := ((char_facts c).2.2.2 h).1
theorem lowerC_upperC_of_lo {c : Char} (h : cls c = .lo) : lowerC (upperC c) = c := ((char_facts c).2.2.2 h).2

theorem upperC_of_up {c : Char} (h : cls c = .up) : upperC c = c :=
  upperC_of_not_lo (by rw [h]; decide)

theorem upperC_lowerC (c : Char) : upperC (lowerC c) = upperC c := by
  by_cases h : cls c = .up
  · rw [((char_facts c).2.2.1 h).2, upperC_of_up h]
  · rw [lowerC_of_not_up h]

theorem cls_underscore : cls '_' = .sym := by rw [cls_fast]; decide +kernel
theorem cls_dot : cls '.' = .sym := by rw [cls_fast]; decide +kernel

theorem cls_lowerC (c : Char) :
    cls (lowerC c) = (match cls c with | .up => .lo | k => k) := by
  by_cases h : cls c = .up
  · rw [cls_lowerC_of_up h, h]
  · rw [lowerC_of_not_up h]
    split
    · next hu => exact absurd hu h
    · rfl

theorem lowerC_idem (c : Char) : lowerC (lowerC c) = lowerC c := by
  apply lowerC_of_not_up
  rw [cls_lowerC]
  cases cls c <;> simp

theorem cls_upperC (c : Char) :
    cls (upperC c) = (match cls c with | .lo => .up | k => k) := by
  by_cases h : cls c = .lo
  · rw [cls_upperC_of_lo h, h]
  · rw [upperC_of_not_lo h]
    split
    · next hl => exact absurd hl h
    · rfl

theorem upperC_idem (c : Char) : upperC (upperC c) = upperC c := by
  apply upperC_of_not_lo
  rw [cls_upperC]
  cases cls c <;> simp

theorem lowerC_upperC (c : Char) : lowerC (upperC c) = lowerC c := by
  by_cases h : cls c = .lo
  · rw [lowerC_upperC_of_lo h, lowerC_of_not_up (by rw [h]; decide)]
  · rw [upperC_of_not_lo h]

end Bp.Casing
