import BpModel.Time
/-
  The arithmetic of the Timestamp / Duration conversions (BpModel/Time.lean), on core `Int` lemmas only.

  At nanosecond scale, with `t = us * 1000` and `D = 10^9`: `tsSplit us = (t / D, t % D)` is FLOOR division and
  `durSplit us = (t.tdiv D, t.tmod D)` is TRUNCATING division ("magnitude split, common sign"), which is how the protobuf
  documentation defines the two messages.  The model splits the MICROsecond count by 10^6 and scales the remainder by
  1000; `scale_floor` / `scale_trunc` say that this is the same thing.  Normal form, exactness and uniqueness of the pair
  (Props/C15.lean) are then core's characterisations of the two divisions.
-/
namespace Bp.TimeArith
open Bp

/-- any pair denoting `a` at the fine scale has its second part a multiple of `k`: it joins back to `a` -/
theorem rem_eq {a d k s n : Int} (h : s * (d * k) + n = a * k) : n = (a - s * d) * k := by
  rw [Int.sub_mul, ← h, Int.mul_assoc, Int.add_comm, Int.add_sub_cancel]

theorem scale_floor (a d : Int) {k : Int} (hk : 0 < k) :
    (a / d, a % d * k) = (a * k / (d * k), a * k % (d * k)) := by
  rw [Int.mul_ediv_mul_of_pos_left a d hk, Int.mul_comm a, Int.mul_comm d, Int.mul_emod_mul_of_pos a d hk,
    Int.mul_comm k]

theorem scale_trunc (a d : Int) {k : Int} (hk : 0 < k) :
    (a.tdiv d, a.tmod d * k) = ((a * k).tdiv (d * k), (a * k).tmod (d * k)) := by
  rw [Int.mul_tdiv_mul_of_pos_left a d hk, Int.mul_comm a, Int.mul_comm d, Int.mul_tmod_mul_of_pos a d hk,
    Int.mul_comm k]

/-- quotient and remainder of the truncating division never have opposite signs; the remainder is below `D` in
    magnitude -/
theorem tdiv_tmod_sign (t : Int) {D : Int} (hD : 0 < D) :
    (0 ≤ t.tdiv D ∧ 0 ≤ t.tmod D ∨ t.tdiv D ≤ 0 ∧ t.tmod D ≤ 0) ∧ -D < t.tmod D ∧ t.tmod D < D := by
  refine ⟨?_, Int.lt_tmod_of_pos t hD, Int.tmod_lt_of_pos t hD⟩
  have hD' := Int.le_of_lt hD
  rcases Int.le_total 0 t with h | h
  · exact Or.inl ⟨Int.tdiv_nonneg h hD', Int.tmod_nonneg D h⟩
  · have h' := Int.neg_nonneg_of_nonpos h
    rw [← Int.neg_neg t, Int.neg_tdiv, Int.neg_tmod]
    exact Or.inr ⟨Int.neg_nonpos_of_nonneg (Int.tdiv_nonneg h' hD'), Int.neg_nonpos_of_nonneg (Int.tmod_nonneg D h')⟩

/-- … and they are the only such pair denoting `t`: core's `Int.tdiv_tmod_unique` / `'`, with the sign of `t` read off
    the pair -/
theorem tdiv_tmod_unique {t D s n : Int} (hD : 0 < D) (h : s * D + n = t)
    (hs : 0 ≤ s ∧ 0 ≤ n ∨ s ≤ 0 ∧ n ≤ 0) (h1 : -D < n ∧ n < D) : (s, n) = (t.tdiv D, t.tmod D) := by
  have hD' := Int.le_of_lt hD
  have e : n + D * s = t := by rw [Int.add_comm, Int.mul_comm, h]
  rw [← Int.natAbs_of_nonneg hD'] at h1
  rcases hs with hs | hs
  · have := (Int.tdiv_tmod_unique (h ▸ Int.add_nonneg (Int.mul_nonneg hs.1 hD') hs.2) (Int.ne_of_gt hD)).2
      ⟨e, hs.2, h1.2⟩
    rw [this.1, this.2]
  · have := (Int.tdiv_tmod_unique' (h ▸ Int.add_nonpos (Int.mul_nonpos_of_nonpos_of_nonneg hs.1 hD') hs.2)
      (Int.ne_of_gt hD)).2 ⟨e, h1.1, hs.2⟩
    rw [this.1, this.2]

/-- a count split by `e * m`, the remainder split again by `m`, reassembles (days, seconds of the day, microseconds) -/
theorem components (a e m : Int) : (a / (e * m) * e + a % (e * m) / m) * m + a % m = a := by
  rw [Int.add_mul, Int.mul_assoc, Int.add_assoc, ← Int.emod_emod_of_dvd a (Int.dvd_mul_left e m),
    Int.ediv_mul_add_emod, Int.ediv_mul_add_emod]

theorem tsSplit_eq (us : Int) : tsSplit us = (us * 1000 / 1000000000, us * 1000 % 1000000000) :=
  scale_floor us 1000000 (by decide)

theorem durSplit_eq (us : Int) : durSplit us = ((us * 1000).tdiv 1000000000, (us * 1000).tmod 1000000000) := by
  refine Eq.trans ?_ (scale_trunc us 1000000 (by decide))
  -- `Int.tdiv` / `Int.tmod` are defined by the case split on the sign that `durSplit` spells out with `natAbs`
  cases us with
  | ofNat m => unfold durSplit; exact (if_neg (Int.not_lt.2 (Int.natCast_nonneg m))).trans rfl
  | negSucc m => unfold durSplit; exact (if_pos (Int.negSucc_lt_zero m)).trans rfl

theorem roundHalfEven1000_mul (r : Int) : roundHalfEven1000 (r * 1000) = r := by
  unfold roundHalfEven1000
  simp only [Int.mul_emod_left, Int.mul_ediv_cancel r (by decide : (1000 : Int) ≠ 0)]
  rfl

theorem durFromJson_of_natAbs {us : Int} {s nd d : Nat} (h : s * 1000000 + d * 1000000 / 10 ^ nd = us.natAbs) :
    durFromJson (decide (us < 0)) s nd d = us := by
  unfold durFromJson
  simp only [h, decide_eq_true_eq]
  split
  next hn => rw [Int.ofNat_natAbs_of_nonpos (Int.le_of_lt hn), Int.neg_neg]
  next hn => exact Int.natAbs_of_nonneg (Int.not_lt.1 hn)

end Bp.TimeArith
