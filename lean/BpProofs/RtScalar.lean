import BpModel.All
import BpProofs.Varint
import BpProofs.Props.C16
import BpProofs.Fields
import BpProofs.Load
import BpProofs.Emits
/-
  Round trip of ONE record of a scalar field (everything but message / map):
  `serializeScalar` followed by `loadField` + `decodeValue` gives the value back and
  consumes exactly the record's own bytes.  Building block of the message-level
  round-trip theorem C01.  What depends on the kind of scalar is in `payload_spec`; the rest is
  framing by wire class.
-/
namespace Bp
open Gen

theorem two64_eq : (2 : Nat) ^ 64 = 18446744073709551616 := by decide

theorem tag_roundtrip (num wt : Nat) (hn : numOk num = true) (hw : wt < 8) (rest : Bytes) :
    loadVarint (encNat (num * 8 + wt) ++ rest) = .ok (num * 8 + wt, (encNat (num * 8 + wt)).length)
    ∧ (num * 8 + wt) / 8 = num ∧ (num * 8 + wt) % 8 = wt ∧ ((num * 8 + wt) / 8 == 0) = false := by
  have hn' : 0 < num ∧ num < 536870912 := by simpa [numOk] using hn
  have e64 := two64_eq
  have hd : (num * 8 + wt) / 8 = num := by omega
  refine ⟨loadVarint_encNat _ _ (by omega), hd, by omega, ?_⟩
  rw [hd]
  exact beq_eq_false_iff_ne.mpr (by omega)

theorem loadField_tag (num wt : Nat) (hn : numOk num = true) (hw : wt < 8) (body : Bytes)
    (v : Nat) (p : Bytes) (c : Nat) (hp : loadPayload wt body = .ok (v, p, c)) :
    loadField (encNat (num * 8 + wt) ++ body)
      = .ok ({ num := num, wt := wt, vint := v, payload := p,
               raw := encNat (num * 8 + wt) ++ body.take c }, body.drop c) := by
  obtain ⟨h1, h2, h3, h4⟩ := tag_roundtrip num wt hn hw body
  have := loadField_of_tag _ body _ v c p h1 h4 (by rw [h3]; exact hp)
  rwa [h2, h3] at this

theorem loadField_varint (num n : Nat) (hn : numOk num = true) (hlt : n < 2 ^ 64) (rest : Bytes) :
    loadField ((encNat (num * 8) ++ encNat n) ++ rest)
      = .ok ({ num := num, wt := 0, vint := n, payload := [], raw := encNat (num * 8) ++ encNat n }, rest) := by
  have := loadField_tag num 0 hn (by omega) (encNat n ++ rest) n [] _
    (by rw [show (0 : Nat) = wireVarint from rfl, loadPayload_varint_eq, loadVarint_encNat n rest hlt])
  rw [List.take_left, List.drop_left, Nat.add_zero] at this
  rw [List.append_assoc, this]

/-- fixed64 and fixed32 records differ in the width only -/
theorem loadField_fixed {wt w : Nat} (hw : wt = wireFixed64 ∧ w = 8 ∨ wt = wireFixed32 ∧ w = 4)
    (num : Nat) (p : Bytes) (hn : numOk num = true) (hp : p.length = w) (rest : Bytes) :
    loadField ((encNat (num * 8 + wt) ++ p) ++ rest)
      = .ok ({ num := num, wt := wt, vint := 0, payload := p, raw := encNat (num * 8 + wt) ++ p }, rest) := by
  have := loadField_tag num wt hn (by rcases hw with ⟨rfl, _⟩ | ⟨rfl, _⟩ <;> decide) (p ++ rest) 0 p w
    (by rw [loadPayload_fixed_eq hw, if_neg (by rw [List.length_append]; omega), List.take_left' hp])
  rw [List.take_left' hp, List.drop_left' hp] at this
  rw [List.append_assoc, this]

theorem loadField_len (num : Nat) (p : Bytes) (hn : numOk num = true) (hp : p.length < 2 ^ 64) (rest : Bytes) :
    loadField ((encNat (num * 8 + 2) ++ encNat p.length ++ p) ++ rest)
      = .ok ({ num := num, wt := 2, vint := 0, payload := p,
               raw := encNat (num * 8 + 2) ++ encNat p.length ++ p }, rest) := by
  have := loadField_tag num 2 hn (by omega) (encNat p.length ++ (p ++ rest)) 0 p _
    (by rw [show (2 : Nat) = wireLenDelim from rfl, loadPayload_lenDelim_eq, loadVarint_encNat _ _ hp]
        simp only []
        rw [List.drop_left, if_neg (by rw [List.length_append]; omega), List.take_left])
  rw [List.take_length_add_append, List.drop_length_add_append, List.take_left, List.drop_left] at this
  rw [List.append_assoc, List.append_assoc, List.append_assoc, this]

abbrev VarintT (t : PType) : Prop := WireRow t wireVarint
abbrev Fixed32T (t : PType) : Prop := WireRow t wireFixed32
abbrev Fixed64T (t : PType) : Prop := WireRow t wireFixed64
abbrev LenT (t : PType) : Prop := WireRow t wireLenDelim ∧ (t == .map) = false

theorem WireRow.of {t : PType} {w : Nat} (h : Bp.wireOf t = some w) : WireRow t w := by
  obtain ⟨w', r, _⟩ := wire_row t
  obtain rfl : w' = w := Option.some.inj (r.wireOf.symm.trans h)
  exact r

theorem frame_len (num : Nat) (t : PType) (pre : Bytes) (se w : Bool) (h : LenT t) :
    frame num t pre se w
      = if (pre.length != 0 || se || w) = true
        then .ok (encNat (num * 8 + 2) ++ encNat pre.length ++ pre) else .ok [] := by
  rw [frame_of h.1.wireOf]
  cases pre <;> cases se <;> cases w <;> simp [framed, rawRec, wireLenDelim]

/-- what the preprocessed payload of a well-typed scalar looks like, by wire class, and
    what the matching `_postprocess_single` makes of it -/
def PayloadSpec (t : PType) (v : Val) (pre : Bytes) : Prop :=
  (VarintT t ∧ ∃ n, pre = encNat n ∧ n < 2 ^ 64 ∧ postVarint t n = v)
  ∨ (Fixed32T t ∧ pre.length = 4 ∧ postFixed t pre = .ok v)
  ∨ (Fixed64T t ∧ pre.length = 8 ∧ postFixed t pre = .ok v)
  ∨ (LenT t ∧ ((t = .string ∧ v = .str pre ∧ utf8Valid pre = true) ∨ (t = .bytes ∧ v = .byt pre)))

/-- an integer `w` of a range `[lo, hi)` that `dump_varint` accepts is written as the varint of
    its 64-bit pattern; `hpost` says what the reader of type `t` makes of that pattern -/
theorem spec_varint (t : PType) (v : Val) (w lo hi : Int) (hV : VarintT t) (hr : lo ≤ w ∧ w < hi)
    (hlo : -two63 ≤ lo) (hhi : hi ≤ two64) (hpost : postVarint t (asU64 w) = v) :
    ∃ pre, dumpVarint w = .ok pre ∧ PayloadSpec t v pre :=
  have h1 := Int.le_trans hlo hr.1
  ⟨_, C16.dumpVarint_eq w h1, Or.inl ⟨hV, _, rfl, asU64_lt w h1 (Int.lt_of_lt_of_le hr.2 hhi), hpost⟩⟩

/-- zig-zag kinds: what is written is `zig i` -/
theorem spec_sint (t : PType) (i lo hi : Int) (hV : VarintT t) (hr : lo ≤ i ∧ i < hi)
    (hlo : -two63 ≤ lo) (hhi : hi ≤ two63) (hpost : ∀ n, postVarint t n = .int (unzig n)) :
    ∃ pre, dumpVarint (zig i) = .ok pre ∧ PayloadSpec t (.int i) pre := by
  have hz := C16.zig_range64 i (Int.le_trans hlo hr.1) (Int.lt_of_lt_of_le hr.2 hhi)
  exact spec_varint t _ (zig i) _ _ hV hz (by decide) (Int.le_refl _)
    (by rw [hpost, asU64_nonneg _ hz.1, unzig_zig])

theorem scalarOk_str (t : PType) (s : Bytes) (h : scalarOk t (.str s) = true) :
    t = .string ∧ utf8Valid s = true := by
  simp [scalarOk] at h
  exact ⟨h.1.1, h.1.2⟩

theorem scalarOk_byt (t : PType) (s : Bytes) (h : scalarOk t (.byt s) = true) : t = .bytes := by
  simp [scalarOk] at h
  exact h.1

theorem and_decide {p q : Prop} [Decidable p] [Decidable q] (h : (decide p && decide q) = true) : p ∧ q := by
  simpa using h

/-- **the payload of every well-typed scalar**: `_preprocess_single` succeeds, and the
    payload is what the decoder of the type's wire class turns back into the value -/
theorem payload_spec (t : PType) (v : Val) (hty : isScalarType t = true) (hv : scalarOk t v = true) :
    ∃ pre, prepPlain t v = .ok pre ∧ PayloadSpec t v pre := by
  cases v with
  | int i =>
    -- `scalarOk t (.int i)` is the range check of `t`, a conjunction of two `decide`s
    cases t
    case enum =>
      have hv := and_decide hv
      exact spec_varint .enum _ i _ _ (.of rfl) hv (by decide) (by decide)
        (congrArg Val.int (signRecover_asU64 32 (by decide) (by decide) i hv.1 hv.2))
    case int32 =>
      have hv := and_decide hv
      exact spec_varint .int32 _ i _ _ (.of rfl) hv (by decide) (by decide)
        (congrArg Val.int (signRecover_asU64 32 (by decide) (by decide) i hv.1 hv.2))
    case int64 =>
      have hv := and_decide hv
      exact spec_varint .int64 _ i _ _ (.of rfl) hv (by decide) (by decide)
        (congrArg Val.int (signRecover_asU64 64 (by decide) (by decide) i hv.1 hv.2))
    case uint32 =>
      have hv := and_decide hv
      exact spec_varint .uint32 _ i _ _ (.of rfl) hv (by decide) (by decide)
        (congrArg Val.int (by rw [asU64_nonneg i hv.1, Int.toNat_of_nonneg hv.1]))
    case uint64 =>
      have hv := and_decide hv
      exact spec_varint .uint64 _ i _ _ (.of rfl) hv (by decide) (by decide)
        (congrArg Val.int (by rw [asU64_nonneg i hv.1, Int.toNat_of_nonneg hv.1]))
    case sint32 => exact spec_sint .sint32 i _ _ (.of rfl) (and_decide hv) (by decide) (by decide) fun _ => rfl
    case sint64 => exact spec_sint .sint64 i _ _ (.of rfl) (and_decide hv) (by decide) (by decide) fun _ => rfl
    case fixed32 =>
      obtain ⟨pre, h1, h2, h3⟩ := C16.packFixed_postFixed_int .fixed32 4 false (by decide) (by decide) i (and_decide hv)
      exact ⟨pre, h1, Or.inr (Or.inl ⟨.of rfl, h2, h3⟩)⟩
    case sfixed32 =>
      obtain ⟨pre, h1, h2, h3⟩ := C16.packFixed_postFixed_int .sfixed32 4 true (by decide) (by decide) i (and_decide hv)
      exact ⟨pre, h1, Or.inr (Or.inl ⟨.of rfl, h2, h3⟩)⟩
    case fixed64 =>
      obtain ⟨pre, h1, h2, h3⟩ := C16.packFixed_postFixed_int .fixed64 8 false (by decide) (by decide) i (and_decide hv)
      exact ⟨pre, h1, Or.inr (Or.inr (Or.inl ⟨.of rfl, h2, h3⟩))⟩
    case sfixed64 =>
      obtain ⟨pre, h1, h2, h3⟩ := C16.packFixed_postFixed_int .sfixed64 8 true (by decide) (by decide) i (and_decide hv)
      exact ⟨pre, h1, Or.inr (Or.inr (Or.inl ⟨.of rfl, h2, h3⟩))⟩
    all_goals cases hv
  | bool b =>
    have ht : t = .bool := by simpa [scalarOk] using hv
    subst ht
    cases b
    · exact ⟨[0], rfl, Or.inl ⟨.of rfl, 0, rfl, by omega, rfl⟩⟩
    · exact ⟨[1], rfl, Or.inl ⟨.of rfl, 1, rfl, by omega, rfl⟩⟩
  | f32 b =>
    simp [scalarOk] at hv
    obtain ⟨⟨ht, hb⟩, hq⟩ := hv
    subst ht
    obtain ⟨bs, h1, h2, h3⟩ := C16.float_roundtrip b (by rw [show (2:Nat) ^ 32 = 4294967296 from rfl]; exact hb) hq
    exact ⟨bs, h1, Or.inr (Or.inl ⟨.of rfl, h2, h3⟩)⟩
  | f64 b =>
    simp [scalarOk] at hv
    obtain ⟨ht, hb⟩ := hv
    subst ht
    obtain ⟨bs, h1, h2, h3⟩ := C16.double_roundtrip b (by rw [two64_eq]; exact hb)
    exact ⟨bs, h1, Or.inr (Or.inr (Or.inl ⟨.of rfl, h2, h3⟩))⟩
  | str s =>
    obtain ⟨ht, hu⟩ := scalarOk_str t s hv
    subst ht
    exact ⟨s, rfl, Or.inr (Or.inr (Or.inr ⟨⟨.of rfl, rfl⟩, Or.inl ⟨rfl, rfl, hu⟩⟩))⟩
  | byt s =>
    have ht := scalarOk_byt t s hv
    subst ht
    exact ⟨s, rfl, Or.inr (Or.inr (Or.inr ⟨⟨.of rfl, rfl⟩, Or.inr ⟨rfl, rfl⟩⟩))⟩
  | _ => simp [scalarOk] at hv

theorem wireFits_of (f : FieldD) (w : Nat)
    (h : wireTypeByProtoType.find? (·.1 == f.ty) = some (f.ty, w)) : wireFits f w = true := by
  unfold wireFits
  rw [h]
  simp

theorem decodeValue_len (S : Schema) (rec : Loader) (f : FieldD) (pf : PField) (h : pf.wt = 2)
    (hp : isPacked f.ty = false) (hm : (f.ty == .map) = false) :
    decodeValue S rec f pf = postLen S rec f pf.payload := by
  rw [decodeValue_eq_len S rec f pf h hp, hm, if_neg Bool.false_ne_true]

/-- the bytes `a` are ONE record of the field `f`, whatever follows them, and the field decoder makes `y` of it -/
def RecordOf (S : Schema) (rec : Loader) (f : FieldD) (a : Bytes) (y : Val) : Prop :=
  ∃ pf, (∀ rest, loadField (a ++ rest) = .ok (pf, rest)) ∧ pf.num = f.num ∧ pf.raw = a
    ∧ wireFits f pf.wt = true ∧ decodeValue S rec f pf = .ok y

theorem isScalar_ne (t : PType) (h : isScalarType t = true) : (t == .message) = false := by
  cases t with
  | message | map => exact absurd h (by decide)
  | _ => rfl

theorem serializeScalar_plain (S : Schema) (num : Nat) (t : PType) (v : Val) (se : Bool)
    (hty : isScalarType t = true) :
    serializeScalar S num t v se Option.none = (prepPlain t v).bind fun pre => frame num t pre se false := by
  unfold serializeScalar prepScalar
  rw [if_neg (by rw [isScalar_ne t hty]; decide)]
  rfl

/-- the record `serializeScalar` writes for the well-typed scalar `v` of type `t` under number `num` -/
inductive ScalarRec (num : Nat) (t : PType) (v : Val) : PField → Prop
  | varint (n : Nat) (hT : VarintT t) (hn : n < 2 ^ 64) (hpost : postVarint t n = v) :
      ScalarRec num t v { num := num, wt := 0, vint := n, payload := [], raw := encNat (num * 8) ++ encNat n }
  | fixed32 (p : Bytes) (hT : Fixed32T t) (hl : p.length = 4) (hpost : postFixed t p = .ok v) :
      ScalarRec num t v { num := num, wt := 5, vint := 0, payload := p, raw := encNat (num * 8 + 5) ++ p }
  | fixed64 (p : Bytes) (hT : Fixed64T t) (hl : p.length = 8) (hpost : postFixed t p = .ok v) :
      ScalarRec num t v { num := num, wt := 1, vint := 0, payload := p, raw := encNat (num * 8 + 1) ++ p }
  | len (p : Bytes) (hT : LenT t)
      (hv : (t = .string ∧ v = .str p ∧ utf8Valid p = true) ∨ (t = .bytes ∧ v = .byt p)) :
      ScalarRec num t v
        { num := num, wt := 2, vint := 0, payload := p, raw := encNat (num * 8 + 2) ++ encNat p.length ++ p }

/-- **what `serializeScalar` returns**: the raw bytes of that record, or nothing for an empty
    string / bytes value without `serialize_empty` -/
theorem serializeScalar_rec (S : Schema) (num : Nat) (t : PType) (v : Val) (se : Bool)
    (hty : isScalarType t = true) (hv : scalarOk t v = true) :
    ∃ pf, ScalarRec num t v pf ∧ serializeScalar S num t v se Option.none
      = .ok (if pf.wt = 2 ∧ pf.payload = [] ∧ se = false then [] else pf.raw) := by
  obtain ⟨pre, hpre, spec⟩ := payload_spec t v hty hv
  rw [serializeScalar_plain S num t v se hty, hpre, bind_ok]
  rcases spec with ⟨hT, n, rfl, hn, hpost⟩ | ⟨hT, hl, hpost⟩ | ⟨hT, hl, hpost⟩ | ⟨hT, hsb⟩
  · exact ⟨_, .varint n hT hn hpost, by rw [frame_of hT.wireOf, if_neg (by simp)]; rfl⟩
  · exact ⟨_, .fixed32 pre hT hl hpost, by rw [frame_of hT.wireOf, if_neg (by simp)]; rfl⟩
  · exact ⟨_, .fixed64 pre hT hl hpost, by rw [frame_of hT.wireOf, if_neg (by simp)]; rfl⟩
  · refine ⟨_, .len pre hT hsb, ?_⟩
    rw [frame_len _ _ _ _ _ hT, Bool.or_false]
    cases pre <;> cases se <;> simp

theorem ScalarRec.num_eq {num : Nat} {t : PType} {v : Val} {pf : PField} (h : ScalarRec num t v pf) : pf.num = num := by
  cases h <;> rfl

theorem ScalarRec.load {num : Nat} {t : PType} {v : Val} {pf : PField} (h : ScalarRec num t v pf)
    (hnum : numOk num = true) (hlen : pf.raw.length < 2 ^ 64) (rest : Bytes) :
    loadField (pf.raw ++ rest) = .ok (pf, rest) := by
  cases h with
  | varint n _ hn _ => exact loadField_varint num n hnum hn rest
  | fixed32 p _ hl _ => exact loadField_fixed (Or.inr ⟨rfl, rfl⟩) num p hnum hl rest
  | fixed64 p _ hl _ => exact loadField_fixed (Or.inl ⟨rfl, rfl⟩) num p hnum hl rest
  | len p _ _ =>
    exact loadField_len num p hnum (by simp only [List.length_append] at hlen; omega) rest

theorem ScalarRec.fits {f : FieldD} {v : Val} {pf : PField} (h : ScalarRec f.num f.ty v pf) : wireFits f pf.wt = true := by
  cases h with
  | varint n hT => exact wireFits_of f 0 hT.find
  | fixed32 p hT => exact wireFits_of f 5 hT.find
  | fixed64 p hT => exact wireFits_of f 1 hT.find
  | len p hT => exact wireFits_of f 2 hT.1.find

theorem ScalarRec.decode {f : FieldD} {v : Val} {pf : PField} (h : ScalarRec f.num f.ty v pf) (S : Schema) (rec : Loader) :
    decodeValue S rec f pf = .ok v := by
  cases h with
  | varint n hT _ hpost => rw [decodeValue_eq_varint S rec f _ rfl, ← hpost]
  | fixed32 p hT _ hpost => rw [decodeValue_eq_fixed S rec f _ (Or.inl rfl)]; exact hpost
  | fixed64 p hT _ hpost => rw [decodeValue_eq_fixed S rec f _ (Or.inr rfl)]; exact hpost
  | len p hT hsb =>
    rw [decodeValue_len S rec f _ rfl hT.1.packed hT.2]
    rcases hsb with ⟨ht, e, hu⟩ | ⟨ht, e⟩
    · rw [e, postLen_eq_string S rec f p ht, if_pos hu]
    · rw [e]; exact postLen_eq_bytes S rec f p (by rw [ht]; decide) (by rw [ht]; decide)

theorem serializeScalar_ok (S : Schema) (num : Nat) (t : PType) (v : Val) (se : Bool)
    (hty : isScalarType t = true) (hv : scalarOk t v = true) :
    ∃ out, serializeScalar S num t v se Option.none = .ok out :=
  let ⟨_, _, h⟩ := serializeScalar_rec S num t v se hty hv
  ⟨_, h⟩

theorem serializeScalar_empty_iff (S : Schema) (num : Nat) (t : PType) (v : Val) (se : Bool) (out : Bytes)
    (hty : isScalarType t = true) (hv : scalarOk t v = true)
    (h : serializeScalar S num t v se Option.none = .ok out) :
    out = [] ↔ (se = false ∧ (v = .str [] ∨ v = .byt [])) := by
  constructor
  · rintro rfl
    obtain ⟨hs, _, ⟨_, e⟩ | ⟨_, e⟩ | ⟨e, _⟩⟩ := serializeScalar_nil S num t v se _ h
    · exact ⟨hs, .inl e⟩
    · exact ⟨hs, .inr e⟩
    · rw [e] at hty; cases hty
  · -- the value fixes the type, and the record of the empty string / bytes evaluates
    rintro ⟨rfl, rfl | rfl⟩
    · obtain ⟨rfl, _⟩ := scalarOk_str t _ hv; cases h; rfl
    · obtain rfl := scalarOk_byt t _ hv; cases h; rfl

/-- **one record of a scalar field decodes to the value it was made from**, consuming
    exactly its own bytes, whatever follows -/
theorem scalar_record_roundtrip (S : Schema) (rec : Loader) (f : FieldD) (v : Val) (se : Bool)
    (out : Bytes) (hnum : numOk f.num = true) (hty : isScalarType f.ty = true)
    (hv : scalarOk f.ty v = true) (hlen : out.length < 2 ^ 64)
    (h : serializeScalar S f.num f.ty v se Option.none = .ok out) (hne : out ≠ []) :
    RecordOf S rec f out v := by
  obtain ⟨pf, hr, hs⟩ := serializeScalar_rec S f.num f.ty v se hty hv
  rw [hs] at h; cases h
  by_cases hc : pf.wt = 2 ∧ pf.payload = [] ∧ se = false
  · exact absurd (if_pos hc) hne
  · rw [if_neg hc] at hlen ⊢
    exact ⟨pf, hr.load hnum hlen, hr.num_eq, rfl, hr.fits, hr.decode S rec⟩

theorem entryD_key (f : FieldD) : (entryD f).fields[0]! = { name := "key", num := 1, ty := f.mapK } := rfl
theorem entryD_value (f : FieldD) :
    (entryD f).fields[1]! = { name := "value", num := 2, ty := f.mapV, kind := f.mapVKind, enumRef := f.enumRef } := rfl
theorem wrapperD_value (w : PType) : (wrapperD w).fields[0]! = { name := "value", num := 1, ty := w } := rfl

/-- map key (field #1 of the synthetic `Entry` class) -/
theorem entry_key_record_roundtrip (S : Schema) (rec : Loader) (f : FieldD) (v : Val) (se : Bool)
    (out rest : Bytes) (hty : isScalarType f.mapK = true) (hv : scalarOk f.mapK v = true)
    (hlen : out.length < 2 ^ 64)
    (h : serializeScalar S 1 f.mapK v se Option.none = .ok out) (hne : out ≠ []) :
    ∃ pf, loadField (out ++ rest) = .ok (pf, rest) ∧ pf.num = 1 ∧ pf.raw = out
      ∧ wireFits (entryD f).fields[0]! pf.wt = true
      ∧ decodeValue S rec (entryD f).fields[0]! pf = .ok v :=
  let ⟨pf, hl, hrest⟩ := scalar_record_roundtrip S rec (entryD f).fields[0]! v se out rfl hty hv hlen h hne
  ⟨pf, hl rest, hrest⟩

/-- scalar map value (field #2 of the synthetic `Entry` class) -/
theorem entry_value_record_roundtrip (S : Schema) (rec : Loader) (f : FieldD) (v : Val) (se : Bool)
    (out rest : Bytes) (hty : isScalarType f.mapV = true) (hv : scalarOk f.mapV v = true)
    (hlen : out.length < 2 ^ 64)
    (h : serializeScalar S 2 f.mapV v se Option.none = .ok out) (hne : out ≠ []) :
    ∃ pf, loadField (out ++ rest) = .ok (pf, rest) ∧ pf.num = 2 ∧ pf.raw = out
      ∧ wireFits (entryD f).fields[1]! pf.wt = true
      ∧ decodeValue S rec (entryD f).fields[1]! pf = .ok v :=
  let ⟨pf, hl, hrest⟩ := scalar_record_roundtrip S rec (entryD f).fields[1]! v se out rfl hty hv hlen h hne
  ⟨pf, hl rest, hrest⟩

/-! non-vacuity: concrete instances meeting the hypotheses -/
example : scalarOk .int32 (.int 150) = true ∧ isScalarType .int32 = true ∧ numOk 1 = true := by decide +kernel
example : serializeScalar [] 1 .int32 (.int 150) false Option.none = .ok [8, 150, 1] := by decide +kernel
example : serializeScalar [] 1 .sint64 (.int (-1)) false Option.none = .ok [8, 1] := by decide +kernel
example : serializeScalar [] 3 .fixed32 (.int 1) false Option.none = .ok [29, 1, 0, 0, 0] := by decide +kernel
example : serializeScalar [] 2 .string (.str [104, 105]) false Option.none = .ok [18, 2, 104, 105] := by decide +kernel
example : serializeScalar [] 2 .string (.str []) false Option.none = .ok [] := by decide +kernel
example : serializeScalar [] 2 .bytes (.byt []) true Option.none = .ok [18, 0] := by decide +kernel
example : loadField [8, 150, 1, 7] = .ok ({ num := 1, wt := 0, vint := 150, payload := [], raw := [8, 150, 1] }, [7]) := by
  decide +kernel

end Bp

#print axioms Bp.tag_roundtrip
#print axioms Bp.serializeScalar_ok
#print axioms Bp.scalar_record_roundtrip
#print axioms Bp.serializeScalar_empty_iff
#print axioms Bp.entry_key_record_roundtrip
#print axioms Bp.entry_value_record_roundtrip
