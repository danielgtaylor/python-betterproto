import BpProofs.JsonGuard
import BpProofs.Emits
/-
  C04: a typed value that differs from its field's default encodes to at least one byte.

  This is what makes an UNMARKED sub-message with non-default content (`m.a.b.x = 1`: `m.a` is not
  `_serialized_on_wire`) encode to the same bytes before and after `from_dict(to_dict(m))`: `dump`
  emits it with `serialize_empty = _serialized_on_wire = False`, the rebuilt one with
  `serialize_empty = True`, and the two agree exactly when the body is not empty
  (`dumpSlots_nonempty`).  The induction goes through unmarked sub-sub-messages.
-/
namespace Bp
open Gen

theorem leaf_dump_ne_nil (S : Schema) (f : FieldD) (v : Val) (se : Bool) (a : Bytes)
    (hl : leafOk f v = true) (hr : f.repeated = false)
    (hd : eqDefault S f.defKind v = false) (hse : f.optional = true → se = true)
    (h : serializeScalar S f.num f.ty v se f.wraps = .ok a) : a ≠ [] := by
  rintro rfl
  obtain ⟨hse0, hw, hc⟩ := serializeScalar_nil S _ _ _ _ _ h
  have ho : f.optional = false := Bool.eq_false_iff.2 fun ho => by rw [hse ho] at hse0; cases hse0
  -- the field is singular, not optional, no wrapper: its default is that of its type, which the value is
  unfold leafOk at hl
  unfold FieldD.defKind at hd
  simp only [hr, ho, hw, Option.isSome_none, Bool.or_self, Bool.false_eq_true, if_false] at hd hl
  rcases hc with ⟨ht, rfl⟩ | ⟨ht | ht, rfl⟩ | ⟨ht, rfl | rfl⟩ <;> rw [ht] at hd hl
  · simp [scalarDef, eqDefault] at hd
  · simp [scalarDef, eqDefault] at hd
  · simp at hl
  · cases hk : f.kind <;> rw [hk] at hl hd <;> simp [msgKindDef, eqDefault] at hl hd
  · cases hk : f.kind <;> rw [hk] at hl hd <;> simp [msgKindDef, eqDefault] at hl hd

theorem dumpSlot_leaf (S : Schema) (f : FieldD) (sel : Bool) (v : Val) (hl : isPlainVal v = true) :
    ∃ se, (f.optional = true → se = true) ∧ dumpSlot S f false sel v =
      if (eqDefault S f.defKind v && !((f.group.isSome || f.optional) || sel)) = true then .ok []
      else serializeScalar S f.num f.ty v se f.wraps := by
  -- `se` is the `serialize_empty` argument as `dumpSlot_plain` gives it
  refine ⟨(match v with | .str [] => sel | _ => false) || (f.group.isSome || f.optional), fun ho => ?_,
    by rw [dumpSlot_plain S f false sel v hl]; rfl⟩
  rw [ho, Bool.or_true, Bool.or_true]

theorem leaf_nonempty (S : Schema) (f : FieldD) (hid sel : Bool) (v : Val) (hl : isPlainVal v = true)
    (h : slotOk' S f hid sel v = true) (he : eqDefault S f.defKind v = false) (a : Bytes)
    (ha : dumpSlot S f hid sel v = .ok a) : a ≠ [] := by
  rw [slotOk_leaf S f hid sel v (by cases v <;> first | rfl | cases hl) (by rintro rfl; cases hl)] at h
  simp only [Bool.and_eq_true, Bool.not_eq_true'] at h
  obtain ⟨⟨hh, hr⟩, hok⟩ := h
  subst hh
  obtain ⟨se, hse, hds⟩ := dumpSlot_leaf S f sel v hl
  rw [hds, he] at ha
  simp only [Bool.false_and, Bool.false_eq_true, if_false] at ha
  exact leaf_dump_ne_nil S f v se a hok hr he hse ha

theorem eqDefault_none_of_slotOk (S : Schema) (f : FieldD) (hid sel : Bool) (h : slotOk' S f hid sel .none = true) :
    eqDefault S f.defKind .none = true := by
  rw [slotOk'] at h
  simp only [Bool.and_eq_true, Bool.not_eq_true', bne_iff_ne, ne_eq] at h
  obtain ⟨⟨⟨_, ho⟩, hr⟩, hmap⟩ := h
  have hmap' : (f.ty == PType.map) = false := by simpa using hmap
  unfold FieldD.defKind
  simp only [hr, hmap', ho, Bool.false_eq_true, if_false, if_true]
  rfl

/-- a non-empty list is written: a packed record with a non-empty payload, or one record per item, an item that
    serialises to nothing as `0a 00` -/
theorem dumpSlot_list_ne_nil (S : Schema) (f : FieldD) (sel : Bool) (x : Val) (xs : List Val) (a : Bytes)
    (ha : dumpSlot S f false sel (.list (x :: xs)) = .ok a) : a ≠ [] := by
  rw [dumpSlot] at ha
  simp only [Bool.false_eq_true, if_false, eqDefault, List.isEmpty_cons, Bool.and_false, Bool.false_and] at ha
  split at ha
  · rename_i hpk
    obtain ⟨buf, hbuf, ha⟩ := bind_inv ha
    refine frame_ne_nil ha fun _ => .inl ?_
    rw [prepPacked] at hbuf
    obtain ⟨p, hp, hbuf⟩ := bind_inv hbuf
    obtain ⟨q, _, hbuf⟩ := bind_inv hbuf
    injection hbuf with hbuf; rw [← hbuf]
    apply List.append_ne_nil_of_left_ne_nil
    rw [prepScalar_packed S f.ty hpk] at hp
    exact prepPlain_packed_ne_nil _ _ _ hpk hp
  · rw [dumpItems_cons'] at ha
    obtain ⟨p, _, ha⟩ := bind_inv ha
    obtain ⟨q, _, ha⟩ := bind_inv ha
    injection ha with ha; rw [← ha]
    apply List.append_ne_nil_of_left_ne_nil
    cases p <;> exact List.cons_ne_nil _ _

theorem list_nonempty (S : Schema) (f : FieldD) (hid sel : Bool) (xs : List Val)
    (h : slotOk' S f hid sel (.list xs) = true) (he : eqDefault S f.defKind (.list xs) = false) (a : Bytes)
    (ha : dumpSlot S f hid sel (.list xs) = .ok a) : a ≠ [] := by
  rw [slotOk'] at h
  simp only [Bool.and_eq_true, Bool.not_eq_true'] at h
  obtain ⟨⟨⟨hh, hr⟩, _⟩, _⟩ := h
  subst hh
  have hdk := defKind_rep f hr
  rw [hdk, eqDefault] at he
  cases xs with
  | nil => simp at he
  | cons x xs => exact dumpSlot_list_ne_nil S f sel x xs a ha

/-- a dict with an entry is written: the record of an entry is never dropped -/
theorem dumpSlot_dict_ne_nil (S : Schema) (f : FieldD) (sel : Bool) (k v : Val) (ks vs : List Val) (a : Bytes)
    (ha : dumpSlot S f false sel (.dict (k :: ks) (v :: vs)) = .ok a) : a ≠ [] := by
  rw [dumpSlot] at ha
  simp only [Bool.false_eq_true, if_false, eqDefault, List.isEmpty_cons, Bool.and_false, Bool.false_and] at ha
  rw [dumpEntries_cons'] at ha
  obtain ⟨sk, _, ha⟩ := bind_inv ha
  obtain ⟨sv, _, ha⟩ := bind_inv ha
  obtain ⟨e, hfr, ha⟩ := bind_inv ha
  obtain ⟨rest, _, ha⟩ := bind_inv ha
  injection ha with ha; rw [← ha]
  exact List.append_ne_nil_of_left_ne_nil (frame_ne_nil hfr fun _ => .inr (.inl rfl)) _

theorem dict_nonempty (S : Schema) (f : FieldD) (hj : fieldJsonOk f = true) (hid sel : Bool) (ks vs : List Val)
    (h : slotOk' S f hid sel (.dict ks vs) = true) (he : eqDefault S f.defKind (.dict ks vs) = false) (a : Bytes)
    (ha : dumpSlot S f hid sel (.dict ks vs) = .ok a) : a ≠ [] := by
  rw [slotOk'] at h
  simp only [Bool.and_eq_true, Bool.not_eq_true', beq_iff_eq] at h
  obtain ⟨⟨⟨⟨hh, hty⟩, hlen⟩, _⟩, _⟩ := h
  subst hh
  have hm : (f.ty == PType.map) = true := by simp [hty]
  have hdk := defKind_map f ((fj_of f hj).map_rep hm) hm
  rw [hdk, eqDefault] at he
  cases ks with
  | nil => simp at he
  | cons k ks =>
    cases vs with
    | nil => simp at hlen
    | cons v vs => exact dumpSlot_dict_ne_nil S f sel k v ks vs a ha

theorem drop_cons_of_get {α : Type} (xs : List α) (k : Nat) (x : α) (h : xs[k]? = some x) :
    xs.drop k = x :: xs.drop (k + 1) := by
  have hk : k < xs.length := by
    by_contra hc
    rw [List.getElem?_eq_none (by omega)] at h; cases h
  rw [List.getElem?_eq_getElem hk] at h
  injection h with h
  rw [← h]
  exact List.drop_eq_getElem_cons hk

/-- a typed slot that differs from its default, a typed slot list not all of whose slots are default-valued, are
    written with at least one byte -/
theorem dump_nonempty (S : Schema) (hS : ∀ c, ∀ f ∈ fieldsOf S c, fieldJsonOk f = true) :
    (∀ v, ∀ (f : FieldD), fieldJsonOk f = true → ∀ (hid sel : Bool), slotOk' S f hid sel v = true →
      (match v with | .ph => true | v => eqDefault S f.defKind v) = false →
      ∀ a, dumpSlot S f hid sel v = .ok a → a ≠ []) ∧
    ∀ vs, ∀ (fs : List FieldD) (cur : List (Option Nat)), (∀ f ∈ fs, fieldJsonOk f = true) →
      ∀ (k : Nat), slotsOk' S fs cur k vs = true → slotsEqFresh S (fs.drop k) vs = false →
      ∀ body, dumpSlots S fs cur k vs = .ok body → body ≠ [] := by
  apply val_induction
  case atom =>
    intro v hv f _ hid sel h he a ha
    cases v with
    | list | dict | msg => cases hv
    | ph => cases he
    | none =>
      have : eqDefault S f.defKind .none = false := he
      rw [eqDefault_none_of_slotOk S f hid sel h] at this; cases this
    | _ => exact leaf_nonempty S f hid sel _ rfl h he a ha
  case list => exact fun xs _ f _ hid sel h he a ha => list_nonempty S f hid sel xs h he a ha
  case dict => exact fun ks vs _ _ f hj hid sel h he a ha => dict_nonempty S f hj hid sel ks vs h he a ha
  case msg =>
    intro c sl ow unk cur ih f _ hid sel h he a ha
    rw [slotOk'] at h
    simp only [Bool.and_eq_true, Bool.not_eq_true', beq_iff_eq, Option.isNone_iff_eq_none] at h
    obtain ⟨⟨⟨⟨⟨⟨⟨⟨hh, hty⟩, hw⟩, hr⟩, hk⟩, _⟩, _⟩, _⟩, hsl⟩ := h
    subst hh
    have he' : eqDefault S f.defKind (.msg c sl ow unk cur) = false := he
    rw [dumpSlot] at ha
    simp only [Bool.false_eq_true, if_false, he', Bool.false_and] at ha
    obtain ⟨body, hbody, ha⟩ := bind_inv ha
    simp only [hty, hw, beq_self_eq_true, Option.isNone_none, Bool.and_self, if_true] at ha
    apply frame_ne_nil ha
    intro _
    by_cases hp : (ow || (f.group.isSome || f.optional)) = true
    · right; left; exact hp
    · left
      apply List.append_ne_nil_of_left_ne_nil
      have ho : f.optional = false := by
        cases ho : f.optional with
        | false => rfl
        | true => rw [ho] at hp; simp at hp
      have hdk : f.defKind = .msg c := by
        unfold FieldD.defKind
        simp [hr, hty, ho, hw, hk, msgKindDef]
      rw [hdk, eqDefault] at he'
      simp only [beq_self_eq_true, Bool.true_and] at he'
      exact ih (fieldsOf S c) cur (hS c) 0 hsl (by simpa using he') body hbody
  case nil =>
    intro fs _ _ k _ he
    cases hd : fs.drop k <;> rw [hd] at he <;> simp [slotsEqFresh] at he
  case cons =>
    intro v vs ihv ihvs fs cur hfs k h he body hb
    rw [slotsOk'] at h
    simp only [Bool.and_eq_true] at h
    cases hf : fs[k]? with
    | none => have := h.1; rw [hf] at this; cases this
    | some f =>
      have h1 := h.1
      rw [hf] at h1
      simp only at h1
      rw [drop_cons_of_get fs k f hf] at he
      unfold slotsEqFresh at he
      obtain ⟨a, b, ha, hb', rfl⟩ := dumpSlots_cons_inv hf hb
      by_cases htail : slotsEqFresh S (fs.drop (k + 1)) vs = false
      · exact List.append_ne_nil_of_right_ne_nil _ (ihvs fs cur hfs (k + 1) h.2 htail b hb')
      · have htail' : slotsEqFresh S (fs.drop (k + 1)) vs = true := by simpa using htail
        rw [htail', Bool.and_true] at he
        exact List.append_ne_nil_of_left_ne_nil (ihv f (hfs f (List.mem_of_getElem? hf)) _ _ h1 he a ha) _

/-- **typed slots that are not all default-valued encode to at least one byte** -/
theorem dumpSlots_nonempty (S : Schema) (hS : ∀ c, ∀ f ∈ fieldsOf S c, fieldJsonOk f = true) (fs : List FieldD)
    (cur : List (Option Nat)) (hfs : ∀ f ∈ fs, fieldJsonOk f = true) :
    ∀ (vs : List Val) (k : Nat), slotsOk' S fs cur k vs = true → slotsEqFresh S (fs.drop k) vs = false →
      ∀ body, dumpSlots S fs cur k vs = .ok body → body ≠ [] :=
  fun vs => (dump_nonempty S hS).2 vs fs cur hfs

theorem dumpSlot_nonempty (S : Schema) (hS : ∀ c, ∀ f ∈ fieldsOf S c, fieldJsonOk f = true) (f : FieldD)
    (hj : fieldJsonOk f = true) (hid sel : Bool) :
    ∀ (v : Val), slotOk' S f hid sel v = true →
      (match v with | .ph => true | v => eqDefault S f.defKind v) = false →
      ∀ a, dumpSlot S f hid sel v = .ok a → a ≠ [] :=
  fun v => (dump_nonempty S hS).1 v f hj hid sel

end Bp

#print axioms Bp.dumpSlots_nonempty
