import BpModel.All
import BpModel.Spec
import BpProofs.RtMain
import BpProofs.SpecLinkNarrow
import BpProofs.OkView
/-
  C02: the encoder's output satisfies the input guard `narrow32U` of `load_complete`.

      MsgOk S m → dumpVal S m = .ok bs → bs.length < 2^64 → narrow32U S n d bs = true   (every n)

  Every `uint32` / `sint32` value of an `MsgOk` message is in range (`scalarOk`) and the encoder
  writes the minimal varint of exactly that value (zig-zag image for `sint32`), at every nesting
  level: singular, repeated (packed), map key, map value, wrapper payload.  The unknown fields a
  message carries (`UnkOk`) are records the class does not know, which `narrow32U` skips.

  The proof walks the encoder's output record by record (`Recs`).  What it shows of a record depends on the FIELD that
  wrote it, not on the class the field stands in nor on the depth to which the guard looks: `FieldRec` (the field's
  number, a wire type that fits, narrow varints below 2^32, a nested payload accepted at every depth).  The class
  comes in where a payload or a message is closed (`SlotRecs.nar`), the depth in `narrow32U_of_recs` alone.  The walk is on the two
  dimensions of a slot (`BpProofs/OkView.lean`): one lemma by kind of item (`recs_rec`, over `ItemField` as the round
  trip's `itemRt_of_ok`: one item is one record, a scalar record `ScalarRec` or a framed payload `recs_framed`), one
  induction each for the items of a list and the entries of a dict, one lemma by shape of slot (`recs_shape`), and
  `MsgOk.walk`.

  For the stricter guard `narrow32` the statement is FALSE (above `narrowFieldU` in `BpProofs/SpecLinkSim.lean`).
-/
namespace Bp.Link
open Bp Gen

/-- `b` is the concatenation of well-framed records, each with property `P` -/
def Recs (P : PField → Prop) (b : Bytes) : Prop :=
  ∃ pfs : List PField, (∀ pf ∈ pfs, Parsed pf ∧ P pf) ∧ joinRaw pfs = b

theorem Recs.nil (P : PField → Prop) : Recs P [] := ⟨[], fun _ h => by simp at h, rfl⟩

theorem Recs.append {P : PField → Prop} {a b : Bytes} (ha : Recs P a) (hb : Recs P b) : Recs P (a ++ b) := by
  obtain ⟨pa, h1, h2⟩ := ha
  obtain ⟨pb, h3, h4⟩ := hb
  refine ⟨pa ++ pb, ?_, by rw [joinRaw_append, h2, h4]⟩
  intro pf hpf
  rcases List.mem_append.mp hpf with h | h
  · exact h1 pf h
  · exact h3 pf h

theorem Recs.single {P : PField → Prop} (pf : PField) (b : Bytes)
    (hl : loadField (b ++ []) = .ok (pf, [])) (hraw : pf.raw = b) (hP : P pf) : Recs P b := by
  refine ⟨[pf], ?_, by simp [joinRaw, hraw]⟩
  intro q hq
  simp at hq; subst hq
  exact ⟨⟨_, _, hl⟩, hP⟩

theorem Recs.mono {P Q : PField → Prop} {b : Bytes} (h : ∀ pf, P pf → Q pf) (hb : Recs P b) : Recs Q b := by
  obtain ⟨pfs, h1, h2⟩ := hb
  exact ⟨pfs, fun pf hpf => ⟨(h1 pf hpf).1, h pf (h1 pf hpf).2⟩, h2⟩

/-- `b` splits into records that the guard accepts for class `d`, to whatever depth it looks into them -/
abbrev NarRecs (S : Schema) (d : MsgD) (b : Bytes) : Prop :=
  Recs (fun pf => ∀ n, narrowFieldU S (narrow32U S n) d pf = true) b

/-- a record of field `f` that the guard accepts in whatever class declares `f`, at whatever depth: it carries `f`'s
    number and a wire type that fits `f`; a varint, or the elements of a packed payload, of a narrow type are below
    2^32; the payload of a nested message passes the guard of that message's class -/
structure FieldRec (S : Schema) (f : FieldD) (pf : PField) : Prop where
  num : pf.num = f.num
  fits : wireFits f pf.wt = true
  varint : pf.wt = 0 → isNarrowTy f.ty = true → pf.vint < 2 ^ 32
  packed : pf.wt = 2 → isNarrowTy f.ty = true → narrowElems (pf.payload.length + 1) pf.payload = true
  nested : pf.wt = 2 → ∀ d', subDesc S f = some d' → ∀ n, narrow32U S n d' pf.payload = true

theorem FieldRec.nar {S : Schema} {d : MsgD} {f : FieldD} {pf : PField} (h : FieldRec S f pf)
    (hd : NumsDistinct d.fields) (k : Nat) (hk : d.fields[k]? = some f) (n : Nat) :
    narrowFieldU S (narrow32U S n) d pf = true := by
  rw [narrowFieldU, Bool.or_eq_true]
  exact Or.inr ((narrowField_iff S _ d pf k f (by rw [h.num, findField_distinct d.fields k f hd hk]) hk).2
    ⟨h.varint, fun hw => ⟨h.packed hw, fun d' hd' => h.nested hw d' hd' n⟩⟩)

/-- `b` splits into records of field `f` -/
abbrev SlotRecs (S : Schema) (f : FieldD) (b : Bytes) : Prop := Recs (FieldRec S f) b

theorem SlotRecs.nar {S : Schema} {d : MsgD} {f : FieldD} {b : Bytes} (h : SlotRecs S f b)
    (hd : NumsDistinct d.fields) (k : Nat) (hk : d.fields[k]? = some f) : NarRecs S d b :=
  Recs.mono (fun _ h => h.nar hd k hk) h

theorem recs_unk (S : Schema) (d : MsgD) (unk : Bytes) (h : UnkOk d unk) : NarRecs S d unk := by
  obtain ⟨upfs, h1, h2⟩ := h
  refine ⟨upfs, fun pf hpf => ⟨(h1 pf hpf).1, fun n => ?_⟩, h2⟩
  unfold narrowFieldU
  rw [(h1 pf hpf).2]; rfl

theorem wireFits_len (f : FieldD) (h : f.ty = PType.message ∨ f.ty = PType.map) : wireFits f 2 = true := by
  unfold wireFits
  rcases h with h | h <;> rw [h] <;> rfl

/-- an early exit of `dumpSlot` (a hidden slot, a value equal to its default) writes nothing -/
theorem Recs.guard {P : PField → Prop} {c : Prop} [Decidable c] {x : R Bytes} {b : Bytes}
    (h : (if c then .ok [] else x) = .ok b) (hx : x = .ok b → Recs P b) : Recs P b := by
  split at h
  · cases h; exact Recs.nil P
  · exact hx h

theorem narrow32U_of_recs (S : Schema) (d : MsgD) (b : Bytes) (h : NarRecs S d b) :
    ∀ n, narrow32U S n d b = true
  | 0 => rfl
  | n + 1 => by
    obtain ⟨pfs, h1, h2⟩ := h
    have hl := loadFields_join pfs (fun pf hpf => (h1 pf hpf).1)
    rw [h2] at hl
    simp only [narrow32U, hl, List.all_eq_true]
    exact fun pf hpf => (h1 pf hpf).2 n

theorem narrow32U_zero (S : Schema) (d : MsgD) (b : Bytes) : narrow32U S 0 d b = true := rfl

section Scalars
variable (S : Schema) (f : FieldD)

theorem subDesc_scalar (h : isScalarType f.ty = true) : subDesc S f = Option.none := by
  unfold subDesc
  unfold isScalarType at h
  simp only [Bool.and_eq_true, bne_iff_ne, ne_eq] at h
  rw [if_neg (by simp [h.2]), if_neg (by simp [h.1])]

theorem subDesc_sub (c : Nat) (h : SubField f c) : subDesc S f = S[c]? := by
  unfold subDesc
  rw [h.ty, h.nw, h.kind]
  rfl

theorem subDesc_timeKind (isDur : Bool) (hty : f.ty = PType.message)
    (hnw : f.wraps = Option.none) (hk : f.kind = (if isDur then MsgKind.duration else MsgKind.timestamp)) :
    subDesc S f = some secNanosD := by
  unfold subDesc
  rw [hty, hnw, hk]
  cases isDur <;> rfl

theorem subDesc_wrap (w : PType) (hty : f.ty = PType.message)
    (hwr : f.wraps = some w) : subDesc S f = some (wrapperD w) := by
  unfold subDesc
  rw [hty, hwr]
  rfl

theorem subDesc_map (h : f.ty = PType.map) : subDesc S f = some (entryD f) := by
  unfold subDesc
  rw [h]
  rfl

theorem narrow_cases (t : PType) (h : isNarrowTy t = true) : t = .uint32 ∨ t = .sint32 := by
  simpa [isNarrowTy] using h

theorem narrow_post (t : PType) (n : Nat) (v : Val) (hn : isNarrowTy t = true)
    (hp : postVarint t n = v) (hv : scalarOk t v = true) : n < 2 ^ 32 := by
  subst hp
  rcases narrow_cases t hn with rfl | rfl
  · simp [postVarint, scalarOk, intInRange] at hv
    omega
  · simp [postVarint, scalarOk, intInRange, unzig] at hv
    split at hv <;> omega

theorem narrow_scalar_varint (t : PType) (h : isNarrowTy t = true) :
    isScalarType t = true ∧ wireVarintTypes.contains t = true := by
  rcases narrow_cases t h with rfl | rfl <;> exact ⟨rfl, rfl⟩

theorem lenT_not_narrow (t : PType) (h : LenT t) : isNarrowTy t = false := by
  cases hn : isNarrowTy t with
  | false => rfl
  | true => exact Bool.noConfusion ((narrow_scalar_varint t hn).2.symm.trans h.1.varint)

theorem _root_.Bp.ScalarRec.narrow {num : Nat} {t : PType} {v : Val} {pf : PField} (h : ScalarRec num t v pf)
    (hv : scalarOk t v = true) :
    (pf.wt = 0 → isNarrowTy t = true → pf.vint < 2 ^ 32) ∧ (pf.wt = 2 → isNarrowTy t = false) := by
  cases h with
  | varint n _ _ hpost => exact ⟨fun _ hnt => narrow_post t n v hnt hpost hv, fun hc => by simp at hc⟩
  | fixed32 p => exact ⟨fun hc => by simp at hc, fun hc => by simp at hc⟩
  | fixed64 p => exact ⟨fun hc => by simp at hc, fun hc => by simp at hc⟩
  | len p hT => exact ⟨fun hc => by simp at hc, fun _ => lenT_not_narrow t hT⟩

theorem recs_scalar (v : Val) (se : Bool) (out : Bytes)
    (hnum : numOk f.num = true) (hty : isScalarType f.ty = true) (hv : scalarOk f.ty v = true)
    (hlen : out.length < 2 ^ 64) (h : serializeScalar S f.num f.ty v se Option.none = .ok out) :
    SlotRecs S f out := by
  obtain ⟨pf, hr, hs⟩ := serializeScalar_rec S f.num f.ty v se hty hv
  rw [hs] at h; cases h
  by_cases hc : pf.wt = 2 ∧ pf.payload = [] ∧ se = false
  · rw [if_pos hc]; exact Recs.nil _
  · rw [if_neg hc] at hlen ⊢
    obtain ⟨h0, h2⟩ := hr.narrow hv
    exact Recs.single pf _ (hr.load hnum hlen []) rfl ⟨hr.num_eq, hr.fits, h0,
      fun hw2 hnt => (by rw [h2 hw2] at hnt; cases hnt), fun _ d' hd' => by rw [subDesc_scalar S f hty] at hd'; cases hd'⟩

theorem narrowElems_ne (fuel : Nat) (p : Bytes) (hp : p ≠ []) :
    narrowElems (fuel + 1) p =
      match loadVarint p with
      | .ok (v, k) => decide (v < 2 ^ 32) && narrowElems fuel (p.drop k)
      | .error _ => true := by
  cases p with
  | nil => exact absurd rfl hp
  | cons a as => rfl

theorem narrowElems_nil (fuel : Nat) : narrowElems fuel [] = true := by
  cases fuel <;> rfl

theorem packed_narrow (t : PType) (ht : isPacked t = true) (hnt : isNarrowTy t = true) :
    ∀ (xs : List Val) (buf : Bytes), (∀ x ∈ xs, scalarOk t x = true) → prepPacked S t xs = .ok buf →
      ∀ fuel, narrowElems fuel buf = true := by
  obtain ⟨hsc, hvar⟩ := narrow_scalar_varint t hnt
  intro xs
  induction xs with
  | nil =>
    intro buf _ h fuel
    cases h
    exact narrowElems_nil fuel
  | cons x xs ih =>
    intro buf hx h fuel
    have hx0 := hx x List.mem_cons_self
    rw [prepPacked_cons, prepScalar_packed S t ht] at h
    obtain ⟨pre, hpre, h⟩ := bind_inv h
    obtain ⟨r, hr, h⟩ := bind_inv h
    cases h
    obtain ⟨pre', hpre', spec⟩ := payload_spec t x hsc hx0
    rw [hpre] at hpre'; cases hpre'
    -- the element is written as the minimal varint of a value below 2^32
    have hV : ∃ n, pre = encNat n ∧ n < 2 ^ 64 ∧ postVarint t n = x := by
      rcases spec with ⟨_, h⟩ | ⟨hT, _⟩ | ⟨hT, _⟩ | ⟨⟨hT, _⟩, _⟩
      · exact h
      all_goals exact Bool.noConfusion (hvar.symm.trans hT.varint)
    obtain ⟨n, rfl, hn64, hpost⟩ := hV
    have hn32 := narrow_post t n x hnt hpost hx0
    cases fuel with
    | zero => rfl
    | succ fuel =>
      have hne : encNat n ++ r ≠ [] := fun hc => encNat_ne_nil n (List.append_eq_nil_iff.mp hc).1
      rw [narrowElems_ne fuel _ hne, loadVarint_encNat n r hn64]
      simp only [List.drop_left, Bool.and_eq_true, decide_eq_true_eq]
      exact ⟨hn32, ih r (fun y hy => hx y (List.mem_cons_of_mem _ hy)) hr fuel⟩

/-- a length-delimited payload under `f`'s number, framed: one record of `f`, or nothing -/
theorem recs_framed (p : Bytes) (force : Bool) (hnum : numOk f.num = true)
    (hal : (framed f.num wireLenDelim p force).length < 2 ^ 64) (hfit : wireFits f 2 = true)
    (hnt : isNarrowTy f.ty = true → narrowElems (p.length + 1) p = true)
    (hsub : ∀ d', subDesc S f = some d' → p.length < 2 ^ 64 → ∀ n, narrow32U S n d' p = true) :
    SlotRecs S f (framed f.num wireLenDelim p force) := by
  by_cases h : framed f.num wireLenDelim p force = []
  · rw [h]; exact Recs.nil _
  · have hr : rawRec f.num wireLenDelim p = encNat (f.num * 8 + 2) ++ encNat p.length ++ p := by
      rw [rawRec, if_pos rfl, List.append_assoc]; rfl
    rw [framed_of_ne_nil h, hr] at hal ⊢
    have hpl : p.length < 2 ^ 64 := by simp only [List.length_append] at hal; omega
    exact Recs.single _ _ (loadField_len f.num p hnum hpl []) rfl
      ⟨rfl, hfit, fun hc => by simp at hc, fun _ => hnt, fun _ d' hd' => hsub d' hd' hpl⟩

end Scalars

theorem narrow32U_nil (S : Schema) (n : Nat) (d : MsgD) : narrow32U S n d [] = true :=
  narrow32U_of_recs S d [] (Recs.nil _) n

section Payloads
variable (S : Schema) (f : FieldD)

theorem narrow32U_plainD (d : MsgD)
    (h : ∀ f ∈ d.fields, isNarrowTy f.ty = false ∧ subDesc S f = Option.none) (n : Nat) (p : Bytes) :
    narrow32U S n d p = true := by
  cases n with
  | zero => rfl
  | succ n =>
    simp only [narrow32U]
    cases hp : loadFields p with
    | error e => rfl
    | ok pfs =>
      simp only [List.all_eq_true]
      intro pf _
      rw [narrowFieldU, Bool.or_eq_true]
      refine Or.inr (narrowField_of_field S _ d pf fun idx f _ hfi => ?_)
      obtain ⟨h1, h2⟩ := h f (List.mem_of_getElem? hfi)
      exact ⟨h1, fun d' hd' => by rw [h2] at hd'; cases hd'⟩

theorem narrow32U_secNanos (n : Nat) (p : Bytes) : narrow32U S n secNanosD p = true := by
  apply narrow32U_plainD
  intro f hf
  simp [secNanosD] at hf
  rcases hf with rfl | rfl <;> exact ⟨rfl, rfl⟩

theorem narrow32U_wrapper (w : PType) (v : Val) (p : Bytes) (n : Nat)
    (hw : isScalarType w = true) (hv : scalarOk w v = true) (hp : wrapperBytes S w v = .ok p)
    (hl : p.length < 2 ^ 64) : narrow32U S n (wrapperD w) p = true := by
  refine narrow32U_of_recs S _ p ?_ n
  by_cases hdef : scalarIsDefault S w v = true
  · unfold wrapperBytes at hp
    rw [if_pos hdef] at hp
    injection hp with hp; subst hp
    exact Recs.nil _
  · rw [wrapperBytes_nondefault S w v hw hdef] at hp
    exact (recs_scalar S { name := "value", num := 1, ty := w } v false p rfl hw hv hl hp).nar
      (numsDistinct_single _) 0 rfl

end Payloads

/-- the encoding of a well-typed message passes the guard, at every depth -/
def NarMsg (S : Schema) : Val → Prop
  | .msg c sl ow unk cur => ∀ (d : MsgD) (bs : Bytes), S[c]? = some d →
    dumpVal S (.msg c sl ow unk cur) = .ok bs → bs.length < 2 ^ 64 → ∀ n, narrow32U S n d bs = true
  | _ => True

section Walk
variable (S : Schema)

/-- **one item, one record** (none for an empty string / bytes / payload without `serialize_empty`): a scalar record,
    or the framed payload of a wrapper, a Timestamp / Duration, a message -/
theorem recs_rec (f : FieldD) (K : ItemKind) (x : Val) (se : Bool) (a : Bytes)
    (hf : ItemField f K) (hx : ItemOk S (NarMsg S) K x)
    (ha : dumpRec S f.num f.ty f.wraps se x = .ok a) (hal : a.length < 2 ^ 64) :
    SlotRecs S f a := by
  have framed : ∀ (w : Bool) (p : Bytes), f.ty = .message → numOk f.num = true → frame f.num .message p se w = .ok a →
      (∀ d', subDesc S f = some d' → p.length < 2 ^ 64 → ∀ n, narrow32U S n d' p = true) → SlotRecs S f a := by
    intro w p hty hnum hfr hp
    rw [frame_of (wt := wireLenDelim) rfl] at hfr
    cases hfr
    exact recs_framed S f p _ hnum hal (wireFits_len f (.inl hty)) (fun hc => by rw [hty] at hc; cases hc) hp
  cases hf with
  | scalar hff =>
    cases hx with
    | scalar _ _ hx =>
      rw [hff.nw, dumpRec_nonmsg S _ _ _ _ x (scalarOk_plain f.ty x hx).2] at ha
      exact recs_scalar S f x se a hff.num hff.sc hx hal ha
  | wrapped w hty hwr _ hnum hw =>
    cases hx with
    | wrapped _ _ hx =>
      rw [hty, hwr, dumpRec_nonmsg S _ _ _ _ x (scalarOk_plain w x hx).2, serializeScalar, prepScalar_wrap S w x hx] at ha
      obtain ⟨p, hp, ha⟩ := bind_inv ha
      exact framed _ p hty hnum ha fun d' hd' hpl n => by
        rw [subDesc_wrap S f w hty hwr] at hd'; cases hd'; exact narrow32U_wrapper S w x p n hw hx hp hpl
  | time b hty hnw hnum hk =>
    cases hx with
    | time _ _ hx =>
      rw [hty, hnw, dumpRec_nonmsg S _ _ _ _ x (isTimeVal_plain x (timeValOk_isTime b x hx)).2, serializeScalar] at ha
      obtain ⟨p, _, ha⟩ := bind_inv ha
      exact framed _ p hty hnum ha fun d' hd' _ n => by
        rw [subDesc_timeKind S f b hty hnw hk] at hd'; cases hd'; exact narrow32U_secNanos S n p
  | msg c hsf =>
    cases hx with
    | msg _ sl ow unk cur _ ih =>
      rw [hsf.ty, hsf.nw, dumpRec_msg S _ _ _ _ _ _ _ _ rfl] at ha
      obtain ⟨p, hp, ha⟩ := bind_inv ha
      exact framed _ p hsf.ty hsf.num ha fun d' hd' hpl => ih d' p (subDesc_sub S f c hsf ▸ hd') hp hpl

/-- a non-packed repeated field: one record per item -/
theorem recs_items (f : FieldD) (K : ItemKind) (hw : ItemField f K) :
    ∀ (xs : List Val) (b : Bytes), (∀ x ∈ xs, ItemOk S (NarMsg S) K x) → dumpItems S f xs = .ok b →
      b.length < 2 ^ 64 → SlotRecs S f b
  | [], b, _, h, _ => by cases h; exact Recs.nil _
  | x :: xs, b, hx, h, hbl => by
    obtain ⟨a, r, ha, _, hr, rfl⟩ := dumpItems_cons_inv h
    simp only [List.length_append] at hbl
    exact Recs.append (recs_rec S f K x true a hw (hx x List.mem_cons_self) ha (by omega))
      (recs_items f K hw xs r (fun y hy => hx y (List.mem_cons_of_mem _ hy)) hr (by omega))

/-- a map field: one record per entry, whose payload is the key's record and the value's -/
theorem recs_entries (f : FieldD) (K : ItemKind) (hf : MapField f K) :
    ∀ (ks vs : List Val) (b : Bytes), (∀ x ∈ ks, scalarOk f.mapK x = true) →
      (∀ x ∈ vs, ItemOk S (NarMsg S) K x) → dumpEntries S f ks vs = .ok b → b.length < 2 ^ 64 →
      SlotRecs S f b
  | [], _, b, _, _, h, _ => by rw [dumpEntries_nil_left] at h; cases h; exact Recs.nil _
  | _ :: _, [], b, _, _, h, _ => by rw [dumpEntries_nil_right] at h; cases h; exact Recs.nil _
  | k0 :: ks, v0 :: vs, b, hks, hvs, h, hbl => by
    obtain ⟨_, hty, hkt⟩ := hf.carries
    rw [dumpEntries_cons'] at h
    obtain ⟨sk, hsk, h⟩ := bind_inv h
    obtain ⟨sv, hsv, h⟩ := bind_inv h
    rw [hty, frame_of (wt := wireLenDelim) rfl, bind_ok] at h
    obtain ⟨r, hr, h⟩ := bind_inv h
    cases h
    simp only [List.length_append] at hbl
    refine Recs.append (recs_framed S f (sk ++ sv) _ hf.plain.1 (by omega) (wireFits_len f (Or.inr hty))
      (fun hc => by rw [hty] at hc; cases hc) ?_)
      (recs_entries f K hf ks vs r (fun y hy => hks y (List.mem_cons_of_mem _ hy))
        (fun y hy => hvs y (List.mem_cons_of_mem _ hy)) hr (by omega))
    intro d' hd' hpl
    rw [subDesc_map S f hty] at hd'
    cases hd'
    simp only [List.length_append] at hpl
    -- the payload of an entry: the key's record, then the value's, in the class `entryD f`
    exact narrow32U_of_recs S _ _ <| Recs.append
      ((recs_scalar S (keyFieldOf f) k0 false sk rfl (mapKey_scalar f.mapK hkt) (hks k0 List.mem_cons_self)
        (by omega) hsk).nar (entry_numsDistinct f) 0 rfl)
      ((recs_rec S (entryValF f) K v0 false sv hf.item (hvs v0 List.mem_cons_self) hsv (by omega)).nar
        (entry_numsDistinct f) 1 rfl)

end Walk

section Shapes
variable (S : Schema)

/-- **the records of one slot**, by the shape of the slot -/
theorem recs_shape (k : Nat) (f : FieldD) (cur : List (Option Nat)) (v : Val) (b : Bytes)
    (hs : SlotShape S (NarMsg S) f v)
    (hph : v = Val.ph → ∀ g, f.group = some g → cur.getD g Option.none ≠ some k)
    (hb : dumpSlot S f (hidden f k cur) (selectedInGroup f k cur) v = .ok b) (hbl : b.length < 2 ^ 64) :
    SlotRecs S f b := by
  cases hs with
  | unset ho => rw [ph_emits_nothing S f k cur b ho (hph rfl) hb]; exact Recs.nil _
  | none => rw [dumpSlot] at hb; cases hb; exact Recs.nil _
  | one K _ hf hv =>
    rw [dumpSlot_one S f _ _ v (itemOk_oneVal S _ K v hv)] at hb
    exact Recs.guard hb fun hb => Recs.guard hb fun hb => recs_rec S f K v _ b hf.item hv hb hbl
  | many K xs hf hxs =>
    rw [dumpSlot] at hb
    refine Recs.guard hb fun hb => Recs.guard hb fun hb => ?_
    by_cases hp : isPacked f.ty = true
    · rw [if_pos hp] at hb
      -- only scalar types are packed: one record, whose payload is the elements
      obtain ⟨hff, hsc⟩ := hf.packed hp
      obtain ⟨buf, hbuf, hb⟩ := bind_inv hb
      rw [frame_of (wt := wireLenDelim) rfl] at hb
      cases hb
      exact recs_framed S f buf _ hff.num hbl (wireFits_packed f hp hf.plain.2.1)
        (fun hnt => packed_narrow S f.ty hp hnt xs buf (fun x hx => hsc S _ x (hxs x hx)) hbuf _)
        fun d' hd' => by rw [subDesc_scalar S f hff.sc] at hd'; cases hd'
    · rw [if_neg hp] at hb
      exact recs_items S f K hf.item xs b hxs hb hbl
  | map K ks vs hf _ hks hvs _ =>
    rw [dumpSlot] at hb
    exact Recs.guard hb fun hb => Recs.guard hb fun hb =>
      recs_entries S f K hf ks vs b hks hvs hb hbl

/-- the encoder loop writes one block of records per slot: if the bytes of every slot are records with a property
    of their own, the output is the concatenation of the blocks -/
theorem dumpSlots_blocks (P : Nat → FieldD → PField → Prop) (fs : List FieldD) (cur : List (Option Nat)) :
    ∀ (vs : List Val) (k : Nat) (out : Bytes), k + vs.length ≤ fs.length → dumpSlots S fs cur k vs = .ok out →
      (∀ j f b, fs[k + j]? = some f → j < vs.length →
        dumpSlot S f (hidden f (k + j) cur) (selectedInGroup f (k + j) cur) (vs.getD j .ph) = .ok b →
        b.length ≤ out.length → Recs (P (k + j) f) b) →
      ∃ L : List (List PField), L.length = vs.length ∧ joinRaw L.flatten = out ∧
        ∀ j f, fs[k + j]? = some f → j < vs.length →
          dumpSlot S f (hidden f (k + j) cur) (selectedInGroup f (k + j) cur) (vs.getD j .ph)
              = .ok (joinRaw (L.getD j []))
          ∧ ∀ pf ∈ L.getD j [], Parsed pf ∧ P (k + j) f pf := by
  intro vs
  induction vs with
  | nil =>
    intro k out _ h _
    rw [dumpSlots] at h; cases h
    exact ⟨[], rfl, rfl, fun j f _ hj => absurd hj (Nat.not_lt_zero _)⟩
  | cons v vs ih =>
    intro k out hk h H
    rw [List.length_cons] at hk
    obtain ⟨f, hf⟩ : ∃ f, fs[k]? = some f := ⟨fs[k]'(by omega), List.getElem?_eq_getElem _⟩
    obtain ⟨a, r, ha, hr, rfl⟩ := dumpSlots_cons_inv hf h
    obtain ⟨p0, hp0, hj0⟩ := H 0 f a hf (Nat.succ_pos _) ha (by simp)
    obtain ⟨L, hL, hjoin, hblk⟩ := ih (k + 1) r (by omega) hr fun j g b hg hj hb hl => by
      rw [Nat.add_right_comm, Nat.add_assoc] at hg hb ⊢
      exact H (j + 1) g b hg (Nat.succ_lt_succ hj) hb (by rw [List.length_append]; omega)
    refine ⟨p0 :: L, by simp [hL], by rw [List.flatten_cons, joinRaw_append, hj0, hjoin], fun j g hg hj => ?_⟩
    cases j with
    | zero =>
      obtain rfl : f = g := Option.some.inj (hf.symm.trans hg)
      exact ⟨by show _ = Except.ok (joinRaw p0); rw [hj0]; exact ha, hp0⟩
    | succ j =>
      rw [← Nat.add_assoc, Nat.add_right_comm] at hg ⊢
      exact hblk j g hg (Nat.lt_of_succ_lt_succ hj)

/-- the blocks forgotten, one property for all slots -/
theorem recs_slots (P : PField → Prop) (fs : List FieldD) (cur : List (Option Nat)) (vs : List Val) (k : Nat)
    (out : Bytes) (hk : k + vs.length ≤ fs.length) (h : dumpSlots S fs cur k vs = .ok out)
    (H : ∀ j f b, fs[k + j]? = some f → j < vs.length →
      dumpSlot S f (hidden f (k + j) cur) (selectedInGroup f (k + j) cur) (vs.getD j .ph) = .ok b →
      b.length ≤ out.length → Recs P b) : Recs P out := by
  obtain ⟨L, hL, hjoin, hblk⟩ := dumpSlots_blocks S (fun _ _ => P) fs cur vs k out hk h H
  refine ⟨L.flatten, fun pf hpf => ?_, hjoin⟩
  obtain ⟨recs, hr, hpr⟩ := List.mem_flatten.mp hpf
  obtain ⟨j, hj⟩ := List.getElem?_of_mem hr
  have hjl : j < vs.length := hL ▸ (List.getElem?_eq_some_iff.mp hj).1
  have := (hblk j _ (List.getElem?_eq_getElem (by omega)) hjl).2 pf
  rw [show L.getD j [] = recs by rw [List.getD_eq_getElem?_getD, hj]; rfl] at this
  exact this hpr

/-- **the walk**: the encoding of every well-typed message passes the guard -/
theorem narMsg_all (m : Val) (hm : MsgOk S m) : NarMsg S m := by
  refine MsgOk.walk S (P := NarMsg S) ?_ m hm
  intro c d sl ow unk cur hd hmsg hshapes d' bs hd' hdump hbl
  rw [hd] at hd'; cases hd'
  cases hmsg with
  | mk _ d'' _ _ _ _ hd'' hdist _ _ _ _ _ hselset hslots hunk =>
  rw [hd] at hd''; cases hd''
  rw [dumpVal_msg, fieldsOf_some S c d hd] at hdump
  obtain ⟨body, hbody, hdump⟩ := bind_inv hdump
  cases hdump
  simp only [List.length_append] at hbl
  refine narrow32U_of_recs S d _ (Recs.append ?_ (recs_unk S d unk hunk))
  apply recs_slots S _ d.fields cur sl 0 body (by rw [Nat.zero_add, slotsOk_len S _ _ hslots]) hbody
  intro j f b hf hj hb hle
  simp only [Nat.zero_add] at hf hb
  have hv : sl[j]? = some (sl.getD j .ph) := by
    rw [List.getD_eq_getElem?_getD, List.getElem?_eq_getElem hj]; rfl
  refine (recs_shape S j f cur _ b (forall₂_get hshapes j f _ hf hv) ?_ hb (by omega)).nar hdist j hf
  intro hvp g _ hc
  exact hselset g j hc hvp

end Shapes

theorem recs_slot (S : Schema) (k : Nat) (f : FieldD) (cur : List (Option Nat)) (v : Val) (b : Bytes)
    (hso : SlotOk S f v)
    (hph : v = Val.ph → ∀ g, f.group = some g → cur.getD g Option.none ≠ some k)
    (hb : dumpSlot S f (hidden f k cur) (selectedInGroup f k cur) v = .ok b) (hbl : b.length < 2 ^ 64) :
    SlotRecs S f b :=
  recs_shape S k f cur v b (SlotOk.shape S (narMsg_all S) f v hso) hph hb hbl

theorem dump_narrowU (S : Schema) (c : Nat) (d : MsgD) (hd : S[c]? = some d)
    (sl : List Val) (ow : Bool) (unk : Bytes) (cur : List (Option Nat))
    (hm : MsgOk S (.msg c sl ow unk cur)) (bs : Bytes) (hdump : dumpVal S (.msg c sl ow unk cur) = .ok bs)
    (hbl : bs.length < 2 ^ 64) (n : Nat) : narrow32U S n d bs = true :=
  narMsg_all S _ hm d bs hd hdump hbl n

end Bp.Link

#print axioms Bp.Link.dump_narrowU
