import BpProofs.PluginSchema
import BpModel.Typed
/-
  The schema the runtime derives from the plugin's output is well formed (`wfSchemaTB`).
-/
namespace Bp.Plugin
open Bp Bp.Gen.Plugin

theorem lookup?_mem {β} {k : Name} {v : β} : ∀ {l : List (Name × β)}, lookup? k l = some v → (k, v) ∈ l
  | [], h => by simp [lookup?] at h
  | (a, b) :: r, h => by
    unfold lookup? at h
    split at h
    · rename_i hk; cases h; subst hk; exact List.mem_cons_self
    · exact List.mem_cons_of_mem _ (lookup?_mem h)

theorem specType_ne_map {t : Nat} {ty : PType} (h : specType t = some ty) : ty ≠ .map := by
  have hm := lookupN?_mem h
  have : ∀ p ∈ specTypeTable, p.2 ≠ PType.map := by decide
  exact this _ hm

theorem specWrappers_scalar {tn : Name} {w : PType} (h : lookup? tn specWrappers = some w) :
    isScalarTy w = true := by
  have hm := lookup?_mem h
  have : ∀ p ∈ specWrappers, isScalarTy p.2 = true := by decide
  exact this _ hm

theorem specPy_isScalar {t : PType} {n : Name} (h : specPy t = some n) : isScalarTy t = true := by
  cases t <;> simp [specPy] at h <;> rfl

/-- what `specOf` guarantees of a field specification -/
def specWfB (s : FieldSpec) : Bool :=
  (match s.wraps with | some w => isScalarTy w | none => true)
  && (match s.card with
      | .map k v => s.ty == .map && isScalarTy k && v != .map
      | _ => s.ty != .map)

theorem specOf_wf {full : Name} {m : MsgP} {f : FieldP} {s : FieldSpec} (h : specOf full m f = some s) :
    specWfB s = true := by
  unfold specOf at h
  split at h
  · -- a map: the key's type has a Python scalar name, the value's type stands in the type table
    split at h
    · split at h
      · rename_i tk tv _ hv
        split at h
        · rename_i pk ev hpk _
          cases h
          simp only [specWfB, beq_self_eq_true, Bool.true_and, Bool.and_eq_true, bne_iff_ne, ne_eq]
          exact ⟨specPy_isScalar hpk, specType_ne_map hv⟩
        · cases h
      · cases h
    · cases h
  · -- any other field: its type stands in the type table, `wraps` is read off the wrapper table
    split at h
    · rename_i t el ht _
      split at h
      · cases h
        have h3 : (match (if t = PType.message then lookup? f.typeName specWrappers else none) with
                   | some w => isScalarTy w | none => true) = true := by
          split
          · rename_i w hw
            split at hw
            · exact specWrappers_scalar hw
            · cases hw
          · rfl
        unfold specWfB
        simp only [h3, Bool.true_and]
        have := specType_ne_map ht
        by_cases hl : f.label = .repeated
        · simp [hl, this]
        · cases hp : f.proto3Optional <;> simp [hl, this]
      · cases h
    · cases h

def EnvBelow (env : Env) (n : Nat) : Prop := ∀ tn i, env.msg tn = some i → i < n

theorem kindOfElem_user {env : Env} {n : Nat} (he : EnvBelow env n) {e : Elem} {c : Nat}
    (h : kindOfElem env e = some (.user c)) : c < n := by
  cases e <;> simp [kindOfElem] at h
  exact he _ _ h

theorem specFieldD_some {env : Env} {gs : List Name} {n : Name} {s : FieldSpec} {d : FieldD}
    (h : specFieldD env gs n s = some d) :
    d.num = s.number ∧ d.ty = s.ty ∧ d.wraps = s.wraps
    ∧ d.repeated = decide (s.card = .repeated) ∧ d.optional = decide (s.card = .optional)
    ∧ (∀ k v, s.card = .map k v → d.mapK = k ∧ d.mapV = v)
    ∧ groupIdx gs s.group = some d.group
    ∧ (s.ty = .message → s.wraps = none → kindOfElem env s.elem = some d.kind)
    ∧ (∀ k, s.card = .map k .message → s.ty = .map → kindOfElem env s.elem = some d.mapVKind) := by
  unfold specFieldD at h
  cases hcard : s.card <;> simp only [hcard] at h <;> split at h <;> try (cases h)
  -- the four lookups of `specFieldD` succeeded, whatever the cardinality: `g k vk er`, by `hg hk hvk her`
  all_goals
    rename_i g k vk er hg hk hvk her
    refine ⟨rfl, rfl, rfl, rfl, rfl, ?_, hg, ?_, ?_⟩
    · intro a b hab; cases hab <;> exact ⟨rfl, rfl⟩
    · intro h1 h2; simpa [h1, h2] using hk
    · intro a hab h2; cases hab <;> simpa [h2] using hvk

theorem specFieldD_wf {env : Env} {n : Nat} (he : EnvBelow env n) {gs : List Name} {name : Name}
    {s : FieldSpec} {d : FieldD} (hs : specWfB s = true) (h : specFieldD env gs name s = some d) :
    wfFieldB n d = true := by
  obtain ⟨_, hty, hwr, hrep, hopt, hkv, _, hk, hvk⟩ := specFieldD_some h
  unfold specWfB at hs
  simp only [Bool.and_eq_true] at hs
  unfold wfFieldB
  rw [hty, hwr, hrep, hopt]
  simp only [Bool.and_eq_true, Bool.or_eq_true, Bool.not_eq_true', beq_eq_false_iff_ne, ne_eq, decide_eq_false_iff_not]
  refine ⟨⟨?_, ?_⟩, ?_⟩
  · by_cases hc : s.card = .repeated
    · right; rw [hc]; simp
    · left; exact hc
  · -- a message field: its class is below `n`, or it wraps a scalar
    refine (Decidable.em (s.ty = .message)).symm.imp id fun hm => ?_
    cases hw : s.wraps with
    | none =>
      cases hkd : d.kind with
      | user c => simp [kindOfElem_user he (hkd ▸ hk hm hw)]
      | _ => rfl
    | some w => rw [hw] at hs; cases d.kind <;> simp [hs.1]
  · -- a map: the specification's cardinality says so, and gives the two types
    refine (Decidable.em (s.ty = .map)).symm.imp id fun hm => ?_
    cases hc : s.card with
    | map k v =>
      obtain ⟨hk1, hv1⟩ := hkv k v hc
      rw [hc] at hs
      simp only [Bool.and_eq_true, bne_iff_ne, ne_eq, beq_iff_eq] at hs
      rw [hk1, hv1]
      refine ⟨⟨hs.2.1.2, by simpa using hs.2.2⟩, ?_⟩
      by_cases hv : v = .message
      · subst hv
        cases hkd : d.mapVKind with
        | user c => simp [kindOfElem_user he (hkd ▸ hvk _ hc hm)]
        | _ => simp
      · simp [hv]
    | _ => rw [hc] at hs; simp [hm] at hs

end Bp.Plugin
