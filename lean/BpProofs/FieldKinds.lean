import BpModel.All
/-
  C01: the kinds of field the round-trip theorem covers beyond flat scalar fields
  (`FlatField`, BpProofs/RtFlat.lean): what the plugin generates for message-typed,
  Timestamp / Duration, wrapper and map fields.
-/
namespace Bp
open Gen

/-- a singular or repeated field holding messages of class `c` -/
structure SubField (f : FieldD) (c : Nat) : Prop where
  ty : f.ty = PType.message
  nw : f.wraps = Option.none
  kind : f.kind = MsgKind.user c
  num : numOk f.num = true
  rep : f.repeated = true → f.optional = false ∧ f.group = Option.none

theorem sub_notmap (f : FieldD) (c : Nat) (h : SubField f c) : (f.ty == PType.map) = false := by
  rw [h.ty]; rfl

theorem sub_defKind (f : FieldD) (c : Nat) (h : SubField f c) (hr : f.repeated = false) :
    f.defKind = (if f.optional then DefKind.none else DefKind.msg c) := by
  unfold FieldD.defKind
  rw [hr, if_neg (by decide), if_neg (by rw [sub_notmap f c h]; decide), h.nw, h.ty, h.kind]
  by_cases ho : f.optional = true
  · rw [ho]; rfl
  · have ho' : f.optional = false := by simpa using ho
    rw [ho']; rfl

/-- a singular Timestamp (`isDur = false`) or Duration (`isDur = true`) field -/
structure TimeField (f : FieldD) (isDur : Bool) : Prop where
  ty : f.ty = PType.message
  nw : f.wraps = Option.none
  kind : f.kind = (if isDur then MsgKind.duration else MsgKind.timestamp)
  num : numOk f.num = true
  rep : f.repeated = false

/-- a singular wrapper field wrapping the scalar type `w`.
    `kind`: the class in the type hint of a wrapper field is the generated wrapper class, never
    `datetime` / `timedelta` — necessary, since `postLen` dispatches on `f.kind` first (with
    `kind = .timestamp` the payload would be decoded as a Timestamp). -/
structure WrapField (f : FieldD) (w : PType) : Prop where
  ty : f.ty = PType.message
  wr : f.wraps = some w
  wty : isScalarType w = true
  num : numOk f.num = true
  rep : f.repeated = false
  kind : ∃ c, f.kind = MsgKind.user c

/-- a REPEATED wrapper field (`repeated google.protobuf.Int32Value …`, held as
    `List[Optional[scalar]]`): never optional, never a oneof member -/
structure WrapsField (f : FieldD) (w : PType) : Prop where
  ty : f.ty = PType.message
  wr : f.wraps = some w
  wty : isScalarType w = true
  num : numOk f.num = true
  rep : f.repeated = true
  opt : f.optional = false
  grp : f.group = Option.none
  kind : ∃ c, f.kind = MsgKind.user c

/-- proto types allowed as map keys: every integer type, bool, string -/
def isMapKeyType (t : PType) : Bool :=
  t == .int32 || t == .int64 || t == .uint32 || t == .uint64 || t == .sint32 || t == .sint64
  || t == .fixed32 || t == .fixed64 || t == .sfixed32 || t == .sfixed64 || t == .bool || t == .string

/-- keys a Python dict built from well-typed proto keys can hold: pairwise different under `keyEq` -/
def KeysDistinct : List Val → Prop
  | [] => True
  | k :: ks => (∀ k' ∈ ks, keyEq k k' = false) ∧ KeysDistinct ks

/-! `KeysDistinct` is what a Python dict guarantees.
  All keys of a map field have the one key type `f.mapK`, so the mixed `int` / `bool`
  cases of `keyEq` (`True == 1`) never arise: on well-typed keys `keyEq` is equality, and
  `KeysDistinct` says that no key occurs twice. -/

theorem mapKey_shape (t : PType) (v : Val) (ht : isMapKeyType t = true) (hv : scalarOk t v = true) :
    (∃ i, v = .int i ∧ t ≠ .bool) ∨ (∃ c, v = .bool c ∧ t = .bool) ∨ ∃ s, v = .str s := by
  cases v with
  | int i => exact .inl ⟨i, rfl, fun e => by subst e; cases hv⟩
  | bool c => exact .inr (.inl ⟨c, rfl, by simpa [scalarOk] using hv⟩)
  | str s => exact .inr (.inr ⟨s, rfl⟩)
  | f32 b => simp only [scalarOk, Bool.and_eq_true, beq_iff_eq] at hv; rw [hv.1.1] at ht; cases ht
  | f64 b => simp only [scalarOk, Bool.and_eq_true, beq_iff_eq] at hv; rw [hv.1] at ht; cases ht
  | byt s => simp only [scalarOk, Bool.and_eq_true, beq_iff_eq] at hv; rw [hv.1] at ht; cases ht
  | _ => cases hv

theorem keyEq_typed (t : PType) (a b : Val) (ht : isMapKeyType t = true)
    (ha : scalarOk t a = true) (hb : scalarOk t b = true) : keyEq a b = true ↔ a = b := by
  rcases mapKey_shape t a ht ha with ⟨i, rfl, hi⟩ | ⟨c, rfl, hc⟩ | ⟨s, rfl⟩ <;>
    rcases mapKey_shape t b ht hb with ⟨j, rfl, hj⟩ | ⟨c', rfl, hc'⟩ | ⟨s', rfl⟩ <;> simp [keyEq]
  -- left over: an int against a bool, which one key type does not admit
  · exact absurd hc' hi
  · exact absurd hc hj

theorem keysDistinct_iff_pairwise : ∀ ks : List Val, KeysDistinct ks ↔ ks.Pairwise fun a b => keyEq a b = false
  | [] => by simp [KeysDistinct]
  | k :: ks => by rw [KeysDistinct, List.pairwise_cons, keysDistinct_iff_pairwise ks]

/-- a map field with a scalar (non-message) value type -/
structure MapFieldS (f : FieldD) : Prop where
  ty : f.ty = PType.map
  kty : isMapKeyType f.mapK = true
  vty : isScalarType f.mapV = true
  num : numOk f.num = true
  rep : f.repeated = false
  opt : f.optional = false
  grp : f.group = Option.none
  nw : f.wraps = Option.none

/-- a map field whose values are messages of class `c` -/
structure MapFieldM (f : FieldD) (c : Nat) : Prop where
  ty : f.ty = PType.map
  kty : isMapKeyType f.mapK = true
  vty : f.mapV = PType.message
  vk : f.mapVKind = MsgKind.user c
  num : numOk f.num = true
  rep : f.repeated = false
  opt : f.optional = false
  grp : f.group = Option.none
  nw : f.wraps = Option.none

/-- a REPEATED Timestamp (`isDur = false`) or Duration (`isDur = true`) field
    (`List[datetime]` / `List[timedelta]`): never optional, never a oneof member -/
structure TimesField (f : FieldD) (isDur : Bool) : Prop where
  ty : f.ty = PType.message
  nw : f.wraps = Option.none
  kind : f.kind = (if isDur then MsgKind.duration else MsgKind.timestamp)
  num : numOk f.num = true
  rep : f.repeated = true
  opt : f.optional = false
  grp : f.group = Option.none

/-- a map field whose values are Timestamps (`isDur = false`) or Durations (`isDur = true`) -/
structure MapFieldT (f : FieldD) (isDur : Bool) : Prop where
  ty : f.ty = PType.map
  kty : isMapKeyType f.mapK = true
  vty : f.mapV = PType.message
  vk : f.mapVKind = (if isDur then MsgKind.duration else MsgKind.timestamp)
  num : numOk f.num = true
  rep : f.repeated = false
  opt : f.optional = false
  grp : f.group = Option.none
  nw : f.wraps = Option.none

/-- an element of a repeated Timestamp / Duration field, a value of a map with Timestamp /
    Duration values: a datetime (`isDur = false`) / timedelta (`isDur = true`) in the
    protobuf-valid range -/
def timeValOk (isDur : Bool) : Val → Bool
  | .ts us => !isDur && tsOk us
  | .dur us => isDur && durOk us
  | _ => false

theorem timeValOk_ts (x : Val) (h : timeValOk false x = true) : ∃ us, x = Val.ts us ∧ tsOk us = true := by
  cases x with
  | ts us => exact ⟨us, rfl, by simpa [timeValOk] using h⟩
  | _ => simp [timeValOk] at h

theorem timeValOk_dur (x : Val) (h : timeValOk true x = true) : ∃ us, x = Val.dur us ∧ durOk us = true := by
  cases x with
  | dur us => exact ⟨us, rfl, by simpa [timeValOk] using h⟩
  | _ => simp [timeValOk] at h

end Bp
