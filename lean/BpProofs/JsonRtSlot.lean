import BpProofs.JsonRt
/-
  C04, slot level: every kind of slot value of a `wellTyped'` message (BpProofs/JsonGuard.lean)
  satisfies `SlotRT2` (BpProofs/JsonRt.lean), given the statement for the messages nested in it.
-/
namespace Bp
open Gen

section Slot
variable (S : Schema) (E : Enums) (cs : KeyCase) (f : FieldD) (hid sel : Bool)

theorem jrt_atom (v : Val) (h : dAtom v = true) : jrt S E cs v = v := by
  cases v with
  | list _ | dict _ _ | msg _ _ _ _ _ => cases h
  | _ => rw [jrt]; all_goals (intros; contradiction)

theorem rt_ph (hj : FJ f)
    (h : slotOk' S f hid sel .ph = true) : SlotRT2 S E cs f hid sel .ph := by
  rw [slotOk_ph] at h
  simp only [Bool.and_eq_true, Bool.not_eq_true'] at h
  obtain ⟨hs, ho⟩ := h
  subst hs
  have hn : toDictSlot S E cs false f hid false .ph = Option.none := by
    rw [toDictSlot_ph, toDictDefault_none S E f hj]
  refine ⟨fun j hjj => (by rw [hn] at hjj; cases hjj), fun _ => ⟨rfl, Or.inl (by simp [freshVal, ho])⟩⟩

theorem none_common (hs : HS f hid sel) (h : slotOk' S f hid sel .none = true) :
    hid = false ∧ sel = false ∧ f.repeated = false ∧ (f.ty == PType.map) = false ∧
      (f.optional || f.wraps.isSome) = true ∧ toDictSlot S E cs false f hid sel .none = Option.none := by
  rw [slotOk_none] at h
  simp only [Bool.and_eq_true, Bool.not_eq_true', bne_iff_ne, ne_eq, Option.isNone_iff_eq_none] at h
  obtain ⟨⟨⟨hg, ho⟩, hr⟩, hmap⟩ := h
  obtain ⟨rfl, rfl⟩ := hs.1 hg
  have hmap' : (f.ty == PType.map) = false := by simpa using hmap
  exact ⟨rfl, rfl, hr, hmap', ho, toDictSlot_none S E cs f hr hmap' ho⟩

theorem rt_none (hs : HS f hid sel)
    (h : slotOk' S f hid sel .none = true) : SlotRT2 S E cs f hid sel .none := by
  obtain ⟨rfl, rfl, hr, hmap, ho, hn⟩ := none_common S E cs f hid sel hs h
  refine ⟨fun j hjj => (by rw [hn] at hjj; cases hjj), fun _ => ⟨rfl, ?_⟩⟩
  by_cases hopt : f.optional = true
  · left; simp [freshVal, hopt]
  · right
    refine ⟨by simpa using hopt, ?_, rfl⟩
    rw [defKind_none f hr hmap ho]; simp [eqDefault]

theorem leaf_facts (v : Val) (hl : isLeafVal v = true) (hn : v ≠ .none) (sel : Bool) :
    dAtom v = true ∧ keptSlot S f sel v = true ∧ isSentinel f v = false ∧ onWireOf v = false := by
  cases v with
  | ph | list _ | dict _ _ | msg _ _ _ _ _ => cases hl
  | none => exact absurd rfl hn
  | _ => exact ⟨rfl, rfl, rfl, rfl⟩

theorem rt_leaf (v : Val) (hj : FJ f)
    (he : enumOk (enumOf E f) = true)
    (hl : isLeafVal v = true) (hn : v ≠ .none) (h : slotOk' S f hid sel v = true) : SlotRT2 S E cs f hid sel v := by
  rw [slotOk_leaf S f hid sel v hl hn] at h
  simp only [Bool.and_eq_true, Bool.not_eq_true'] at h
  obtain ⟨⟨hh, hr⟩, hok⟩ := h
  obtain ⟨ha, hp, hsn, how⟩ := leaf_facts S f v hl hn sel
  have hjrt := jrt_atom S E cs v ha
  subst hh
  constructor
  · intro j hjj
    have hrt : FieldRT S E cs f false sel v := by
      rcases leafOk_cases f v hok with ⟨hm, w, hw, hv⟩ | ⟨hm, hw, hkind⟩ | ⟨hm, hmap, hv⟩
      · exact fieldRT_wrapper S E cs f sel v w hm hw hv
      · exact fieldRT_wkt S E cs f sel v hm hw hkind
      · exact fieldRT_scalar S E cs f sel v hm hmap hr he hv
    obtain ⟨h1, h2⟩ := hrt j hjj
    rw [hjrt]
    exact ⟨h1, h2, DEqv.atom v ha, hp, hsn, rfl⟩
  · intro hnone
    rcases leafOk_cases f v hok with ⟨hm, w, hw, hv⟩ | ⟨hm, hw, hkind⟩ | ⟨hm, hmap, hv⟩
    · rw [toDictSlot_wrapped S E cs false f sel v w hm hw hv] at hnone
      cases hnone
    · have hmap : (f.ty == PType.map) = false := by rw [show f.ty = PType.message by simpa using hm]; rfl
      rcases hkind with ⟨hk, us, rfl⟩ | ⟨hk, us, rfl⟩ <;>
      · rw [toDictSlot_leaf _ _ _ _ _ _ _ _ rfl] at hnone
        simp only [Bool.false_eq_true, if_false, toDictPlain, hm, if_true, Bool.or_false] at hnone
        split at hnone
        · cases hnone
        · rename_i hc
          simp only [Bool.or_eq_true, not_or, Bool.not_eq_true, bne_eq_false_iff_eq] at hc
          obtain ⟨⟨hus, hopt⟩, hsel⟩ := hc
          refine ⟨hsel, Or.inr ⟨hopt, ?_, rfl⟩⟩
          rw [defKind_msg f hr hmap (by simp [hopt, hw]) hm, hk]
          simp [msgKindDef, eqDefault, hus]
    · rw [toDictSlot_scalar S E cs f sel v hm hmap hr hv] at hnone
      split at hnone
      · cases hnone
      · rename_i hc
        simp only [Bool.or_eq_true, not_or, Bool.not_eq_true, Bool.not_eq_false'] at hc
        refine ⟨hc.2, Or.inr ⟨?_, hc.1, how⟩⟩
        cases hopt : f.optional with
        | false => rfl
        | true =>
          have := hc.1
          rw [defKind_none f hr hmap (by simp [hopt]), eqDefault_none_leaf S v hl hn] at this
          cases this


theorem isLeafVal_dAtom (x : Val) (h : isLeafVal x = true) : dAtom x = true := by
  cases x with
  | ph | list _ | dict _ _ | msg _ _ _ _ _ => cases h
  | _ => rfl

theorem jrtList_atoms (xs : List Val) (h : ∀ x ∈ xs, dAtom x = true) :
    jrtList S E cs xs = xs := by
  induction xs with
  | nil => rw [jrtList]
  | cons x xs ih => rw [jrtList, jrt_atom S E cs x (h x (by simp)), ih (fun y hy => h y (by simp [hy]))]

theorem listDEqv_atoms (xs : List Val) (h : ∀ x ∈ xs, dAtom x = true) : ListDEqv S xs xs := by
  induction xs with
  | nil => exact ListDEqv.nil
  | cons x xs ih => exact ListDEqv.consAtom x xs xs (h x (by simp)) (ih (fun y hy => h y (by simp [hy])))

theorem jrt_list (xs : List Val) :
    jrt S E cs (.list xs) = .list (jrtList S E cs xs) := by rw [jrt]

theorem jrt_dict (ks vs : List Val) :
    jrt S E cs (.dict ks vs) = .dict ks (jrtList S E cs vs) := by rw [jrt]

theorem jrt_msg (c : Nat) (sl : List Val) (ow : Bool) (unk : Bytes)
    (cur : List (Option Nat)) :
    jrt S E cs (.msg c sl ow unk cur) = .msg c (jrtSlots S E cs (fieldsOf S c) cur 0 sl) true unk cur := by rw [jrt]

theorem list_omitted (xs : List Val) (hr : f.repeated = true)
    (hmap : (f.ty == PType.map) = false) (hw : f.wraps = Option.none)
    (hn : toDictSlot S E cs false f false false (.list xs) = Option.none) : xs = [] := by
  by_cases hm : (f.ty == PType.message) = true
  · rw [toDictSlot_repeated_msg S E cs false f false xs hm hw hr] at hn
    cases xs <;> simp at hn ⊢
  · rw [toDictSlot_repeated_scalar S E cs false f false xs (by simpa using hm) hmap hr] at hn
    cases xs with
    | nil => rfl
    | cons x xs => cases hn

theorem rt_list_omitted (xs : List Val) (hr : f.repeated = true)
    (hmap : (f.ty == PType.map) = false) (hw : f.wraps = Option.none) (ho : f.optional = false)
    (hn : toDictSlot S E cs false f false false (.list xs) = Option.none) :
    Val.list xs = freshVal f ∨
      (f.optional = false ∧ eqDefault S f.defKind (.list xs) = true ∧ onWireOf (.list xs) = false) := by
  have := list_omitted S E cs f xs hr hmap hw hn
  subst this
  exact Or.inr ⟨ho, by rw [defKind_rep f hr, eqDefault_list]; rfl, rfl⟩

theorem rt_list_flat (xs : List Val) (hj : FJ f)
    (hs : HS f hid sel) (he : enumOk (enumOf E f) = true)
    (hnu : ¬ ((f.ty == PType.message) = true ∧ f.wraps = Option.none ∧ ∃ c, f.kind = .user c))
    (h : slotOk' S f hid sel (.list xs) = true) : SlotRT2 S E cs f hid sel (.list xs) := by
  obtain ⟨hh, hsel, hr, hmap, ho, hw, hit⟩ := list_common S f hid sel xs hj hs h
  subst hh; subst hsel
  have hleaf := itemsOk_leaf S f xs hnu hit
  have hatoms : ∀ x ∈ xs, dAtom x = true := fun x hx => isLeafVal_dAtom x (leafOk_leaf f x (hleaf x hx)).1
  have hrt : FieldRT S E cs f false false (.list xs) := by
    rcases itemsOk_flat_cases S f xs hw hnu hit with ⟨hm, hk⟩ | ⟨hm, hv⟩
    · exact fieldRT_repeated_wkt S E cs f false xs hm hw hr hk
    · exact fieldRT_repeated_scalar S E cs f false xs hm hmap hr he hv
  have hjrt : jrt S E cs (.list xs) = .list xs := by rw [jrt_list, jrtList_atoms S E cs xs hatoms]
  constructor
  · intro j hjj
    obtain ⟨h1, h2⟩ := hrt j hjj
    rw [hjrt]
    exact ⟨h1, h2, DEqv.list xs xs (listDEqv_atoms S xs hatoms), rfl, rfl, rfl⟩
  · exact fun hn => ⟨rfl, rt_list_omitted S E cs f xs hr hmap hw ho hn⟩

theorem rt_list_user (xs : List Val) (c : Nat)
    (hj : FJ f) (hs : HS f hid sel) (hm : (f.ty == PType.message) = true) (hk : f.kind = .user c)
    (h : slotOk' S f hid sel (.list xs) = true)
    (hitems : fromDictItems S E c (toDictList S E cs false xs) = .ok (jrtList S E cs xs))
    (hrel : ListDEqv S xs (jrtList S E cs xs)) : SlotRT2 S E cs f hid sel (.list xs) := by
  obtain ⟨hh, hsel, hr, hmap, ho, hw, hit⟩ := list_common S f hid sel xs hj hs h
  subst hh; subst hsel
  constructor
  · intro j hjj
    rw [toDictSlot_repeated_msg S E cs false f false xs hm hw hr, hk] at hjj
    split at hjj
    · injection hjj with hjj; subst hjj
      refine ⟨nofun, ?_, ?_, rfl, rfl, rfl⟩
      · rw [decodeField]
        simp only [hm, if_true, hw, Option.isSome_none, Bool.false_eq_true, if_false, hk, hitems, bind_ok, jrt_list]
      · rw [jrt_list]; exact DEqv.list _ _ hrel
    · cases hjj
  · exact fun hn => ⟨rfl, rt_list_omitted S E cs f xs hr hmap hw ho hn⟩


theorem rt_dict_omitted (ks vs : List Val) (hj : FJ f)
    (hty : f.ty = PType.map)
    (hn : toDictSlot S E cs false f false false (.dict ks vs) = Option.none) :
    Val.dict ks vs = freshVal f ∨
      (f.optional = false ∧ eqDefault S f.defKind (.dict ks vs) = true ∧ onWireOf (.dict ks vs) = false) := by
  have hm : (f.ty == PType.map) = true := by simp [hty]
  rw [toDictSlot_map S E cs false f false ks vs hm] at hn
  split at hn
  · cases hn
  · rename_i hc
    refine Or.inr ⟨hj.map_opt hm, ?_, rfl⟩
    rw [defKind_map f (hj.map_rep hm) hm, eqDefault]
    simpa using hc

theorem rt_dict_flat (ks vs : List Val) (hj : FJ f)
    (hs : HS f hid sel) (hv : (f.mapV == PType.message) = false)
    (h : slotOk' S f hid sel (.dict ks vs) = true) : SlotRT2 S E cs f hid sel (.dict ks vs) := by
  obtain ⟨hh, hsel, hty, hks, hvs⟩ := dict_common S f hid sel ks vs hj hs h
  subst hh; subst hsel
  have hm : (f.ty == PType.map) = true := by simp [hty]
  have hraw : ∀ x ∈ vs, rawOk x = true := fun x hx =>
    valOfType_rawOk _ x (mapValsOk_scalar S f vs hv hvs x hx) (hj.map_vb hm)
  have hatoms : ∀ x ∈ vs, dAtom x = true := fun x hx => isLeafVal_dAtom x (rawOk_leaf x (hraw x hx)).1.1
  have hjrt : jrt S E cs (.dict ks vs) = .dict ks vs := by rw [jrt_dict, jrtList_atoms S E cs vs hatoms]
  constructor
  · intro j hjj
    obtain ⟨h1, h2⟩ := fieldRT_map_scalar S E cs f false ks vs hty hv hks hraw j hjj
    rw [hjrt]
    exact ⟨h1, h2, DEqv.dict ks vs vs (listDEqv_atoms S vs hatoms), rfl, rfl, rfl⟩
  · exact fun hn => ⟨rfl, rt_dict_omitted S E cs f ks vs hj hty hn⟩

theorem rt_dict_user (ks vs : List Val) (c : Nat)
    (hj : FJ f) (hs : HS f hid sel) (hv : (f.mapV == PType.message) = true) (hk : f.mapVKind = .user c)
    (h : slotOk' S f hid sel (.dict ks vs) = true)
    (hvals : fromDictMapVals S E c (toDictMapVals S E cs false vs) = .ok (jrtList S E cs vs))
    (hrel : ListDEqv S vs (jrtList S E cs vs)) : SlotRT2 S E cs f hid sel (.dict ks vs) := by
  obtain ⟨hh, hsel, hty, hks, hvs⟩ := dict_common S f hid sel ks vs hj hs h
  subst hh; subst hsel
  have hm : (f.ty == PType.map) = true := by simp [hty]
  have hmsg : (f.ty == PType.message) = false := by rw [hty]; rfl
  constructor
  · intro j hjj
    rw [toDictSlot_map S E cs false f false ks vs hm] at hjj
    split at hjj
    · injection hjj with hjj; subst hjj
      refine ⟨nofun, ?_, ?_, rfl, rfl, rfl⟩
      · rw [decodeField]
        simp only [hmsg, Bool.false_eq_true, if_false, hm, hv, Bool.and_self, if_true, hk, hvals, bind_ok, jrt_dict,
          keyV_keyJ ks hks]
      · rw [jrt_dict]; exact DEqv.dict _ _ _ hrel
    · cases hjj
  · exact fun hn => ⟨rfl, rt_dict_omitted S E cs f ks vs hj hty hn⟩


theorem rt_msg_slot (c : Nat) (sl : List Val)
    (ow : Bool) (unk : Bytes) (cur : List (Option Nat))
    (h : slotOk' S f hid sel (.msg c sl ow unk cur) = true)
    (hkv : fromDictKV S E c ((toDictKVs S E cs false (fieldsOf S c) cur 0 sl).map (·.1))
        ((toDictKVs S E cs false (fieldsOf S c) cur 0 sl).map (·.2))
      = .ok (emitted2 S E cs (fieldsOf S c) cur 0 sl))
    (hcls : fromDictCls S c (emitted2 S E cs (fieldsOf S c) cur 0 sl)
      = .msg c (jrtSlots S E cs (fieldsOf S c) cur 0 sl) true [] cur)
    (hrel : SlotsDEqv S (fieldsOf S c) cur 0 sl (jrtSlots S E cs (fieldsOf S c) cur 0 sl)) :
    SlotRT2 S E cs f hid sel (.msg c sl ow unk cur) := by
  rw [slotOk_msg] at h
  simp only [Bool.and_eq_true, Bool.not_eq_true', beq_iff_eq, Option.isNone_iff_eq_none] at h
  obtain ⟨⟨⟨⟨⟨hh, hty⟩, hw⟩, hr⟩, hk⟩, hbody⟩ := h
  obtain ⟨hunk, _, _, _⟩ := bodyOk_spec S c sl unk cur hbody
  subst hh; subst hunk
  have hm : (f.ty == PType.message) = true := by simp [hty]
  -- (D46 repair) `to_dict` keeps the sub-message when it is marked, optional, selected, or differs
  -- from its default: exactly `keptSlot`
  have hts : toDictSlot S E cs false f false sel (.msg c sl ow [] cur) =
      if keptSlot S f sel (.msg c sl ow [] cur) = true then
        some (mkObj (toDictKVs S E cs false (fieldsOf S c) cur 0 sl))
      else Option.none := by
    rw [toDictSlot_msg S E cs false f sel c sl ow [] cur hm hw hr]
    simp only [Bool.or_false, keptSlot]
    rfl
  rw [SlotRT2, hts]
  constructor
  · intro j hjj
    split at hjj
    · rename_i hc
      injection hjj with hjj; subst hjj
      refine ⟨nofun, ?_, ?_, hc, rfl, rfl⟩
      · rw [mkObj, decodeField]
        simp only [hm, if_true, hw, Option.isSome_none, Bool.false_eq_true, if_false, hk, hkv, bind_ok, hcls, jrt_msg]
      · rw [jrt_msg]; exact DEqv.msg c sl _ ow [] cur hrel
    · cases hjj
  · intro hn
    split at hn
    · cases hn
    · rename_i hc
      simp only [keptSlot, Bool.or_eq_true, not_or, Bool.not_eq_true, Bool.not_eq_false'] at hc
      obtain ⟨⟨⟨how, hopt⟩, hsel⟩, hd⟩ := hc
      exact ⟨hsel, Or.inr ⟨hopt, hd, how⟩⟩

end Slot

end Bp
