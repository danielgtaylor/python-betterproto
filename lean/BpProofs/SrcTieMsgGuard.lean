import BpProofs.SrcTieMsg
import BpProofs.Typed
import BpProofs.OkSound
/-
  The guard `msgDynOk` of the whole-method ties (BpProofs/SrcTieMsg.lean) holds of every value the
  property theorems quantify over:
    * every TYPED message of a well-formed schema (`msgTypedB`, either strictness — the typing
      judgement of C17, which `parse` establishes: `C17.ok_welltyped`);
    * every message in the domain `MsgOk` of the round-trip theorems (C01): the walk by shape of slot
      (BpProofs/OkView.lean); per item only "no Message instance, or one at a message place" is used.
-/
namespace Bp.SrcTieMsg
open Bp Bp.Py Gen Bp.SrcTieDump

theorem leaf_dynOk (s : Bool) (S : Schema) (f : FieldD) (v : Val) (h : leafTypedB s f v = true) :
    msgDynOk S v = true ∧ isMsgVal v = false := by
  cases v with
  | ph | none | list _ | dict _ _ | msg _ _ _ _ _ => simp [leafTypedB] at h
  | _ => exact ⟨rfl, rfl⟩

theorem allDynOk_of (S : Schema) : ∀ xs : List Val, (∀ x ∈ xs, msgDynOk S x = true) → allDynOk S xs = true
  | [], _ => by rw [allDynOk]
  | x :: xs, h => by
    rw [allDynOk, h x List.mem_cons_self, allDynOk_of S xs fun y hy => h y (List.mem_cons_of_mem _ hy)]; rfl

theorem slotsDynOk_of (S : Schema) : ∀ (fs : List FieldD) (sl : List Val), sl.length = fs.length →
    (∀ i f, fs[i]? = some f → dynOk f (sl.getD i .ph) = true ∧ msgDynOk S (sl.getD i .ph) = true) →
    slotsDynOk S fs sl = true
  | [], [], _, _ => by rw [slotsDynOk]
  | [], _ :: _, hl, _ => by simp at hl
  | _ :: _, [], hl, _ => by simp at hl
  | f :: fs, v :: vs, hl, h => by
    have h0 : dynOk f v = true ∧ msgDynOk S v = true := h 0 f rfl
    rw [slotsDynOk, h0.1, h0.2, slotsDynOk_of S fs vs (by simpa using hl) fun i g hg => h (i + 1) g hg]
    rfl

/-- a typed value, as an item and as a slot -/
theorem typed_dyn (s : Bool) (S : Schema) (hS : WfSchemaT S) : ∀ v,
    (∀ f, itemsTypedB s S f [v] = true → msgDynOk S v = true)
    ∧ ∀ f, slotTypedB s S f v = true → msgDynOk S v = true := by
  apply typed_induction
  case leaf => exact fun f v h => (leaf_dynOk s S f v h).1
  case msg =>
    intro f c d sl ow unk cur _ hd _ hsl ih
    rw [msgDynOk, fieldsOf_some S c d hd]
    exact slotsDynOk_of S d.fields sl (slotsTyped_length s S _ _ hsl) fun i g hg =>
      ⟨dynOk_of_typed s S S.length g _ (wfSchema_class S hS c d hd g (List.mem_of_getElem? hg))
        (slotsTyped_getD s S _ _ i g hsl hg), ih i g hg⟩
  case ph => exact fun _ => rfl
  case none => exact fun _ _ => rfl
  case one => exact fun _ _ _ _ h => h
  case list => exact fun f xs _ _ h => by rw [msgDynOk]; exact allDynOk_of S xs h
  case dict =>
    exact fun f ks vs _ _ _ _ _ hk hv => by rw [msgDynOk, allDynOk_of S ks hk, allDynOk_of S vs hv]; rfl

theorem typed_slot_dyn (s : Bool) (S : Schema) (hS : WfSchemaT S) (f : FieldD) :
    ∀ v : Val, slotTypedB s S f v = true → msgDynOk S v = true :=
  fun v => (typed_dyn s S hS v).2 f

theorem typed_items_dyn (s : Bool) (S : Schema) (hS : WfSchemaT S) (f : FieldD) :
    ∀ xs : List Val, itemsTypedB s S f xs = true → allDynOk S xs = true :=
  fun xs h => allDynOk_of S xs fun x hx => (typed_dyn s S hS x).1 f ((items_iff s S f xs).mp h x hx)

theorem msgDynOk_of_typed (s : Bool) (S : Schema) (hS : WfSchemaT S) (m : Val) (h : msgTypedB s S m = true) :
    msgDynOk S m = true := by
  cases m with
  | msg c sl ow unk cur =>
    obtain ⟨d, hd, _, hsl⟩ := (msgTypedB_iff s S c sl ow unk cur).mp h
    rw [msgDynOk, fieldsOf_some S c d hd]
    exact slotsDynOk_of S d.fields sl (slotsTyped_length s S _ _ hsl) fun i g hg =>
      have hg' := slotsTyped_getD s S _ _ i g hsl hg
      ⟨dynOk_of_typed s S S.length g _ (wfSchema_class S hS c d hd g (List.mem_of_getElem? hg)) hg',
        (typed_dyn s S hS _).2 g hg'⟩
  | _ => cases h
theorem scalarOk_dyn (S : Schema) (t : PType) (v : Val) (h : scalarOk t v = true) :
    msgDynOk S v = true ∧ isMsgVal v = false := by
  cases v with
  | list | dict | msg => simp [scalarOk] at h
  | _ => exact ⟨rfl, rfl⟩

theorem timeValOk_dyn (S : Schema) (isDur : Bool) (v : Val) (h : timeValOk isDur v = true) :
    msgDynOk S v = true ∧ isMsgVal v = false := by
  cases v with
  | list | dict | msg => simp [timeValOk] at h
  | _ => exact ⟨rfl, rfl⟩

/-- an item is no Message instance, or it stands where one may stand and `P` holds of it -/
theorem item_plain_or_msg (S : Schema) (P : Val → Prop) (t : PType) (w : Option PType) (K : ItemKind) (x : Val)
    (hc : Carries t w K) (hx : ItemOk S P K x) :
    (isMsgVal x = false ∧ msgDynOk S x = true) ∨ (isMsgVal x = true ∧ t = .message ∧ w = Option.none ∧ P x) := by
  cases hx with
  | scalar t x hx | wrapped t x hx => exact .inl ⟨(scalarOk_plain t x hx).2, (scalarOk_dyn S t x hx).1⟩
  | time b x hx => exact .inl ((timeValOk_dyn S b x hx).symm)
  | msg c sl ow unk cur _ ih => cases hc; exact .inr ⟨rfl, rfl, rfl, ih⟩

theorem dyn_shape (S : Schema) (f : FieldD) (v : Val) (h : SlotShape S (fun m => msgDynOk S m = true) f v) :
    dynOk f v = true ∧ msgDynOk S v = true := by
  cases h with
  | unset | none => exact ⟨rfl, rfl⟩
  | one K _ hf hv =>
    rcases item_plain_or_msg S _ _ _ K v hf.carries hv with ⟨h1, h2⟩ | ⟨h1, ht, hw, h2⟩
    · have ho := itemOk_oneVal S _ K v hv
      refine ⟨?_, h2⟩
      cases v with
      | ph | none | list | dict => cases ho
      | msg => cases h1
      | _ => rfl
    · cases v with
      | msg => exact ⟨by simp [dynOk, msgPlace, ht, hw], h2⟩
      | _ => cases h1
  | many K xs hf hxs =>
    have h := fun x hx => item_plain_or_msg S _ _ _ K x hf.carries (hxs x hx)
    refine ⟨?_, by rw [msgDynOk]; exact allDynOk_of S xs fun x hx => (h x hx).elim (·.2) (·.2.2.2)⟩
    simp only [dynOk, List.all_eq_true]
    intro x hx
    rcases h x hx with ⟨h1, _⟩ | ⟨_, ht, hw, _⟩
    · simp [h1]
    · simp [msgPlace, ht, hw]
  | map K ks vs hf _ hks hvs =>
    obtain ⟨hc, hty, _⟩ := hf.carries
    have h := fun x hx => item_plain_or_msg S _ _ _ K x hc (hvs x hx)
    have hk := fun k hk => scalarOk_dyn S f.mapK k (hks k hk)
    refine ⟨?_, by
      rw [msgDynOk, allDynOk_of S ks fun k hkm => (hk k hkm).1,
        allDynOk_of S vs fun x hx => (h x hx).elim (·.2) (·.2.2.2)]; rfl⟩
    simp only [dynOk, List.all_eq_true]
    intro kv hkv
    have h1 := (hk kv.1 (List.of_mem_zip hkv).1).2
    rcases h kv.2 (List.of_mem_zip hkv).2 with ⟨h2, _⟩ | ⟨_, ht, _, _⟩
    · simp [hty, h1, h2]
    · simp [hty, h1, ht]

theorem slotsDynOk_shapes (S : Schema) (fs : List FieldD) (vs : List Val)
    (h : List.Forall₂ (SlotShape S (fun m => msgDynOk S m = true)) fs vs) : slotsDynOk S fs vs = true := by
  induction h with
  | nil => rw [slotsDynOk]
  | cons h1 _ ih => rw [slotsDynOk, (dyn_shape S _ _ h1).1, (dyn_shape S _ _ h1).2, ih]; rfl

theorem msgDynOk_of_ok (S : Schema) : ∀ m, MsgOk S m → msgDynOk S m = true :=
  MsgOk.walk S fun c d sl _ _ _ hd _ hsl => by
    rw [msgDynOk, fieldsOf_some S c d hd]; exact slotsDynOk_shapes S d.fields sl hsl

theorem ok_slot_dyn (S : Schema) (f : FieldD) : ∀ v : Val, slotOkB S f v = true → dynOk f v = true ∧ msgDynOk S v = true :=
  fun v h => dyn_shape S f v (SlotOk.shape S (msgDynOk_of_ok S) f v (slotOkB_sound S f v h))

theorem ok_msgs_dyn (S : Schema) (c : Nat) : ∀ xs : List Val, msgsOkB S c xs = true → allDynOk S xs = true :=
  fun xs h => allDynOk_of S xs fun x hx => by
    cases MsgsOk.items S (msgDynOk_of_ok S) c xs (msgsOkB_sound S c xs h) x hx with
    | msg _ _ _ _ _ _ hm => exact hm

end Bp.SrcTieMsg
