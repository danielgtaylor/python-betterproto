import BpProofs.PyPrelude
import BpModel.Time
/-
  Semantic prelude of the SOURCE TRANSLATOR for the Timestamp / Duration arithmetic
  (harness/extract_srctime.py → BpProofs/Gen/SrcTime.lean).

  REPRESENTATION (as in BpModel/Time.lean and Props/C15.lean): an aware `datetime` is an
  `Int` number of microseconds since 1970-01-01T00:00:00Z, a `timedelta` an `Int` number
  of microseconds.  What is ASSUMED (trusted, not proved) is this file: that the
  `datetime` / `timedelta` operations and the builtins named below mean, on that
  representation, what is written here, and that the translator maps syntax to them
  faithfully.  NOT modelled: the finite ranges of `datetime` (years 1..9999) and
  `timedelta` (±999999999 days) — the Python operations raise OverflowError outside
  them, the definitions below are total; naive datetimes (`dt - DATETIME_ZERO` raises
  TypeError for them).  BpProofs/Props/C15Src.lean proves the translated functions equal
  to the model functions of BpModel/Time.lean (arithmetic in BpProofs/SrcTieTime.lean).
-/
namespace Bp.Py

/-- `abs(a)` on an int -/
def abs (a : Int) : Int := (a.natAbs : Nat)

/-- `divmod(a, b)` on ints for a POSITIVE `b` (the translator only accepts a positive
    constant): floor quotient and the remainder in `[0, b)`.  Lean's `Int` `/` and `%`
    (`Int.ediv`, `Int.emod`) are exactly that for `b > 0`. -/
def divmod (a b : Int) : Int × Int := (a / b, a % b)

/-- `timedelta(days=d, seconds=s, microseconds=u)` for INTEGER arguments: the constructor
    is exact on ints (no float is involved), the result is the sum. -/
def timedelta (days seconds microseconds : Int) : Int :=
  (days * 86400 + seconds) * 1000000 + microseconds

/-- `a // b` for two timedeltas, `b` a POSITIVE constant: the floor of the quotient of
    their microsecond counts (`delta // timedelta(microseconds=1)` is the total number of
    microseconds of `delta`). -/
def tdFloorDiv (a b : Int) : Int := a / b

/-- `td.days`, `td.seconds`, `td.microseconds`: the normalised components of a timedelta,
    `0 ≤ seconds < 86400`, `0 ≤ microseconds < 10^6`, `days` of either sign, with
    `td = days·86400·10^6 + seconds·10^6 + microseconds` microseconds. -/
def tdDays (us : Int) : Int := us / 86400000000
def tdSeconds (us : Int) : Int := (us % 86400000000) / 1000000
def tdMicroseconds (us : Int) : Int := us % 1000000

/-- `datetime(1970, 1, 1, tzinfo=timezone.utc)`, the origin of the representation.  The
    translator emits it for the module constant `DATETIME_ZERO` only after checking that
    the source still defines `DATETIME_ZERO` as exactly that. -/
def epochUtc : Int := 0

/-- `a - b` for two aware datetimes: the timedelta between the two instants
    (time-zone independent) -/
def dtSub (a b : Int) : Int := a - b
/-- `dt + td` -/
def dtAdd (dt td : Int) : Int := dt + td

/-- `timedelta(seconds=s, microseconds=n / 1e3)` for ints `s`, `n` with `|n| < 2^31`
    (`nanos` is an int32 field).  JUSTIFICATION.  `n / 1e3` is a float division: `n` and
    `1e3` convert exactly, IEEE division is correctly rounded, so the float is the double
    nearest to the rational n/1000.  CPython's `timedelta.__new__` (`accum` in
    _datetimemodule.c) splits a float argument with `modf` into an integral part, added
    exactly, and a fractional part `f`, and finally adds `round-half-to-even(f)` where
    "even" refers to the parity of the integral microsecond total (`seconds·10^6` is
    even, so to the parity of the integral part of n/1000).  For `|n| < 2^31` the
    quotient is below 2^22, neighbouring doubles there are < 2^-30 apart whereas distinct
    values of n/1000 are 10^-3 apart, and q + 1/2 is a double: hence the float's
    fractional part is < 1/2, = 1/2, > 1/2 exactly when that of n/1000 is.  The result is
    therefore `s·10^6 + roundHalfEven1000 n` with the model's `roundHalfEven1000`
    (BpModel/Time.lean); harness/tests/check_srctime.py compares it with the real
    `to_timedelta` on boundary (…499, …500, …501) and random int32 values. -/
def timedeltaSecondsFloatMicros (s n : Int) : Int := s * 1000000 + roundHalfEven1000 n

/-- the f-string `f"{sign}{seconds}.{digits:0Wd}s"` where `sign` is `"-"` (`true`) or `""`
    (`false`) and `W` is 3 or 6: the text `sign ++ str(seconds) ++ "." ++ digits
    zero-padded to at least W characters ++ "s"`, kept as the tuple of its four parameters
    (the rendering to characters is not modelled) -/
def fmtSecs (sign : Bool) (seconds width digits : Int) : Bool × Int × Int × Int :=
  (sign, seconds, width, digits)

/-! ### integer-valued floats (`timestamp_to_json`: `nanos = dt.microsecond * 1e3`, `nanos % 1e9`, `nanos // 1e6`)

  A Python float that holds an integer of magnitude below 2^53 is represented by that
  `Int`.  On such doubles `x * c`, `x % c`, `x // c` for an integer-valued positive float
  constant `c` are EXACT (IEEE-754: the exact result is an integer below 2^53, hence
  representable; `%` / `//` on floats take the sign convention of the divisor, i.e. floor,
  like the int operators) as long as the result again has magnitude below 2^53.  Each
  operation below checks that and answers `.diverge` — here: "outside the domain in which
  this translation claims anything" — otherwise; the tie theorems prove `.ok …`, i.e. also
  that the domain is never left.  `int(x)` of such a float is the integer; `x == k`
  against an int compares exactly. -/

/-- the value is an integer-valued double below 2^53 in magnitude -/
def fexact (v : Int) : Res Int :=
  if -9007199254740992 < v ∧ v < 9007199254740992 then .ok v else .diverge
/-- `a * c` for an int (or integer-valued float) `a` and a positive integer-valued float constant `c` -/
def fmul (a c : Int) : Res Int := fexact (a * c)
/-- float `x % c`, `c > 0` -/
def fmod (x c : Int) : Res Int := fexact (x % c)
/-- float `x // c`, `c > 0` -/
def ffloordiv (x c : Int) : Res Int := fexact (x / c)

/-- the f-strings of `timestamp_to_json`: `f"{result}Z"` (no fractional digits) and
    `f"{result}.{digits:0Wd}Z"` (`W` zero-padded digits), where `result` is the
    `isoformat()` text of the date and time to the second (not modelled): the fraction as
    `none` / `some (W, digits)`, as the model's `tsFrac` -/
def fmtFrac0 : Option (Int × Int) := none
def fmtFrac (width digits : Int) : Option (Int × Int) := some (width, digits)

end Bp.Py
