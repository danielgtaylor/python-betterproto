import BpProofs.Typing
/-
  `wellQuoted` on what the compilers and the template sites produce, and Python's `str.strip('"')` on it.
  Quote-free text is scanned through (`wq_code`); the scanner is proved right once on the grammar (`wq_form`, with
  `noQ_form` for the inside of a literal), and `render_form` brings it to every compiler (`wq_render`, `wq_strip_site`).
-/
namespace Bp.Typing

/-- no `"` anywhere -/
def noQ (s : Str) : Bool := s.all (fun ch => ch != dq)

theorem noQ_nil : noQ [] = true := rfl
theorem noQ_cons (a : Char) (s : Str) : noQ (a :: s) = (a != dq && noQ s) := by simp [noQ]
theorem noQ_append (a b : Str) : noQ (a ++ b) = (noQ a && noQ b) := by simp [noQ]

theorem noQ_of_all_name (n : Str) (h : n.all isNameChar = true) : noQ n = true := by
  induction n with
  | nil => rfl
  | cons a n ih =>
    simp only [List.all_cons, Bool.and_eq_true] at h
    rw [noQ_cons, ih h.2]
    have := ne_dq_of_name h.1
    simp [bne, this]

theorem noQ_of_valid (n : Str) (h : validName n = true) : noQ n = true := by
  simp only [validName, Bool.and_eq_true] at h
  exact noQ_of_all_name n h.2

theorem wq_lit (X r : Str) (e p : Bool) (h : noQ X = true) :
    wqScan (.lit e) p (X ++ dq :: r) = ((!(e && X.isEmpty)) && wqScan (.code true) false r) := by
  induction X generalizing e p with
  | nil => simp [wqScan]
  | cons ch X ih =>
    rw [noQ_cons] at h
    simp only [Bool.and_eq_true, bne_iff_ne, ne_eq] at h
    have hc : (ch == dq) = false := by simp [h.1]
    simp [wqScan, hc, ih false false h.2]

theorem wq_quoted (X : Str) (hne : X ≠ []) (h : noQ X = true) : wellQuoted (quoted X) = true := by
  unfold wellQuoted quoted
  have := wq_lit X [] true false h
  cases X with
  | nil => exact absurd rfl hne
  | cons a X =>
    simp [wqScan] at this ⊢
    exact this

theorem dropWhile_noQ (X : Str) (h : noQ X = true) : X.dropWhile (· == dq) = X := by
  cases X with
  | nil => rfl
  | cons a X =>
    rw [noQ_cons] at h
    simp only [Bool.and_eq_true, bne_iff_ne, ne_eq] at h
    have hc : (a == dq) = false := by simp [h.1]
    simp [List.dropWhile, hc]

theorem noQ_reverse (X : Str) : noQ X.reverse = noQ X := by simp [noQ]

theorem stripQ_noQ (X : Str) (h : noQ X = true) : stripQ X = X := by
  unfold stripQ
  rw [dropWhile_noQ X h, dropWhile_noQ X.reverse (by rw [noQ_reverse]; exact h), List.reverse_reverse]

theorem stripQ_quoted (X : Str) (hne : X ≠ []) (h : noQ X = true) : stripQ (quoted X) = X := by
  unfold stripQ quoted
  cases X with
  | nil => exact absurd rfl hne
  | cons a X =>
    have ha : (a == dq) = false := by
      rw [noQ_cons] at h
      simp only [Bool.and_eq_true, bne_iff_ne, ne_eq] at h
      simp [h.1]
    have h1 : (dq :: (a :: X ++ [dq])).dropWhile (· == dq) = a :: X ++ [dq] := by
      simp [List.dropWhile, ha]
    rw [h1]
    have h2 : (a :: X ++ [dq]).reverse = dq :: (a :: X).reverse := by simp
    rw [h2]
    have h3 : (dq :: (a :: X).reverse).dropWhile (· == dq) = (a :: X).reverse := by
      rw [List.dropWhile_cons]
      simp only [beq_self_eq_true, if_true]
      exact dropWhile_noQ _ (by rw [noQ_reverse]; exact h)
    rw [h3, List.reverse_reverse]

/-- what may follow a complete annotation inside a larger one: nothing, or a character
    that is neither part of a name nor a quote -/
def Closer (r : Str) : Prop := ∀ ch r', r = ch :: r' → isNameChar ch = false ∧ (ch == dq) = false

/-- the scan after such a character -/
def afterCloser : Str → Bool
  | [] => true
  | _ :: r' => wqScan (.code false) false r'

theorem scan_closer (r : Str) (a p : Bool) (hr : Closer r) : wqScan (.code a) p r = afterCloser r := by
  cases r with
  | nil => simp [wqScan, afterCloser]
  | cons ch r' =>
    obtain ⟨h1, h2⟩ := hr ch r' rfl
    simp [wqScan, afterCloser, h1, h2]

theorem closer_bracket (r : Str) : Closer (']' :: r) := by
  intro ch r' e; cases e; exact ⟨by decide, by decide⟩
theorem closer_comma (r : Str) : Closer (',' :: r) := by
  intro ch r' e; cases e; exact ⟨by decide, by decide⟩
theorem closer_space (r : Str) : Closer (' ' :: r) := by
  intro ch r' e; cases e; exact ⟨by decide, by decide⟩
theorem closer_bar (r : Str) : Closer ('|' :: r) := by
  intro ch r' e; cases e; exact ⟨by decide, by decide⟩
theorem closer_nil : Closer [] := by intro ch r' e; cases e

/-- the scanner's `prevName` flag after the characters of `X`, `p` before them -/
def prevNameAfter (p : Bool) : Str → Bool
  | [] => p
  | ch :: r => prevNameAfter (isNameChar ch) r

theorem wq_code (X r : Str) (p : Bool) (h : noQ X = true) :
    wqScan (.code false) p (X ++ r) = wqScan (.code false) (prevNameAfter p X) r := by
  induction X generalizing p with
  | nil => rfl
  | cons ch X ih =>
    rw [noQ_cons] at h
    simp only [Bool.and_eq_true, bne_iff_ne, ne_eq] at h
    have hc : (ch == dq) = false := by simp [h.1]
    simp [wqScan, hc, prevNameAfter, ih _ h.2]

/-- a head and its `[` are scanned through, and the `[` forgets what preceded it -/
theorem wq_head (hd r : Str) (hv : validName hd = true) :
    wqScan (.code false) false (hd ++ '[' :: r) = wqScan (.code false) false r := by
  rw [wq_code _ _ false (noQ_of_valid hd hv)]
  simp [wqScan, isNameChar, dq]

/-- a literal around quote-free text, met in code that is neither a name nor a literal just closed -/
theorem wq_quote (X r : Str) (hne : X ≠ []) (hq : noQ X = true) :
    wqScan (.code false) false (quoted X ++ r) = wqScan (.code true) false r := by
  have h := wq_lit X r true false hq
  cases X with
  | nil => exact absurd rfl hne
  | cons a X =>
    simp only [quoted, List.cons_append, List.append_assoc]
    simp only [List.cons_append] at h
    rw [wqScan]
    simp only [dq, beq_self_eq_true, if_true] at h ⊢
    simp [h]

/-- what may stand inside a literal has no quote -/
theorem noQ_form (F : Form) (h : F.ok true = true) : noQ F.text = true := by
  induction F with
  | nm n => exact noQ_of_valid n h
  | lit X _ => simp [Form.ok] at h
  | app1 hd X ih =>
    simp only [Form.ok, Bool.and_eq_true] at h
    simp only [Form.text, noQ_append, noQ_cons, noQ_nil, noQ_of_valid hd h.1, ih h.2]
    decide
  | app2 hd X Y ihx ihy =>
    simp only [Form.ok, Bool.and_eq_true] at h
    simp only [Form.text, noQ_append, noQ_cons, noQ_nil, noQ_of_valid hd h.1.1, ihx h.1.2, ihy h.2]
    decide
  | bar X Y ihx ihy =>
    simp only [Form.ok, Bool.and_eq_true] at h
    simp only [Form.text, noQ_append, ihx h.1, ihy h.2]
    decide

/-- the scanner runs through every text of the grammar and ends in the state it began in: quotes stand only around
    a `lit`, whose inside is quote-free, and a `lit` is an atom, so what precedes and follows it is no name -/
theorem wq_form (F : Form) (h : F.ok false = true) (r : Str) (hr : Closer r) :
    wqScan (.code false) false (F.text ++ r) = afterCloser r := by
  induction F generalizing r with
  | nm n => rw [Form.text, wq_code n r false (noQ_of_valid n h)]; exact scan_closer r _ _ hr
  | lit X _ =>
    simp only [Form.ok, Bool.not_false, Bool.true_and] at h
    rw [Form.text, wq_quote _ r (X.text_ne_nil true h) (noQ_form X h)]
    exact scan_closer r _ _ hr
  | app1 hd X ih =>
    simp only [Form.ok, Bool.and_eq_true] at h
    simp only [Form.text, List.append_assoc, List.cons_append, List.nil_append]
    rw [wq_head _ _ h.1, ih h.2 _ (closer_bracket r), afterCloser]
    exact scan_closer r _ _ hr
  | app2 hd X Y ihx ihy =>
    simp only [Form.ok, Bool.and_eq_true] at h
    simp only [Form.text, List.append_assoc, List.cons_append, List.nil_append]
    rw [wq_head _ _ h.1.1, ihx h.1.2 _ (closer_comma _), afterCloser, scan_closer _ _ _ (closer_space _), afterCloser,
      ihy h.2 _ (closer_bracket r), afterCloser]
    exact scan_closer r _ _ hr
  | bar X Y ihx ihy =>
    simp only [Form.ok, Bool.and_eq_true] at h
    simp only [Form.text, List.append_assoc, bar_eq, List.cons_append]
    rw [ihx h.1 _ (closer_space _), afterCloser, scan_closer _ _ _ (closer_bar _), afterCloser,
      scan_closer _ _ _ (closer_space _), afterCloser]
    exact ihy h.2 r hr

theorem wq_text (F : Form) (h : F.ok false = true) : wellQuoted F.text = true := by
  have hs := wq_form F h [] closer_nil
  simp only [List.append_nil, afterCloser] at hs
  have hne := F.text_ne_nil false h
  unfold wellQuoted
  cases ht : F.text with
  | nil => exact absurd ht hne
  | cons a s => rw [ht] at hs; simp [hs]

theorem wq_render (c : Compiler) (e : Ty) (hv : e.valid = true) : wellQuoted (render c e) = true := by
  obtain ⟨F, hok, ht, _⟩ := render_form c e hv
  exact ht ▸ wq_text F hok

/-- a `typing`-style compiler writes no quote of its own -/
theorem noQ_render {c : Compiler} (hc : c ≠ .c310) (e : Ty) (hv : e.valid = true) (hf : e.refFree = true) :
    noQ (render c e) = true := by
  exact formT_text hc e ▸ noQ_form _ (formT_ok_in c e ((formT_ok c e).trans hv) hf)

/-- the two streaming positions of the stub: `"…"` around the stripped compiler output -/
theorem wq_strip_site (c : Compiler) (e : Ty) (hv : e.valid = true) (hf : e.refFree = true) :
    wellQuoted (quoted (stripQ (render c e))) = true := by
  obtain ⟨F, hok, ht, _⟩ := render_form c e hv
  have hne : render c e ≠ [] := ht ▸ F.text_ne_nil false hok
  by_cases hc : c = .c310
  · subst hc
    have h3 := (form310_ok e).trans hv
    have hq := noQ_form _ h3
    have hi := (form310 e).text_ne_nil true h3
    rw [render310 e hv]
    split
    · rw [stripQ_noQ _ hq]; exact wq_quoted _ hi hq
    · rw [stripQ_quoted _ hi hq]; exact wq_quoted _ hi hq
  · have hq := noQ_render hc e hv hf
    rw [stripQ_noQ _ hq]; exact wq_quoted _ hne hq

end Bp.Typing
