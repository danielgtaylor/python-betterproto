import BpModel.Casing
import BpModel.Naming
import BpProofs.Casing
/-
  The tokenizer only drops the symbols (`go_flatten`), so the first word of a name begins with its first
  letter-or-digit and `pascal_case` output is alphanumeric: what class names need.  Enum member names are
  pieces of the proto name put through `sanitize`.
-/
namespace Bp.Casing
open Bp.Naming

/-- the word the tokenizer state has accumulated so far -/
def stWord : St → List Char
  | .sym => []
  | .up pre l => pre ++ [l]
  | .lo cur => cur
  | .dg cur => cur

theorem emit_flatten (w : List Char) (r : List (List Char)) : (emit w r).flatten = w ++ r.flatten := by
  cases w <;> rfl

theorem go_flatten : ∀ (s : List Char) (st : St),
    (go st s).flatten = stWord st ++ s.filter (fun c => cls c ≠ .sym) := by
  intro s
  induction s with
  | nil => intro st; cases st <;> simp [go, stWord]
  | cons c s ih =>
    intro st
    -- a symbol is dropped and closes the word, any other character joins or starts one
    cases st with
    | sym =>
      simp only [go]
      cases h : cls c <;> simp [ih, stWord, h]
    | up pre l =>
      simp only [go]
      cases h : cls c <;> simp [ih, stWord, h, emit_flatten]
    | lo cur =>
      simp only [go]
      cases h : cls c <;> simp [ih, stWord, h]
    | dg cur =>
      simp only [go]
      cases h : cls c <;> simp [ih, stWord, h]

theorem filter_dropWhile_sym : ∀ s : List Char,
    (s.dropWhile fun c => cls c = .sym).filter (fun c => cls c ≠ .sym) = s.filter (fun c => cls c ≠ .sym)
  | [] => rfl
  | c :: s => by
    by_cases h : cls c = .sym
    · simpa [List.dropWhile, h] using filter_dropWhile_sym s
    · simp [List.dropWhile, h]

theorem tokens_head_letter {s : List Char} (h : firstAlnumIsLetter s = true) :
    ∃ x w ws, tokens s = (x :: w) :: ws ∧ isLetter x = true := by
  unfold firstAlnumIsLetter at h
  have hf : (tokens s).flatten = _ := go_flatten s .sym
  rw [← filter_dropWhile_sym] at hf
  split at h
  · next c r heq =>
    have hc : cls c ≠ .sym := by
      rcases (isLetter_iff c).1 h with e | e <;> simp [e]
    rw [heq, List.filter_cons_of_pos (by simpa using hc)] at hf
    -- the first word is not empty, and the concatenation of the words begins with `c`
    cases hg : tokens s with
    | nil => simp [hg, stWord] at hf
    | cons w ws =>
      cases w with
      | nil => exact absurd rfl (tokens_tok s [] (by simp [hg])).1
      | cons x w =>
        simp only [hg, stWord, List.flatten_cons, List.cons_append, List.nil_append, List.cons.injEq] at hf
        exact ⟨x, w, ws, rfl, hf.1 ▸ h⟩
  · cases h

theorem tokens_not_sym (s : List Char) : ∀ w ∈ tokens s, ∀ c ∈ w, cls c ≠ .sym := by
  intro w hw c hc
  have hm : c ∈ (tokens s).flatten := List.mem_flatten.2 ⟨w, hw, hc⟩
  rw [show (tokens s).flatten = _ from go_flatten s .sym] at hm
  simpa [stWord] using (List.mem_filter.1 hm).2

theorem capitalize_not_sym {w : List Char} (h : ∀ c ∈ w, cls c ≠ .sym) : ∀ c ∈ capitalize w, cls c ≠ .sym := by
  cases w with
  | nil => intro c hc; simp [capitalize] at hc
  | cons a w =>
    intro c hc
    simp only [capitalize, lowerW, List.mem_cons, List.mem_map] at hc
    rcases hc with rfl | ⟨b, hb, rfl⟩
    · rw [cls_upperC]
      have := h a (List.mem_cons_self ..)
      cases hca : cls a <;> simp_all
    · rw [cls_lowerC]
      have := h b (List.mem_cons_of_mem _ hb)
      cases hcb : cls b <;> simp_all

theorem pascal_not_sym (s : List Char) : ∀ c ∈ pascal s, cls c ≠ .sym := by
  intro c hc
  simp only [pascal, List.mem_flatten, List.mem_map] at hc
  obtain ⟨l, ⟨w, hw, rfl⟩, hcl⟩ := hc
  exact capitalize_not_sym (tokens_not_sym s w hw) c hcl

theorem pascal_head {s : List Char} (h : firstAlnumIsLetter s = true) :
    ∃ X r, pascal s = X :: r ∧ cls X = .up := by
  obtain ⟨x, w, ws, e, hx⟩ := tokens_head_letter h
  refine ⟨upperC x, lowerW w ++ (ws.map capitalize).flatten, by simp [pascal, e, capitalize], ?_⟩
  rw [cls_upperC]
  rcases (isLetter_iff x).1 hx with h | h <;> simp [h]

theorem pascal_ident {s : List Char} (h : firstAlnumIsLetter s = true) : pyIdent (pascal s) = true := by
  obtain ⟨X, r, e, hX⟩ := pascal_head h
  have hall := pascal_not_sym s
  rw [e] at hall ⊢
  simp only [pyIdent, Bool.and_eq_true, List.all_eq_true]
  refine ⟨by simp [identStart, hX], ?_⟩
  intro c hc
  exact identChar_of_ne_sym (hall c (List.mem_cons_of_mem _ hc))

theorem pascal_kw_cap {s : List Char} (h : firstAlnumIsLetter s = true) (hk : pascal s ∈ kw) :
    pascal s ∈ capKeywords := by
  obtain ⟨X, r, e, hX⟩ := pascal_head h
  unfold capKeywords
  rw [List.mem_filter]
  refine ⟨hk, ?_⟩
  rw [e]
  simp [hX]

theorem afterFirst_subset (needle : List Char) : ∀ (hay r : List Char), afterFirst needle hay = some r →
    ∀ c ∈ r, c ∈ hay := by
  intro hay
  induction hay with
  | nil =>
    intro r h c hc
    simp only [afterFirst] at h
    split at h
    · cases h; cases hc
    · cases h
  | cons a t ih =>
    intro r h c hc
    simp only [afterFirst] at h
    split at h
    · cases h
      exact List.mem_of_mem_drop hc
    · exact List.mem_cons_of_mem _ (ih r h c hc)

theorem stripU_subset (s : List Char) : ∀ c ∈ stripU s, c ∈ s := by
  intro c hc
  simp only [stripU, rstripU, lstripU, List.mem_reverse] at hc
  have := List.dropWhile_subset _ hc
  rw [List.mem_reverse] at this
  exact List.dropWhile_subset _ this

end Bp.Casing
