import BpProofs.Gen.SrcLoad
import BpProofs.SrcTie
import BpProofs.LoadStep
/-
  TIE between the translated per-record step of `Message.load` (`Src.load_record`,
  BpProofs/Gen/SrcLoad.lean, regenerated from the Python AST on every run by
  harness/extract_srcload.py) and the model's `applyField` (BpModel/Load.lean).
-/
namespace Bp.SrcTieLoad
open Bp Bp.Py Gen

section Tie
-- every lemma below whose statement mentions `S` takes it first; a theorem that binds `S` itself is as it reads
variable (S : Schema)

/- `Src.load_record` is generated text in which the statements after an `if` / `try` are
  duplicated into every branch.  `fitsTest`, `afterCurrent`, `storeSrc` below are those
  repeated pieces written once; `load_record_shape` (proved by `rfl`, so whatever the local
  variables of the source are called) says the generated function is made of them. -/

/-- `parsed.wire_type != WIRE_TYPE_BY_PROTO_TYPE[meta.proto_type] and not (parsed.wire_type ==
    WIRE_LEN_DELIM and meta.proto_type in PACKED_TYPES and proto_meta.default_gen[field_name] is list)` -/
def fitsTest (d : MsgD) (fn : Option Nat) (meta' : FieldD) (parsed : PField) : Res Bool :=
  (Py.wireTypeByProtoType (Py.metaProtoType meta')).bind fun t2 =>
    if (decide ((Py.parsedWireType parsed) ≠ t2)) then
      ((if (decide ((Py.parsedWireType parsed) = (2 : Int))) then
        if (Gen.packedTypes.contains (Py.metaProtoType meta')) then
          (Py.defaultGenIsList d fn).bind fun t3 =>
          .ok t3
        else .ok false
      else .ok false)).bind fun t4 =>
      .ok (!t4)
    else .ok false

/-- the statements after the `try` -/
def afterCurrent (S : Schema) (d : MsgD) (meta' : FieldD) (fn : Option Nat) (value : Val) (self : MState) : Res MState :=
  if ((Py.metaProtoType meta') == PType.map) then
    (Py.entryValue value).bind fun a =>
    (Py.entryKey value).bind fun b =>
    (Py.slotSetItem self fn b a).bind fun self =>
    .ok self
  else
    if (Py.isList (Py.slotVal self fn)) then
      if (Py.isList value) then
        (Py.slotExtend self fn (Py.listItems value)).bind fun self =>
        .ok self
      else
        (Py.slotAppend self fn value).bind fun self =>
        .ok self
    else
      (Py.setattrSelf S d self fn value).bind fun self =>
      .ok self

/-- `try: current = getattr(self, field_name) / except AttributeError: current = default; setattr` and
    what follows -/
def storeSrc (S : Schema) (d : MsgD) (meta' : FieldD) (fn : Option Nat) (value : Val) (self : MState) : Res MState :=
  Py.tryExceptAttr (Py.getattrSelf S d self fn)
    ((Py.getFieldDefault S d fn).bind fun cur =>
      (Py.setattrSelf S d self fn cur).bind fun self =>
      afterCurrent S d meta' fn value self)
    (fun self => afterCurrent S d meta' fn value self)

/-- what follows the `while` loop over a packed payload: the final position is dropped -/
def afterLoop (K : List Val → Res MState) : Ctl MState (Int × List Val) → Res MState
  | .ret r => .ok r
  | .next (_, value) => K value

theorem load_record_shape (fuel : Nat) (S : Schema) (rec : Loader) (d : MsgD) (self : MState) (parsed : PField) :
    Src.load_record fuel S rec d self parsed =
      (let fn := Py.fieldNameByNumber d (Py.parsedNumber parsed)
       if (!(Py.truthyName fn)) then .ok (Py.unknownAppend self (Py.parsedRaw parsed))
       else
        (Py.metaByFieldName d fn).bind fun meta' =>
        (fitsTest d fn meta' parsed).bind fun t5 =>
        if t5 then .ok (Py.unknownAppend self (Py.parsedRaw parsed))
        else
          if ((decide ((Py.parsedWireType parsed) = (2 : Int))) && (Gen.packedTypes.contains (Py.metaProtoType meta'))) then
            (Src.load_record.loop1 fuel S rec d self parsed fn meta' (0 : Int) ([] : List Val)).bind
              (afterLoop fun value => storeSrc S d meta' fn (Val.list value) self)
          else
            (Py.postprocessSingle S rec (Py.parsedWireType parsed) meta' (Py.parsedValue parsed)).bind fun value =>
            storeSrc S d meta' fn value self) := rfl


@[simp] theorem ok_bind {α β : Type} (a : α) (g : α → Res β) : (Res.ok a).bind g = g a := rfl
@[simp] theorem raise_bind {α β : Type} (e : PyErr) (g : α → Res β) : (Res.raise e : Res α).bind g = .raise e := rfl

theorem wt_table (t : PType) :
    ∃ w, Gen.wireTypeByProtoType.find? (·.1 == t) = some (t, w) ∧ (w = 0 ∨ w = 1 ∨ w = 2 ∨ w = 5)
      ∧ (isPacked t = true → w ≠ 2) ∧ (t = .map → w = 2 ∧ isPacked t = false) := by
  obtain ⟨w, r, hw⟩ := wire_row t
  refine ⟨w, r.find, by rcases hw with rfl | rfl | rfl | rfl <;> decide,
    fun hp => by rw [r.packed] at hp; exact of_decide_eq_true hp, fun hm => ?_⟩
  obtain rfl : w = 2 := r.lenTy.mpr (.inr (.inr (.inr hm)))
  exact ⟨rfl, r.packed⟩

theorem fieldNameByNumber_eq (d : MsgD) (pf : PField) :
    Py.fieldNameByNumber d (Py.parsedNumber pf) = findField d.fields pf.num := by
  have : ¬ ((pf.num : Int) < 0) := by omega
  simp [Py.fieldNameByNumber, this]

theorem fitsTest_eq (d : MsgD) (idx : Nat) (f : FieldD) (pf : PField) (hd : d.fields[idx]? = some f) :
    fitsTest d (some idx) f pf = .ok (!wireFits f pf.wt) := by
  obtain ⟨w, hfind, _, _, _⟩ := wt_table f.ty
  unfold fitsTest wireFits Py.wireTypeByProtoType Py.defaultGenIsList Py.metaByFieldName
  simp only [hfind, hd, ok_bind, Py.metaProtoType, Py.parsedWireType]
  have e1 : ((pf.wt : Int) ≠ (w : Int)) ↔ pf.wt ≠ w := by omega
  have e2 : ((pf.wt : Int) = 2) ↔ pf.wt = 2 := by omega
  simp only [e1, e2]
  by_cases h1 : pf.wt = w
  · simp [h1]
  · by_cases h2 : pf.wt = 2
    · have hw2 : ¬ (2 = w) := fun h => h1 (h2.trans h)
      have hp : isPacked f.ty = Gen.packedTypes.contains f.ty := rfl
      have e1 : decide (2 ≠ w) = true := by simpa using hw2
      have e2 : (2 == w) = false := by simpa using hw2
      simp only [h2, e1, e2, hp, decide_true, if_true, wireLenDelim, beq_self_eq_true, Bool.false_or, Bool.true_and]
      cases Gen.packedTypes.contains f.ty <;> cases f.repeated <;> rfl
    · simp [h1, h2, wireLenDelim]


/-- the statements after the `try` are the model's `storeValue` (`hmap`: for a map field the decoded
    value is an `Entry`, which is what `_postprocess_single` returns for it) -/
theorem afterCurrent_eq (d : MsgD) (f : FieldD) (idx : Nat) (value : Val) (st : MState)
    (hmap : f.ty = .map → ∃ k v, value = .dict [k] [v]) :
    afterCurrent S d f (some idx) value st = ofR (storeValue S d st idx f value) := by
  -- the source's tests are the cases of `slotUpdate`
  rw [storeValue_eq]
  unfold afterCurrent slotUpdate
  by_cases hm : f.ty = .map
  · obtain ⟨k, v, rfl⟩ := hmap hm
    simp only [Py.metaProtoType, hm, beq_self_eq_true, if_true, Py.entryValue, Py.entryKey, ok_bind, Py.slotSetItem]
    cases st.slots.getD idx .ph <;> rfl
  · simp only [Py.metaProtoType, show (f.ty == PType.map) = false by simpa using hm, Bool.false_eq_true, if_false,
      Py.slotVal, Py.slotAppend, Py.slotExtend]
    obtain ⟨c, hc⟩ : ∃ c, st.slots.getD idx .ph = c := ⟨_, rfl⟩
    simp only [hc]
    cases c with
    | list xs => cases value <;> rfl
    | _ => rfl

/-- `try: current = getattr(…) / except AttributeError: …` and the store are the model's `prepCurrent`
    followed by `storeValue` -/
theorem storeSrc_eq (d : MsgD) (f : FieldD) (idx : Nat) (value : Val) (st : MState)
    (hd : d.fields[idx]? = some f) (hmap : f.ty = .map → ∃ k v, value = .dict [k] [v]) :
    storeSrc S d f (some idx) value st = ofR (storeValue S d (prepCurrent S d st idx f) idx f value) := by
  unfold storeSrc prepCurrent Py.getattrSelf Py.getFieldDefault Py.metaByFieldName
  simp only [hd, ok_bind]
  cases hh : hidden f idx st.cur
  · simp only [Bool.false_eq_true, if_false, Py.tryExceptAttr]
    exact afterCurrent_eq S d f idx value _ hmap
  · simp only [if_true, Py.tryExceptAttr, Py.setattrSelf, ok_bind]
    exact afterCurrent_eq S d f idx value _ hmap


theorem wireFits_wt (f : FieldD) (wt : Nat) (h : wireFits f wt = true) : wt = 0 ∨ wt = 1 ∨ wt = 2 ∨ wt = 5 := by
  obtain ⟨w, hfind, hw, _, _⟩ := wt_table f.ty
  unfold wireFits at h
  simp only [hfind, Bool.or_eq_true, Bool.and_eq_true, beq_iff_eq, wireLenDelim] at h
  omega

/-- outside the packed case, `_postprocess_single(parsed.wire_type, meta, field_name, parsed.value)` is the
    model's `decodeValue` -/
theorem postprocess_eq (rec : Loader) (f : FieldD) (pf : PField) (hfit : wireFits f pf.wt = true)
    (hnp : ((decide ((Py.parsedWireType pf) = (2 : Int))) && (Gen.packedTypes.contains f.ty)) = false) :
    Py.postprocessSingle S rec (Py.parsedWireType pf) f (Py.parsedValue pf) = ofR (decodeValue S rec f pf) := by
  have hp : pf.wt = 2 → isPacked f.ty = false := by
    intro h2
    have e2 : ((pf.wt : Int) = 2) := by omega
    simpa [Py.parsedWireType, e2, isPacked] using hnp
  unfold decodeValue Py.postprocessSingle Py.parsedValue
  simp only [Py.parsedWireType, wireVarint, wireFixed32, wireFixed64, wireLenDelim]
  rcases wireFits_wt f pf.wt hfit with h | h | h | h <;> simp only [h]
  · rfl
  · rfl
  · have hp' := hp h
    by_cases hm : f.ty = .map
    · rw [hm] at hp'
      simp [hm, hp', Py.postEntryR]
    · simp [hm, hp']
  · rfl

theorem postprocess_entry (rec : Loader) (f : FieldD) (pf : PField) (hfit : wireFits f pf.wt = true)
    (hm : f.ty = .map) (value : Val) (h : decodeValue S rec f pf = .ok value) : ∃ k v, value = .dict [k] [v] := by
  have hwt : pf.wt = wireLenDelim := by
    rw [wireFits_eq, hm, show wireOf .map = some wireLenDelim from rfl, show isPacked .map = false from rfl] at hfit
    exact (by simpa using hfit : wireLenDelim = pf.wt).symm
  rw [decodeValue_eq_len S rec f pf hwt (by rw [hm]; rfl), hm] at h
  obtain ⟨est, _, h⟩ := bind_inv h
  cases h; exact ⟨_, _, rfl⟩


/-- `parsed.value[pos : pos + n]` inside the payload -/
theorem slice_chunk (p : Bytes) (pos n : Nat) (h : pos ≤ p.length) :
    Py.slice p (pos : Int) ((pos : Int) + (n : Nat)) = (p.drop pos).take n := by
  have a : ¬ ((pos : Int) < 0) := by omega
  have b : ¬ ((pos : Int) + (n : Nat) < 0) := by omega
  have c : ((pos : Int) + (n : Nat)).toNat = pos + n := by omega
  unfold Py.slice Py.sliceIdx
  simp only [a, b, if_false, Int.toNat_natCast, c]
  rw [Nat.min_eq_left h, List.take_eq_take_iff, List.length_drop]
  omega

theorem postprocess_fixed32 (rec : Loader) (f : FieldD) (q : Bytes) :
    Py.postprocessSingle S rec (5 : Int) f (.bytes q) = ofR (postFixed f.ty q) := by
  rfl

theorem postprocess_fixed64 (rec : Loader) (f : FieldD) (q : Bytes) :
    Py.postprocessSingle S rec (1 : Int) f (.bytes q) = ofR (postFixed f.ty q) := by
  rfl

theorem postprocess_varint (rec : Loader) (f : FieldD) (n : Nat) :
    Py.postprocessSingle S rec (0 : Int) f (.int (n : Int)) = .ok (postVarint f.ty n) := by
  rfl

/-- the `while pos < len(parsed.value)` loop, entered at `pos` with `acc` decoded so far, followed by any
    continuation `K` of the decoded list (so that the final position needs no name) -/
theorem packed_loop (rec : Loader) (d : MsgD) (st : MState) (pf : PField) (fn : Option Nat) (f : FieldD)
    (hw : WfBytes pf.payload) (K : List Val → Res MState) :
    ∀ (n pos : Nat) (acc : List Val) (fuel : Nat), pf.payload.length - pos ≤ n → n + 12 ≤ fuel →
      (Src.load_record.loop1 fuel S rec d st pf fn f (pos : Int) acc).bind (afterLoop K) =
        (ofR (decodePackedFuel f.ty (n + 1) (pf.payload.drop pos))).bind fun vs => K (acc ++ vs) := by
  -- the loop is left when the payload is used up
  have leave : ∀ (n pos : Nat) (acc : List Val) (fuel : Nat), ¬ pos < pf.payload.length → 0 < fuel →
      (Src.load_record.loop1 fuel S rec d st pf fn f (pos : Int) acc).bind (afterLoop K) =
        (ofR (decodePackedFuel f.ty (n + 1) (pf.payload.drop pos))).bind fun vs => K (acc ++ vs) := by
    intro n pos acc fuel hlt hf
    obtain ⟨fuel, rfl⟩ : ∃ k, fuel = k + 1 := ⟨fuel - 1, by omega⟩
    have hc : ¬ ((pos : Int) < Py.len (Py.parsedBytes pf)) := by simp only [Py.len, Py.parsedBytes]; omega
    rw [List.drop_eq_nil_of_le (by omega), decodePackedFuel_nil]
    unfold Src.load_record.loop1
    simp [hc, afterLoop, Res.ofR_ok]
  intro n
  induction n with
  | zero => exact fun pos acc fuel hn hf => leave 0 pos acc fuel (by omega) (by omega)
  | succ m ih =>
    intro pos acc fuel hn hf
    by_cases hlt : pos < pf.payload.length
    · obtain ⟨fuel, rfl⟩ : ∃ k, fuel = k + 1 := ⟨fuel - 1, by omega⟩
      have hne : pf.payload.drop pos ≠ [] := by
        intro h; have := congrArg List.length h; simp only [List.length_drop, List.length_nil] at this; omega
      have hc : ((pos : Int) < Py.len (Py.parsedBytes pf)) := by simp only [Py.len, Py.parsedBytes]; omega
      -- after an element `v` read from `k > 0` bytes: the rest of the payload, by induction
      have step : ∀ (k : Nat) (v : Val), 0 < k →
          (Src.load_record.loop1 fuel S rec d st pf fn f ((pos : Int) + (k : Nat)) (acc ++ [v])).bind (afterLoop K) =
            (ofR (decodePackedFuel f.ty (m + 1) ((pf.payload.drop pos).drop k))).bind fun vs => K (acc ++ v :: vs) := by
        intro k v hk
        rw [← Nat.cast_add, ih (pos + k) (acc ++ [v]) fuel (by omega) (by omega), List.drop_drop]
        simp only [List.append_assoc, List.singleton_append]
      -- a fixed-width element of `k` bytes, decoded under wire type `wt`
      have fixed : ∀ (k : Nat) (wt : Int), 0 < k →
          (∀ b, Py.postprocessSingle S rec wt f (.bytes b) = ofR (postFixed f.ty b)) →
          ((Py.postprocessSingle S rec wt f (.bytes (Py.slice pf.payload (pos : Int) ((pos : Int) + (k : Nat))))).bind fun t =>
              Src.load_record.loop1 fuel S rec d st pf fn f ((pos : Int) + (k : Nat)) (acc ++ [t])).bind (afterLoop K) =
            (ofR ((postFixed f.ty ((pf.payload.drop pos).take k)).bind fun v =>
              (decodePackedFuel f.ty (m + 1) ((pf.payload.drop pos).drop k)).bind fun vs => .ok (v :: vs))).bind
              fun vs => K (acc ++ vs) := by
        intro k wt hk hpp
        rw [slice_chunk _ _ _ (by omega), hpp]
        simp only [Res.bind_assoc, Res.ofR_bind, Res.ofR_ok, Res.ok_bind, step k _ hk]
      rw [decodePackedFuel_ne _ _ _ hne]
      unfold Src.load_record.loop1
      simp only [hc, decide_true, if_true, Py.metaProtoType, Py.parsedBytes]
      by_cases h32 : (f.ty == PType.float || f.ty == PType.fixed32 || f.ty == PType.sfixed32) = true
      · simp only [h32, if_true]
        exact fixed 4 5 (by decide) (postprocess_fixed32 S rec f)
      · simp only [h32, Bool.false_eq_true, if_false]
        by_cases h64 : (f.ty == PType.double || f.ty == PType.fixed64 || f.ty == PType.sfixed64) = true
        · simp only [h64, if_true]
          exact fixed 8 1 (by decide) (postprocess_fixed64 S rec f)
        · simp only [h64, Bool.false_eq_true, if_false]
          rw [SrcTie.decode_varint_eq pf.payload hw pos fuel (by omega)]
          unfold decodeVarint
          cases hlv : loadVarint (pf.payload.drop pos) with
          | error e => rfl
          | ok r =>
            obtain ⟨v, k⟩ := r
            simp only [ok_bind, postprocess_varint, Nat.cast_add, Res.ofR_bind, Res.ofR_ok, Res.bind_assoc,
              step k (postVarint f.ty v) (loadVarint_consumed _ v k hlv).1]
    · exact leave (m + 1) pos acc fuel hlt (by omega)


/-- fuel: one round of the `while` loop per payload byte, plus the varint loop inside -/
theorem load_record_eq (rec : Loader) (d : MsgD) (st : MState) (pf : PField)
    (hw : WfBytes pf.payload) (fuel : Nat) (hf : pf.payload.length + 12 ≤ fuel) :
    Src.load_record fuel S rec d st pf = ofR (applyField S rec d st pf) := by
  rw [load_record_shape]
  unfold applyField
  simp only [fieldNameByNumber_eq, Py.parsedRaw]
  cases hfind : findField d.fields pf.num with
  | none => rfl
  | some idx =>
    simp only [Py.truthyName, Option.isSome_some, Bool.not_true, Bool.false_eq_true, if_false, Py.metaByFieldName]
    cases hd : d.fields[idx]? with
    | none => rfl
    | some f =>
      simp only [ok_bind, fitsTest_eq d idx f pf hd]
      cases hfit : wireFits f pf.wt with
      | false => rfl
      | true =>
        simp only [Bool.not_true, Bool.false_eq_true, if_false, Res.ofR_bind]
        cases hpk : ((decide ((Py.parsedWireType pf) = (2 : Int))) && (Gen.packedTypes.contains (Py.metaProtoType f)))
        · -- a single value
          simp only [Bool.false_eq_true, if_false]
          rw [postprocess_eq S rec f pf hfit hpk]
          cases hdv : decodeValue S rec f pf with
          | error e => rfl
          | ok value =>
            simp only [ofR, ok_bind]
            exact storeSrc_eq S d f idx value st hd (fun hm => postprocess_entry S rec f pf hfit hm value hdv)
        · -- a packed chunk
          simp only [if_true]
          have e2 : ((pf.wt : Int) = 2) ↔ pf.wt = 2 := by omega
          simp only [Py.parsedWireType, Py.metaProtoType, e2, Bool.and_eq_true, decide_eq_true_eq] at hpk
          obtain ⟨hwt, hp⟩ := hpk
          have hp' : isPacked f.ty = true := hp
          have hdv : decodeValue S rec f pf = (decodePacked f.ty pf.payload).bind fun vs => .ok (Val.list vs) := by
            unfold decodeValue
            simp [hwt, hp', wireLenDelim]
          have h0 := packed_loop S rec d st pf (some idx) f hw (fun value => storeSrc S d f (some idx) (Val.list value) st)
            pf.payload.length 0 [] fuel (by omega) hf
          rw [show ((0 : Nat) : Int) = 0 from rfl, List.drop_zero] at h0
          rw [h0, hdv, Res.ofR_bind, Res.bind_assoc]
          refine Res.bind_congr fun vs _ => ?_
          rw [Res.ofR_ok, Res.ok_bind, List.nil_append]
          exact storeSrc_eq S d f idx (Val.list vs) st hd (fun hm => by rw [hm] at hp'; cases hp')


/-- the guard of `load_record_eq` / `loadLoop_eq` (decidable): the payload consists of bytes, and the fuel covers it -/
def RecOk (fuel : Nat) (pf : PField) : Prop := WfBytes pf.payload ∧ pf.payload.length + 12 ≤ fuel

instance (fuel : Nat) (pf : PField) : Decidable (RecOk fuel pf) := by unfold RecOk WfBytes; infer_instance

theorem loadFields_payload_wf (bs : Bytes) (hw : WfBytes bs) (pfs : List PField) (h : loadFields bs = .ok pfs) :
    ∀ pf ∈ pfs, RecOk (bs.length + 12) pf ∧ (pf.wt = wireVarint → pf.payload = []) ∧ (pf.wt ≠ wireVarint → pf.vint = 0) := by
  intro pf hpf
  -- a varint record has no payload bytes and every other record no decoded varint, so `Py.parsedValue`, which picks
  -- one of the two by the wire type, loses nothing of the `ParsedField`
  have ok := (loadFields_parsed bs pfs h pf hpf).ok
  obtain ⟨hseg, hlt⟩ := loadFields_payload h hpf
  exact ⟨⟨fun x hx => hw x (hseg.subset hx), by omega⟩, ok.varint_nil, ok.vint_zero⟩

/-- `for parsed in <records>: <body>`: the translated body run on the records in order (an exception ends the loop) -/
def loadLoop (fuel : Nat) (S : Schema) (rec : Loader) (d : MsgD) : MState → List PField → Res MState
  | st, [] => .ok st
  | st, pf :: pfs => (Src.load_record fuel S rec d st pf).bind fun st' => loadLoop fuel S rec d st' pfs

theorem loadLoop_eq (rec : Loader) (d : MsgD) (fuel : Nat) (pfs : List PField)
    (hall : ∀ pf ∈ pfs, RecOk fuel pf) (st : MState) :
    loadLoop fuel S rec d st pfs = ofR (foldFields S rec d st pfs) := by
  induction pfs generalizing st with
  | nil => rfl
  | cons pf pfs ih =>
    have h := hall pf (by simp)
    simp only [loadLoop, foldFields, load_record_eq S rec d st pf h.1 fuel h.2, Res.ofR_bind]
    cases applyField S rec d st pf with
    | error e => rfl
    | ok st' => exact ih (fun q hq => hall q (by simp [hq])) st'

end Tie

end Bp.SrcTieLoad
