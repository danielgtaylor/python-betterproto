import BpModel.All
import BpProofs.SpecCongr
/-
  C02: byte strings assembled from records whose varints (tag, length,
  value) are written in ANY well-shaped way are framed into exactly those records.
-/
namespace Bp
open Gen Spec

/-- a record written out with freely chosen varint encodings -/
inductive EncRec
  /-- tag varint, value varint -/
  | varint (tg vl : Bytes)
  /-- tag varint, length varint, payload -/
  | len (tg ln p : Bytes)
  /-- tag varint, 8 or 4 payload bytes -/
  | fixed (tg p : Bytes)

def tagOf (tg : Bytes) : Nat := varintValue tg % 2 ^ 64

def EncRec.bytes : EncRec → Bytes
  | .varint tg vl => tg ++ vl
  | .len tg ln p => tg ++ ln ++ p
  | .fixed tg p => tg ++ p

def GoodVarint (e : Bytes) : Prop := varintShape e = true ∧ e.length ≤ 10

/-- well-formed: every varint well-shaped and ≤ 10 bytes (minimal or padded), field number
    ≠ 0, wire type matching the layout, announced length = payload length -/
def EncRec.Valid : EncRec → Prop
  | .varint tg vl => GoodVarint tg ∧ GoodVarint vl ∧ tagOf tg % 8 = 0 ∧ tagOf tg / 8 ≠ 0
  | .len tg ln p => GoodVarint tg ∧ GoodVarint ln ∧ tagOf tg % 8 = 2 ∧ tagOf tg / 8 ≠ 0 ∧ varintValue ln % 2 ^ 64 = p.length
  | .fixed tg p => GoodVarint tg ∧ tagOf tg / 8 ≠ 0 ∧ ((tagOf tg % 8 = 1 ∧ p.length = 8) ∨ (tagOf tg % 8 = 5 ∧ p.length = 4))

/-- the record the framing must produce -/
def EncRec.toPField : EncRec → PField
  | .varint tg vl => { num := tagOf tg / 8, wt := 0, vint := varintValue vl % 2 ^ 64, payload := [], raw := tg ++ vl }
  | .len tg ln p => { num := tagOf tg / 8, wt := 2, vint := 0, payload := p, raw := tg ++ ln ++ p }
  | .fixed tg p => { num := tagOf tg / 8, wt := tagOf tg % 8, vint := 0, payload := p, raw := tg ++ p }

/-- the same record up to how its varints are written: same tag value, same value / payload -/
def EncRec.SamePad : EncRec → EncRec → Prop
  | .varint tg vl, .varint tg' vl' => tagOf tg = tagOf tg' ∧ varintValue vl % 2 ^ 64 = varintValue vl' % 2 ^ 64
  | .len tg _ p, .len tg' _ p' => tagOf tg = tagOf tg' ∧ p = p'
  | .fixed tg p, .fixed tg' p' => tagOf tg = tagOf tg' ∧ p = p'
  | _, _ => False

theorem goodVarint_ne_nil (e : Bytes) (h : GoodVarint e) : e ≠ [] := by
  intro he; subst he; simp [GoodVarint, varintShape] at h

theorem loadField_encRec (r : EncRec) (hv : r.Valid) (rest : Bytes) :
    loadField (r.bytes ++ rest) = .ok (r.toPField, rest) ∧ r.bytes ++ rest ≠ [] := by
  have hne : ∀ tg body : Bytes, GoodVarint tg → tg ++ body ++ rest ≠ [] := fun tg body h hc =>
    goodVarint_ne_nil tg h (List.append_eq_nil_iff.mp (List.append_eq_nil_iff.mp hc).1).1
  cases r with
  | varint tg vl =>
    obtain ⟨h1, h2, h3, h4⟩ := hv
    refine ⟨?_, hne tg vl h1⟩
    have h3' : varintValue tg % 2 ^ 64 % 8 = 0 := h3
    have := loadField_tagged tg vl rest h1.1 h1.2 h4 _ _ (by rw [h3']; exact loadPayload_shape_varint vl rest h2.1 h2.2)
    rw [h3'] at this
    exact this
  | len tg ln p =>
    obtain ⟨h1, h2, h3, h4, h5⟩ := hv
    refine ⟨?_, by rw [EncRec.bytes, List.append_assoc tg]; exact hne tg (ln ++ p) h1⟩
    have h3' : varintValue tg % 2 ^ 64 % 8 = 2 := h3
    have := loadField_tagged tg (ln ++ p) rest h1.1 h1.2 h4 _ _
      (by rw [h3']; exact loadPayload_shape_len ln p rest h2.1 h2.2 h5)
    rw [h3', ← List.append_assoc tg] at this
    exact this
  | fixed tg p =>
    obtain ⟨h1, h2, h3⟩ := hv
    refine ⟨loadField_tagged tg p rest h1.1 h1.2 h2 _ _ ?_, hne tg p h1⟩
    rcases h3 with ⟨a, b⟩ | ⟨a, b⟩
    · exact loadPayload_shape_fixed _ 8 p rest (Or.inl ⟨a, rfl⟩) b
    · exact loadPayload_shape_fixed _ 4 p rest (Or.inr ⟨a, rfl⟩) b

theorem samePad_sameMeaning (S : Schema) (rec : Loader) (d : MsgD) (r r' : EncRec) (h : r.SamePad r') :
    SameMeaning S rec d r.toPField r'.toPField := by
  cases r with
  | varint tg vl =>
    cases r' with
    | varint tg' vl' =>
      simp only [EncRec.SamePad] at h
      exact sameMeaning_of_eq S rec d _ _ (by simp [EncRec.toPField, h.1]) rfl (by simp only [EncRec.toPField]; exact h.2) rfl
    | len _ _ _ => cases h
    | fixed _ _ => cases h
  | len tg ln p =>
    cases r' with
    | varint _ _ => cases h
    | len tg' ln' p' =>
      simp only [EncRec.SamePad] at h
      exact sameMeaning_of_eq S rec d _ _ (by simp [EncRec.toPField, h.1]) rfl rfl (by simp [EncRec.toPField, h.2])
    | fixed _ _ => cases h
  | fixed tg p =>
    cases r' with
    | varint _ _ => cases h
    | len _ _ _ => cases h
    | fixed tg' p' =>
      simp only [EncRec.SamePad] at h
      exact sameMeaning_of_eq S rec d _ _ (by simp [EncRec.toPField, h.1]) (by simp [EncRec.toPField, h.1]) rfl
        (by simp [EncRec.toPField, h.2])

theorem forall₂_map_map {α β : Type} (R : α → α → Prop) (Q : β → β → Prop) (f : α → β) (l l' : List α)
    (himp : ∀ a b, R a b → Q (f a) (f b)) (h : List.Forall₂ R l l') : List.Forall₂ Q (l.map f) (l'.map f) := by
  induction h with
  | nil => exact List.Forall₂.nil
  | cons hab _ ih => exact List.Forall₂.cons (himp _ _ hab) ih

end Bp
