import BpModel.All
import BpProofs.Rt
import BpProofs.RtScalar
import BpProofs.RtFlat
import BpProofs.RtSub
import BpProofs.RtMap
import BpProofs.Props.C15
/-
  C01, `google.protobuf.Timestamp` / `Duration` fields: betterproto keeps them as
  datetime / timedelta (`Val.ts us` / `Val.dur us`) and writes them as the two-field
  message `secNanosD` (seconds int64 #1, nanos int32 #2, implicit presence).  `itemRt_time`:
  the codec (BpProofs/RtItem.lean) of such an item — its record decodes to the value itself.
-/
namespace Bp
open Gen

/-- `seconds`, int64 #1 -/
def snSec : FieldD := { name := "seconds", num := 1, ty := .int64 }
/-- `nanos`, int32 #2 -/
def snNan : FieldD := { name := "nanos", num := 2, ty := .int32 }

theorem flat_snSec : FlatField snSec :=
  ⟨by decide, rfl, by decide, fun h => by cases h⟩
theorem flat_snNan : FlatField snNan :=
  ⟨by decide, rfl, by decide, fun h => by cases h⟩

theorem numsDistinct_secNanos : NumsDistinct secNanosD.fields :=
  numsDistinct_pair _ _ (show (1 : Nat) ≠ 2 by decide)

theorem dumpSlot_implicit_int (S : Schema) (f : FieldD) (s : Int) (hdk : f.defKind = DefKind.int)
    (hg : f.group = Option.none) (ho : f.optional = false) :
    dumpSlot S f false false (.int s)
      = if s == 0 then .ok [] else serializeScalar S f.num f.ty (.int s) false f.wraps := by
  rw [dumpSlot_plain S f false false (.int s) rfl, if_neg (by decide), hdk, eqDefault, hg, ho]
  by_cases h0 : (s == 0) = true
  · rw [if_pos h0, if_pos (by rw [h0]; rfl)]
  · rw [if_neg h0, if_neg (by simp only [Bool.not_eq_true] at h0; rw [h0]; decide)]
    rfl

theorem secNanosBytes_eq (S : Schema) (s ns : Int) :
    secNanosBytes s ns = (dumpSlot S snSec false false (.int s)).bind fun a =>
      (dumpSlot S snNan false false (.int ns)).bind fun b => .ok (a ++ b) := by
  rw [dumpSlot_implicit_int S snSec s rfl rfl rfl, dumpSlot_implicit_int S snNan ns rfl rfl rfl]; rfl

theorem scalarOk_snSec (s : Int) (hs : -9223372036854775808 ≤ s ∧ s < 9223372036854775808) :
    scalarOk snSec.ty (.int s) = true := by
  show scalarOk .int64 (.int s) = true
  simp [scalarOk, intInRange, hs.1, hs.2]

theorem scalarOk_snNan (ns : Int) (hn : -2147483648 ≤ ns ∧ ns < 2147483648) :
    scalarOk snNan.ty (.int ns) = true := by
  show scalarOk .int32 (.int ns) = true
  simp [scalarOk, intInRange, hn.1, hn.2]

theorem entryStep_int (S : Schema) (rec : Loader) (d : MsgD) (i : Nat) (fi : FieldD) (s : Int) (out : Bytes)
    (hd : NumsDistinct d.fields) (hi : d.fields[i]? = some fi) (hff : FlatField fi)
    (hr : fi.repeated = false) (ho : fi.optional = false) (hg : fi.group = Option.none)
    (hdk : fi.defKind = DefKind.int) (hx : scalarOk fi.ty (.int s) = true)
    (hout : dumpSlot S fi false false (.int s) = .ok out) (hlen : out.length < 2 ^ 64) :
    EntryStep S rec d i fi out (.int s) := by
  rw [dumpSlot_implicit_int S fi s hdk hg ho] at hout
  by_cases h0 : s = 0
  · subst h0
    rw [if_pos (by decide)] at hout
    injection hout with hout; subst hout
    exact entryStep_nil S rec d i fi _ (by unfold defaultOf; rw [hdk]; rfl)
  · rw [if_neg (by simpa using h0), hff.nw] at hout
    exact entryStep_scalar S rec d i fi (.int s) out hd hi hff hr ho hg hx hout hlen

/-- implicit presence: a component that is 0 is not written, and an unset slot reads as 0 -/
theorem secNanos_roundtrip (S : Schema) (rec rec' : Loader) (hu : Unfolds S rec rec') (s ns : Int) (p : Bytes)
    (hs : -9223372036854775808 ≤ s ∧ s < 9223372036854775808) (hn : -2147483648 ≤ ns ∧ ns < 2147483648)
    (h : secNanosBytes s ns = .ok p) (hp : p.length < 2 ^ 64) :
    ReadsPair S rec secNanosD p (.int s) (.int ns) := by
  rw [secNanosBytes_eq S] at h
  obtain ⟨a, ha, h⟩ := bind_inv h
  obtain ⟨b, hb, h⟩ := bind_inv h
  injection h with h
  subst h
  have hal : a.length < 2 ^ 64 := by simp only [List.length_append] at hp; omega
  have hbl : b.length < 2 ^ 64 := by simp only [List.length_append] at hp; omega
  exact two_field_decode S rec rec' hu secNanosD a b (.int s) (.int ns) rfl
    (entryStep_int S _ secNanosD 0 snSec s a numsDistinct_secNanos rfl flat_snSec rfl rfl rfl rfl
      (scalarOk_snSec s hs) ha hal)
    (entryStep_int S _ secNanosD 1 snNan ns b numsDistinct_secNanos rfl flat_snNan rfl rfl rfl rfl
      (scalarOk_snNan ns hn) hb hbl)

theorem time_notmap (f : FieldD) (isDur : Bool) (h : TimeField f isDur) : (f.ty == PType.map) = false := by
  rw [h.ty]; rfl

theorem time_defKind (f : FieldD) (isDur : Bool) (h : TimeField f isDur) :
    f.defKind = (if f.optional then DefKind.none else (if isDur then DefKind.dur else DefKind.ts)) := by
  unfold FieldD.defKind
  rw [h.rep, if_neg (by decide), if_neg (by rw [time_notmap f isDur h]; decide), h.nw, h.ty, h.kind]
  by_cases ho : f.optional = true
  · rw [ho]; rfl
  · have ho' : f.optional = false := by simpa using ho
    rw [ho']
    cases isDur <;> rfl

def isTimeVal : Val → Bool
  | .ts _ | .dur _ => true
  | _ => false

theorem isTimeVal_cases (v : Val) (h : isTimeVal v = true) : (∃ us, v = .ts us) ∨ ∃ us, v = .dur us := by
  cases v with
  | ts us => exact .inl ⟨us, rfl⟩
  | dur us => exact .inr ⟨us, rfl⟩
  | _ => cases h

theorem timeValOk_isTime (isDur : Bool) (x : Val) (h : timeValOk isDur x = true) : isTimeVal x = true := by
  cases x with
  | ts _ => rfl
  | dur _ => rfl
  | _ => cases h

theorem isTimeVal_plain (v : Val) (h : isTimeVal v = true) : isPlainVal v = true ∧ isMsgVal v = false := by
  rcases isTimeVal_cases v h with ⟨us, rfl⟩ | ⟨us, rfl⟩ <;> exact ⟨rfl, rfl⟩

theorem postLen_ts (S : Schema) (rec : Loader) (f : FieldD) (p : Bytes) (us : Int)
    (hty : f.ty = PType.message) (hkind : f.kind = MsgKind.timestamp)
    (hp : ReadsPair S rec secNanosD p (.int (tsSplit us).1) (.int (tsSplit us).2))
    (hus : tsOk us = true) : postLen S rec f p = .ok (.ts us) := by
  obtain ⟨st, hrec, h0, h1⟩ := hp
  unfold postLen
  rw [hty, if_neg (by decide), if_pos (by decide), hkind]
  simp only [hrec, bind_ok, h0, h1, C15.ts_roundtrip]
  unfold tsOk at hus
  simp only [Bool.and_eq_true, decide_eq_true_eq] at hus
  rw [if_pos hus]

theorem postLen_dur (S : Schema) (rec : Loader) (f : FieldD) (p : Bytes) (us : Int)
    (hty : f.ty = PType.message) (hkind : f.kind = MsgKind.duration)
    (hp : ReadsPair S rec secNanosD p (.int (durSplit us).1) (.int (durSplit us).2))
    (hus : durOk us = true) : postLen S rec f p = .ok (.dur us) := by
  obtain ⟨st, hrec, h0, h1⟩ := hp
  unfold postLen
  rw [hty, if_neg (by decide), if_pos (by decide), hkind]
  simp only [hrec, bind_ok, h0, h1, C15.dur_roundtrip]
  unfold durOk at hus
  simp only [Bool.and_eq_true, decide_eq_true_eq] at hus
  rw [if_pos (by unfold durMinUs durMaxUs; omega)]

theorem tsSplit_range (us : Int) (h : tsOk us = true) :
    (-9223372036854775808 ≤ (tsSplit us).1 ∧ (tsSplit us).1 < 9223372036854775808)
    ∧ (-2147483648 ≤ (tsSplit us).2 ∧ (tsSplit us).2 < 2147483648) := by
  unfold tsOk tsMinUs tsMaxUs at h
  simp only [Bool.and_eq_true, decide_eq_true_eq] at h
  unfold tsSplit; simp only
  omega

theorem durSplit_range (us : Int) (h : durOk us = true) :
    (-9223372036854775808 ≤ (durSplit us).1 ∧ (durSplit us).1 < 9223372036854775808)
    ∧ (-2147483648 ≤ (durSplit us).2 ∧ (durSplit us).2 < 2147483648) := by
  unfold durOk at h
  simp only [Bool.and_eq_true, decide_eq_true_eq] at h
  -- truncating division of `us * 1000`: no division is left for `omega`
  rw [TimeArith.durSplit_eq]
  have h1 := (TimeArith.tdiv_tmod_sign (us * 1000) (D := 1000000000) (by decide)).2
  have h2 := Int.tdiv_mul_add_tmod (us * 1000) 1000000000
  omega

/-- `x` is written as `secNanosBytes s ns` with both components in range, `postLen` (for a
    field `f` of the right kind) maps that pair back to `x`, and `(0, 0)` is the default -/
def TimeCodec (S : Schema) (rec : Loader) (f : FieldD) (isDur : Bool) (x : Val) : Prop :=
  isTimeVal x = true ∧ ∃ s ns : Int, prepScalar S PType.message Option.none x = secNanosBytes s ns
    ∧ (-9223372036854775808 ≤ s ∧ s < 9223372036854775808) ∧ (-2147483648 ≤ ns ∧ ns < 2147483648)
    ∧ (∀ p : Bytes, ReadsPair S rec secNanosD p (.int s) (.int ns) → postLen S rec f p = .ok x)
    ∧ (s = 0 → ns = 0 → x = defaultOfKind S (if isDur then DefKind.dur else DefKind.ts))

theorem timeCodec_of_ok (S : Schema) (rec : Loader) (f : FieldD) (isDur : Bool) (x : Val)
    (hty : f.ty = PType.message) (hkind : f.kind = (if isDur then MsgKind.duration else MsgKind.timestamp))
    (hx : timeValOk isDur x = true) : TimeCodec S rec f isDur x := by
  cases isDur with
  | false =>
    obtain ⟨us, rfl, hus⟩ := timeValOk_ts x hx
    obtain ⟨hs, hn⟩ := tsSplit_range us hus
    refine ⟨rfl, (tsSplit us).1, (tsSplit us).2, rfl, hs, hn,
      fun p hp => postLen_ts S _ f p us hty hkind hp hus, fun h0 h1 => ?_⟩
    have := C15.ts_roundtrip us
    rw [h0, h1] at this
    rw [← this]; rfl
  | true =>
    obtain ⟨us, rfl, hus⟩ := timeValOk_dur x hx
    obtain ⟨hs, hn⟩ := durSplit_range us hus
    refine ⟨rfl, (durSplit us).1, (durSplit us).2, rfl, hs, hn,
      fun p hp => postLen_dur S _ f p us hty hkind hp hus, fun h0 h1 => ?_⟩
    have := C15.dur_roundtrip us
    rw [h0, h1] at this
    rw [← this]; rfl

/-- the codec of a datetime / timedelta: written as the two-field message `secNanosD`, read back exactly -/
theorem itemRt_time (S : Schema) (rec rec' : Loader) (hu : Unfolds S rec rec') (f : FieldD) (isDur : Bool) (x : Val)
    (hty : f.ty = PType.message) (hnw : f.wraps = Option.none) (hnum : numOk f.num = true)
    (hkind : f.kind = (if isDur then MsgKind.duration else MsgKind.timestamp))
    (hx : timeValOk isDur x = true) : ItemRt S rec f (fun a b => a = b) x := by
  obtain ⟨hxt, s, ns, hprep, hs, hn, hpost, _⟩ := timeCodec_of_ok S rec f isDur x hty hkind hx
  obtain ⟨hpl, hnm⟩ := isTimeVal_plain x hxt
  have hdr : ∀ se, dumpRec S f.num f.ty f.wraps se x
      = (secNanosBytes s ns).bind fun p => frame f.num f.ty p se false := by
    intro se
    rw [dumpRec_nonmsg S _ _ _ _ x hnm, hnw, serializeScalar, hty, hprep]
    rfl
  refine itemRt_of_payload S rec f _ x (secNanosBytes s ns) false (by rw [hty]; exact lenT_message) hnum hdr
    fun p hp hpl' => ?_
  exact ⟨x, hpost p (secNanos_roundtrip S rec rec' hu s ns p hs hn hp hpl'), rfl, isItem_of_plain S x hpl, AsPresent.refl S x, fun se => by rw [hdr, hp, bind_ok]⟩

/-! non-vacuity: concrete instances meeting the hypotheses -/
example : TimeField { num := 3, ty := .message, kind := .timestamp } false := ⟨rfl, rfl, rfl, by decide, rfl⟩
example : TimeField { num := 4, ty := .message, kind := .duration, group := some 0 } true := ⟨rfl, rfl, rfl, by decide, rfl⟩
example : tsOk 1500000 = true ∧ durOk (-1500000) = true := by decide +kernel
example : secNanosBytes 1 500000000 = .ok [8, 1, 16, 128, 202, 181, 238, 1] := by decide +kernel
example : dumpSlot [] { num := 3, ty := .message, kind := .timestamp } false false (.ts 1500000)
    = .ok [26, 8, 8, 1, 16, 128, 202, 181, 238, 1] := by decide +kernel
example : dumpSlot [] { num := 3, ty := .message, kind := .timestamp } false false (.ts 0) = .ok [] := by decide +kernel
example : dumpSlot [] { num := 4, ty := .message, kind := .duration, group := some 0 } false true (.dur 0)
    = .ok [34, 0] := by decide +kernel

end Bp

#print axioms Bp.secNanos_roundtrip
#print axioms Bp.timeCodec_of_ok
#print axioms Bp.itemRt_time
