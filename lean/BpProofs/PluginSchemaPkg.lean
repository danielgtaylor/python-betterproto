import BpProofs.PluginSchemaWf
/-
  Package level: the message classes `compilePackage` emits are, in order, the classes compiled
  from the (non-map-entry) messages of the files at every depth; hence `toSchema` of the
  package is the schema the descriptors demand, and it is well formed.
-/
namespace Bp.Plugin
open Bp

def itemMsgs : List Item → List MsgP
  | [] => []
  | .enum _ _ :: r => itemMsgs r
  | .msg _ m :: r => if m.mapEntry then itemMsgs r else m :: itemMsgs r

theorem itemMsgs_append : ∀ (a b : List Item), itemMsgs (a ++ b) = itemMsgs a ++ itemMsgs b
  | [], _ => rfl
  | .enum _ _ :: r, b => by simp [itemMsgs, itemMsgs_append r b]
  | .msg _ m :: r, b => by
    simp only [List.cons_append, itemMsgs, itemMsgs_append r b]
    split <;> rfl

theorem itemMsgs_travEnums (pre : Name) : ∀ es : List EnumP, itemMsgs (travEnums pre es) = []
  | [] => rfl
  | e :: r => by simp [travEnums, itemMsgs, itemMsgs_travEnums pre r]

mutual
theorem travMsgs_msgs (pre full : Name) : ∀ ms : List MsgP,
    itemMsgs (travMsgs pre ms) = (liveMsgs (fullMsgsL full ms)).map (·.2)
  | [] => rfl
  | m :: ms => by
    simp only [travMsgs, fullMsgsL, itemMsgs_append, liveMsgs, List.filter_append, List.map_append]
    have h1 := travMsg_msgs pre full m
    have h2 := travMsgs_msgs pre full ms
    simp only [liveMsgs] at h1 h2
    rw [h1, h2]
theorem travMsg_msgs (pre full : Name) : ∀ m : MsgP,
    itemMsgs (travMsg pre m) = (liveMsgs (fullMsgs1 full m)).map (·.2)
  | .mk n fs ns es os me => by
    have h2 := travMsgs_msgs (pre ++ '_' :: n) (full ++ '.' :: n) ns
    simp only [liveMsgs] at h2
    simp only [travMsg, fullMsgs1, itemMsgs, itemMsgs_append, itemMsgs_travEnums, List.nil_append, h2, liveMsgs,
      List.filter_cons, MsgP.mapEntry]
    cases me <;> simp
end

theorem msgClasses_append : ∀ (a b : List Class), msgClasses (a ++ b) = msgClasses a ++ msgClasses b
  | [], _ => rfl
  | .message _ _ :: r, b => by simp [msgClasses, msgClasses_append r b]
  | .enum _ _ :: r, b => by simp [msgClasses, msgClasses_append r b]

theorem itemMsgs_flatMap : ∀ items : List Item, itemMsgs items = items.flatMap fun it => itemMsgs [it]
  | [] => rfl
  | it :: r => by rw [List.flatMap_cons, ← itemMsgs_flatMap r, ← itemMsgs_append]; rfl

theorem msgClasses_flatten : ∀ css : List (List Class), msgClasses css.flatten = css.flatMap msgClasses
  | [] => rfl
  | a :: r => by rw [List.flatten_cons, msgClasses_append, msgClasses_flatten r, List.flatMap_cons]

theorem msgClasses_filterMap : ∀ ocs : List (Option Class),
    msgClasses (ocs.filterMap id) = ocs.flatMap fun oc => msgClasses oc.toList
  | [] => rfl
  | none :: r => msgClasses_filterMap r
  | some c :: r => by
    show msgClasses (c :: r.filterMap id) = msgClasses [c] ++ r.flatMap fun oc => msgClasses oc.toList
    rw [← msgClasses_filterMap r]
    exact msgClasses_append [c] _

/-- the message classes read off a list of items are the field lists compiled from its messages, one by one -/
theorem readItems_msgs (nm : Naming) (items : List Item) (cs : List Class) (h : readItems nm items = some cs) :
    (itemMsgs items).map (fun m => compileFields nm m m.fields) = (msgClasses cs).map fun q => some q.2 := by
  obtain ⟨ocs, hm, rfl⟩ := readItems_iff.1 h
  rw [itemMsgs_flatMap, msgClasses_filterMap, List.map_flatMap, List.map_flatMap]
  refine flatMap_transport hm fun it oc _ hr => ?_
  rcases readItem_cases hr with ⟨_, _, rfl, rfl⟩ | ⟨_, _, rfl, hme, rfl⟩ | ⟨_, _, _, rfl, hme, hc, rfl⟩
  · rfl
  · simp [itemMsgs, hme, msgClasses]
  · simp [itemMsgs, hme, msgClasses, hc]

theorem compileFile_msgs (nm : Naming) (fl : FileP) (cs : List Class) (h : compileFile nm fl = some cs) :
    (fileMsgs fl).map (fun p => compileFields nm p.2 p.2.fields) = (msgClasses cs).map fun q => some q.2 := by
  have := readItems_msgs nm _ cs h
  rwa [traverse, itemMsgs_append, itemMsgs_travEnums, List.nil_append,
    travMsgs_msgs [] (pkgPrefix fl.package) fl.messages, List.map_map] at this

theorem compilePackage_msgs (nm : Naming) (files : List FileP) (cs : List Class) (h : compilePackage nm files = some cs) :
    (packageMsgs files).map (fun p => compileFields nm p.2 p.2.fields) = (msgClasses cs).map fun q => some q.2 := by
  obtain ⟨css, hm, rfl⟩ := compilePackage_iff.1 h
  rw [packageMsgs, msgClasses_flatten, List.map_flatMap, List.map_flatMap]
  exact flatMap_transport hm fun fl cs _ hc => compileFile_msgs nm fl cs hc

theorem validPackage_mem {files : List FileP} (h : validPackage files = true) :
    ∀ p ∈ packageMsgs files, inDomain p.1 p.2 = true := by
  unfold validPackage at h
  simpa [List.all_eq_true] using h

theorem toSchema_eq_spec (nm : Naming) (pkg : Name) (files : List FileP) (cs : List Class)
    (hv : validPackage files = true) (hc : compilePackage nm files = some cs) :
    toSchema nm pkg cs = specSchema nm (envOf nm pkg cs) files := by
  refine (mapMOpt_congr (map_transport (compilePackage_msgs nm files cs hc) fun p q hp hq => ?_)).symm
  have hd := validPackage_mem hv p hp
  simp only [inDomain, Bool.and_eq_true] at hd
  obtain ⟨fs, hf, hcd⟩ := class_schema_faithful nm (envOf nm pkg cs) p.1 p.2 hd.1.1 hd.1.2 hd.2
  cases hf.symm.trans hq
  exact hcd.symm

theorem idxOf_lt {g : Name} : ∀ {l : List Name} {i : Nat}, idxOf g l = some i → i < l.length
  | [], _, h => by simp [idxOf] at h
  | a :: r, i, h => by
    unfold idxOf at h
    split at h
    · cases h; simp
    · cases hr : idxOf g r with
      | none => simp [hr] at h
      | some j =>
        simp only [hr, Option.map_some, Option.some.injEq] at h
        subst h
        have := idxOf_lt hr
        simp only [List.length_cons]; omega

theorem envOf_below (nm : Naming) (pkg : Name) (cs : List Class) :
    EnvBelow (envOf nm pkg cs) (msgClasses cs).length := by
  intro tn i h
  simp only [envOf] at h
  cases hf : flatOfTypeName pkg tn with
  | none => simp [hf] at h
  | some fl =>
    simp only [hf, Option.bind_some] at h
    have := idxOf_lt h
    simpa using this

theorem specMsgD_wf {nm : Naming} {env : Env} {n : Nat} (he : EnvBelow env n) {full : Name} {m : MsgP} {d : MsgD}
    (h : specMsgD nm env full m = some d) : wfMsgDB n d = true := by
  unfold specMsgD at h
  dsimp only at h
  cases hm : mapMOpt (fun f => (specOf full m f).bind (specFieldD env (specGroupNames full m) (nm.fld f.name))) m.fields with
  | none => simp [hm] at h
  | some fs =>
    simp only [hm, Option.map_some, Option.some.injEq] at h
    subst h
    unfold wfMsgDB
    simp only [List.all_eq_true]
    intro fd hfd
    obtain ⟨f, _, hf⟩ := mapMOpt_mem hm fd hfd
    cases hs : specOf full m f with
    | none => simp [hs] at hf
    | some s =>
      simp only [hs, Option.bind_some] at hf
      exact specFieldD_wf he (specOf_wf hs) hf

theorem toSchema_wf (nm : Naming) (pkg : Name) (files : List FileP) (cs : List Class) (S : Schema)
    (hv : validPackage files = true) (hc : compilePackage nm files = some cs)
    (hS : toSchema nm pkg cs = some S) : wfSchemaTB S = true := by
  have hlen : S.length = (msgClasses cs).length := mapMOpt_length hS
  rw [toSchema_eq_spec nm pkg files cs hv hc] at hS
  unfold wfSchemaTB
  simp only [List.all_eq_true]
  intro d hd
  obtain ⟨p, _, hp⟩ := mapMOpt_mem hS d hd
  rw [hlen]
  exact specMsgD_wf (envOf_below nm pkg cs) hp

end Bp.Plugin
