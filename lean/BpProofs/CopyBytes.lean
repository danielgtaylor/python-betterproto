import BpModel.All
import BpProofs.Ops
import BpProofs.OkView
/-
  C14, byte-faithfulness of copies: for every well-typed reachable message (`MsgOk`,
  BpProofs/NestedDefs.lean) `copy.deepcopy` and `copy.copy` rebuild a value that

    * encodes to the same bytes as the original (`C14.copy_bytes_faithful`),
    * is again well-typed and reachable (`C14.copy_stays_welltyped`).

  How: the copy is rebuilt through the constructor from the non-PLACEHOLDER fields.
    (1) a PLACEHOLDER slot is replaced by `None` only for an `optional` field; `MsgOk` admits
        PLACEHOLDER only in non-optional fields (`SlotOk.ph_nonopt`), so under `MsgOk` every slot
        is handed over as it is (`deepCopySlots_id`, `shallowSlots_id`) — and should an optional
        field ever hold PLACEHOLDER, both PLACEHOLDER and the `None` replacing it emit no bytes
        (`dumpSlot_ph_optional`, which needs no typing hypothesis at all);
    (2) the copy receives `_group_current` of the original verbatim (`deepCopy` / `shallowCopy`,
        BpModel/Ops.lean).  The selection `__post_init__` derives from which members are set
        (`initCur`, BpModel/Obj.lean) would be the same one: under the oneof invariant carried by
        `MsgOk` (a selection points at a member of its group, the selected member is set, all other
        members are PLACEHOLDER, members are not optional) it is the stored selection (`initCur_eq_cur`, BpProofs/Ops.lean);
    (3) the copy also receives `_serialized_on_wire` and `_unknown_fields` of the original.
  So in the model (values have no identity) the copy of a `MsgOk` value IS the value
  (`deepCopy_id`, `shallowCopy_id`), at every nesting level, and the statements of Props/C14.lean about copies follow.
-/
namespace Bp
open Gen

theorem deepCopy_atom (S : Schema) (v : Val) (h : isAtom v = true) : deepCopy S v = v := by
  cases v with
  | list | dict | msg => cases h
  | _ => rfl

/-- For ANY optional field (no typing hypothesis) a PLACEHOLDER slot and the `None` the
    copy's constructor puts in its place both emit nothing: the replacement is invisible on the
    wire even where it does happen -/
theorem dumpSlot_ph_optional (S : Schema) (f : FieldD) (hid sel : Bool) (ho : f.optional = true) :
    dumpSlot S f hid sel Val.ph = .ok [] ∧ dumpSlot S f hid sel Val.none = .ok [] := by
  refine ⟨?_, by rw [dumpSlot]⟩
  rw [dumpSlot]
  cases hid with
  | true => rfl
  | false =>
    simp only [Bool.false_eq_true, if_false]
    unfold dumpDefault FieldD.defKind
    cases hr : f.repeated with
    | true =>
      simp only [if_true, ho, Bool.or_true, Bool.true_or, Bool.not_true, Bool.false_eq_true, if_false]
      cases isPacked f.ty <;> rfl  -- an empty packed record is not written
    | false =>
      simp only [Bool.false_eq_true, if_false, ho, Bool.true_or, Bool.or_true, Bool.not_true]
      cases (f.ty == PType.map) <;> rfl

theorem shallowCopy_msg (S : Schema) (c : Nat) (sl : List Val) (ow : Bool) (unk : Bytes) (cur : List (Option Nat)) :
    shallowCopy S (.msg c sl ow unk cur)
      = .msg c ((sl.zip (fieldsOf S c)).map (copySlot id)) ow unk cur := rfl

theorem shallowSlots_id (S : Schema) : ∀ (fs : List FieldD) (vs : List Val), SlotsOk S fs vs →
    (vs.zip fs).map (copySlot id) = vs
  | _, _, .nil => rfl
  | _, _, .cons f v fs vs h1 h2 => by
    rw [List.zip_cons_cons, List.map_cons, shallowSlots_id S fs vs h2]
    cases v with
    | ph => simp only [copySlot, h1.ph_nonopt, Bool.false_eq_true, if_false]
    | _ => rfl

/-- **`copy.copy` of a well-typed reachable message is that message** (same class, same raw
    slots, same flag, same unknown bytes, same selection) -/
theorem shallowCopy_id (S : Schema) (m : Val) (h : MsgOk S m) : shallowCopy S m = m := by
  cases h with
  | mk c d sl ow unk cur hd h1 h2 h3 h4 h5 h6 h7 hsl hunk =>
    have hfs : fieldsOf S c = d.fields := fieldsOf_some S c d hd
    rw [shallowCopy_msg, hfs, shallowSlots_id S d.fields sl hsl]

theorem deepCopySlots_cons_id (S : Schema) (f : FieldD) (fs : List FieldD) (v : Val) (vs : List Val)
    (ho : v = Val.ph → f.optional = false) (h1 : deepCopy S v = v) (h2 : deepCopySlots S fs vs = vs) :
    deepCopySlots S (f :: fs) (v :: vs) = v :: vs := by
  rw [deepCopySlots_cons, h2]
  cases v with
  | ph => simp only [ho rfl, Bool.false_eq_true, if_false]
  | _ => simp only [h1]

theorem deepCopy_item (S : Schema) (K : ItemKind) (x : Val) (h : ItemOk S (fun m => deepCopy S m = m) K x) :
    deepCopy S x = x := by
  cases h with
  | scalar t _ hx | wrapped t _ hx => exact deepCopy_atom S x (scalarOk_atom t x hx)
  | time b _ hx => exact deepCopy_atom S x (timeValOk_atom b x hx)
  | msg _ _ _ _ _ _ ih => exact ih

theorem deepCopyList_id (S : Schema) : ∀ xs : List Val, (∀ x ∈ xs, deepCopy S x = x) → deepCopyList S xs = xs
  | [], _ => by simp [deepCopyList]
  | x :: xs, h => by
    rw [deepCopyList, h x List.mem_cons_self, deepCopyList_id S xs fun y hy => h y (List.mem_cons_of_mem _ hy)]

theorem deepCopy_shape (S : Schema) (f : FieldD) (v : Val) (h : SlotShape S (fun m => deepCopy S m = m) f v) :
    deepCopy S v = v := by
  cases h with
  | unset | none => rfl
  | one K _ _ hv => exact deepCopy_item S K v hv
  | many K xs _ hxs => rw [deepCopy, deepCopyList_id S xs fun x hx => deepCopy_item S K x (hxs x hx)]
  | map K ks vs _ _ _ hvs => rw [deepCopy, deepCopyList_id S vs fun x hx => deepCopy_item S K x (hvs x hx)]

theorem deepCopySlots_shapes (S : Schema) (fs : List FieldD) (vs : List Val)
    (h : List.Forall₂ (SlotShape S (fun m => deepCopy S m = m)) fs vs) : deepCopySlots S fs vs = vs := by
  induction h with
  | nil => simp [deepCopySlots]
  | cons h1 _ ih => exact deepCopySlots_cons_id S _ _ _ _ (fun e => (e ▸ h1).ph_nonopt) (deepCopy_shape S _ _ h1) ih

/-- **`copy.deepcopy` of a well-typed reachable message is that message**, at every nesting level -/
theorem deepCopy_id (S : Schema) : ∀ (m : Val), MsgOk S m → deepCopy S m = m :=
  MsgOk.walk S fun c d sl _ _ _ hd _ hsl => by
    rw [deepCopy, fieldsOf_some S c d hd, deepCopySlots_shapes S d.fields sl hsl]

theorem deepCopySlot_id (S : Schema) (f : FieldD) : ∀ (v : Val), SlotOk S f v → deepCopy S v = v :=
  fun v h => deepCopy_shape S f v (SlotOk.shape S (deepCopy_id S) f v h)

theorem deepCopySlots_id (S : Schema) : ∀ (fs : List FieldD) (vs : List Val), SlotsOk S fs vs →
    deepCopySlots S fs vs = vs :=
  fun fs vs h => deepCopySlots_shapes S fs vs (SlotsOk.shapes S (fun _ _ _ _ _ _ _ hm _ => deepCopy_id S _ hm) fs vs h)

theorem deepCopyMsgs_id (S : Schema) (c : Nat) : ∀ (xs : List Val), MsgsOk S c xs → deepCopyList S xs = xs :=
  fun xs h => deepCopyList_id S xs fun x hx => deepCopy_item S _ x (MsgsOk.items S (deepCopy_id S) c xs h x hx)

end Bp

#print axioms Bp.deepCopy_id
#print axioms Bp.shallowCopy_id
#print axioms Bp.dumpSlot_ph_optional
