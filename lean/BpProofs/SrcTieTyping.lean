import BpProofs.Gen.SrcTyping
import BpModel.Typing
/-
  THE TIE BETWEEN THE TRANSLATED SOURCE OF plugin/typing_compiler.py AND THE HAND-WRITTEN MODEL (C18).

  `Bp.Src.DirectImportTypingCompiler.*`, `Bp.Src.TypingImportTypingCompiler.*`,
  `Bp.Src.NoTyping310TypingCompiler.*` (BpProofs/Gen/SrcTyping.lean) are regenerated from the Python AST
  of src/betterproto/plugin/typing_compiler.py on every run.  The theorems below say that each of them
  returns exactly the text of the function of BpModel/Typing.lean for the corresponding `Compiler`
  (`.direct` / `.root` / `.c310`), for ALL argument strings and ALL prior states of the object, never
  raises, and leaves the object in the state `requested` / "`_imported` is True" describes.

  The model (BpModel/Typing.lean) has no function for the import bookkeeping of the compilers; the
  obvious one is defined HERE (`Meth`, `requested`): which (module, name) pair a method
  of a compiler adds to `self._imports`.  It is used only to state the tie.

  What is trusted is the meaning of the Python primitives fixed in BpProofs/PyPrelude.lean,
  PyPreludeStr.lean, PyPreludeTyping.lean.
-/
namespace Bp.SrcTieTyping
open Bp Bp.Py Bp.Typing

/-- the seven methods of a typing compiler -/
inductive Meth
  | optional | list | dict | union | iterable | asyncIterable | asyncIterator
  deriving DecidableEq, Repr

def Meth.all : List Meth := [.optional, .list, .dict, .union, .iterable, .asyncIterable, .asyncIterator]

/-- the name of `typing` that stands for the method -/
def Meth.typingName : Meth → Str
  | .optional => "Optional".toList
  | .list => "List".toList
  | .dict => "Dict".toList
  | .union => "Union".toList
  | .iterable => "Iterable".toList
  | .asyncIterable => "AsyncIterable".toList
  | .asyncIterator => "AsyncIterator".toList

/-- the (module, name) pairs a method adds to `self._imports` (`self._imports[module].add(name)`):
    typing.direct imports the `typing` name it writes; typing.310 imports the three iterable ABCs from
    `collections.abc` and nothing for the builtin generics / `|`; typing.root has no `_imports` (it sets
    `_imported`; its `imports()` is `C18.src_root_imports`) -/
def requested : Compiler → Meth → List (Str × Str)
  | .direct, m => [("typing".toList, m.typingName)]
  | .root, _ => []
  | .c310, .iterable => [("collections.abc".toList, "Iterable".toList)]
  | .c310, .asyncIterable => [("collections.abc".toList, "AsyncIterable".toList)]
  | .c310, .asyncIterator => [("collections.abc".toList, "AsyncIterator".toList)]
  | .c310, _ => []

theorem joinStr_eq (sep : Str) : ∀ xs : List Str, Py.joinStr sep xs = joinSep sep xs
  | [] => rfl
  | [_] => rfl
  | x :: y :: r => by
    show x ++ sep ++ Py.joinStr sep (y :: r) = x ++ sep ++ joinSep sep (y :: r)
    rw [joinStr_eq sep (y :: r)]

theorem mapRes_ok {α β : Type} (f : α → Res β) (g : α → β) (h : ∀ x, f x = .ok (g x)) :
    ∀ xs : List α, Py.mapRes f xs = .ok (xs.map g)
  | [] => rfl
  | x :: r => by
    show ((f x).bind fun y => (Py.mapRes f r).bind fun ys => .ok (y :: ys)) = _
    rw [h x, mapRes_ok f g h r]
    rfl

theorem clamp_one (len : Nat) : Py.clamp len 1 = min 1 len := by
  unfold Py.clamp
  simp

theorem clamp_neg_one (len : Nat) : Py.clamp len (-1) = len - 1 := by
  unfold Py.clamp
  simp only [show ((-1 : Int) < 0) from by decide, if_true]
  omega

/-- `s[1:-1]` of a str that starts with a character `c`: the rest without its last character -/
theorem slice_one_neg_one (c : Char) (r : Str) : Py.slice (c :: r) 1 (-1) = r.dropLast := by
  unfold Py.slice
  rw [clamp_one, clamp_neg_one, List.dropLast_eq_take]
  cases r with
  | nil => rfl
  | cons a r' =>
    have e : min 1 (c :: a :: r').length = 1 := by simp
    rw [e]
    simp

theorem startswith_cons (c d : Char) (r : Str) : Py.startswith (c :: r) [d] = (d == c) := by
  simp [Py.startswith, List.isPrefixOf]

theorem startswith_nil (d : Char) : Py.startswith [] [d] = false := by
  simp [Py.startswith, List.isPrefixOf]

theorem fmt_eq (fuel : Nat) (t : Str) : Src.NoTyping310TypingCompiler._fmt fuel t = .ok (fmt t) := by
  unfold Src.NoTyping310TypingCompiler._fmt
  simp only [String.reduceToList]
  cases t with
  | nil =>
    simp only [startswith_nil, Bool.false_eq_true, if_false]
    rfl
  | cons c r =>
    by_cases h : c = '"'
    · subst h
      simp only [startswith_cons, beq_self_eq_true, if_true]
      rw [show (-(1 : Int)) = -1 from rfl, slice_one_neg_one]
      rfl
    · have hb : ('"' == c) = false := by
        simp only [beq_eq_false_iff_ne, ne_eq]
        exact fun e => h e.symm
      simp only [startswith_cons, hb, Bool.false_eq_true, if_false]
      unfold fmt
      split
      · rename_i e; cases e; exact absurd rfl h
      · rfl

theorem quoted_eq (s : Str) : quoted s = '"' :: (s ++ ['"']) := rfl
theorem optional_direct (t : Str) : optional .direct t = "Optional[".toList ++ t ++ "]".toList := rfl
theorem optional_root (t : Str) : optional .root t = "typing.".toList ++ "Optional[".toList ++ t ++ "]".toList := rfl
theorem optional_c310 (t : Str) : optional .c310 t = quoted (fmt t ++ " | None".toList) := rfl
theorem list_direct (t : Str) : list .direct t = "List[".toList ++ t ++ "]".toList := rfl
theorem list_root (t : Str) : list .root t = "typing.".toList ++ "List[".toList ++ t ++ "]".toList := rfl
theorem list_c310 (t : Str) : list .c310 t = quoted ("list[".toList ++ fmt t ++ "]".toList) := rfl
theorem dict_direct (k v : Str) : dict .direct k v = "Dict[".toList ++ k ++ ", ".toList ++ v ++ "]".toList := rfl
theorem dict_root (k v : Str) :
    dict .root k v = "typing.".toList ++ "Dict[".toList ++ k ++ ", ".toList ++ v ++ "]".toList := rfl
theorem dict_c310 (k v : Str) :
    dict .c310 k v = quoted ("dict[".toList ++ k ++ ", ".toList ++ fmt v ++ "]".toList) := rfl
theorem union_direct (ts : List Str) : union .direct ts = "Union[".toList ++ joinSep ", ".toList ts ++ "]".toList := rfl
theorem union_root (ts : List Str) :
    union .root ts = "typing.".toList ++ "Union[".toList ++ joinSep ", ".toList ts ++ "]".toList := rfl
theorem union_c310 (ts : List Str) : union .c310 ts = quoted (joinSep " | ".toList (ts.map fmt)) := rfl
theorem iterable_direct (t : Str) : iterable .direct t = "Iterable[".toList ++ t ++ "]".toList := rfl
theorem iterable_root (t : Str) : iterable .root t = "typing.".toList ++ "Iterable[".toList ++ t ++ "]".toList := rfl
theorem iterable_c310 (t : Str) : iterable .c310 t = quoted ("Iterable[".toList ++ t ++ "]".toList) := rfl
theorem asyncIterable_direct (t : Str) : asyncIterable .direct t = "AsyncIterable[".toList ++ t ++ "]".toList := rfl
theorem asyncIterable_root (t : Str) :
    asyncIterable .root t = "typing.".toList ++ "AsyncIterable[".toList ++ t ++ "]".toList := rfl
theorem asyncIterable_c310 (t : Str) : asyncIterable .c310 t = quoted ("AsyncIterable[".toList ++ t ++ "]".toList) := rfl
theorem asyncIterator_direct (t : Str) : asyncIterator .direct t = "AsyncIterator[".toList ++ t ++ "]".toList := rfl
theorem asyncIterator_root (t : Str) :
    asyncIterator .root t = "typing.".toList ++ "AsyncIterator[".toList ++ t ++ "]".toList := rfl
theorem asyncIterator_c310 (t : Str) : asyncIterator .c310 t = quoted ("AsyncIterator[".toList ++ t ++ "]".toList) := rfl

theorem requested_direct (m : Meth) : requested .direct m = [("typing".toList, m.typingName)] := rfl
theorem requested_root (m : Meth) : requested .root m = [] := rfl
theorem tn_optional : Meth.typingName .optional = "Optional".toList := rfl
theorem tn_list : Meth.typingName .list = "List".toList := rfl
theorem tn_dict : Meth.typingName .dict = "Dict".toList := rfl
theorem tn_union : Meth.typingName .union = "Union".toList := rfl
theorem tn_iterable : Meth.typingName .iterable = "Iterable".toList := rfl
theorem tn_asyncIterable : Meth.typingName .asyncIterable = "AsyncIterable".toList := rfl
theorem tn_asyncIterator : Meth.typingName .asyncIterator = "AsyncIterator".toList := rfl
theorem rq_c310_optional : requested .c310 .optional = [] := rfl
theorem rq_c310_list : requested .c310 .list = [] := rfl
theorem rq_c310_dict : requested .c310 .dict = [] := rfl
theorem rq_c310_union : requested .c310 .union = [] := rfl
theorem rq_c310_iterable : requested .c310 .iterable = [("collections.abc".toList, "Iterable".toList)] := rfl
theorem rq_c310_asyncIterable :
    requested .c310 .asyncIterable = [("collections.abc".toList, "AsyncIterable".toList)] := rfl
theorem rq_c310_asyncIterator :
    requested .c310 .asyncIterator = [("collections.abc".toList, "AsyncIterator".toList)] := rfl

/-- what a call of method `m` of compiler `c` does to `self._imports` -/
def addRequested (c : Compiler) (s : List (Str × Str)) (m : Meth) : List (Str × Str) := s ++ requested c m

theorem mapRes_fmt (fuel : Nat) (ts : List Str) :
    Py.mapRes (Src.NoTyping310TypingCompiler._fmt fuel) ts = .ok (ts.map fmt) := mapRes_ok _ fmt (fmt_eq fuel) ts

/-- `norm_text` is one `simp only` call, the normal form of the texts in which source and model are compared: the
    model's clauses are unfolded (the `rfl` lemmas above), `_fmt` and `join` as written become the model's, string
    constants become character lists, appends are re-associated to the right.  It closes the goal. -/
macro "norm_text" : tactic => `(tactic| simp only [fmt_eq, mapRes_fmt, joinStr_eq, Res.bind, addRequested,
  optional_direct, optional_root, optional_c310, list_direct, list_root, list_c310, dict_direct, dict_root, dict_c310,
  union_direct, union_root, union_c310, iterable_direct, iterable_root, iterable_c310,
  asyncIterable_direct, asyncIterable_root, asyncIterable_c310, asyncIterator_direct, asyncIterator_root,
  asyncIterator_c310, requested_direct, requested_root, tn_optional, tn_list, tn_dict, tn_union, tn_iterable,
  tn_asyncIterable, tn_asyncIterator, rq_c310_optional, rq_c310_list, rq_c310_dict, rq_c310_union, rq_c310_iterable,
  rq_c310_asyncIterable, rq_c310_asyncIterator, quoted_eq,
  String.reduceToList, List.cons_append, List.nil_append, List.append_nil, List.append_assoc])

/-! ### the compilers as the plugin and the templates use them

  A compiler object is used through its seven methods only.  `Impl σ` is such an object with state `σ`;
  `srcDirect / srcRoot / src310` are the three classes AS WRITTEN (the translated methods);
  `Impl.render` builds the annotation of a type expression by CALLING the methods, innermost first, the way
  `FieldCompiler.annotation` / `MapEntryCompiler.annotation` do; `Impl.site` writes a template position by
  calling them the way templates/template.py.j2 does. -/

structure Impl (σ : Type) where
  optional : σ → Str → Res (Str × σ)
  list : σ → Str → Res (Str × σ)
  dict : σ → Str → Str → Res (Str × σ)
  union : σ → List Str → Res (Str × σ)
  iterable : σ → Str → Res (Str × σ)
  asyncIterable : σ → Str → Res (Str × σ)
  asyncIterator : σ → Str → Res (Str × σ)

/-- `DirectImportTypingCompiler` as written -/
def srcDirect (fuel : Nat) : Impl (List (Str × Str)) where
  optional := Src.DirectImportTypingCompiler.optional fuel
  list := Src.DirectImportTypingCompiler.list fuel
  dict := Src.DirectImportTypingCompiler.dict fuel
  union := Src.DirectImportTypingCompiler.union fuel
  iterable := Src.DirectImportTypingCompiler.iterable fuel
  asyncIterable := Src.DirectImportTypingCompiler.async_iterable fuel
  asyncIterator := Src.DirectImportTypingCompiler.async_iterator fuel

/-- `TypingImportTypingCompiler` as written -/
def srcRoot (fuel : Nat) : Impl Bool where
  optional := Src.TypingImportTypingCompiler.optional fuel
  list := Src.TypingImportTypingCompiler.list fuel
  dict := Src.TypingImportTypingCompiler.dict fuel
  union := Src.TypingImportTypingCompiler.union fuel
  iterable := Src.TypingImportTypingCompiler.iterable fuel
  asyncIterable := Src.TypingImportTypingCompiler.async_iterable fuel
  asyncIterator := Src.TypingImportTypingCompiler.async_iterator fuel

/-- `NoTyping310TypingCompiler` as written -/
def src310 (fuel : Nat) : Impl (List (Str × Str)) where
  optional := Src.NoTyping310TypingCompiler.optional fuel
  list := Src.NoTyping310TypingCompiler.list fuel
  dict := Src.NoTyping310TypingCompiler.dict fuel
  union := Src.NoTyping310TypingCompiler.union fuel
  iterable := Src.NoTyping310TypingCompiler.iterable fuel
  asyncIterable := Src.NoTyping310TypingCompiler.async_iterable fuel
  asyncIterator := Src.NoTyping310TypingCompiler.async_iterator fuel

/-- the object behaves as the model's compiler `c`: every method returns the model's text, never raises,
    and moves the state by `upd` -/
structure Impl.IsModel {σ : Type} (I : Impl σ) (c : Compiler) (upd : σ → Meth → σ) : Prop where
  optional : ∀ s t, I.optional s t = .ok (Typing.optional c t, upd s .optional)
  list : ∀ s t, I.list s t = .ok (Typing.list c t, upd s .list)
  dict : ∀ s k v, I.dict s k v = .ok (Typing.dict c k v, upd s .dict)
  union : ∀ s ts, I.union s ts = .ok (Typing.union c ts, upd s .union)
  iterable : ∀ s t, I.iterable s t = .ok (Typing.iterable c t, upd s .iterable)
  asyncIterable : ∀ s t, I.asyncIterable s t = .ok (Typing.asyncIterable c t, upd s .asyncIterable)
  asyncIterator : ∀ s t, I.asyncIterator s t = .ok (Typing.asyncIterator c t, upd s .asyncIterator)

/-- Each of the seven fields is the same step: the method as written is unfolded and both texts are normalised. -/
theorem srcDirect_isModel (fuel : Nat) : (srcDirect fuel).IsModel .direct (addRequested .direct) := by
  constructor
  all_goals
    intros
    simp only [srcDirect, Src.DirectImportTypingCompiler.optional, Src.DirectImportTypingCompiler.list,
      Src.DirectImportTypingCompiler.dict, Src.DirectImportTypingCompiler.union, Src.DirectImportTypingCompiler.iterable,
      Src.DirectImportTypingCompiler.async_iterable, Src.DirectImportTypingCompiler.async_iterator]
    norm_text

theorem srcRoot_isModel (fuel : Nat) : (srcRoot fuel).IsModel .root (fun _ _ => true) := by
  constructor
  all_goals
    intros
    simp only [srcRoot, Src.TypingImportTypingCompiler.optional, Src.TypingImportTypingCompiler.list,
      Src.TypingImportTypingCompiler.dict, Src.TypingImportTypingCompiler.union, Src.TypingImportTypingCompiler.iterable,
      Src.TypingImportTypingCompiler.async_iterable, Src.TypingImportTypingCompiler.async_iterator]
    norm_text

theorem src310_isModel (fuel : Nat) : (src310 fuel).IsModel .c310 (addRequested .c310) := by
  constructor
  all_goals
    intros
    simp only [src310, Src.NoTyping310TypingCompiler.optional, Src.NoTyping310TypingCompiler.list,
      Src.NoTyping310TypingCompiler.dict, Src.NoTyping310TypingCompiler.union, Src.NoTyping310TypingCompiler.iterable,
      Src.NoTyping310TypingCompiler.async_iterable, Src.NoTyping310TypingCompiler.async_iterator]
    norm_text

/-- the seven methods of ANY object that behaves as the model's compiler `c`, applied to `c`'s own rendering of the
    argument(s), return a text with the denotation of the type built; `den` is C18's `denote_render c`, `D` reads
    the text off an outcome -/
theorem Impl.IsModel.denotes {σ : Type} {I : Impl σ} {c : Compiler} {upd : σ → Meth → σ} (h : I.IsModel c upd)
    (den : ∀ t : Ty, t.valid = true → denote (render c t) = some (shapeOf t))
    (D : Res (Str × σ) → Option Shape) (hD : ∀ a s, D (.ok (a, s)) = denote a) (s : σ) (e e' : Ty) (k n : Str)
    (hv : e.valid = true) (hv' : e'.valid = true) (hk : validName k = true) (hn : validName n = true) :
    D (I.optional s (render c e)) = some (shapeOf (.optional e))
    ∧ D (I.list s (render c e)) = some (shapeOf (.list e))
    ∧ D (I.dict s k (render c e)) = some (shapeOf (.dict k e))
    ∧ D (I.union s [render c e, render c e']) = some (shapeOf (.union e e'))
    ∧ D (I.iterable s n) = some (shapeOf (.iterable n))
    ∧ D (I.asyncIterable s n) = some (shapeOf (.asyncIterable n))
    ∧ D (I.asyncIterator s n) = some (shapeOf (.asyncIterator n)) := by
  rw [h.optional, h.list, h.dict, h.union, h.iterable, h.asyncIterable, h.asyncIterator]
  simp only [hD]
  exact ⟨den (.optional e) (by simpa [Ty.valid] using hv), den (.list e) (by simpa [Ty.valid] using hv),
    den (.dict k e) (by simp [Ty.valid, hk, hv]), den (.union e e') (by simp [Ty.valid, hv, hv']),
    den (.iterable n) (by simpa [Ty.valid] using hn), den (.asyncIterable n) (by simpa [Ty.valid] using hn),
    den (.asyncIterator n) (by simpa [Ty.valid] using hn)⟩

/-- the annotation of a type expression, built by calling the methods (arguments first, left to right) -/
def Impl.render {σ : Type} (I : Impl σ) : Ty → σ → Res (Str × σ)
  | .name n, s => .ok (n, s)
  | .ref n, s => .ok (quoted n, s)
  | .optional t, s => (I.render t s).bind fun r => I.optional r.2 r.1
  | .list t, s => (I.render t s).bind fun r => I.list r.2 r.1
  | .dict k v, s => (I.render v s).bind fun r => I.dict r.2 k r.1
  | .union a b, s => (I.render a s).bind fun ra => (I.render b ra.2).bind fun rb => I.union rb.2 [ra.1, rb.1]
  | .iterable n, s => I.iterable s n
  | .asyncIterable n, s => I.asyncIterable s n
  | .asyncIterator n, s => I.asyncIterator s n

/-- the methods `Impl.render` calls, in the order it calls them -/
def methodsOf : Ty → List Meth
  | .name _ => []
  | .ref _ => []
  | .optional t => methodsOf t ++ [.optional]
  | .list t => methodsOf t ++ [.list]
  | .dict _ v => methodsOf v ++ [.dict]
  | .union a b => methodsOf a ++ methodsOf b ++ [.union]
  | .iterable _ => [.iterable]
  | .asyncIterable _ => [.asyncIterable]
  | .asyncIterator _ => [.asyncIterator]

theorem Impl.render_eq {σ : Type} {I : Impl σ} {c : Compiler} {upd : σ → Meth → σ} (h : I.IsModel c upd) :
    ∀ (e : Ty) (s : σ), I.render e s = .ok (Typing.render c e, (methodsOf e).foldl upd s)
  | .name _, _ => rfl
  | .ref _, _ => rfl
  | .optional t, s => by
    simp only [Impl.render, Impl.render_eq h t s, Res.bind, h.optional, Typing.render, methodsOf, List.foldl_append,
      List.foldl_cons, List.foldl_nil]
  | .list t, s => by
    simp only [Impl.render, Impl.render_eq h t s, Res.bind, h.list, Typing.render, methodsOf, List.foldl_append,
      List.foldl_cons, List.foldl_nil]
  | .dict k v, s => by
    simp only [Impl.render, Impl.render_eq h v s, Res.bind, h.dict, Typing.render, methodsOf, List.foldl_append,
      List.foldl_cons, List.foldl_nil]
  | .union a b, s => by
    simp only [Impl.render, Impl.render_eq h a s, Impl.render_eq h b, Res.bind, h.union, Typing.render, methodsOf,
      List.foldl_append, List.foldl_cons, List.foldl_nil]
  | .iterable n, s => by
    simp only [Impl.render, h.iterable, Typing.render, methodsOf, List.foldl_cons, List.foldl_nil]
  | .asyncIterable n, s => by
    simp only [Impl.render, h.asyncIterable, Typing.render, methodsOf, List.foldl_cons, List.foldl_nil]
  | .asyncIterator n, s => by
    simp only [Impl.render, h.asyncIterator, Typing.render, methodsOf, List.foldl_cons, List.foldl_nil]

theorem foldl_addRequested (c : Compiler) (ms : List Meth) :
    ∀ s : List (Str × Str), ms.foldl (addRequested c) s = s ++ ms.flatMap (requested c) := by
  induction ms with
  | nil => intro s; simp
  | cons m r ih => intro s; simp only [List.foldl_cons, ih, addRequested, List.flatMap_cons, List.append_assoc]

theorem foldl_true (ms : List Meth) (b : Bool) :
    ms.foldl (fun (_ : Bool) (_ : Meth) => true) b = (b || !ms.isEmpty) := by
  induction ms generalizing b with
  | nil => simp
  | cons m r ih => simp [ih]

/-- the text of an annotation position of template.py.j2, written by calling the methods the way the template does
    (`{{ …compiler.union(…async_iterable(In), …iterable(In)).strip('"') }}` …; arguments left to right) -/
def Impl.site {σ : Type} (I : Impl σ) (tin tout : Str) : Site → σ → Res (Str × σ)
  | .stubUnaryParam, s => .ok (quoted tin, s)
  | .stubIterParam, s =>
    (I.asyncIterable s tin).bind fun a => (I.iterable a.2 tin).bind fun b =>
    (I.union b.2 [a.1, b.1]).bind fun u => .ok (quoted (stripQ u.1), u.2)
  | .stubTimeout, s => I.optional s "float".toList
  | .stubDeadline, s => I.optional s "\"Deadline\"".toList
  | .stubMetadata, s => I.optional s "\"MetadataLike\"".toList
  | .stubReturnUnary, s => .ok (quoted tout, s)
  | .stubReturnStream, s => (I.asyncIterator s tout).bind fun a => .ok (quoted (stripQ a.1), a.2)
  | .baseUnaryParam, s => .ok (quoted tin, s)
  | .baseIterParam, s => I.asyncIterator s tin
  | .baseReturnUnary, s => .ok (quoted tout, s)
  | .baseReturnStream, s => I.asyncIterator s tout
  | .rpcStream, s => .ok (quoted ("grpclib.server.Stream[".toList ++ tin ++ ", ".toList ++ tout ++ "]".toList), s)
  | .mappingReturn, s => I.dict s "str".toList "grpclib.const.Handler".toList

theorem Impl.site_eq {σ : Type} {I : Impl σ} {c : Compiler} {upd : σ → Meth → σ} (h : I.IsModel c upd)
    (tin tout : Str) (st : Site) (s : σ) : ∃ s', I.site tin tout st s = .ok (siteText c tin tout st, s') := by
  cases st <;>
    simp only [Impl.site, h.optional, h.dict, h.union, h.iterable, h.asyncIterable, h.asyncIterator, Res.bind] <;>
    exact ⟨_, rfl⟩

end Bp.SrcTieTyping
