import BpProofs.SrcTieMeta
import BpProofs.Len
/-
  THE TIE BETWEEN THE TRANSLATED CONSTRUCTION / DEFAULT CODE AND THE MODEL:

    * `Message.__setattr__` as the dataclass `__init__` runs it (before `_group_current` exists): stores the
      value (a field-less message argument marked present) and sets `__dict__["_serialized_on_wire"]`,
      nothing else (`setattr_init`);
    * the generated dataclass `__init__` (PyPreludeMeta `dataclassInit`) leaves the model's `initSlots`;
    * `Message.__post_init__` leaves `_serialized_on_wire = anyNonSentinel`, `_unknown_fields = b""` and a
      `_group_current` dict that reads, group by group, as the model's `initCur` (`post_init_eq`);
    * together: `Cls(**kw)` as written is the model's `construct` (`constructVal_eq`), `Cls()` is `fresh`;
    * `_get_field_default` as written is `defaultOf` (`get_field_default_eq`), for every field kind.
-/
namespace Bp.SrcTieMeta
open Bp Bp.PyEnum Bp.EnumM Bp.PyMeta Bp.SrcTieEnum
open Bp.Py (Res ofR)

section Tie
-- every lemma below whose statement mentions `S` takes it first; a theorem that binds `S` itself is as it reads
variable (S : Schema)

theorem markEmpty_eq (v : Val) :
    (if (isMessage v && hasBetterproto v && !valHasFields S v) = true then valSetOnWire v else v) = markEmpty S v := by
  cases v <;> simp [isMessage, hasBetterproto, isMsgVal, valHasFields, valSetOnWire, markEmpty]

/-- before `__post_init__` (no `_group_current` yet) `__setattr__` of a field stores the value — a field-less
    message argument marked present — and `_serialized_on_wire = True`; it does no oneof bookkeeping -/
theorem setattr_init (fs : List FieldD) (self : Inst) (i : Nat) (v : Val) (h : self.groupCurrent = none) :
    SrcMeta.setattr S fs self i v
      = .ok { slots := self.slots.set i (markEmpty S v), onWire := some true, unknown := self.unknown, groupCurrent := none } := by
  unfold SrcMeta.setattr
  simp only [markEmpty_eq, nameNeStr, if_true, hasGroupCurrent, setOnWire, h, Option.isSome_none, Bool.false_eq_true,
    if_false, Py.Res.ok_bind, rawSet]

theorem lookupKw_map (kw : List (Nat × Val)) (i : Nat) :
    lookupKw (kw.map fun (p : Nat × Val) => (p.1, markEmpty S p.2)) i = (lookupKw kw i).map (markEmpty S) := by
  induction kw with
  | nil => rfl
  | cons p kw ih =>
    obtain ⟨j, v⟩ := p
    by_cases h : (j == i) = true <;> simp [lookupKw, h, ih]

theorem markEmpty_default (S : Schema) (f : FieldD) : markEmpty S (fieldDefault f) = fieldDefault f := by
  unfold fieldDefault; split <;> rfl

theorem initSlots_length (fs : List FieldD) (kw : List (Nat × Val)) : ∀ (rest : List FieldD) (i : Nat),
    (initSlots fs kw i rest).length = rest.length
  | [], _ => rfl
  | f :: rest, i => by simp [initSlots, initSlots_length fs kw rest (i + 1)]

theorem init_go (fs : List FieldD) (kw : List (Nat × Val)) :
    ∀ (rest : List FieldD) (i : Nat) (pre : List Val) (ow : Option Bool) (unk : Option Bytes), pre.length = i →
    ∃ ow', dataclassInit.go (SrcMeta.setattr S fs) kw (enumFrom i rest)
        { slots := pre ++ rest.map fieldDefault, onWire := ow, unknown := unk, groupCurrent := none }
      = .ok { slots := pre ++ initSlots fs (kw.map fun (p : Nat × Val) => (p.1, markEmpty S p.2)) i rest,
              onWire := ow', unknown := unk, groupCurrent := none }
  | [], i, pre, ow, unk, _ => ⟨ow, by simp [enumFrom, dataclassInit.go, initSlots]⟩
  | f :: rest, i, pre, ow, unk, hp => by
    simp only [enumFrom, dataclassInit.go]
    rw [setattr_init S fs _ i _ rfl]
    simp only [Py.Res.ok_bind, List.map_cons]
    have hset : (pre ++ fieldDefault f :: rest.map fieldDefault).set i
        (markEmpty S ((lookupKw kw i).getD (fieldDefault f)))
        = (pre ++ [markEmpty S ((lookupKw kw i).getD (fieldDefault f))]) ++ rest.map fieldDefault := by
      rw [List.set_append_right _ _ (by omega)]
      simp [hp]
    rw [hset]
    obtain ⟨ow', h'⟩ := init_go fs kw rest (i + 1) (pre ++ [markEmpty S ((lookupKw kw i).getD (fieldDefault f))])
      (some true) unk (by simp [hp])
    refine ⟨ow', ?_⟩
    rw [h']
    congr 2
    simp only [initSlots, lookupKw_map, List.append_assoc, List.singleton_append, fieldDefault]
    cases lookupKw kw i with
    | none => exact congrArg (fun v => pre ++ v :: _) (markEmpty_default S f)
    | some v => rfl

/-- the state the generated `__init__` hands to `__post_init__` -/
theorem dataclassInit_eq (fs : List FieldD) (kw : List (Nat × Val)) (hkw : ∀ p ∈ kw, p.1 < fs.length) :
    ∃ ow, dataclassInit (SrcMeta.setattr S fs) fs kw
      = .ok { slots := initSlots fs (kw.map fun (p : Nat × Val) => (p.1, markEmpty S p.2)) 0 fs,
              onWire := ow, unknown := none, groupCurrent := none } := by
  unfold dataclassInit
  have : kw.any (fun p => decide (fs.length ≤ p.1)) = false := by
    rw [List.any_eq_false]
    intro p hp
    have := hkw p hp
    simp; omega
  simp only [this, Bool.false_eq_true, if_false, dataclassFields]
  obtain ⟨ow, h⟩ := init_go S fs kw fs 0 [] none none rfl
  exact ⟨ow, by simpa using h⟩

/-- an argument that names no field: TypeError (the model's `construct` ignores it) -/
theorem dataclassInit_unknown (fs : List FieldD) (kw : List (Nat × Val)) (p : Nat × Val) (hp : p ∈ kw)
    (h : fs.length ≤ p.1) : dataclassInit (SrcMeta.setattr S fs) fs kw = .raise .type := by
  unfold dataclassInit
  have : kw.any (fun p => decide (fs.length ≤ p.1)) = true := by
    rw [List.any_eq_true]; exact ⟨p, hp, by simpa using h⟩
  simp [this]

theorem nonSentinel_eq (f : FieldD) (v : Val) :
    ((!isPlaceholder v) && !(f.optional && isNone v)) = !isSentinel f v := by
  cases v <;> simp [isPlaceholder, isNone, isSentinel]

/-- one turn of the loop of `__post_init__` on (`group_current`, `all_sentinel`) -/
def piStep (self : Inst) (st : Dict Nat (Option Nat) × Bool) (p : Nat × FieldD) : Dict Nat (Option Nat) × Bool :=
  let gc := match p.2.group with
    | some g => dictSetdefaultNone st.1 g
    | Option.none => st.1
  if isSentinel p.2 (rawGet self p.1) then (gc, st.2)
  else ((match p.2.group with | some g => dictSet gc g (some p.1) | Option.none => gc), false)

theorem post_init_loop (fs : List FieldD) (self : Inst) (xs : List (Nat × FieldD)) (st : Dict Nat (Option Nat) × Bool) :
    SrcMeta.post_init.loop1 fs self xs st = .ok (xs.foldl (piStep self) st) :=
  Py.Res.loop_foldl (fun _ => True) (fun _ => rfl) (fun p xs st _ => by
    obtain ⟨k, f⟩ := p
    obtain ⟨gc, a⟩ := st
    rw [SrcMeta.post_init.loop1]
    simp only [nonSentinel_eq, piStep]
    cases f.group <;> cases isSentinel f (rawGet self k) <;> rfl) xs st fun _ _ => trivial

/-- `_group_current` read group by group: what `Inst.toMState` makes of the dict -/
def curOf (n : Nat) (d : Dict Nat (Option Nat)) : List (Option Nat) :=
  (List.range n).map fun g => (PyEnum.dictGet d g).getD Option.none

theorem curOf_nil (n : Nat) : curOf n [] = List.replicate n Option.none := by
  unfold curOf
  apply List.ext_getElem?
  intro j
  simp [PyEnum.dictGet, assoc, List.getElem?_replicate]
  by_cases h : j < n <;> simp [h]

theorem curOf_set (n : Nat) (d : Dict Nat (Option Nat)) (g i : Nat) :
    curOf n (dictSet d g (some i)) = (curOf n d).set g (some i) := by
  unfold curOf
  apply List.ext_getElem?
  intro j
  simp only [List.getElem?_map, List.getElem?_set, List.length_map, List.length_range, PyEnum.dictGet, assoc_dictSet]
  by_cases hj : j < n
  · simp only [List.getElem?_range hj, Option.map_some]
    by_cases hg : g = j
    · subst hg; simp [hj]
    · have : ¬ j = g := fun e => hg e.symm
      simp [hg, this]
  · have : (List.range n)[j]? = none := by simp [hj]
    simp only [this, Option.map_none]
    by_cases hg : g = j
    · subst hg; simp [hj]
    · simp [hg]

theorem curOf_setdefault (n : Nat) (d : Dict Nat (Option Nat)) (g : Nat) :
    curOf n (dictSetdefaultNone d g) = curOf n d := by
  unfold curOf
  apply List.map_congr_left
  intro j _
  simp only [PyEnum.dictGet, assoc_setdefaultNone]
  by_cases h : j = g <;> simp [h]

theorem pi_fold (n : Nat) (self : Inst) : ∀ (rest : List FieldD) (vs : List Val) (i : Nat) (gc : Dict Nat (Option Nat)) (a : Bool),
    self.slots.drop i = vs → vs.length = rest.length →
    curOf n ((enumFrom i rest).foldl (piStep self) (gc, a)).1 = initCur rest vs i (curOf n gc)
    ∧ ((enumFrom i rest).foldl (piStep self) (gc, a)).2 = (a && !anyNonSentinel rest vs)
  | [], vs, i, gc, a, _, hl => by
    cases vs with
    | nil => simp [enumFrom, initCur, anyNonSentinel]
    | cons v vs => simp at hl
  | f :: rest, vs, i, gc, a, hd, hl => by
    cases vs with
    | nil => simp at hl
    | cons v vs =>
      obtain ⟨hv, hd'⟩ := drop_cons _ _ _ _ hd
      have hraw : rawGet self i = v := by simp [rawGet, List.getD_eq_getElem?_getD, hv]
      have hl' : vs.length = rest.length := by simpa using hl
      simp only [enumFrom, List.foldl_cons, initCur, anyNonSentinel]
      have ih := pi_fold n self rest vs (i + 1) (piStep self (gc, a) (i, f)).1 (piStep self (gc, a) (i, f)).2 hd' hl'
      rw [show piStep self (gc, a) (i, f) = ((piStep self (gc, a) (i, f)).1, (piStep self (gc, a) (i, f)).2) from rfl]
      refine ⟨ih.1.trans ?_, ih.2.trans ?_⟩
      · congr 1
        unfold piStep
        simp only [hraw]
        cases hg : f.group with
        | none => by_cases hs : isSentinel f v = true <;> simp [hs]
        | some g => by_cases hs : isSentinel f v = true <;> simp [hs, curOf_set, curOf_setdefault]
      · unfold piStep
        simp only [hraw]
        by_cases hs : isSentinel f v = true <;> simp [hs]

theorem post_init_eq (fs : List FieldD) (self : Inst) (hl : self.slots.length = fs.length) :
    ∃ gc, SrcMeta.post_init fs self
        = .ok { slots := self.slots, onWire := some (anyNonSentinel fs self.slots), unknown := some [], groupCurrent := some gc }
      ∧ ∀ n, curOf n gc = initCur fs self.slots 0 (List.replicate n Option.none) := by
  unfold SrcMeta.post_init
  simp only [init_eq, Py.Res.ok_bind, dictItems, post_init_loop]
  have hm : (tables fs).meta_by_field_name = enumFrom 0 fs := rfl
  rw [hm]
  refine ⟨((enumFrom 0 fs).foldl (piStep self) ([], true)).1, ?_, ?_⟩
  · have h2 := (pi_fold 0 self fs self.slots 0 [] true (by simp) hl).2
    simp only [setOnWire, setUnknown, setGroupCurrent, h2, Bool.true_and, Bool.not_not]
  · intro n
    have h1 := (pi_fold n self fs self.slots 0 [] true (by simp) hl).1
    rw [h1, curOf_nil]

/-- `Cls(**kw)` as written: the generated dataclass `__init__`, every assignment through the translated
    `__setattr__`, then the translated `__post_init__` -/
def constructInst (S : Schema) (c : Nat) (kw : List (Nat × Val)) : Res Inst :=
  (dataclassInit (SrcMeta.setattr S (fieldsOf S c)) (fieldsOf S c) kw).bind (SrcMeta.post_init (fieldsOf S c))

/-- `constructInst` read as a model value -/
def constructVal (S : Schema) (c : Nat) (kw : List (Nat × Val)) : Res Val :=
  (constructInst S c kw).bind fun inst =>
    match inst.toMState (groupsOf S c) with
    | some st => .ok (st.toVal c)
    | Option.none => .raise .attr

theorem constructInst_eq (c : Nat) (kw : List (Nat × Val)) (hkw : ∀ p ∈ kw, p.1 < (fieldsOf S c).length) :
    ∃ inst, constructInst S c kw = .ok inst ∧ (inst.toMState (groupsOf S c)).map (·.toVal c) = some (construct S c kw) := by
  unfold constructInst
  obtain ⟨ow, h1⟩ := dataclassInit_eq S (fieldsOf S c) kw hkw
  rw [h1, Py.Res.ok_bind]
  obtain ⟨gc, h2, h3⟩ := post_init_eq (fieldsOf S c)
    { slots := initSlots (fieldsOf S c) (kw.map fun (p : Nat × Val) => (p.1, markEmpty S p.2)) 0 (fieldsOf S c),
      onWire := ow, unknown := none, groupCurrent := none } (initSlots_length _ _ _ _)
  refine ⟨_, h2, ?_⟩
  have := h3 (groupsOf S c)
  simp only [Inst.toMState, Option.map_some, MState.toVal, construct]
  unfold curOf at this
  rw [this]

theorem constructVal_eq (c : Nat) (kw : List (Nat × Val)) (hkw : ∀ p ∈ kw, p.1 < (fieldsOf S c).length) :
    constructVal S c kw = .ok (construct S c kw) := by
  obtain ⟨inst, h1, h2⟩ := constructInst_eq S c kw hkw
  unfold constructVal
  rw [h1, Py.Res.ok_bind]
  cases h : inst.toMState (groupsOf S c) with
  | none => simp [h] at h2
  | some st => simp only [h, Option.map_some, Option.some.injEq] at h2; simp [h2]

theorem isSentinel_default (f : FieldD) : isSentinel f (if f.optional then Val.none else Val.ph) = true := by
  by_cases h : f.optional = true <;> simp [h, isSentinel]

theorem initCur_sentinel : ∀ (fs : List FieldD) (i : Nat) (cur : List (Option Nat)),
    initCur fs (fs.map fun f => if f.optional then Val.none else Val.ph) i cur = cur
  | [], _, _ => rfl
  | f :: fs, i, cur => by
    simp only [List.map_cons, initCur]
    rw [isSentinel_default]
    cases f.group <;> simp [initCur_sentinel fs (i + 1)]

theorem anyNonSentinel_default : ∀ (fs : List FieldD),
    anyNonSentinel fs (fs.map fun f => if f.optional then Val.none else Val.ph) = false
  | [] => rfl
  | f :: fs => by simp [anyNonSentinel, isSentinel_default, anyNonSentinel_default fs]

theorem initSlots_nil (fs : List FieldD) : ∀ (rest : List FieldD) (i : Nat),
    initSlots fs [] i rest = rest.map fun f => if f.optional then Val.none else Val.ph
  | [], _ => rfl
  | f :: rest, i => by simp [initSlots, lookupKw, initSlots_nil fs rest (i + 1)]

theorem construct_nil (c : Nat) : construct S c [] = fresh S c := by
  simp [construct, fresh, initSlots_nil, anyNonSentinel_default, initCur_sentinel]

theorem constructVal_nil (c : Nat) : constructVal S c [] = .ok (fresh S c) := by
  rw [constructVal_eq S c [] (by simp), construct_nil]

/-- guard of the default theorems: a map field is not also marked `repeated` (no such descriptor comes out of the
    plugin; for one, the annotation is `Dict[…]` and the real default `{}` while the model's `defKind` says `[]`) -/
def mapNotRepeated (f : FieldD) : Bool := !(f.ty == .map && f.repeated)

theorem callFor_genOf (mk : Nat → Res Val) (hmk : ∀ c, mk c = .ok (fresh S c)) (f : FieldD)
    (hg : mapNotRepeated f = true) : callFor mk f.ty (genOf f) = .ok (defaultOf S f) := by
  unfold genOf defaultOf FieldD.defKind
  by_cases hm : (f.ty == .map) = true
  · have hr : f.repeated = false := by simpa [mapNotRepeated, hm] using hg
    simp only [hm, hr, if_true, Bool.false_eq_true, if_false]; rfl
  · simp only [hm, Bool.false_eq_true, if_false]
    by_cases hr : f.repeated = true
    · simp only [hr, if_true]; rfl
    · simp only [hr, Bool.false_eq_true, if_false]
      by_cases ho : (f.optional || f.wraps.isSome) = true
      · simp only [ho, if_true]; rfl
      · simp only [ho, Bool.false_eq_true, if_false]
        by_cases hmsg : (f.ty == .message) = true
        · simp only [hmsg, if_true]
          cases f.kind with
          | user c => exact hmk c
          | _ => rfl
        · simp only [hmsg, Bool.false_eq_true, if_false]
          cases hty : f.ty with
          | map => simp [hty] at hm
          | message => simp [hty] at hmsg
          | _ => rfl

/-- this is what PyPreludeObj.lean assumes under the name `Py.getFieldDefault` (KeyError for a name that is not a field) -/
theorem get_field_default_eq (mk : Nat → Res Val) (hmk : ∀ c, mk c = .ok (fresh S c))
    (fs : List FieldD) (self : Inst) (k : Nat) (hg : ∀ f, fs[k]? = some f → mapNotRepeated f = true) :
    SrcMeta.get_field_default mk fs self k =
      (match fs[k]? with
       | some f => .ok (defaultOf S f)
       | Option.none => .raise .key) := by
  unfold SrcMeta.get_field_default
  simp only [init_eq, Py.Res.ok_bind]
  cases h : fs[k]? with
  | none =>
    rw [dictItem_none _ _ (by rw [tables_default_gen, h]; rfl)]
    rfl
  | some f =>
    rw [dictItem_some _ _ (genOf f) (by rw [tables_default_gen, h]; rfl)]
    simp only [Py.Res.ok_bind, protoTypeOf, h, Option.map_some, Option.getD_some, callFor_genOf S mk hmk f (hg f h)]

/-- … at a field that is known -/
theorem get_field_default_at (mk : Nat → Res Val) (hmk : ∀ c, mk c = .ok (fresh S c))
    (fs : List FieldD) (self : Inst) (k : Nat) (f : FieldD) (hf : fs[k]? = some f) (hg : mapNotRepeated f = true) :
    SrcMeta.get_field_default mk fs self k = .ok (defaultOf S f) := by
  rw [get_field_default_eq S mk hmk fs self k (fun f' h' => by rw [hf] at h'; cases h'; exact hg), hf]

end Tie

end Bp.SrcTieMeta
