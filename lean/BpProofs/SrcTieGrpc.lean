import BpProofs.Gen.SrcGrpc
import BpProofs.GrpcCall
/-
  C11 source tie: the definitions regenerated from grpclib_client.py / grpclib_server.py / the rendered template
  (BpProofs/Gen/SrcGrpc.lean) ARE the model's definitions of BpModel/GrpcCall.lean and BpModel/Grpc.lean.  The
  equations are stated and proved in Props/C11Src.lean; here are the facts about the prelude's loops they rest on.
-/
namespace Bp.SrcTieGrpc
open Bp Bp.Grpc Bp.GrpcCall Bp.SrcGrpc

variable {Req Resp α : Type}

theorem ite_isNone_eq_resolve (d c : Option α) : (if PyG.isNone c then d else c) = resolve d c := by
  cases c <;> rfl

theorem genLoop_send (iter : Bool) (p : HProg Req Resp) :
    PyG.genLoop iter (fun r k' => PyG.serverSend r k') (.fin none) p = genProg iter p := by
  induction p with
  | yield r k ih => simp only [PyG.genLoop, genProg, ih]; rfl
  | _ => simp [PyG.genLoop, genProg, *]

theorem coroLoop_send (iter : Bool) (p : HProg Req Resp) :
    PyG.coroLoop iter (fun r => PyG.serverSend r PyG.adapterReturn) p = coroProg iter p := by
  induction p with
  | ret r => cases r <;> rfl
  | _ => simp [PyG.coroLoop, coroProg, *]

theorem awaitHandler_eq (h : Handler Req Resp) (a : PyG.ReqArg Req) :
    PyG.awaitHandler h a (fun r => PyG.serverSend r PyG.adapterReturn) = callUnaryResp h a.isIter a.val := by
  rw [callUnaryResp, ← coroLoop_send]; rfl

end Bp.SrcTieGrpc
