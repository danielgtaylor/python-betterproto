import BpModel.All
import BpProofs.SpecPad
import BpProofs.SpecPack
/-
  C02: the packed payload decoder element by element (elements
  written with any well-shaped varints / fixed-width chunks).
-/
namespace Bp
open Gen Spec

/-- the first element of a packed payload and the number of bytes it occupies -/
def headElem (t : PType) (p : Bytes) : R (Val × Nat) :=
  if t == .float || t == .fixed32 || t == .sfixed32 then (postFixed t (p.take 4)).map fun v => (v, 4)
  else if t == .double || t == .fixed64 || t == .sfixed64 then (postFixed t (p.take 8)).map fun v => (v, 8)
  else (loadVarint p).map fun nk => (postVarint t nk.1, nk.2)

theorem decodePackedFuel_succ (t : PType) (fuel b : Nat) (bs : Bytes) :
    decodePackedFuel t (fuel + 1) (b :: bs) =
      (headElem t (b :: bs)).bind fun vk =>
        (decodePackedFuel t fuel ((b :: bs).drop vk.2)).bind fun vs => .ok (vk.1 :: vs) := by
  rw [decodePackedFuel_ne t fuel _ (List.cons_ne_nil b bs)]
  unfold headElem
  split
  · cases postFixed t ((b :: bs).take 4) <;> rfl
  · split
    · cases postFixed t ((b :: bs).take 8) <;> rfl
    · cases loadVarint (b :: bs) <;> rfl

theorem headElem_pos (t : PType) (p : Bytes) (vk : Val × Nat) (h : headElem t p = .ok vk) : 0 < vk.2 := by
  unfold headElem at h
  split at h
  · cases hp : postFixed t (p.take 4) <;> rw [hp] at h <;> cases h
    exact Nat.zero_lt_succ 3
  · split at h
    · cases hp : postFixed t (p.take 8) <;> rw [hp] at h <;> cases h
      exact Nat.zero_lt_succ 7
    · cases hp : loadVarint p with
      | error e => rw [hp] at h; cases h
      | ok nk => rw [hp] at h; cases h; exact (loadVarint_consumed p nk.1 nk.2 hp).1

/-- every element takes at least one byte, so any fuel above the payload length will do -/
theorem decodePackedFuel_fuel (t : PType) (f g : Nat) (p : Bytes) (hf : p.length < f) (hg : p.length < g) :
    decodePackedFuel t f p = decodePackedFuel t g p := by
  induction f generalizing g p with
  | zero => omega
  | succ f ih =>
    cases g with
    | zero => omega
    | succ g =>
      cases p with
      | nil => rfl
      | cons b bs =>
        rw [decodePackedFuel_succ, decodePackedFuel_succ]
        cases hh : headElem t (b :: bs) with
        | error e => rfl
        | ok vk =>
          have hk := headElem_pos t _ vk hh
          have dk : ((b :: bs).drop vk.2).length ≤ bs.length := by
            simp only [List.length_drop, List.length_cons]; omega
          simp only [List.length_cons] at hf hg
          simp only [bind_ok]
          rw [ih g _ (by omega) (by omega)]

/-- byte width of a fixed-width packable type (none: a varint type) -/
def elemWidth (t : PType) : Option Nat :=
  if t == .float || t == .fixed32 || t == .sfixed32 then some 4
  else if t == .double || t == .fixed64 || t == .sfixed64 then some 8
  else Option.none

/-- one element of a packed payload: 4 / 8 bytes, or any well-shaped varint of ≤ 10 bytes -/
def ValidElem (t : PType) (e : Bytes) : Prop :=
  match elemWidth t with
  | some w => e.length = w
  | Option.none => varintShape e = true ∧ e.length ≤ 10

def decodeElem (t : PType) (e : Bytes) : R Val :=
  match elemWidth t with
  | some _ => postFixed t e
  | Option.none => .ok (postVarint t (varintValue e % 2 ^ 64))

def decodeElems (t : PType) : List Bytes → R (List Val)
  | [] => .ok []
  | e :: es => (decodeElem t e).bind fun v => (decodeElems t es).bind fun vs => .ok (v :: vs)

theorem validElem_ne_nil (t : PType) (e : Bytes) (h : ValidElem t e) : e ≠ [] := by
  intro he; subst he
  unfold ValidElem elemWidth at h
  split at h
  · rename_i w hw
    split at hw
    · injection hw with hw; subst hw; simp at h
    · split at hw
      · injection hw with hw; subst hw; simp at h
      · simp at hw
  · simp [varintShape] at h

theorem decodePacked_nil (t : PType) : decodePacked t [] = .ok [] := rfl

theorem decodePacked_cons (t : PType) (b : Nat) (bs : Bytes) :
    decodePacked t (b :: bs) =
      (headElem t (b :: bs)).bind fun vk =>
        (decodePacked t ((b :: bs).drop vk.2)).bind fun vs => .ok (vk.1 :: vs) := by
  show decodePackedFuel t ((b :: bs).length + 1) (b :: bs) = _
  rw [decodePackedFuel_succ]
  cases hh : headElem t (b :: bs) with
  | error e => rfl
  | ok vk =>
    have hk := headElem_pos t _ vk hh
    simp only [bind_ok]
    unfold decodePacked
    rw [decodePackedFuel_fuel t (b :: bs).length (((b :: bs).drop vk.2).length + 1) ((b :: bs).drop vk.2)
      (by simp only [List.length_drop, List.length_cons]; omega) (by omega)]

theorem headElem_elem (t : PType) (e rest : Bytes) (h : ValidElem t e) :
    headElem t (e ++ rest) = (decodeElem t e).map fun v => (v, e.length) := by
  unfold ValidElem at h
  unfold headElem decodeElem
  unfold elemWidth at h ⊢
  split
  · rename_i h4
    simp only [h4, if_true] at h ⊢
    rw [← h, List.take_left]
  · rename_i h4
    split
    · rename_i h8
      simp only [h4, h8, if_true, Bool.false_eq_true, if_false] at h ⊢
      rw [← h, List.take_left]
    · rename_i h8
      simp only [h4, h8, Bool.false_eq_true, if_false] at h ⊢
      rw [loadVarint_shape e rest h.1 h.2]
      rfl

theorem decodePacked_cons_elem (t : PType) (e rest : Bytes) (h : ValidElem t e) :
    decodePacked t (e ++ rest)
      = (decodeElem t e).bind fun v => (decodePacked t rest).bind fun vs => .ok (v :: vs) := by
  cases e with
  | nil => exact absurd rfl (validElem_ne_nil t [] h)
  | cons b e' =>
    rw [List.cons_append, decodePacked_cons, ← List.cons_append, headElem_elem t (b :: e') rest h]
    cases decodeElem t (b :: e') with
    | error x => rfl
    | ok v => simp only [map_ok, bind_ok, List.drop_left]

theorem decodePacked_elems (t : PType) (es : List Bytes) (hv : ∀ e ∈ es, ValidElem t e) :
    decodePacked t es.flatten = decodeElems t es := by
  induction es with
  | nil => rfl
  | cons e es ih =>
    simp only [List.flatten_cons, decodeElems]
    rw [decodePacked_cons_elem t e _ (hv e (by simp)), ih (fun x hx => hv x (by simp [hx]))]

theorem decodeElems_append (t : PType) (as bs : List Bytes) :
    decodeElems t (as ++ bs) = (decodeElems t as).bind fun xs => (decodeElems t bs).bind fun ys => .ok (xs ++ ys) := by
  induction as with
  | nil => simp only [List.nil_append, decodeElems, bind_ok]; cases decodeElems t bs <;> rfl
  | cons a as ih =>
    simp only [List.cons_append, decodeElems, ih]
    cases decodeElem t a with
    | error e => rfl
    | ok v =>
      simp only [bind_ok]
      cases decodeElems t as with
      | error e => rfl
      | ok xs =>
        simp only [bind_ok]
        cases decodeElems t bs <;> rfl

end Bp
