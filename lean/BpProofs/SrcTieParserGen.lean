import BpProofs.SrcTieParser
/-
  THE TIE BETWEEN THE TRANSLATED SOURCE OF plugin/parser.py AND CLOSED FORMS (C03 / C13 / C18), part 2:
  `generate_code` — the loop that groups the files of the request by package and sets the option flags, the two
  loops that read the types and the services of every input file into its OutputTemplate, the loop that names the
  output files, the `__init__.py` files of the intermediate directories.

  `src_generate_code` (Props/C03SrcParserGen.lean): for every request whose files nest less deeply than the fuel and
  whose options name at most one `typing.` option, `generate_code` as written returns `genResponse`: one module per
  distinct `package` (first occurrence order), named by the package's segments + `__init__.py`, whose OutputTemplate
  holds ALL files of that package, the flags the options select, and the compiler objects of all types (`typesLog`)
  and then all services (`servicesLog`) of those files; then the `__init__.py` files.
  `src_generate_code_two_typing_options`: with two or more `typing.` options (and at least one file) it raises
  ValueError.
-/
set_option linter.unusedSimpArgs false
set_option linter.unusedVariables false
namespace Bp.SrcTieParser
open Bp Bp.Py Bp.Py.Prs Bp.Importing Bp.Plugin Bp.Src.Parser
open Bp.Py.Res (ok_bind)

theorem dictGet_dictSet_same {α : Type} : ∀ (D : Dict α) (k : Str) (v : α), dictGet (dictSet D k v) k = .ok v
  | [], k, v => by simp [dictSet, dictGet]
  | (a, w) :: r, k, v => by
    by_cases h : a = k
    · simp [dictSet, dictGet, h]
    · simp [dictSet, dictGet, h, dictGet_dictSet_same r k v]

theorem dictSet_dictSet_same {α : Type} : ∀ (D : Dict α) (k : Str) (v w : α),
    dictSet (dictSet D k v) k w = dictSet D k w
  | [], k, v, w => by simp [dictSet]
  | (a, x) :: r, k, v, w => by
    by_cases h : a = k
    · simp [dictSet, h]
    · simp [dictSet, h, dictSet_dictSet_same r k v w]

theorem dictHas_cons {α : Type} (a : Str) (w : α) (r : Dict α) (k : Str) :
    dictHas ((a, w) :: r) k = (decide (a = k) || dictHas r k) := by
  simp only [dictHas, List.any_cons, beq_eq_decide]

theorem dictHas_dictSet_same {α : Type} : ∀ (D : Dict α) (k : Str) (v : α), dictHas (dictSet D k v) k = true
  | [], k, v => by simp [dictSet, dictHas]
  | (a, w) :: r, k, v => by
    by_cases h : a = k
    · simp [dictSet, dictHas, h]
    · have ih := dictHas_dictSet_same r k v
      simp only [dictHas] at ih
      simp [dictSet, dictHas, h, ih]

theorem dictHas_true {α : Type} : ∀ (D : Dict α) (k : Str), dictHas D k = true →
    ∃ v, dictGet D k = .ok v ∧ dictSet D k v = D
  | [], k, h => by cases h
  | (a, w) :: r, k, h => by
    rw [dictHas_cons] at h
    by_cases hk : a = k
    · exact ⟨w, by rw [dictGet, if_pos hk], by rw [dictSet, if_pos hk]⟩
    · rw [decide_eq_false hk, Bool.false_or] at h
      obtain ⟨v, h1, h2⟩ := dictHas_true r k h
      exact ⟨v, by rw [dictGet, if_neg hk, h1], by rw [dictSet, if_neg hk, h2]⟩

theorem dictHas_false {α : Type} : ∀ (D : Dict α) (k : Str), dictHas D k = false → dictGet D k = .raise .key
  | [], k, _ => rfl
  | (a, w) :: r, k, h => by
    rw [dictHas_cons, Bool.or_eq_false_iff, decide_eq_false_iff_not] at h
    rw [dictGet, if_neg h.1, dictHas_false r k h.2]

/-- `in`, `[]` and `[] =` on a dict given as the image of a key list (duplicate-free where the store needs it) -/
theorem dictHas_map {α : Type} (g : Str → α) : ∀ (ks : List Str) (k : Str),
    dictHas (ks.map fun k' => (k', g k')) k = decide (k ∈ ks)
  | [], k => by simp [dictHas]
  | a :: r, k => by
    have ih := dictHas_map g r k
    simp only [dictHas] at ih
    by_cases h : a = k
    · simp [dictHas, h]
    · have h' : ¬ k = a := fun e => h e.symm
      simp [dictHas, h, h', ih]

theorem dictGet_map {α : Type} (g : Str → α) : ∀ (ks : List Str) (k : Str), k ∈ ks →
    dictGet (ks.map fun k' => (k', g k')) k = .ok (g k)
  | a :: r, k, hm => by
    by_cases h : a = k
    · simp [dictGet, h]
    · have : k ∈ r := by
        rcases List.mem_cons.1 hm with e | e
        · exact absurd e.symm h
        · exact e
      simp [dictGet, h, dictGet_map g r k this]

theorem dictSet_map {α : Type} (g : Str → α) : ∀ (ks : List Str) (k : Str) (v : α), k ∈ ks → ks.Nodup →
    dictSet (ks.map fun k' => (k', g k')) k v = ks.map fun k' => (k', if k' = k then v else g k')
  | a :: r, k, v, hm, hn => by
    have hn' := List.nodup_cons.1 hn
    by_cases h : a = k
    · subst h
      simp only [List.map_cons, dictSet, if_true]
      congr 1
      apply List.map_congr_left
      intro x hx
      have : ¬ x = a := fun e => hn'.1 (e ▸ hx)
      simp [this]
    · have : k ∈ r := by
        rcases List.mem_cons.1 hm with e | e
        · exact absurd e.symm h
        · exact e
      simp [dictSet, h, dictSet_map g r k v this hn'.2]

theorem dictSet_map_new {α : Type} (g : Str → α) : ∀ (ks : List Str) (k : Str) (v : α), k ∉ ks →
    dictSet (ks.map fun k' => (k', g k')) k v = (ks.map fun k' => (k', g k')) ++ [(k, v)]
  | [], k, v, _ => rfl
  | a :: r, k, v, hm => by
    have h : ¬ a = k := fun e => hm (by simp [e])
    have : k ∉ r := fun e => hm (List.mem_cons_of_mem _ e)
    simp [dictSet, h, dictSet_map_new g r k v this]

theorem dictSet_mid {α : Type} : ∀ (done : Dict α) (k : Str) (t v : α) (rest : Dict α), k ∉ done.map Prod.fst →
    dictSet (done ++ (k, t) :: rest) k v = done ++ (k, v) :: rest
  | [], k, t, v, rest, _ => by rw [List.nil_append, dictSet, if_pos rfl]; rfl
  | (a, w) :: d, k, t, v, rest, h => by
    rw [List.map_cons, List.mem_cons, not_or] at h
    rw [List.cons_append, dictSet, if_neg (Ne.symm h.1), dictSet_mid d k t v rest h.2]; rfl

/-- `request.parameter.split(",") if request.parameter else []` -/
def optsOf (param : Str) : List Str := if (!param.isEmpty) then splitOn ',' param else []

/-- `[opt[len("typing."):] for opt in plugin_options if opt.startswith("typing.")]` -/
def typingOpts (opts : List Str) : List Str :=
  (opts.filter (fun opt => Py.Prs.startswith opt "typing.".toList)).map (fun opt => Py.sliceFrom opt (Py.llen "typing.".toList))

/-- `typing_opts[0] if typing_opts else "direct"` -/
def typingOpt (opts : List Str) : Str :=
  match typingOpts opts with
  | [] => "direct".toList
  | x :: _ => x

/-- the `if typing_opt == "direct" … elif "root" … elif "310"` chain: an unknown word leaves the compiler as it is -/
def setTC (opts : List Str) (tc : Py.Plg.TC) : Py.Plg.TC :=
  if decide (typingOpt opts = "direct".toList) then .direct []
  else if decide (typingOpt opts = "root".toList) then .typingImport false
  else if decide (typingOpt opts = "310".toList) then .noTyping310 []
  else tc

/-- what one pass of the first loop does to the OutputTemplate of the file's package -/
def hStep (opts : List Str) (f : FileD) (t : OutTpl) : OutTpl :=
  { t with
    input_files := t.input_files ++ [f]
    output := if (decide (f.package = "google.protobuf".toList) && !decide ("INCLUDE_GOOGLE".toList ∈ opts)) then false
              else t.output
    pydantic_dataclasses := if decide ("pydantic_dataclasses".toList ∈ opts) then true else t.pydantic_dataclasses
    typing_compiler := setTC opts t.typing_compiler }

/-- one pass of the first loop on the dict -/
def step (opts : List Str) (D : Dict OutTpl) (f : FileD) : Dict OutTpl :=
  match dictGet D f.package with
  | .ok v => dictSet D f.package (hStep opts f v)
  | _ => dictSet D f.package (hStep opts f (newOutputTemplate f))

theorem llen_nil_gt : decide (Py.llen ([] : List Str) > 1) = false := by decide
theorem llen_one_gt (x : Str) : decide (Py.llen [x] > 1) = false := by simp [Py.llen]
theorem llen_two_gt (x y : Str) (r : List Str) : decide (Py.llen (x :: y :: r) > 1) = true := by
  simp [Py.llen]; omega

theorem index_zero_cons {α : Type} (x : α) (r : List α) : Py.index (x :: r) 0 = .ok x := by
  simp [Py.index]

theorem raise_bind {α β : Type} (e : PyErr) (f : α → Res β) : (Res.raise e : Res α).bind f = .raise e := rfl

theorem typingOpts_unfold (opts : List Str) :
    (opts.filter (fun opt => Py.Prs.startswith opt "typing.".toList)).map
      (fun opt => Py.sliceFrom opt (Py.llen "typing.".toList)) = typingOpts opts := rfl

/-- one pass of the first loop, the OutputTemplate of the package being there already: ValueError for two or more
    `typing.` options, else the pass on the dict -/
theorem loop1_has (fuel : Nat) (ex : PyPath → Bool) (opts : List Str)
    (f : FileD) (tail : List FileD) (D : Dict OutTpl) (hh : dictHas D f.package = true) :
    generate_code.loop1 fuel ex opts (f :: tail) D
      = if 1 < (typingOpts opts).length then .raise .value else generate_code.loop1 fuel ex opts tail (step opts D f) := by
  obtain ⟨v0, hg, hs⟩ := dictHas_true D _ hh
  have hTT : typingOpts opts = [] ∨ (∃ x, typingOpts opts = [x]) ∨ ∃ x y r, typingOpts opts = x :: y :: r := by
    rcases typingOpts opts with _ | ⟨x, _ | ⟨y, r⟩⟩
    · exact .inl rfl
    · exact .inr (.inl ⟨x, rfl⟩)
    · exact .inr (.inr ⟨x, y, r, rfl⟩)
  conv => lhs; unfold generate_code.loop1
  simp only [typingOpts_unfold]
  have hstep : step opts D f = dictSet D f.package (hStep opts f v0) := by
    unfold step; rw [hg]
  rw [hstep]
  unfold hStep setTC typingOpt
  generalize "direct".toList = sd
  generalize "root".toList = sr
  generalize "310".toList = s3
  generalize (decide (f.package = "google.protobuf".toList) && !decide ("INCLUDE_GOOGLE".toList ∈ opts)) = hide
  generalize decide ("pydantic_dataclasses".toList ∈ opts) = pyd
  -- Every stage of the body reads the entry of the package back (`dictGet_dictSet_same`) and stores a changed copy over
  -- it (`dictSet_dictSet_same`).  The flags `hide` and `pyd` each guard one such stage and meet nothing else: their
  -- four values go alike in each of the three cases of the `typing.` options.
  rcases hTT with hT | ⟨x, hT⟩ | ⟨x, y, r, hT⟩
  · -- no `typing.` option: `typing_opt` is the default "direct", the first comparison of the chain holds
    cases hide <;> cases pyd <;>
      simp only [hT, hh, hg, Bool.not_true, Bool.false_eq_true, if_true, if_false, ok_bind, dictGet_dictSet_same,
        dictSet_dictSet_same, llen_nil_gt, List.isEmpty_nil, Bool.not_false, decide_true, List.length_nil, Nat.not_lt_zero]
  · -- one option `x`: `typing_opt = x`, compared with "direct", "root", "310" in turn, on both sides alike
    cases hide <;> cases pyd <;>
      simp only [hT, hh, hg, Bool.not_true, Bool.false_eq_true, if_true, if_false, ok_bind, dictGet_dictSet_same,
        dictSet_dictSet_same, llen_one_gt, List.isEmpty_cons, Bool.not_false, index_zero_cons, List.length_cons,
        List.length_nil, Nat.lt_irrefl, Nat.zero_add] <;>
      cases decide (x = sd) <;> cases decide (x = sr) <;> cases decide (x = s3) <;>
      simp only [Bool.false_eq_true, if_true, if_false, ok_bind, dictGet_dictSet_same, dictSet_dictSet_same]
  · -- two or more: ValueError, after the stores the flags ask for
    cases hide <;> cases pyd <;>
      simp only [hT, hh, hg, Bool.not_true, Bool.false_eq_true, if_true, if_false, ok_bind, dictGet_dictSet_same,
        llen_two_gt, List.length_cons, Nat.lt_add_left_iff_pos, Nat.zero_lt_succ]

/-- creating the OutputTemplate first and then running the pass is the pass -/
theorem loop1_new (fuel : Nat) (ex : PyPath → Bool) (opts : List Str) (f : FileD) (tail : List FileD)
    (D : Dict OutTpl) (hh : dictHas D f.package = false) :
    generate_code.loop1 fuel ex opts (f :: tail) D
      = generate_code.loop1 fuel ex opts (f :: tail) (dictSet D f.package (newOutputTemplate f)) := by
  conv => lhs; unfold generate_code.loop1
  conv => rhs; unfold generate_code.loop1
  simp only [hh, dictHas_dictSet_same, Bool.not_false, Bool.not_true, if_true, Bool.false_eq_true, if_false, ok_bind]

theorem step_new (opts : List Str) (f : FileD) (D : Dict OutTpl) (hh : dictHas D f.package = false) :
    step opts (dictSet D f.package (newOutputTemplate f)) f = step opts D f := by
  unfold step
  rw [dictGet_dictSet_same, dictHas_false D _ hh]
  simp only [dictSet_dictSet_same]

theorem loop1_eq (fuel : Nat) (ex : PyPath → Bool) (opts : List Str) (hto : (typingOpts opts).length ≤ 1) :
    ∀ (files : List FileD) (D : Dict OutTpl),
    generate_code.loop1 fuel ex opts files D = .ok (files.foldl (step opts) D)
  | [], D => rfl
  | f :: tail, D => by
    have ih := loop1_eq fuel ex opts hto tail
    cases hh : dictHas D f.package
    · rw [loop1_new fuel ex opts f tail D hh, loop1_has fuel ex opts f tail _ (dictHas_dictSet_same D _ _),
        if_neg (Nat.not_lt.2 hto), ih, step_new opts f D hh]
      rfl
    · rw [loop1_has fuel ex opts f tail D hh, if_neg (Nat.not_lt.2 hto), ih]
      rfl

theorem loop1_raises (fuel : Nat) (ex : PyPath → Bool) (opts : List Str) (hto : 1 < (typingOpts opts).length)
    (f : FileD) (tail : List FileD) (D : Dict OutTpl) :
    generate_code.loop1 fuel ex opts (f :: tail) D = .raise .value := by
  cases hh : dictHas D f.package
  · rw [loop1_new fuel ex opts f tail D hh, loop1_has fuel ex opts f tail _ (dictHas_dictSet_same D _ _), if_pos hto]
  · rw [loop1_has fuel ex opts f tail D hh, if_pos hto]

/-- the distinct members of a list, in first-occurrence order -/
def firstOcc : List Str → List Str
  | [] => []
  | x :: r => x :: (firstOcc r).filter (fun y => decide (y ≠ x))

theorem mem_firstOcc : ∀ (xs : List Str) (x : Str), x ∈ firstOcc xs ↔ x ∈ xs
  | [], x => by simp [firstOcc]
  | a :: r, x => by
    by_cases h : x = a
    · simp [firstOcc, h]
    · simp [firstOcc, h, mem_firstOcc r x]

theorem firstOcc_nodup : ∀ xs : List Str, (firstOcc xs).Nodup
  | [] => by simp [firstOcc]
  | a :: r => by
    simp only [firstOcc, List.nodup_cons, List.mem_filter, decide_eq_true_eq, ne_eq, not_true_eq_false,
      and_false, not_false_eq_true, true_and]
    exact (firstOcc_nodup r).filter _

theorem firstOcc_snoc : ∀ (xs : List Str) (x : Str),
    firstOcc (xs ++ [x]) = if x ∈ xs then firstOcc xs else firstOcc xs ++ [x]
  | [], x => by simp [firstOcc]
  | a :: r, x => by
    simp only [List.cons_append, firstOcc, firstOcc_snoc r x]
    by_cases h1 : x ∈ r
    · simp [h1]
    · by_cases h2 : x = a
      · subst h2
        simp [h1, List.filter_append]
      · have h2' : ¬ a = x := fun e => h2 e.symm
        simp [h1, h2, h2', List.filter_append]

/-- the files of one package, in request order -/
def filesOf (files : List FileD) (k : Str) : List FileD := files.filter (fun f => decide (f.package = k))

/-- the OutputTemplate the first loop builds for package `k` out of its files `fs` -/
def tplOf (opts : List Str) (k : Str) (fs : List FileD) : OutTpl :=
  { package_proto_obj := fs.headD default
    input_files := fs
    output := !(decide (k = "google.protobuf".toList) && !decide ("INCLUDE_GOOGLE".toList ∈ opts))
    pydantic_dataclasses := decide ("pydantic_dataclasses".toList ∈ opts)
    typing_compiler := setTC opts (.direct [])
    built := [] }

/-- the dict after the first loop -/
def gather (opts : List Str) (files : List FileD) : Dict OutTpl :=
  (firstOcc (files.map (·.package))).map fun k => (k, tplOf opts k (filesOf files k))

theorem setTC_idem (opts : List Str) (tc : Py.Plg.TC) : setTC opts (setTC opts tc) = setTC opts tc := by
  unfold setTC
  split
  · rfl
  · split
    · rfl
    · split <;> rfl

theorem hStep_new (opts : List Str) (f : FileD) : hStep opts f (newOutputTemplate f) = tplOf opts f.package [f] := by
  unfold hStep newOutputTemplate tplOf
  cases hc1 : (decide (f.package = "google.protobuf".toList) && !decide ("INCLUDE_GOOGLE".toList ∈ opts)) <;>
  cases hc2 : decide ("pydantic_dataclasses".toList ∈ opts) <;> simp

theorem hStep_tplOf (opts : List Str) (f : FileD) (fs : List FileD) (hne : fs ≠ []) :
    hStep opts f (tplOf opts f.package fs) = tplOf opts f.package (fs ++ [f]) := by
  unfold hStep tplOf
  cases fs with
  | nil => exact absurd rfl hne
  | cons a r =>
    cases hc1 : (decide (f.package = "google.protobuf".toList) && !decide ("INCLUDE_GOOGLE".toList ∈ opts)) <;>
    cases hc2 : decide ("pydantic_dataclasses".toList ∈ opts) <;> simp [setTC_idem]

theorem filesOf_snoc_same (pre : List FileD) (f : FileD) : filesOf (pre ++ [f]) f.package = filesOf pre f.package ++ [f] := by
  simp [filesOf, List.filter_append]

theorem filesOf_snoc_other (pre : List FileD) (f : FileD) (k : Str) (h : ¬ k = f.package) :
    filesOf (pre ++ [f]) k = filesOf pre k := by
  have : ¬ f.package = k := fun e => h e.symm
  simp [filesOf, List.filter_append, this]

theorem filesOf_ne_nil (pre : List FileD) (k : Str) (h : k ∈ pre.map (·.package)) : filesOf pre k ≠ [] := by
  obtain ⟨f, hf, hk⟩ := List.mem_map.1 h
  intro e
  have : f ∈ filesOf pre k := by simp [filesOf, hf, hk]
  rw [e] at this; cases this

theorem filesOf_nil (pre : List FileD) (k : Str) (h : k ∉ pre.map (·.package)) : filesOf pre k = [] := by
  apply List.filter_eq_nil_iff.2
  intro f hf
  simp only [decide_eq_true_eq]
  intro e
  exact h (List.mem_map.2 ⟨f, hf, e⟩)

/-- one more file: the pass on the closed form is the closed form -/
theorem step_gather (opts : List Str) (pre : List FileD) (f : FileD) :
    step opts (gather opts pre) f = gather opts (pre ++ [f]) := by
  unfold step gather
  simp only [List.map_append, List.map_cons, List.map_nil, firstOcc_snoc]
  by_cases hk : f.package ∈ pre.map (·.package)
  · have hk' : f.package ∈ firstOcc (pre.map (·.package)) := (mem_firstOcc _ _).2 hk
    rw [dictGet_map _ _ _ hk', if_pos hk]
    dsimp only
    rw [dictSet_map _ _ _ _ hk' (firstOcc_nodup _)]
    apply List.map_congr_left
    intro k _
    by_cases h : k = f.package
    · subst h
      simp only [if_true]
      rw [hStep_tplOf opts f _ (filesOf_ne_nil pre _ hk), filesOf_snoc_same]
    · simp only [h, if_false]
      rw [filesOf_snoc_other pre f k h]
  · have hk' : f.package ∉ firstOcc (pre.map (·.package)) := fun e => hk ((mem_firstOcc _ _).1 e)
    have hg : dictGet ((firstOcc (pre.map (·.package))).map fun k => (k, tplOf opts k (filesOf pre k))) f.package
        = .raise .key := by
      apply dictHas_false
      rw [dictHas_map]
      simp [hk']
    rw [hg, if_neg hk]
    dsimp only
    rw [dictSet_map_new _ _ _ _ hk', List.map_append]
    congr 1
    · apply List.map_congr_left
      intro k hkm
      have h : ¬ k = f.package := fun e => hk' (e ▸ hkm)
      rw [filesOf_snoc_other pre f k h]
    · simp only [List.map_cons, List.map_nil]
      rw [hStep_new, filesOf_snoc_same, filesOf_nil pre _ hk]
      rfl

theorem foldl_step_gather (opts : List Str) : ∀ (files pre : List FileD),
    files.foldl (step opts) (gather opts pre) = gather opts (pre ++ files)
  | [], pre => by simp
  | f :: r, pre => by
    simp only [List.foldl_cons]
    rw [step_gather, foldl_step_gather opts r (pre ++ [f])]
    simp

theorem loop1_gather (fuel : Nat) (ex : PyPath → Bool) (opts : List Str) (hto : (typingOpts opts).length ≤ 1)
    (files : List FileD) : generate_code.loop1 fuel ex opts files [] = .ok (gather opts files) := by
  rw [loop1_eq fuel ex opts hto]
  have := foldl_step_gather opts files []
  simpa [gather, firstOcc] using this

end Bp.SrcTieParser
