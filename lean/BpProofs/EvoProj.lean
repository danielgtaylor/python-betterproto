import BpModel.All
import BpProofs.EvoKeep
import BpProofs.Rt
import BpProofs.Typed
/-
  C08, schema evolution: the projection of a message of the newer class onto the older
  class (a sub-list of the fields, given by a mask): the encoder loop put together from
  an indexed family of slot encodings (`dumpSlots_join`), and the projected oneof selection.
-/
namespace Bp
open Gen

theorem dumpSlots_join (S : Schema) (F : List FieldD) (cur : List (Option Nat)) :
    ∀ (vs : List Val) (k : Nat) (bsl : List Bytes), bsl.length = vs.length → k + vs.length ≤ F.length →
      (∀ (j : Nat) (f : FieldD), F[k + j]? = some f → j < vs.length →
        dumpSlot S f (hidden f (k + j) cur) (selectedInGroup f (k + j) cur) (vs.getD j .ph) = .ok (bsl.getD j [])) →
      dumpSlots S F cur k vs = .ok bsl.flatten := by
  intro vs
  induction vs with
  | nil =>
    intro k bsl hl _ _
    cases bsl with
    | nil => rw [dumpSlots]; rfl
    | cons _ _ => cases hl
  | cons v vs ih =>
    intro k bsl hl hk h
    cases bsl with
    | nil => cases hl
    | cons a bsl =>
      rw [List.length_cons] at hk
      obtain ⟨f, hf⟩ : ∃ f, F[k]? = some f :=
        ⟨F[k], List.getElem?_eq_getElem (Nat.lt_of_lt_of_le (Nat.lt_add_of_pos_right (Nat.succ_pos _)) hk)⟩
      have h0 : dumpSlot S f (hidden f k cur) (selectedInGroup f k cur) v = .ok a := h 0 f hf (Nat.succ_pos _)
      have hrest := ih (k + 1) bsl (Nat.succ.inj hl) (by rw [Nat.add_right_comm]; exact hk) (fun j fj hfj hj => by
        rw [Nat.add_right_comm, Nat.add_assoc] at hfj ⊢
        exact h (j + 1) fj hfj (Nat.succ_lt_succ hj))
      rw [dumpSlots]
      simp only [hf, h0, hrest, bind_ok, List.flatten_cons]

/-- the selected member of a group, as an index into the kept fields: kept members are
    renumbered, a dropped member leaves the group unselected -/
def projSel (mask : List Bool) : Option Nat → Option Nat
  | some i => if mask.getD i false then some (rank mask i) else Option.none
  | Option.none => Option.none

def projCur (mask : List Bool) (cur : List (Option Nat)) : List (Option Nat) := cur.map (projSel mask)

theorem projCur_length (mask : List Bool) (cur : List (Option Nat)) : (projCur mask cur).length = cur.length := by
  simp [projCur]

theorem projCur_getD (mask : List Bool) (cur : List (Option Nat)) (g : Nat) :
    (projCur mask cur).getD g Option.none = projSel mask (cur.getD g Option.none) := by
  simp only [projCur, List.getD_eq_getElem?_getD, List.getElem?_map]
  cases cur[g]? <;> rfl

theorem mask_getD_of_getElem? (mask : List Bool) (k : Nat) (h : mask[k]? = some true) : mask.getD k false = true := by
  simp [List.getD_eq_getElem?_getD, h]

theorem mask_getElem?_of_getD (mask : List Bool) (k : Nat) (h : mask.getD k false = true) : mask[k]? = some true := by
  rw [List.getD_eq_getElem?_getD] at h
  cases hm : mask[k]? with
  | none => rw [hm] at h; simp at h
  | some b => rw [hm] at h; simp at h; rw [h]

theorem projSel_kept (mask : List Bool) (sel : Option Nat) (k : Nat) (hk : mask[k]? = some true) :
    (projSel mask sel = some (rank mask k)) ↔ sel = some k := by
  cases sel with
  | none => simp [projSel]
  | some i =>
    unfold projSel
    by_cases hm : mask.getD i false = true
    · simp only [hm, if_true, Option.some.injEq]
      constructor
      · intro h; exact rank_inj mask i k (mask_getElem?_of_getD mask i hm) hk h
      · intro h; rw [h]
    · simp only [hm, Bool.false_eq_true, if_false, Option.some.injEq]
      constructor
      · intro h; simp at h
      · intro h; subst h; exact absurd (mask_getD_of_getElem? mask i hk) hm

theorem projSel_beq (mask : List Bool) (sel : Option Nat) (k : Nat) (hk : mask[k]? = some true) :
    (projSel mask sel == some (rank mask k)) = (sel == some k) := by
  rw [Bool.eq_iff_iff, beq_iff_eq, beq_iff_eq]
  exact projSel_kept mask sel k hk

theorem projSel_eq_some {mask : List Bool} {sel : Option Nat} {i : Nat} (h : projSel mask sel = some i) :
    ∃ i0, sel = some i0 ∧ mask[i0]? = some true ∧ i = rank mask i0 := by
  cases sel with
  | none => cases h
  | some i0 =>
    by_cases hm : mask.getD i0 false = true
    · rw [projSel, if_pos hm] at h
      exact ⟨i0, rfl, mask_getElem?_of_getD mask i0 hm, (Option.some.inj h).symm⟩
    · rw [projSel, if_neg hm] at h
      cases h

theorem hidden_proj (mask : List Bool) (cur : List (Option Nat)) (f : FieldD) (k : Nat) (hk : mask[k]? = some true) :
    hidden f (rank mask k) (projCur mask cur) = hidden f k cur := by
  unfold hidden
  cases f.group with
  | none => rfl
  | some g => simp only [projCur_getD, bne, projSel_beq mask _ k hk]

theorem selected_proj (mask : List Bool) (cur : List (Option Nat)) (f : FieldD) (k : Nat) (hk : mask[k]? = some true) :
    selectedInGroup f (rank mask k) (projCur mask cur) = selectedInGroup f k cur := by
  rw [selectedInGroup_eq, selectedInGroup_eq, hidden_proj mask cur f k hk]

end Bp
