import BpModel.Schema
/-
  The wire class of a proto type.  What the regenerated tables (`wireTypeByProtoType`, `wireVarintTypes` …
  `wireLenDelimTypes`, `packedTypes`, `fixedTypes`) and the dispatches written on them (`wireOf`, the 4- / 8-byte
  test of the packed decoder) say about a type is one row, keyed by its wire type `w`; `wire_row` checks all
  rows in one sweep over `PType`, and a proof that needs several columns splits on `w` once.
-/
namespace Bp
open Gen

structure WireRow (t : PType) (w : Nat) : Prop where
  wireOf : wireOf t = some w
  find : wireTypeByProtoType.find? (·.1 == t) = some (t, w)
  varint : wireVarintTypes.contains t = decide (w = wireVarint)
  fixed32 : wireFixed32Types.contains t = decide (w = wireFixed32)
  fixed64 : wireFixed64Types.contains t = decide (w = wireFixed64)
  len : wireLenDelimTypes.contains t = decide (w = wireLenDelim)
  packed : isPacked t = decide (w ≠ wireLenDelim)
  fixed : isFixed t = decide (w = wireFixed32 ∨ w = wireFixed64)
  /-- the tests by which `decodePackedFuel` picks the element width -/
  four : (t == .float || t == .fixed32 || t == .sfixed32) = decide (w = wireFixed32)
  eight : (t == .double || t == .fixed64 || t == .sfixed64) = decide (w = wireFixed64)
  lenTy : w = wireLenDelim ↔ t = .string ∨ t = .bytes ∨ t = .message ∨ t = .map

-- `w` is found by unification with the first column; alternatives over the four classes would be tried and paid for
theorem wire_row (t : PType) :
    ∃ w, WireRow t w ∧ (w = wireVarint ∨ w = wireFixed32 ∨ w = wireFixed64 ∨ w = wireLenDelim) := by
  cases t <;> exact ⟨_, ⟨rfl, rfl, rfl, rfl, rfl, rfl, rfl, rfl, rfl, rfl, by decide⟩, by decide⟩

theorem packed_ne_message {t : PType} (h : isPacked t = true) : t ≠ .message := by
  rintro rfl; exact absurd h (by decide)

end Bp
