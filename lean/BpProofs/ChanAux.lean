import BpProofs.ChanStep
/- what Props/C12.lean needs besides the invariant: `SendOrd` on the put log rules out duplicates, and how the tasks of a
   quiescent state wait -/
namespace Bp.Chan

theorem count_le_one_of_pairwise {l : List Item} (h : l.Pairwise SendOrd) (a b : Nat) : l.count (.data a b) ≤ 1 := by
  induction l with
  | nil => simp
  | cons x xs ih =>
    rw [List.pairwise_cons] at h
    have ih' := ih h.2
    by_cases hx : x = .data a b
    · subst hx
      have : xs.count (.data a b) = 0 := by
        rw [List.count_eq_zero]
        intro hmem
        have := h.1 _ hmem
        simp [SendOrd] at this
      simp [this]
    · simp only [List.count_cons, beq_iff_eq, hx, if_false, Nat.add_zero]; exact ih'

theorem quiescent_wait {s : Sys} (hq : quiescent s = true) {t : Nat} {x : Task} (hx : s.tasks[t]? = some x) :
    x.wait = .done ∨ ∃ g, x.wait = .blocked g .pending := by
  have hl := getElem?_lt hx
  simp only [quiescent, List.all_eq_true, List.mem_range] at hq
  have := hq t hl
  simp only [runnable, waitOf, hx, Option.map_some] at this
  cases hw : x.wait with
  | ready => simp [hw] at this
  | done => exact Or.inl rfl
  | blocked g f =>
    cases f with
    | pending => exact Or.inr ⟨g, rfl⟩
    | woken => simp [hw] at this
    | cancelled => simp [hw] at this

theorem tsum_zero_of {f : Task → Nat} {ts : List Task} (h : ∀ (t : Nat) (x : Task), ts[t]? = some x → f x = 0) : tsum f ts = 0 := by
  apply tsum_eq_zero_of_forall
  intro x hx
  obtain ⟨t, ht, rfl⟩ := List.getElem_of_mem hx
  exact h t _ (List.getElem?_eq_getElem ht)

end Bp.Chan
