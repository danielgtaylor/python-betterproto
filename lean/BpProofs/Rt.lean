import BpModel.All
import BpProofs.Ops
import BpProofs.Presence
import BpProofs.SpecState
/-
  C01, message level, for slots of ANY kind: if decoding the bytes of each single slot restores that slot
  (`SlotStep`), then decoding `bytes(m)` restores the message (`fold_of_steps`) — an induction
  over the slot list with the decoder-state invariant `GI`. What a `SlotStep` is proved from, per kind of item and
  shape of slot, is in RtItem.lean and the files after it.
-/
namespace Bp
open Gen

/-- the dataclass default of a slot: None for optional fields, else PLACEHOLDER -/
def freshVal (f : FieldD) : Val := if f.optional then Val.none else Val.ph

def NumsDistinct (fs : List FieldD) : Prop :=
  ∀ (i j : Nat) (fi fj : FieldD), fs[i]? = some fi → fs[j]? = some fj → fi.num = fj.num → i = j

theorem numsDistinct_iff (fs : List FieldD) : NumsDistinct fs ↔ fs.Pairwise (fun a b => a.num ≠ b.num) := by
  rw [List.pairwise_iff_getElem]
  constructor
  · intro h i j hi hj hij hn
    exact Nat.ne_of_lt hij (h i j _ _ (List.getElem?_eq_getElem hi) (List.getElem?_eq_getElem hj) hn)
  · intro h i j fi fj hi hj hn
    obtain ⟨hi', rfl⟩ := List.getElem?_eq_some_iff.mp hi
    obtain ⟨hj', rfl⟩ := List.getElem?_eq_some_iff.mp hj
    by_contra hne
    rcases Nat.lt_or_gt_of_ne hne with hlt | hlt
    · exact h i j hi' hj' hlt hn
    · exact h j i hj' hi' hlt hn.symm

theorem numsDistinct_cons (f : FieldD) (fs : List FieldD) :
    NumsDistinct (f :: fs) ↔ (∀ g ∈ fs, g.num ≠ f.num) ∧ NumsDistinct fs := by
  rw [numsDistinct_iff, numsDistinct_iff, List.pairwise_cons]
  exact and_congr_left' (forall₂_congr fun _ _ => ne_comm)

theorem numsDistinct_single (f : FieldD) : NumsDistinct [f] :=
  (numsDistinct_iff _).mpr (List.pairwise_singleton _ _)

theorem numsDistinct_pair (a b : FieldD) (h : a.num ≠ b.num) : NumsDistinct [a, b] :=
  (numsDistinct_iff _).mpr (List.pairwise_pair.mpr h)

theorem numsDistinctB_iff : ∀ (fs : List FieldD), numsDistinctB fs = true ↔ NumsDistinct fs
  | [] => ⟨fun _ i j fi fj hi => (by cases hi), fun _ => rfl⟩
  | f :: fs => by
    rw [numsDistinctB, Bool.and_eq_true, numsDistinct_cons, numsDistinctB_iff fs, List.all_eq_true]
    simp only [bne_iff_ne, ne_eq]

theorem findField_distinct (fs : List FieldD) (k : Nat) (f : FieldD) (hd : NumsDistinct fs)
    (hk : fs[k]? = some f) : findField fs f.num = some k := by
  rcases findField_spec fs f.num with ⟨_, hno⟩ | ⟨k', f', h, hf', hn, _⟩
  · exact absurd rfl (hno f (List.mem_of_getElem? hk))
  · rw [h, hd k' k f' f hf' hk hn]

theorem applyField_known_eq (S : Schema) (rec : Loader) (d : MsgD) (st : MState) (pf : PField) (k : Nat) (f : FieldD)
    (hd : NumsDistinct d.fields) (hk : d.fields[k]? = some f) (hnum : pf.num = f.num)
    (hfit : wireFits f pf.wt = true) :
    applyField S rec d st pf =
      (decodeValue S rec f pf).bind fun value => storeValue S d (prepCurrent S d st k f) k f value :=
  applyField_targets S rec d st pf k f ⟨hnum ▸ findField_distinct d.fields k f hd hk, hk, hfit⟩

theorem resetGroup_id (g idx : Nat) (fs : List FieldD) (ss : List Val) (j0 : Nat)
    (h : ∀ (j : Nat) (fj : FieldD) (s : Val), fs[j]? = some fj → ss[j]? = some s → fj.group = some g → j0 + j ≠ idx → s = Val.ph) :
    resetGroup g idx fs ss j0 = ss := by
  refine list_ext_getD Val.ph _ _ (resetGroup_length g idx fs ss j0) fun k => ?_
  rw [resetGroup_getD]
  split
  · rename_i hc
    -- a sibling that would be reset is PLACEHOLDER already (or lies beyond the slots, where `getD` reads PLACEHOLDER)
    obtain ⟨fk, hf, hg⟩ := Option.bind_eq_some_iff.mp hc.1
    cases hs : ss[k]? with
    | none => simp [List.getD_eq_getElem?_getD, hs]
    | some s => rw [List.getD_eq_getElem?_getD, hs]; exact (h k fk s hf hs hg hc.2).symm
  · rfl

/-- the state after `setattr(self, name, v)` on a field whose oneof siblings are all unset -/
def afterStore (st : MState) (k : Nat) (f : FieldD) (v : Val) : MState :=
  { st with onWire := true, slots := setAt st.slots k v,
            cur := match f.group with
                   | some g => st.cur.set g (some k)
                   | Option.none => st.cur }

/-- siblings of field `k` in its oneof group are all PLACEHOLDER -/
def MatesUnset (fs : List FieldD) (slots : List Val) (k : Nat) (f : FieldD) : Prop :=
  ∀ g, f.group = some g → ∀ (j : Nat) (fj : FieldD) (s : Val), fs[j]? = some fj → slots[j]? = some s →
    fj.group = some g → j ≠ k → s = Val.ph

theorem joinRaw_append (a b : List PField) : joinRaw (a ++ b) = joinRaw a ++ joinRaw b := by
  induction a with
  | nil => rfl
  | cons pf a ih => simp [joinRaw, ih, List.append_assoc]

theorem loadFields_append_ok {a b : Bytes} {p q : List PField} (ha : loadFields a = .ok p) (hb : loadFields b = .ok q) :
    loadFields (a ++ b) = .ok (p ++ q) := by
  obtain ⟨rfl, hp⟩ := (loadFields_iff a p).mp ha
  rw [loadFields_append p hp b, hb]; rfl

/-- what decoding the bytes that ONE slot contributed does to a state in which that slot
    is still fresh (and, if the slot emitted anything, its oneof group is still unselected) -/
def SlotStep (S : Schema) (rec : Loader) (d : MsgD) (R : FieldD → Val → Val → Prop)
    (k : Nat) (f : FieldD) (hid sel : Bool) (v : Val) : Prop :=
  ∀ (st : MState) (b : Bytes), dumpSlot S f hid sel v = .ok b → b.length < 2 ^ 64 → k < st.slots.length → st.onWire = true →
    st.slots.getD k .ph = freshVal f →
    (b ≠ [] → (∀ g, f.group = some g → st.cur.getD g Option.none = Option.none) ∧ MatesUnset d.fields st.slots k f) →
    ∃ pfs v', (∀ pf ∈ pfs, Parsed pf) ∧ joinRaw pfs = b ∧
      (b ≠ [] → R f v v' ∧ dumpSlot S f hid sel v' = .ok b) ∧
      foldFields S rec d st pfs = .ok (if b = [] then st else afterStore st k f v')

/-- only the case that the slot emitted something needs an argument; what the value comes back as is left
    open (a message comes back as an equivalent one) -/
theorem slotStep_of_nonempty (S : Schema) (rec : Loader) (d : MsgD) (R : FieldD → Val → Val → Prop) (k : Nat) (f : FieldD)
    (hid sel : Bool) (v : Val)
    (h : ∀ b, dumpSlot S f hid sel v = .ok b → b ≠ [] → SlotStep S rec d R k f hid sel v) :
    SlotStep S rec d R k f hid sel v := by
  intro st b hb
  by_cases hbe : b = []
  · intro _ _ _ _ _
    exact ⟨[], v, fun _ h => by simp at h, by simp [joinRaw, hbe], fun h => absurd hbe h, by rw [if_pos hbe]; rfl⟩
  · exact h b hb hbe st b hb

/-- a slot whose value is to come back as it was: the records it emitted fold to the plain assignment -/
theorem slotStep_of_emitted (S : Schema) (rec : Loader) (d : MsgD) (R : FieldD → Val → Val → Prop) (k : Nat)
    (f : FieldD) (hid sel : Bool) (v : Val) (hR : R f v v)
    (h : ∀ (st : MState) (b : Bytes), dumpSlot S f hid sel v = .ok b → b ≠ [] → b.length < 2 ^ 64 →
      k < st.slots.length → st.onWire = true → st.slots.getD k .ph = freshVal f →
      (∀ g, f.group = some g → st.cur.getD g Option.none = Option.none) → MatesUnset d.fields st.slots k f →
      ∃ pfs, (∀ q ∈ pfs, Parsed q) ∧ joinRaw pfs = b ∧ foldFields S rec d st pfs = .ok (afterStore st k f v)) :
    SlotStep S rec d R k f hid sel v := by
  apply slotStep_of_nonempty
  intro b hb hbe st b' hb' hbl hkl how hfresh hpre
  obtain rfl : b = b' := by rw [hb] at hb'; injection hb'
  obtain ⟨pfs, h1, h2, h3⟩ := h st b hb hbe hbl hkl how hfresh (hpre hbe).1 (hpre hbe).2
  exact ⟨pfs, v, h1, h2, fun _ => ⟨hR, hb⟩, by rw [if_neg hbe]; exact h3⟩

theorem slotStep_empty (S : Schema) (rec : Loader) (d : MsgD) (R : FieldD → Val → Val → Prop) (k : Nat) (f : FieldD)
    (hid sel : Bool) (v : Val) (h : ∀ b, dumpSlot S f hid sel v = .ok b → b = []) :
    SlotStep S rec d R k f hid sel v :=
  slotStep_of_nonempty S rec d R k f hid sel v fun b hb hne => absurd (h b hb) hne

/-- the original message, as far as the fold needs it -/
structure MsgShape (S : Schema) (d : MsgD) (sl : List Val) (cur : List (Option Nat)) : Prop where
  len : sl.length = d.fields.length
  curlen : cur.length = d.nGroups
  wfg : WfGroups d.fields d.nGroups
  /-- a selection points to a member of that group -/
  curok : ∀ g i, cur.getD g Option.none = some i → ∃ f, d.fields[i]? = some f ∧ f.group = some g
  /-- oneof members are not `optional` (standard dataclasses) -/
  grpopt : ∀ f ∈ d.fields, f.group.isSome = true → f.optional = false
  /-- a selected member emits at least one byte -/
  selEmits : ∀ i f b, d.fields[i]? = some f → selectedInGroup f i cur = true →
    dumpSlot S f (hidden f i cur) true (sl.getD i .ph) = .ok b → b ≠ []

/-- the selection of group `g`, as far as it lies among the slots before `k` -/
def curBefore (cur : List (Option Nat)) (k g : Nat) : Option Nat :=
  match cur.getD g Option.none with
  | some i => if i < k then some i else Option.none
  | Option.none => Option.none

theorem curBefore_succ (cur : List (Option Nat)) (k g : Nat) :
    curBefore cur (k + 1) g = if cur.getD g Option.none = some k then some k else curBefore cur k g := by
  unfold curBefore
  cases cur.getD g Option.none with
  | none => rfl
  | some i =>
    by_cases hik : i = k
    · subst hik; exact (if_pos (Nat.lt_succ_self i)).trans (if_pos rfl).symm
    · simp only [Option.some.injEq, hik, if_false, Nat.lt_succ_iff_lt_or_eq, or_false]

theorem curBefore_self (cur : List (Option Nat)) (k g : Nat) (h : cur.getD g Option.none = some k) :
    curBefore cur k g = Option.none := by
  unfold curBefore
  rw [h]
  exact if_neg (Nat.lt_irrefl k)

theorem curBefore_zero (cur : List (Option Nat)) (g : Nat) : curBefore cur 0 g = Option.none := by
  unfold curBefore
  cases cur.getD g Option.none <;> rfl

theorem curBefore_of_lt (cur : List (Option Nat)) (k g : Nat)
    (h : ∀ i, cur.getD g Option.none = some i → i < k) : curBefore cur k g = cur.getD g Option.none := by
  unfold curBefore
  cases hc : cur.getD g Option.none with
  | none => rfl
  | some i => exact if_pos (h i hc)

/-- state of the decoder after the bytes of slots `< k` -/
structure GI (S : Schema) (d : MsgD) (R : FieldD → Val → Val → Prop) (sl : List Val) (cur : List (Option Nat))
    (k : Nat) (st : MState) : Prop where
  len : st.slots.length = d.fields.length
  curlen : st.cur.length = d.nGroups
  ow : st.onWire = true
  unk : st.unknown = []
  fresh : ∀ j f, k ≤ j → d.fields[j]? = some f → st.slots.getD j .ph = freshVal f
  /-- a slot before `k` re-encodes to the bytes `b` of the original; it is still fresh if they were none, else related -/
  done : ∀ j f, j < k → d.fields[j]? = some f → ∃ b,
    dumpSlot S f (hidden f j cur) (selectedInGroup f j cur) (sl.getD j .ph) = .ok b
      ∧ dumpSlot S f (hidden f j cur) (selectedInGroup f j cur) (st.slots.getD j .ph) = .ok b
      ∧ (b = [] → st.slots.getD j .ph = freshVal f) ∧ (b ≠ [] → R f (sl.getD j .ph) (st.slots.getD j .ph))
  cur : ∀ g, st.cur.getD g Option.none = curBefore cur k g

/-- only a readable slot emits anything -/
theorem emits_not_hidden {S : Schema} {f : FieldD} {hid sel : Bool} {v : Val} {b : Bytes} (hb : dumpSlot S f hid sel v = .ok b)
    (hbe : b ≠ []) : hid = false := by
  cases hid with
  | false => rfl
  | true => rw [hidden_empty] at hb; cases hb; exact absurd rfl hbe

section Invariant
variable {S : Schema} {d : MsgD} {R : FieldD → Val → Val → Prop} {sl : List Val} {cur : List (Option Nat)}
  {k : Nat} {st : MState} (hm : MsgShape S d sl cur)
include hm

theorem MsgShape.group_of_sel {g : Nat} {f : FieldD} (hf : d.fields[k]? = some f)
    (h : cur.getD g Option.none = some k) : f.group = some g := by
  obtain ⟨f', hf', hg'⟩ := hm.curok g k h
  rwa [← Option.some.inj (hf.symm.trans hf')] at hg'

variable (hgi : GI S d R sl cur k st) (f : FieldD)
include hgi

theorem GI.pre (hnh : hidden f k cur = false) :
    (∀ g, f.group = some g → st.cur.getD g Option.none = Option.none) ∧ MatesUnset d.fields st.slots k f := by
  constructor
  · intro g hg
    rw [hgi.cur g, curBefore_self cur k g (selected_of_not_hidden f k g cur hg hnh)]
  · intro g hg j fj s hfj hsj hgj hne'
    have hsel := selected_of_not_hidden f k g cur hg hnh
    have hfo : fj.optional = false := hm.grpopt fj (List.mem_of_getElem? hfj) (by simp [hgj])
    -- a mate is still fresh: not reached yet, or hidden, so that it emitted nothing
    have hfr : st.slots.getD j .ph = freshVal fj := by
      by_cases hjk : k ≤ j
      · exact hgi.fresh j fj hjk hfj
      · obtain ⟨b, hb, _, hfr, _⟩ := hgi.done j fj (by omega) hfj
        rw [hidden_of_cur_ne fj j g cur hgj (by rw [hsel]; intro e; exact hne' (Option.some.inj e).symm),
          hidden_empty] at hb
        exact hfr (Except.ok.inj hb).symm
    simpa [List.getD_eq_getElem?_getD, hsj, freshVal, hfo] using hfr

/-- the invariant survives what a `SlotStep` does to the state -/
theorem GI.step (hf : d.fields[k]? = some f) (b : Bytes) (v' : Val)
    (hb : dumpSlot S f (hidden f k cur) (selectedInGroup f k cur) (sl.getD k .ph) = .ok b)
    (hrel : b ≠ [] → R f (sl.getD k .ph) v' ∧ dumpSlot S f (hidden f k cur) (selectedInGroup f k cur) v' = .ok b) :
    GI S d R sl cur (k + 1) (if b = [] then st else afterStore st k f v') := by
  by_cases hbe : b = []
  · subst hbe
    rw [if_pos rfl]
    -- the selected member of a group emits something, so no group has its selection at `k`
    have hns : ∀ g, cur.getD g Option.none ≠ some k := by
      intro g hcg
      have hsel := selectedInGroup_of_cur f k g cur (hm.group_of_sel hf hcg) hcg
      rw [hsel] at hb
      exact hm.selEmits k f [] hf hsel hb rfl
    refine ⟨hgi.len, hgi.curlen, hgi.ow, hgi.unk, fun j fj hj hfj => hgi.fresh j fj (by omega) hfj, ?_,
      fun g => by rw [hgi.cur g, curBefore_succ, if_neg (hns g)]⟩
    intro j fj hj hfj
    by_cases hjk : j < k
    · exact hgi.done j fj hjk hfj
    · obtain rfl : j = k := by omega
      obtain rfl : f = fj := Option.some.inj (hf.symm.trans hfj)
      have hfr := hgi.fresh j f (Nat.le_refl j) hf
      refine ⟨[], hb, ?_, fun _ => hfr, fun h => absurd rfl h⟩
      -- the unset default emits nothing either
      rw [hfr]
      apply dumpSlot_freshVal
      cases hg : f.group with
      | none => exact Or.inr ⟨rfl, selected_nogroup _ _ _ hg⟩
      | some g => exact Or.inl (hidden_of_cur_ne f j g cur hg (hns g))
  · rw [if_neg hbe]
    obtain ⟨hr, hd'⟩ := hrel hbe
    have hnh := emits_not_hidden hb hbe
    have hkl : k < st.slots.length := hgi.len ▸ (List.getElem?_eq_some_iff.mp hf).1
    refine ⟨by simp [afterStore, setAt, hgi.len], ?_, rfl, hgi.unk, ?_, ?_, ?_⟩
    · simp only [afterStore]; cases f.group <;> simp [hgi.curlen]
    · intro j fj hj hfj
      simp only [afterStore]
      rw [getD_setAt_ne _ _ _ _ (by omega)]
      exact hgi.fresh j fj (by omega) hfj
    · intro j fj hj hfj
      simp only [afterStore]
      by_cases hjk : j < k
      · rw [getD_setAt_ne _ _ _ _ (by omega)]
        exact hgi.done j fj hjk hfj
      · obtain rfl : j = k := by omega
        obtain rfl : f = fj := Option.some.inj (hf.symm.trans hfj)
        rw [getD_setAt_self _ _ _ hkl]
        exact ⟨b, hb, hd', fun e => absurd e hbe, fun _ => hr⟩
    · intro g
      simp only [afterStore]
      -- the selection moves to `k` in the group of `f`, if it has one, and nowhere else
      rw [curBefore_succ]
      cases hfg : f.group with
      | none => rw [hgi.cur g, if_neg fun h => nomatch hfg ▸ hm.group_of_sel hf h]
      | some g0 =>
        simp only
        rw [getD_set, hgi.cur g]
        refine if_congr ⟨fun h => h.1 ▸ selected_of_not_hidden f k g0 cur hfg hnh, fun h => ?_⟩ rfl rfl
        obtain rfl : g0 = g := Option.some.inj (hfg.symm.trans (hm.group_of_sel hf h))
        exact ⟨rfl, hgi.curlen ▸ hm.wfg f (List.mem_of_getElem? hf) g0 hfg⟩

end Invariant

theorem slots_fold (S : Schema) (rec : Loader) (d : MsgD) (R : FieldD → Val → Val → Prop)
    (sl : List Val) (cur : List (Option Nat))
    (hm : MsgShape S d sl cur)
    (hsteps : ∀ k f v, d.fields[k]? = some f → sl[k]? = some v →
      SlotStep S rec d R k f (hidden f k cur) (selectedInGroup f k cur) v) :
    ∀ (vs : List Val) (k : Nat) (st : MState) (out : Bytes), sl.drop k = vs → GI S d R sl cur k st →
      dumpSlots S d.fields cur k vs = .ok out → out.length < 2 ^ 64 →
      ∃ pfs st', loadFields out = .ok pfs ∧ foldFields S rec d st pfs = .ok st'
        ∧ GI S d R sl cur (k + vs.length) st' := by
  intro vs
  induction vs with
  | nil =>
    intro k st out _ hgi hd _
    rw [dumpSlots] at hd; cases hd
    exact ⟨[], st, rfl, rfl, hgi⟩
  | cons v vs ih =>
    intro k st out hvs hgi hd hout
    obtain ⟨hv, hvs'⟩ := drop_cons sl k v vs hvs
    have hvD : sl.getD k .ph = v := by rw [List.getD_eq_getElem?_getD, hv]; rfl
    have hkf : k < d.fields.length := hm.len ▸ (List.getElem?_eq_some_iff.mp hv).1
    obtain ⟨f, hf⟩ : ∃ f, d.fields[k]? = some f := ⟨_, List.getElem?_eq_getElem hkf⟩
    obtain ⟨b, brest, hb, hrest, rfl⟩ := dumpSlots_cons_inv hf hd
    simp only [List.length_append] at hout
    obtain ⟨pfs1, v', hp1, hj1, hrel1, hfold1⟩ := hsteps k f v hf hv st b hb (by omega)
      (by rw [hgi.len]; exact hkf) hgi.ow (hgi.fresh k f (Nat.le_refl k) hf)
      (fun hne => hgi.pre hm f (emits_not_hidden hb hne))
    obtain ⟨pfs2, st2, hl2, hfold2, hgi2⟩ :=
      ih (k + 1) _ brest hvs' (hgi.step hm f hf b v' (hvD ▸ hb) (hvD ▸ hrel1)) hrest (by omega)
    refine ⟨pfs1 ++ pfs2, st2, loadFields_append_ok ((loadFields_iff b pfs1).mpr ⟨hj1, hp1⟩) hl2, ?_, ?_⟩
    · rw [foldFields_append_s, hfold1]; exact hfold2
    · rw [List.length_cons, ← Nat.add_assoc, Nat.add_right_comm]; exact hgi2

theorem foldFields_unknown (S : Schema) (rec : Loader) (d : MsgD) (upfs : List PField) (st : MState)
    (h : ∀ pf ∈ upfs, isUnknownField d pf = true) :
    foldFields S rec d st upfs = .ok { st with unknown := st.unknown ++ joinRaw upfs } := by
  rw [foldFields_unknown_split, List.filter_eq_self.mpr h,
    List.filter_eq_nil_iff.mpr (fun pf hp => by rw [h pf hp]; exact Bool.false_ne_true)]
  rfl

theorem dumpSlots_congr (S : Schema) (fs : List FieldD) (cur : List (Option Nat)) (k : Nat) (vs ws : List Val)
    (hl : vs.length = ws.length)
    (h : ∀ (j : Nat) (f : FieldD), fs[k + j]? = some f → j < vs.length →
      dumpSlot S f (hidden f (k + j) cur) (selectedInGroup f (k + j) cur) (vs.getD j .ph)
        = dumpSlot S f (hidden f (k + j) cur) (selectedInGroup f (k + j) cur) (ws.getD j .ph)) :
    dumpSlots S fs cur k vs = dumpSlots S fs cur k ws := by
  induction vs generalizing k ws with
  | nil =>
    cases ws with
    | nil => rfl
    | cons w ws => cases hl
  | cons v vs ih =>
    cases ws with
    | nil => cases hl
    | cons w ws =>
      rw [dumpSlots, dumpSlots]
      cases hf : fs[k]? with
      | none => rfl
      | some f =>
        simp only
        rw [show dumpSlot S f (hidden f k cur) (selectedInGroup f k cur) v
              = dumpSlot S f (hidden f k cur) (selectedInGroup f k cur) w from h 0 f hf (Nat.succ_pos _),
          ih (k + 1) ws (Nat.succ.inj hl) fun j fj hfj hj => by
            rw [Nat.add_right_comm] at hfj ⊢
            exact h (j + 1) fj hfj (Nat.succ_lt_succ hj)]

theorem getD_freshSlots (fs : List FieldD) (j : Nat) (f : FieldD) (hf : fs[j]? = some f) :
    (fs.map fun f => if f.optional then Val.none else Val.ph).getD j .ph = freshVal f := by
  simp [List.getD_eq_getElem?_getD, List.getElem?_map, hf, freshVal]

/-- after the last slot the selection is that of the original -/
theorem GI.cur_eq {S : Schema} {d : MsgD} {R : FieldD → Val → Val → Prop} {sl : List Val} {cur : List (Option Nat)}
    {st : MState} (hm : MsgShape S d sl cur) (hgi : GI S d R sl cur sl.length st) : st.cur = cur := by
  refine list_ext_getD Option.none _ _ (hgi.curlen.trans hm.curlen.symm) fun g => ?_
  rw [hgi.cur g, curBefore_of_lt]
  intro i hcg
  obtain ⟨f, hf, _⟩ := hm.curok g i hcg
  exact hm.len ▸ (List.getElem?_eq_some_iff.mp hf).1

/-- the unknown fields a message carries are raw records its class does not know -/
def UnkOk (d : MsgD) (unk : Bytes) : Prop :=
  ∃ upfs : List PField, (∀ pf ∈ upfs, Parsed pf ∧ isUnknownField d pf = true) ∧ joinRaw upfs = unk

/-- **the fold, assembled, for ANY nested loader `rec`**: if decoding the bytes of each
    single slot restores that slot (`SlotStep`), then splitting `bytes(m)` into records
    and folding the per-field step from the fresh state succeeds, yields the same oneof
    selection and unknown fields, holds in every slot either a related value or — where
    the original value was not emitted at all — the unset default, and re-encodes to the
    same bytes -/
theorem fold_of_steps (S : Schema) (rec0 : Loader) (c : Nat) (d : MsgD) (hd : S[c]? = some d)
    (sl : List Val) (ow : Bool) (unk : Bytes) (cur : List (Option Nat))
    (R : FieldD → Val → Val → Prop)
    (hm : MsgShape S d sl cur) (hunk : UnkOk d unk)
    (bs : Bytes) (hdump : dumpVal S (.msg c sl ow unk cur) = .ok bs) (hblen : bs.length < 2 ^ 64)
    (hsteps : ∀ k f v, d.fields[k]? = some f → sl[k]? = some v →
      SlotStep S rec0 d R k f (hidden f k cur) (selectedInGroup f k cur) v) :
    ∃ sl', ((loadFields bs).bind fun pfs => foldFields S rec0 d { freshState d with onWire := true } pfs)
        = .ok { slots := sl', onWire := true, unknown := unk, cur := cur }
      ∧ sl'.length = sl.length
      ∧ (∀ j f, d.fields[j]? = some f →
          R f (sl.getD j .ph) (sl'.getD j .ph)
          ∨ (sl'.getD j .ph = freshVal f
              ∧ dumpSlot S f (hidden f j cur) (selectedInGroup f j cur) (sl.getD j .ph) = .ok []))
      ∧ dumpVal S (.msg c sl' true unk cur) = .ok bs := by
  have hfo : fieldsOf S c = d.fields := fieldsOf_some S c d hd
  rw [dumpVal_msg, hfo] at hdump
  obtain ⟨body, hbody, hdump⟩ := bind_inv hdump
  injection hdump with hbs
  obtain ⟨upfs, hup, hupj⟩ := hunk
  have hgi0 : GI S d R sl cur 0 { freshState d with onWire := true } := by
    refine ⟨by simp [freshState], by simp [freshState], rfl, rfl, ?_, fun j f hj _ => by omega, ?_⟩
    · intro j f _ hf; exact getD_freshSlots d.fields j f hf
    · intro g
      rw [curBefore_zero]
      exact replicate_none_getD _ _
  obtain ⟨pfs, st', hl, hfold, hgi⟩ :=
    slots_fold S rec0 d R sl cur hm hsteps sl 0 _ body rfl hgi0 hbody
      (by rw [← hbs] at hblen; simp only [List.length_append] at hblen; omega)
  rw [Nat.zero_add] at hgi
  have hlf : loadFields bs = .ok (pfs ++ upfs) :=
    hbs ▸ loadFields_append_ok hl ((loadFields_iff unk upfs).mpr ⟨hupj, fun pf h => (hup pf h).1⟩)
  refine ⟨st'.slots, ?_, by rw [hgi.len, hm.len], ?_, ?_⟩
  · rw [hlf, bind_ok, foldFields_append_s, hfold, bind_ok,
      foldFields_unknown S rec0 d upfs st' (fun pf h => (hup pf h).2), hupj, hgi.unk, hgi.cur_eq hm, hgi.ow]
    rfl
  · intro j f hf
    obtain ⟨b, hb, _, hfr, hr⟩ := hgi.done j f (hm.len ▸ (List.getElem?_eq_some_iff.mp hf).1) hf
    by_cases he : b = []
    · exact Or.inr ⟨hfr he, he ▸ hb⟩
    · exact Or.inl (hr he)
  · rw [dumpVal_msg, hfo, dumpSlots_congr S _ cur 0 _ sl (hgi.len.trans hm.len.symm) fun j f hf hjl => by
        rw [Nat.zero_add] at hf ⊢
        obtain ⟨b, hb, hb', _⟩ := hgi.done j f (hm.len ▸ hgi.len ▸ hjl) hf
        rw [hb, hb'],
      hbody, bind_ok, hbs]

end Bp
