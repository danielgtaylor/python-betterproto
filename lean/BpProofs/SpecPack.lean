import BpModel.All
import BpProofs.SpecRep
/-
  C02: records of a repeated packable scalar field only ever APPEND
  their elements (packed chunk: all of them; unpacked record: the one), so the final list
  depends only on the concatenation; a record of a singular scalar field leaves its value;
  a record of a oneof member leaves that member selected.
-/
namespace Bp
open Gen

/-- a repeated field of a packable scalar type, outside any oneof -/
def IsRepScalar (f : FieldD) : Prop := f.repeated = true ∧ isPacked f.ty = true ∧ f.group = Option.none

instance (f : FieldD) : Decidable (IsRepScalar f) := by unfold IsRepScalar; infer_instance

theorem packed_not_map_msg (t : PType) (h : isPacked t = true) : t ≠ .map ∧ t ≠ .message := by
  cases t with
  | map | message => exact absurd h (by decide)
  | _ => exact ⟨fun e => PType.noConfusion e, fun e => PType.noConfusion e⟩

/-- the list a repeated slot currently denotes -/
def curList (st : MState) (idx : Nat) : List Val :=
  match st.slots.getD idx .ph with
  | .list xs => xs
  | _ => []

/-- the state with `es` appended to the repeated field `idx` -/
def appendAt (st : MState) (idx : Nat) (es : List Val) : MState :=
  { st with slots := setAt st.slots idx (.list (curList st idx ++ es)) }

theorem curList_appendAt (st : MState) (idx : Nat) (es : List Val) (hl : idx < st.slots.length) :
    curList (appendAt st idx es) idx = curList st idx ++ es := by
  simp only [curList, appendAt]
  rw [setAt_getD]; simp [hl]

theorem appendAt_appendAt (st : MState) (idx : Nat) (a b : List Val) (hl : idx < st.slots.length) :
    appendAt (appendAt st idx a) idx b = appendAt st idx (a ++ b) := by
  have := curList_appendAt st idx a hl
  simp only [appendAt] at this ⊢
  simp only [curList] at this ⊢
  rw [this, setAt_setAt, List.append_assoc]

theorem wf_appendAt (d : MsgD) (st : MState) (idx : Nat) (f : FieldD) (es : List Val)
    (hf : d.fields[idx]? = some f) (hr : f.repeated = true) (hw : WfState d st) : WfState d (appendAt st idx es) :=
  wf_setAt d st idx f _ hf hw (repOk_list f _ hr)

theorem applyField_repeated (S : Schema) (rec : Loader) (d : MsgD) (st : MState) (pf : PField) (idx : Nat) (f : FieldD)
    (v : Val) (ht : Targets d pf idx f) (hr : IsRepScalar f) (hw : WfState d st)
    (hv : decodeValue S rec f pf = .ok v) :
    applyField S rec d st pf = .ok (appendAt st idx (elemsOf v)) := by
  obtain ⟨hrep, hpk, hgrp⟩ := hr
  obtain ⟨hm, hmsg⟩ := packed_not_map_msg f.ty hpk
  have hh : hidden f idx st.cur = false := hidden_nogroup _ _ _ hgrp
  obtain ⟨xs, hx, hx2⟩ := current_repeated_list S d st idx f ht.2.1 hw hrep hm hmsg
  have hcl : curList st idx = xs := by
    unfold curList
    rcases hx2 hh with ⟨e1, e2⟩ | e1 <;> rw [e1]
    · exact e2.symm
  have hm' : (f.ty == PType.map) = false := by simpa using hm
  -- the list is visible (no oneof), so it is extended in place
  rw [applyField_commit S rec d st pf idx f ht, hv, bind_ok, hx]
  simp only [slotUpdate, hm', Bool.false_eq_true, if_false, map_ok, commit, hh, Bool.or_self, appendAt, hcl]

/-- the elements a sequence of records of one repeated field carries -/
def elemsOfRecs (S : Schema) (rec : Loader) (f : FieldD) : List PField → R (List Val)
  | [] => .ok []
  | pf :: pfs =>
    (decodeValue S rec f pf).bind fun v => (elemsOfRecs S rec f pfs).bind fun vs => .ok (elemsOf v ++ vs)

section Runs
variable (S : Schema) (rec : Loader) (d : MsgD)

theorem foldFields_repeated_from (idx : Nat) (f : FieldD)
    (hr : IsRepScalar f) (pfs : List PField) (hall : ∀ pf ∈ pfs, Targets d pf idx f)
    (st : MState) (hw : WfState d st) (a es : List Val) (he : elemsOfRecs S rec f pfs = .ok es) :
    foldFields S rec d (appendAt st idx a) pfs = .ok (appendAt st idx (a ++ es)) := by
  induction pfs generalizing a es with
  | nil => simp only [elemsOfRecs] at he; injection he with he; subst he; simp [foldFields]
  | cons pf pfs ih =>
    have ht := hall pf (by simp)
    have hf := ht.2.1
    have hl := idx_lt_of_wf d st idx f hf hw
    obtain ⟨v, hv, he⟩ := bind_inv he
    obtain ⟨vs, hrest, he⟩ := bind_inv he
    cases he
    rw [foldFields, applyField_repeated S rec d _ pf idx f v ht hr (wf_appendAt d st idx f a hf hr.1 hw) hv, bind_ok,
      appendAt_appendAt st idx a _ hl, ih (fun x hx => hall x (by simp [hx])) (a ++ elemsOf v) vs hrest,
      List.append_assoc]

theorem foldFields_repeated (idx : Nat) (f : FieldD)
    (hr : IsRepScalar f) (pfs : List PField) (hne : pfs ≠ []) (hall : ∀ pf ∈ pfs, Targets d pf idx f)
    (st : MState) (hw : WfState d st) (es : List Val) (he : elemsOfRecs S rec f pfs = .ok es) :
    foldFields S rec d st pfs = .ok (appendAt st idx es) := by
  cases pfs with
  | nil => exact absurd rfl hne
  | cons pf pfs =>
    have ht := hall pf (by simp)
    obtain ⟨v, hv, he⟩ := bind_inv he
    obtain ⟨vs, hrest, he⟩ := bind_inv he
    cases he
    rw [foldFields, applyField_repeated S rec d st pf idx f v ht hr hw hv, bind_ok]
    exact foldFields_repeated_from S rec d idx f hr pfs (fun x hx => hall x (by simp [hx])) st hw _ vs hrest

theorem applyField_singular (st st' : MState) (pf : PField) (idx : Nat)
    (f : FieldD) (v : Val) (ht : Targets d pf idx f) (hrep : f.repeated = false) (hm : f.ty ≠ .map)
    (hmsg : f.ty ≠ .message) (hw : WfState d st) (hv : decodeValue S rec f pf = .ok v)
    (h : applyField S rec d st pf = .ok st') : st'.slots.getD idx .ph = v := by
  have hf := ht.2.1
  have hsc := decodeValue_scalar S rec f pf v hrep ht.2.2 hm hmsg hv
  -- a singular scalar slot never holds a list, so the value is assigned
  have hnl : ∀ xs, current S d st idx f ≠ .list xs := by
    intro xs hc
    have hok := repOk_current S d st idx f hf hw
    have hm' : (f.ty == PType.map) = false := by simpa using hm
    have hmsg' : (f.ty == PType.message) = false := by simpa using hmsg
    simp [hc, repOk, hm', hmsg', hrep, isListVal] at hok
  rw [applyField_commit S rec d st pf idx f ht, hv, bind_ok] at h
  have hu : slotUpdate f (current S d st idx f) v = .ok (true, v) := by
    unfold slotUpdate
    rw [if_neg (by simpa using hm)]
    split
    · rename_i xs hc; exact absurd hc (hnl xs)
    · rfl
  rw [hu] at h
  cases h
  rw [commit_slots_getD S d st idx f _ hf (fun hc => by cases hc) idx]
  simp [idx_lt_of_wf d st idx f hf hw, scalarVal_stored S v hsc]

theorem applyField_selects (st st' : MState) (pf : PField) (idx : Nat)
    (f : FieldD) (g : Nat) (ht : Targets d pf idx f) (hg : f.group = some g) (hgl : g < st.cur.length)
    (h : applyField S rec d st pf = .ok st') : st'.cur.getD g Option.none = some idx := by
  rcases applyField_commit_ok S rec d st st' pf h with ⟨hu, _⟩ | ⟨idx', f', _, u, ht', _, _, rfl⟩
  · rw [targets_known d pf idx f ht] at hu; cases hu
  · obtain ⟨rfl⟩ : idx' = idx := Option.some.inj (ht'.1.symm.trans ht.1)
    obtain ⟨rfl⟩ : f' = f := Option.some.inj (ht'.2.1.symm.trans ht.2.1)
    rw [commit_cur_getD S d st idx f u ht.2.1 g, if_pos ⟨hg, hgl⟩]

end Runs

end Bp
