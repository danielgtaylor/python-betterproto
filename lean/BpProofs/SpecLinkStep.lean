import BpModel.All
import BpModel.Spec
import BpProofs.SpecLinkValue
/-
  C02, link between the model of betterproto and the spec-level decoder: one
  iteration of the loop of `Message.load` (`applyField`) against one `Spec.stepRec`, and
  the whole loop (`foldFields`) against `Spec.decodeRecs`.
-/
namespace Bp.Link
open Bp Gen

/-- the part of `Sim` that is about values (the typing part is kept by `applyField_typed`) -/
def SimCore (st : MState) (m : Spec.AbsMsg) : Prop :=
  nvs st.slots = nvs m.fields ∧ st.cur = m.sel ∧ ∀ k, m.fields.getD k .ph ≠ Val.none

theorem sameKey_nv (a b : Val) : Spec.sameKey (nv a) (nv b) = Spec.sameKey a b := by
  cases a with
  | int _ => cases b <;> rfl
  | bool _ => cases b <;> rfl
  | str _ => cases b <;> rfl
  | _ => rfl

/-- Python's `==` on dict keys (`1 == True`) is the spec's key equality on keys of one type:
    an `int` and a `bool` key never meet -/
theorem keyEq_eq_sameKey (t : PType) (y k : Val) (h1 : scalarTypedB false t y = true)
    (h2 : scalarTypedB false t k = true) : keyEq y k = Spec.sameKey y k := by
  cases y with
  | int _ =>
    cases k with
    | bool _ =>
      simp only [scalarTypedB, beq_iff_eq] at h2
      subst h2; cases h1
    | _ => rfl
  | bool _ =>
    cases k with
    | int _ =>
      simp only [scalarTypedB, beq_iff_eq] at h1
      subst h1; cases h2
    | _ => rfl
  | str _ => cases k <;> rfl
  | _ => rfl

theorem keyEq_sameKey (t : PType) (y k y' k' : Val) (h1 : scalarTypedB false t y = true)
    (h2 : scalarTypedB false t k = true) (e1 : nv y = nv y') (e2 : nv k = nv k') :
    keyEq y k = Spec.sameKey y' k' := by
  rw [keyEq_eq_sameKey t y k h1 h2, ← sameKey_nv y k, e1, e2, sameKey_nv]

theorem insert_sim (t : PType) (ks vs ks' vs' : List Val) (k x k' x' : Val)
    (hks : ∀ y ∈ ks, scalarTypedB false t y = true) (hk : scalarTypedB false t k = true)
    (e1 : nvs ks = nvs ks') (e2 : nvs vs = nvs vs') (e3 : nv k = nv k') (e4 : nv x = nv x') :
    nvs (dictInsert ks vs k x).1 = nvs (Spec.mapInsert ks' vs' k' x').1
    ∧ nvs (dictInsert ks vs k x).2 = nvs (Spec.mapInsert ks' vs' k' x').2 := by
  induction ks generalizing vs ks' vs' with
  | nil =>
    cases ks' with
    | nil => simp [dictInsert, Spec.mapInsert, nvs, e3, e4]
    | cons _ _ => simp [nvs] at e1
  | cons y ks ih =>
    cases ks' with
    | nil => simp [nvs] at e1
    | cons y' ks' =>
      simp only [nvs, List.cons.injEq] at e1
      cases vs with
      | nil =>
        cases vs' with
        | nil => simp [dictInsert, Spec.mapInsert, nvs, e3, e4]
        | cons _ _ => simp [nvs] at e2
      | cons z vs =>
        cases vs' with
        | nil => simp [nvs] at e2
        | cons z' vs' =>
          simp only [nvs, List.cons.injEq] at e2
          have hkey := keyEq_sameKey t y k y' k' (hks y (by simp)) hk e1.1 e3
          rw [dictInsert_cons, Spec.mapInsert, hkey]
          by_cases hs : Spec.sameKey y' k' = true
          · simp [hs, nvs, e1.1, e1.2, e2.2, e4]
          · have := ih vs ks' vs' (fun q hq => hks q (by simp [hq])) e1.2 e2.2
            simp [hs, nvs, e1.1, e2.1, this.1, this.2]

theorem items_all (S : Schema) (g : FieldD) (hg : g.ty ≠ .message) (ks : List Val)
    (h : itemsTypedB false S g ks = true) : ∀ y ∈ ks, scalarTypedB false g.ty y = true := by
  induction ks with
  | nil => intro y hy; simp at hy
  | cons x xs ih =>
    rw [items_cons, Bool.and_eq_true] at h
    intro y hy
    simp at hy
    rcases hy with rfl | hy
    · exact item_scalar false S g _ hg h.1
    · exact ih h.2 y hy

theorem stepRec_unknown (S : Schema) (sub : Spec.SubDecoder) (d : MsgD) (m : Spec.AbsMsg) (r : Spec.WireRec)
    (h : Spec.lookupNum d.fields 0 r.num = none) : Spec.stepRec S sub d m r = m := by
  unfold Spec.stepRec; rw [h]

theorem stepRec_known (S : Schema) (sub : Spec.SubDecoder) (d : MsgD) (m : Spec.AbsMsg) (r : Spec.WireRec)
    (idx : Nat) (f : FieldD) (h : Spec.lookupNum d.fields 0 r.num = some (idx, f)) :
    Spec.stepRec S sub d m r =
      if f.ty == .map then
        if r.wt = 2 then
          match sub 0 (entryD f) r.payload with
          | some e =>
            Spec.insertEntry m idx (Spec.orDefault S (scalarDef f.mapK) (e.fields.getD 0 .ph))
              (Spec.orDefault S (Spec.entryKind f) (e.fields.getD 1 .ph))
          | none => m
        else m
      else if f.repeated then
        if r.wt = Spec.wireTypeOf f.ty then
          match Spec.valueOf S sub f r with
          | some v => Spec.appendAll m idx [v]
          | none => m
        else if r.wt = 2 && Spec.packable f.ty then
          match Spec.unpackElems f.ty (r.payload.length + 1) r.payload with
          | some vs => Spec.appendAll m idx vs
          | none => m
        else m
      else if r.wt = Spec.wireTypeOf f.ty then
        match Spec.valueOf S sub f r with
        | some v => Spec.put m d.fields idx f v
        | none => m
      else m := by
  unfold Spec.stepRec; rw [h]
  rfl

section Store
variable (S : Schema) (sub : Spec.SubDecoder) (d : MsgD)

theorem stepRec_unfit (m : Spec.AbsMsg) (r : Spec.WireRec)
    (idx : Nat) (f : FieldD) (h : Spec.lookupNum d.fields 0 r.num = some (idx, f)) (hfit : ¬ wireFits f r.wt = true) :
    Spec.stepRec S sub d m r = m := by
  have hnf := fun hc => hfit ((wireFits_iff f r.wt).2 hc)
  have h1 : ¬ r.wt = Spec.wireTypeOf f.ty := fun hc => hnf (Or.inl hc)
  rw [stepRec_known S sub d m r idx f h]
  by_cases hm : f.ty = .map
  · have : ¬ r.wt = 2 := fun hc => h1 (by rw [hc, hm]; rfl)
    simp [hm, this]
  · have hm' : (f.ty == PType.map) = false := by simpa using hm
    simp only [hm', Bool.false_eq_true, if_false, h1]
    cases hrep : f.repeated with
    | true =>
      have : (decide (r.wt = 2) && Spec.packable f.ty) = false := by
        cases hp : Spec.packable f.ty with
        | false => simp
        | true =>
          have : ¬ r.wt = 2 := fun hc => hnf (Or.inr ⟨hc, hp, hrep⟩)
          simp [this]
      simp [this]
    | false => simp

/-- the spec ignores what the model keeps as an unknown field: an undeclared number, or a wire
    type that does not fit the declared type -/
theorem stepRec_ignored (hd : DistinctNums d.fields) (m : Spec.AbsMsg) (pf : PField)
    (hu : isUnknownField d pf = true) : Spec.stepRec S sub d m (toRec pf) = m := by
  have hlook := lookupNum_eq d.fields hd pf.num
  unfold isUnknownField at hu
  cases hfind : findField d.fields pf.num with
  | none => rw [hfind] at hlook; exact stepRec_unknown S sub d m _ hlook
  | some idx =>
    rw [hfind] at hlook hu
    simp only at hlook hu
    cases hfi : d.fields[idx]? with
    | none => rw [hfi] at hu; cases hu
    | some f =>
      rw [hfi] at hlook hu
      have hnf : ¬ wireFits f pf.wt = true := by simpa using hu
      exact stepRec_unfit S sub d m _ idx f hlook hnf

/-- a field outside every oneof is always visible: `getattr` materialises, the store is in place -/
theorem current_nogroup (st : MState) (idx : Nat) (f : FieldD) (hf : d.fields[idx]? = some f)
    (hgn : f.group = Option.none) (hl : idx < st.slots.length) :
    current S d st idx f = materialize S f (st.slots.getD idx .ph) := by
  rw [current_eq S d st idx f hf, if_pos hl]
  simp [hidden, hgn]

theorem commit_nogroup (st : MState) (idx : Nat) (f : FieldD) (y : Val) (hgn : f.group = Option.none) :
    commit S d st idx f (false, y) = { st with slots := setAt st.slots idx y } := by
  simp [commit, hidden, hgn]

theorem idx_lt {S : Schema} {d : MsgD} {st : MState} {m : Spec.AbsMsg} (hsim : Sim S d st m) (idx : Nat)
    (f : FieldD) (hf : d.fields[idx]? = some f) : idx < st.slots.length ∧ idx < m.fields.length := by
  have := (List.getElem?_eq_some_iff.mp hf).1
  have hl := hsim.len
  omega

theorem Sim.ph {S : Schema} {d : MsgD} {st : MState} {m : Spec.AbsMsg} (hsim : Sim S d st m) (idx : Nat)
    (h : st.slots.getD idx .ph = .ph) : m.fields.getD idx .ph = .ph := by
  have hab := hsim.getD idx
  rw [h] at hab
  rcases (nv_eq_ph _).1 hab.symm with h | h
  · exact h
  · exact absurd h (hsim.nonone idx)

theorem simCore_set {S : Schema} {d : MsgD} {st : MState} {m : Spec.AbsMsg} (hsim : Sim S d st m) (idx : Nat)
    (x x' : Val) (e : nv x = nv x') (hx : x' ≠ .none) :
    SimCore { st with slots := setAt st.slots idx x } { m with fields := m.fields.set idx x' } := by
  refine ⟨?_, hsim.sel, ?_⟩
  · show nvs (setAt st.slots idx x) = nvs (m.fields.set idx x')
    simp only [setAt, nvs_set, hsim.slots, e]
  · intro j
    show (m.fields.set idx x').getD j .ph ≠ _
    rw [set_getD]
    split
    · exact hx
    · exact hsim.nonone j

theorem store_map (st : MState) (m : Spec.AbsMsg) (idx : Nat) (f : FieldD)
    (k x k' x' : Val) (u : Bool × Val) (hsim : Sim S d st m) (hf : d.fields[idx]? = some f)
    (hty : f.ty = .map) (hgn : f.group = Option.none)
    (hks : isScalarTy f.mapK = true) (hkt : itemsTypedB false S (keyFieldOf f) [k] = true)
    (ek : nv k = nv k') (ex : nv x = nv x')
    (hu : slotUpdate f (current S d st idx f) (.dict [k] [x]) = .ok u) :
    SimCore (commit S d st idx f u) (Spec.insertEntry m idx k' x') := by
  obtain ⟨hi1, hi2⟩ := idx_lt hsim idx f hf
  have hab := hsim.getD idx
  have hkm : (keyFieldOf f).ty ≠ .message := by
    unfold isScalarTy at hks
    simp only [Bool.and_eq_true, bne_iff_ne, ne_eq] at hks
    exact hks.1
  rw [current_nogroup S d st idx f hf hgn hi1] at hu
  rcases slotUpdate_ok_cases f _ _ u hu with ⟨_, ks, vs, k0, x0, hcur, hval, rfl⟩ | ⟨hnm, _⟩ | ⟨hnm, _⟩
  · injection hval with hk0 hx0
    injection hk0 with hk0 _
    injection hx0 with hx0 _
    subst hk0; subst hx0
    rw [commit_nogroup S d st idx f _ hgn]
    unfold Spec.insertEntry
    by_cases hph : st.slots.getD idx .ph = .ph
    · -- first entry
      rw [hph] at hcur
      have hdef : defaultOf S f = .dict [] [] ∨ ∃ l, defaultOf S f = .list l := by
        simp only [defaultOf, FieldD.defKind, hty, beq_self_eq_true, if_true]
        split
        · right; exact ⟨[], rfl⟩
        · left; rfl
      simp only [materialize] at hcur
      have hnil : ks = [] ∧ vs = [] := by
        rcases hdef with h | ⟨l, h⟩
        · rw [h] at hcur; injection hcur with a b; exact ⟨a.symm, b.symm⟩
        · rw [h] at hcur; simp at hcur
      obtain ⟨rfl, rfl⟩ := hnil
      rw [hsim.ph idx hph]
      exact simCore_set hsim idx _ _ (by simp only [dictInsert, nv, nvs, ek, ex]) (by simp)
    · -- a later entry
      have hslot := slotsTyped_getD false S _ _ idx f hsim.typed.2 hf
      rw [materialize_of_ne_ph S f hph] at hcur
      rw [hcur] at hab hslot
      obtain ⟨ks', vs', hb', eks, evs⟩ := nv_dict_inv _ _ _ hab.symm
      rw [slotTypedB] at hslot
      simp only [Bool.and_eq_true] at hslot
      have hkeys := items_all S (keyFieldOf f) hkm ks hslot.1.2
      have hknew := item_scalar false S (keyFieldOf f) k hkm hkt
      have hins := insert_sim f.mapK ks vs ks' vs' k x k' x' hkeys hknew eks.symm evs.symm ek ex
      rw [hb']
      exact simCore_set hsim idx _ _ (by simp only [nv, hins.1, hins.2]) (by simp)
  · exact absurd hty hnm
  · exact absurd hty hnm

theorem store_rep (st : MState) (m : Spec.AbsMsg) (idx : Nat) (f : FieldD)
    (v : Val) (es es' : List Val) (u : Bool × Val) (hsim : Sim S d st m) (hf : d.fields[idx]? = some f)
    (hw : wfFieldB S.length f = true)
    (hmap : f.ty ≠ .map) (hrep : f.repeated = true) (hgn : f.group = Option.none)
    (hv : (v = .list es) ∨ ((∀ ys, v ≠ .list ys) ∧ es = [v]))
    (ee : nvs es = nvs es')
    (hu : slotUpdate f (current S d st idx f) v = .ok u) :
    SimCore (commit S d st idx f u) (Spec.appendAll m idx es') := by
  obtain ⟨hi1, _⟩ := idx_lt hsim idx f hf
  have hab := hsim.getD idx
  have hel : elemsOf v = es := by
    rcases hv with rfl | ⟨hnl, rfl⟩
    · rfl
    · cases v with
      | list ys => exact absurd rfl (hnl ys)
      | _ => rfl
  obtain ⟨xs, hxs⟩ := current_list false S d st idx f hf hw hsim.typed hrep
  rcases slotUpdate_ok_cases f _ v u hu with ⟨hm, _⟩ | ⟨_, xs', hc, rfl⟩ | ⟨_, hnl, _⟩
  · exact absurd hm hmap
  · rw [hc] at hxs; injection hxs with hxs; subst hxs
    rw [current_nogroup S d st idx f hf hgn hi1] at hc
    rw [commit_nogroup S d st idx f _ hgn, hel]
    unfold Spec.appendAll
    by_cases hph : st.slots.getD idx .ph = .ph
    · rw [hph] at hc
      have : xs' = [] := by
        simp [materialize, defaultOf_repeated S f hrep] at hc
        exact hc
      subst this
      rw [hsim.ph idx hph]
      exact simCore_set hsim idx _ _ (by simp only [nv, List.nil_append, ee]) (by simp)
    · rw [materialize_of_ne_ph S f hph] at hc
      rw [hc] at hab
      obtain ⟨xs'', hb', exs⟩ := nv_list_inv _ _ hab.symm
      rw [hb']
      exact simCore_set hsim idx _ _ (by simp only [nv, nvs_append, exs, ee]) (by simp)
  · exact absurd hxs (hnl xs)

/-- `__setattr__` against the spec's `put`: the value goes in, the siblings of a oneof member
    are cleared, the member is selected -/
theorem setAttr_put {st : MState} {m : Spec.AbsMsg} (hsim : Sim S d st m) (idx : Nat)
    (f : FieldD) (v v' : Val) (hf : d.fields[idx]? = some f) (env : nv (storedVal S v) = nv v') (hvn : v' ≠ .none) :
    SimCore (setAttr S d.fields st idx v) (Spec.put m d.fields idx f v') := by
  obtain ⟨hi1, hi2⟩ := idx_lt hsim idx f hf
  unfold Spec.put
  cases hgr : f.group with
  | none =>
    rw [setAttr_eq, hf]; simp only [hgr]
    exact simCore_set hsim idx _ v' env hvn
  | some g =>
    refine ⟨?_, ?_, ?_⟩
    · apply nvs_ext
      · simp only [List.length_set, clearGroup_length, setAttr_slots_length]
        have := hsim.len
        omega
      · intro k
        rw [setAttr_slots_getD S d.fields st idx v f hf k, set_getD, clearGroup_length, clearGroup_getD, hgr]
        by_cases hk : k = idx
        · simp [hk, hi1, hi2, env]
        · by_cases hgk : grp d.fields k = some g
          · simp [hk, hgk]
          · simp only [hk, hgk, false_and, and_false, if_false]
            exact hsim.getD k
    · show (setAttr S d.fields st idx v).cur = m.sel.set g (some idx)
      rw [setAttr_eq, hf]; simp only [hgr, hsim.sel]
    · intro j
      show ((Spec.clearGroup g d.fields m.fields).set idx v').getD j .ph ≠ _
      rw [set_getD, clearGroup_getD]
      split
      · exact hvn
      · split
        · simp
        · exact hsim.nonone j

theorem store_sing (st : MState) (m : Spec.AbsMsg) (idx : Nat) (f : FieldD)
    (v v' : Val) (u : Bool × Val) (hsim : Sim S d st m) (hf : d.fields[idx]? = some f)
    (hw : wfFieldB S.length f = true)
    (hmap : f.ty ≠ .map) (hrep : f.repeated = false)
    (hg : GoodVal S v v')
    (hu : slotUpdate f (current S d st idx f) v = .ok u) :
    SimCore (commit S d st idx f u) (Spec.put m d.fields idx f v') := by
  obtain ⟨env, hvn, _, hsv⟩ := hg
  have hcur := current_typed false S d st idx f hf hw hsim.typed
  rcases slotUpdate_ok_cases f _ v u hu with ⟨hm, _⟩ | ⟨_, xs, hc, _⟩ | ⟨_, _, rfl⟩
  · exact absurd hm hmap
  · -- the slot of a singular field holds no list
    rw [hc, slotTypedB, hrep] at hcur
    simp at hcur
  · simp only [commit, Bool.true_or, if_true]
    exact setAttr_put S d hsim idx f v v' hf (by rw [hsv]; exact env) hvn

theorem subDesc_good (hS : GoodSchema S) (f : FieldD) (hw : wfFieldB S.length f = true)
    (hg : goodFieldB f = true) (d' : MsgD) (h : subDesc S f = some d') : GoodD S d' := by
  rcases subDesc_cases S f d' h with ⟨hm, rfl⟩ | ⟨hmsg, w, hwr, rfl⟩ | ⟨_, _, c, _, hc⟩ | ⟨_, _, _, rfl⟩
  · exact goodD_entry S f hw hm
  · cases hk : f.kind with
    | user c => exact goodD_wrapper S w (wfField_wrap hw c w hmsg hk hwr)
    | timestamp => simp [goodFieldB, hmsg, hwr, hk] at hg
    | duration => simp [goodFieldB, hmsg, hwr, hk] at hg
  · exact goodSchema_class S hS c d' hc
  · exact goodD_secNanos S

end Store

theorem step_sim (S : Schema) (rec : Loader) (sub : Spec.SubDecoder) (nb : MsgD → Bytes → Bool)
    (hrecT : LoaderOk false S rec) (hS : GoodSchema S) (d : MsgD) (hd : GoodD S d)
    (st st' : MState) (m : Spec.AbsMsg) (pf : PField)
    (hsub : SubSim S rec sub nb pf.payload) (h64 : pf.vint < 2 ^ 64)
    (hnarU : narrowFieldU S nb d pf = true)
    (hsim : Sim S d st m) (h : applyField S rec d st pf = .ok st') :
    Sim S d st' (Spec.stepRec S sub d m (toRec pf)) := by
  have hST := goodSchema_wf S hS
  have htyped := applyField_typed false S rec hrecT hST d hd.1 st st' pf (by simp) hsim.typed h
  suffices hc : SimCore st' (Spec.stepRec S sub d m (toRec pf)) from ⟨htyped, hc.1, hc.2.1, hc.2.2⟩
  rcases applyField_commit_ok S rec d st st' pf h with ⟨hunk, rfl⟩ | ⟨idx, f, v, u, ht, hv, hu, rfl⟩
  · rw [stepRec_ignored S sub d hd.2.1 m pf hunk]
    exact ⟨hsim.slots, hsim.sel, hsim.nonone⟩
  obtain ⟨hfind, hfi, hfit⟩ := ht
  have hlook : Spec.lookupNum d.fields 0 (toRec pf).num = some (idx, f) := by
    have := lookupNum_eq d.fields hd.2.1 pf.num
    rw [hfind] at this
    simp only [hfi, Option.map_some] at this
    exact this
  have hw := hd.1 f (List.mem_of_getElem? hfi)
  have hg := hd.2.2 f (List.mem_of_getElem? hfi)
  rw [stepRec_known S sub d m _ idx f hlook]
  have hrwt : (toRec pf).wt = pf.wt := rfl
  have hrpl : (toRec pf).payload = pf.payload := rfl
  rw [hrwt, hrpl]
  -- the record is known to the class, so the guard speaks about it
  have hnar : narrowField S nb d pf = true := by
    have hk : isUnknownField d pf = false := by simp [isUnknownField, hfind, hfi, hfit]
    rw [narrowFieldU, hk, Bool.false_or] at hnarU
    exact hnarU
  obtain ⟨hn0, hn2⟩ := (narrowField_iff S nb d pf idx f hfind hfi).1 hnar
  have hvt := decodeValue_typed false S rec hrecT hST f pf v hw hfit (by simp) hv
  have hfit' := (wireFits_iff f pf.wt).1 hfit
  -- the nested decoders agree on this payload
  have hsubok : pf.wt = 2 → SubOk S rec sub f pf.payload := by
    intro hwt
    have hnl := hn2 hwt
    exact ⟨fun c d' st'' hd' hr =>
      hsub c d' st'' (subDesc_good S hS f hw hg d' hd') (hnl.2 d' hd') hr⟩
  by_cases hm : f.ty = .map
  · -- map entry
    have hwt : pf.wt = 2 := by
      rcases hfit' with h1 | h1
      · rw [h1, hm]; rfl
      · exact h1.1
    have hgn : f.group = Option.none := by
      unfold goodFieldB at hg
      simp only [hm, beq_self_eq_true, Bool.or_true, Bool.not_true, Bool.false_or, Bool.and_eq_true] at hg
      simpa using hg.1
    obtain ⟨k, x, e, hvd, hse, ek, ex, _, _⟩ := entry_sim S rec sub f pf v hw (hsubok hwt) hwt hm hv
    subst hvd
    simp only [hm, beq_self_eq_true, if_true, hwt, hse]
    have hkt : itemsTypedB false S (keyFieldOf f) [k] = true := by
      simp only [decodedOkB, Bool.and_eq_true] at hvt
      exact hvt.1.2
    exact store_map S d st m idx f k x _ _ u hsim hfi hm hgn (wfField_map hw hm).1 hkt ek ex hu
  · have hm' : (f.ty == PType.map) = false := by simpa using hm
    simp only [hm', Bool.false_eq_true, if_false]
    cases hrep : f.repeated with
    | true =>
      simp only [if_true]
      have hgn : f.group = Option.none := by
        unfold goodFieldB at hg
        simp only [hrep, Bool.true_or, Bool.not_true, Bool.false_or, Bool.and_eq_true] at hg
        simpa using hg.1
      by_cases hown : pf.wt = Spec.wireTypeOf f.ty
      · -- one element
        obtain ⟨v', hv1, hv2⟩ := value_sim S rec sub f pf v hw hg hsubok h64 hn0 hown hm hv
        simp only [hown, if_true, hv1]
        exact store_rep S d st m idx f v [v] [v'] u hsim hfi hw hm hrep hgn
          (Or.inr ⟨hv2.2.2.1, rfl⟩) (by simp [nvs, hv2.1]) hu
      · -- one packed chunk
        rcases hfit' with h1 | ⟨h1, h2, _⟩
        · exact absurd h1 hown
        · have hp : isPacked f.ty = true := by rw [isPacked_packable]; exact h2
          have hnl := hn2 h1
          obtain ⟨vs, vs', hvl, hu', evs⟩ := chunk_sim S rec f pf v hp h1 hnl.1 hv
          have hown' : ¬ 2 = Spec.wireTypeOf f.ty := by rw [← h1]; exact hown
          simp only [h1, hown', if_false, h2, decide_true, Bool.and_self, if_true, hu']
          exact store_rep S d st m idx f v vs vs' u hsim hfi hw hm hrep hgn (Or.inl hvl) evs hu
    | false =>
      simp only [Bool.false_eq_true, if_false]
      have hown : pf.wt = Spec.wireTypeOf f.ty := by
        rcases hfit' with h1 | ⟨_, _, h3⟩
        · exact h1
        · rw [hrep] at h3; simp at h3
      obtain ⟨v', hv1, hv2⟩ := value_sim S rec sub f pf v hw hg hsubok h64 hn0 hown hm hv
      simp only [hown, if_true, hv1]
      exact store_sing S d st m idx f v v' u hsim hfi hw hm hrep hv2 hu

theorem fold_sim (S : Schema) (rec : Loader) (sub : Spec.SubDecoder) (nb : MsgD → Bytes → Bool)
    (hrecT : LoaderOk false S rec) (hS : GoodSchema S) (d : MsgD) (hd : GoodD S d)
    (pfs : List PField)
    (hall : ∀ pf ∈ pfs, SubSim S rec sub nb pf.payload ∧ pf.vint < 2 ^ 64 ∧ narrowFieldU S nb d pf = true)
    (st st' : MState) (m : Spec.AbsMsg)
    (hsim : Sim S d st m) (h : foldFields S rec d st pfs = .ok st') :
    Sim S d st' ((pfs.map toRec).foldl (Spec.stepRec S sub d) m) := by
  induction pfs generalizing st m with
  | nil => cases h; exact hsim
  | cons pf pfs ih =>
    obtain ⟨s1, ha, h⟩ := bind_inv h
    obtain ⟨h1, h2, h3⟩ := hall pf List.mem_cons_self
    have hs1 := step_sim S rec sub nb hrecT hS d hd st s1 m pf h1 h2 h3 hsim ha
    simp only [List.map_cons, List.foldl_cons]
    exact ih (fun x hx => hall x (List.mem_cons_of_mem _ hx)) s1 _ hs1 h

end Bp.Link
