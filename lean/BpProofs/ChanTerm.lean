import BpProofs.ChanStep
/-
  Termination of the AsyncChannel model: a measure `mu : Sys → Nat` that every enabled scheduler
  step strictly decreases in every reachable state.  Hence every schedule of enabled choices is
  finite (no fairness assumption is needed for "eventually quiescent").
  `micro_step` walks the cases of `micro` once, for the invariant of ChanInv.lean and for the measure.

  The measure is a weighted sum:
    * per live task: 1 if it holds a ready handle (ready / woken / cancelled future), 0 if it is
      suspended on a pending future; +1 for a `_must_cancel` flag; plus what its program can
      still do: 4 per item still to put (sender, flusher), 3 for a future `close()`, 2 for a
      future `cancel()`, 2 for a receiver on which no `wait_for` timer has fired (timed or not), 1 for a flusher that
      has not started;
    * 2 per queued item;
    * 4 per live receiver while the channel is not flushed (the sentinels the flush may owe).
  Who pays what: a `put` spends the 4 of its item (2 stay with the queued item, 1 goes to the getter it may wake, 1 is
  the decrease); a `get` spends the item's 2 (1 to the putter it may wake); `close()` spends 3 (2 for the new flusher
  task), `cancel()` and a timer 2 (1 for the flag or handle of the target); the starting flusher spends its 1 and
  turns the receivers' 4 into 4 per sentinel owed; finishing, suspending and a delivered CancelledError spend the handle.
  The statements say it with two relations: `Costs k s s'` (at most `k` more: `wake_costs`, `doClose_costs`,
  `cancelTask_costs`) and `Spare j s s'` (less, with `j` units still unspent: what the task's own move leaves for the
  wake-up, `doClose` or `cancel` that follows it, `Spare.then`); a whole action is `Spare 0`.
-/
namespace Bp.Chan

def wWait : Wait → Nat
  | .ready => 1
  | .blocked _ .pending => 0
  | .blocked _ .woken => 1
  | .blocked _ .cancelled => 1
  | .done => 0

def wCode (timedOut : Bool) : Code → Nat
  | .sender _ _ r cl => 4 * r + (if cl then 3 else 0)
  | .receiver _ => if timedOut then 0 else 2
  | .closer => 3
  | .canceller _ => 2
  | .flusher none => 1
  | .flusher (some r) => 4 * r

/-- weight of one task -/
def wt (x : Task) : Nat :=
  if x.wait = .done then 0 else wWait x.wait + (if x.mustCancel then 1 else 0) + wCode x.timedOut x.code

/-- a receiver that has not finished -/
def mNR (x : Task) : Nat := if x.code.isReceiver = true ∧ x.wait ≠ .done then 1 else 0

def mu (s : Sys) : Nat :=
  tsum wt s.tasks + 2 * s.queue.length + (if s.flushed then 0 else 4 * tsum mNR s.tasks)

/- the extra invariant `PutOk`: only a task with something to put is ever inside `Queue.put()` -/

def canPut : Code → Bool
  | .sender _ _ (_ + 1) _ => true
  | .flusher (some (_ + 1)) => true
  | _ => false

def Wait.inPut : Wait → Bool
  | .blocked false _ => true
  | _ => false

def POk (ts : List Task) : Prop :=
  ∀ (t : Nat) (x : Task), ts[t]? = some x → x.wait.inPut = true → canPut x.code = true

def PutOk (s : Sys) : Prop := POk s.tasks

/-- the reachable-state hypothesis of the termination theorems -/
structure TInv (s : Sys) : Prop where
  inv : Inv s
  put : PutOk s

@[simp] theorem Wait.inPut_blocked (g : Bool) (f : Fut) : (Wait.blocked g f).inPut = !g := by cases g <;> rfl

theorem putOk_set {s s2 : Sys} {t : Nat} {x' : Task} (h : PutOk s) (ht : s2.tasks = s.tasks.set t x')
    (hx' : x'.wait.inPut = true → canPut x'.code = true) : PutOk s2 := by
  unfold PutOk; rw [ht]; exact forall_set h hx'

theorem pOk_append {ts : List Task} {y : Task} (h : POk ts) (hy : y.wait.inPut = false) : POk (ts ++ [y]) := by
  intro u z hz hw
  rcases getElem?_snoc hz with hz | rfl
  · exact h u z hz hw
  · rw [hy] at hw; cases hw

theorem canPut_cases {c : Code} (h : canPut c = true) :
    (∃ m nx r cl, c = .sender m nx (r + 1) cl) ∨ (∃ r, c = .flusher (some (r + 1))) := by
  cases c with
  | sender m nx r cl => cases r with
    | zero => simp [canPut] at h
    | succ r => exact Or.inl ⟨m, nx, r, cl, rfl⟩
  | flusher r => cases r with
    | none => simp [canPut] at h
    | some r => cases r with
      | zero => simp [canPut] at h
      | succ r => exact Or.inr ⟨r, rfl⟩
  | receiver _ => simp [canPut] at h
  | closer => simp [canPut] at h
  | canceller _ => simp [canPut] at h

/-- a fired timer only lowers what the program can still do -/
theorem wCode_or_le (b b' : Bool) (c : Code) : wCode (b || b') c ≤ wCode b c := by
  cases c with
  | receiver _ => cases b <;> cases b' <;> simp [wCode]
  | flusher r => cases r <;> exact Nat.le_refl _
  | _ => exact Nat.le_refl _

theorem inGet_le_NR {s : Sys} (hI : Inv s) : s.waiting ≤ tsum mNR s.tasks := by
  have e := hI.nm.waitingEq
  simp only [abs] at e
  rw [e]
  apply tsum_le_of
  intro t x hx
  unfold mInGet mNR
  by_cases hi : x.wait.inGet = true
  · have hr := hI.st.getRecv t x hx hi
    have : x.wait ≠ .done := by intro hd; rw [hd] at hi; simp [Wait.inGet] at hi
    simp [hi, hr, this]
  · simp [hi]

/-- going from `s` to `s'` keeps `PutOk` and raises the measure by at most `k` -/
def Costs (k : Nat) (s s' : Sys) : Prop := (PutOk s → PutOk s') ∧ mu s' ≤ mu s + k

/-- `s'` is `s` part of the way through a step: `PutOk` is kept and `j` units of the measure are still unspent,
    for the wake-up, `doClose` or `cancel` that follows -/
def Spare (j : Nat) (s s' : Sys) : Prop := PutOk s → PutOk s' ∧ mu s' + j < mu s

theorem Spare.then {j k : Nat} {s s' s'' : Sys} (h : Spare (j + k) s s') (c : Costs k s' s'') : Spare j s s'' := fun hP =>
  ⟨c.1 (h hP).1, by have := c.2; have := (h hP).2; omega⟩

section
/- `s2` is `s` with the record `x` of task `t` rewritten to `x'`; the queue may have changed as well, `_flushed` has not -/
variable {j k : Nat} {s s2 : Sys} {t : Nat} {x x' : Task} (hx : s.tasks[t]? = some x) (ht : s2.tasks = s.tasks.set t x')
  (hf : s2.flushed = s.flushed) (hN : mNR x' ≤ mNR x)
include hx ht hf hN

theorem mu_set : mu s2 + wt x + 2 * s.queue.length ≤ mu s + wt x' + 2 * s2.queue.length := by
  have a := tsum_set wt x' hx
  have b := tsum_set mNR x' hx
  unfold mu
  rw [ht, hf]
  cases s.flushed <;> simp only [Bool.false_eq_true, if_false, if_true] <;> omega

theorem mu_set_lt (hw : wt x' + 2 * s2.queue.length + j < wt x + 2 * s.queue.length) : mu s2 + j < mu s := by
  have := mu_set hx ht hf hN; omega

theorem Costs.set
    (hp : (x.wait.inPut = true → canPut x.code = true) → x'.wait.inPut = true → canPut x'.code = true)
    (hw : wt x' + 2 * s2.queue.length ≤ wt x + 2 * s.queue.length + k) : Costs k s s2 :=
  ⟨fun hP => putOk_set hP ht (hp (hP t x hx)), by have := mu_set hx ht hf hN; omega⟩

theorem Spare.set (hp : x'.wait.inPut = true → canPut x'.code = true)
    (hw : wt x' + 2 * s2.queue.length + j < wt x + 2 * s.queue.length) : Spare j s s2 := fun hP =>
  ⟨putOk_set hP ht hp, mu_set_lt hx ht hf hN hw⟩

end

/-- a wake-up gives the woken task a handle -/
theorem wake_costs (g : Bool) (s : Sys) : Costs 1 s (wake g s) := by
  obtain ⟨_, hB⟩ := wakeNext_spec g (s.dq g) s.tasks
  rcases hB with ⟨h1, _⟩ | ⟨u, y, _, hy, hp, h4, _⟩
  · exact ⟨fun hP => by unfold PutOk; rw [wake_tasks, h1]; exact hP,
      by unfold mu; rw [wake_tasks, wake_queue, wake_flushed, h1]; omega⟩
  · exact Costs.set (x' := { y with wait := .blocked g .woken }) hy (by rw [wake_tasks, h4]) (wake_flushed g s)
      (by simp [mNR, hp]) (fun h hi => h (by simpa [hp] using hi)) (by simp [wt, hp, wWait]; omega)

/-- `close()` starts a `_flush_queue` task: its handle and its first step -/
theorem doClose_costs (s : Sys) : Costs 2 s (doClose s) := by
  refine ⟨fun hP => pOk_append hP (by decide), ?_⟩
  unfold mu doClose
  simp only [tsum_append, tsum]
  have e1 : wt flusherTask = 2 := by decide
  have e2 : mNR flusherTask = 0 := by decide
  rw [e1, e2]
  cases s.flushed <;> simp only [Bool.false_eq_true, if_false, if_true] <;> omega

/-- a cancellation turns a pending future into a done one or sets `_must_cancel`: one unit either way -/
theorem cancelTask_costs (s : Sys) (tgt : Nat) (timer : Bool) : Costs 1 s (cancelTask s tgt timer) := by
  have miss : Costs 1 s s := ⟨id, Nat.le_succ _⟩
  unfold cancelTask
  cases hy : s.tasks[tgt]? with
  | none => exact miss
  | some y =>
    have hc := wCode_or_le y.timedOut timer y.code
    simp only
    split
    · exact miss
    · split
      · exact miss
      · rename_i g hw
        refine Costs.set hy rfl rfl (by simp [mNR, hw]) (fun h hi => h (by simpa [hw] using hi)) ?_
        simp [wt, hw, wWait, Sys.setTask]
        omega
      · rename_i hnd _
        refine Costs.set hy rfl rfl (by simp [mNR]) id ?_
        simp [wt, if_neg hnd, Sys.setTask]
        omega

/-- a `wait_for` timer fires at most once: firing it pays for the cancellation it causes -/
theorem mu_fire {s : Sys} {t : Nat} (hl : timerLive s t = true) : mu (cancelTask s t true) < mu s := by
  unfold timerLive at hl
  unfold cancelTask
  cases hy : s.tasks[t]? with
  | none => simp [hy] at hl
  | some y =>
    simp only [hy, Bool.and_eq_true, Bool.not_eq_true'] at hl
    obtain ⟨⟨hc, hw⟩, hto⟩ := hl
    have hcode : y.code = .receiver true := by
      cases hcd : y.code with
      | receiver tm => cases tm <;> simp_all
      | _ => simp_all
    simp only [hcode, Code.isFlusher, Bool.false_eq_true, if_false]
    cases hwt : y.wait with
    | done => simp [hwt] at hw
    | ready => simp [hwt] at hw
    | blocked g f =>
      -- the timer's 2 units pay for the handle a pending future gets, or for the `_must_cancel` flag
      cases f with
      | pending | woken | cancelled =>
        simp only
        refine mu_set_lt (j := 0) hy rfl rfl (by simp [mNR, hwt, hcode]) ?_
        simp only [wt, hwt, Sys.setTask, hcode, hto]
        cases y.mustCancel <;> simp [wCode, wWait]

section
/- what the composite actions of task `t`, whose record is `x`, leave of the measure -/
variable {s : Sys} {t : Nat} {x : Task} (hx : s.tasks[t]? = some x)
include hx

/-- finishing, with whatever bookkeeping outside the task table and the queue, frees the whole weight of the task -/
theorem term_finish {j : Nat} {s2 : Sys} (o : Outcome)
    (ht : s2.tasks = (finish s t x o).tasks) (hq : s2.queue = s.queue) (hf : s2.flushed = s.flushed) (hj : j < wt x) :
    Spare j s s2 := by
  refine Spare.set hx ht hf (by simp [mNR]) (by simp [Wait.inPut]) ?_
  rw [hq, show wt { x with wait := .done, out := o } = 0 by simp [wt]]
  omega

theorem term_cancelBranch (g : Bool) (f : Fut)
    (hwx : (f = .cancelled ∧ x.wait = .blocked g .cancelled) ∨
           (f = .woken ∧ x.wait = .blocked g .woken ∧ x.mustCancel = true)) :
    Spare 0 s (cancelBranch s t x g f) := by
  have afterBookkeeping : ∀ (c : Prop) [Decidable c] (s2 : Sys), s2.tasks = (finish s t x (cancelOutcome x)).tasks →
      s2.queue = s.queue → s2.flushed = s.flushed → Spare 0 s (if f ≠ .cancelled ∧ c then wake g s2 else s2) := by
    intro c _ s2 ht hq hf
    have fin : ∀ j, j < wt x → Spare j s s2 := fun j => term_finish hx _ ht hq hf
    rcases hwx with ⟨rfl, hw⟩ | ⟨_, hw, hm⟩
    · simp only [ne_eq, not_true_eq_false, false_and, if_false]
      exact fin 0 (by simp [wt, hw, wWait]; omega)
    · -- a woken task with `_must_cancel` set holds two units: one for the wake-up it may pass on
      have hge : 2 ≤ wt x := by simp [wt, hw, wWait, hm]
      split
      · exact (fin 1 hge).then (wake_costs g s2)
      · exact fin 0 (by omega)
  unfold cancelBranch
  cases g <;> exact afterBookkeeping _ _ rfl rfl rfl

theorem term_putStep (hwx : x.wait = .ready ∨ x.wait = .blocked false .woken) (hc : canPut x.code = true) :
    Spare 0 s (putStep s t x) := by
  have hw1 : wWait x.wait = 1 ∧ x.wait ≠ .done := by rcases hwx with hw | hw <;> simp [hw, wWait]
  have e0 : wWait (.blocked false .pending) = 0 := rfl
  have e1 : wWait .ready = 1 := rfl
  unfold putStep
  -- for a sender, then for a flusher: the queue is full (the handle is spent), or the item goes in
  rcases canPut_cases hc with ⟨m, nx, r, cl, hcode⟩ | ⟨r, hcode⟩ <;> rw [hcode] <;> simp only <;> unfold putOrBlock <;> split
  · exact Spare.set hx rfl rfl (by simp [mNR, hcode, Code.isReceiver]) (fun _ => rfl)
      (by simp [wt, hw1, hcode, wCode, e0, Sys.setTask])
  · unfold putNowait
    refine Spare.then ?_ (wake_costs true _)
    exact Spare.set hx rfl rfl (by simp [mNR, hcode, Code.isReceiver]) (by simp [Wait.inPut])
      (by simp [wt, hw1, hcode, wCode, e1, Sys.setTask]; omega)
  · exact Spare.set hx rfl rfl (by simp [mNR, hcode, Code.isReceiver]) (fun _ => rfl)
      (by simp [wt, hw1, hcode, wCode, e0, Sys.setTask])
  · unfold putNowait
    refine Spare.then ?_ (wake_costs true _)
    exact Spare.set hx rfl rfl (by simp [mNR, hcode, Code.isReceiver]) (by simp [Wait.inPut])
      (by simp [wt, hw1, hcode, wCode, e1, Sys.setTask]; omega)

theorem term_takeItem {it : Item} {rest : List Item} (counted : Bool)
    (hw1 : wWait x.wait = 1 ∧ x.wait ≠ .done) (hq : s.queue = it :: rest) :
    Spare 0 s (takeItem s t x it rest counted) := by
  have pop : ∀ (s2 : Sys) (x' : Task), s2.tasks = s.tasks.set t x' → s2.flushed = s.flushed → x'.wait.inPut = false →
      mNR x' ≤ mNR x → wt x' ≤ wt x → Spare 0 s (popQ s2 rest) := fun s2 x' ht hf hp hN hw =>
    (Spare.set (s2 := { s2 with queue := rest }) hx ht hf hN (by simp [hp])
      (by show _ + 2 * rest.length + 1 < _; rw [hq, List.length_cons]; omega)).then (wake_costs false _)
  unfold takeItem
  simp only
  split
  · exact pop _ { x with wait := .done, out := .valueError } rfl rfl rfl (by simp [mNR]) (by simp [wt])
  · split
    · exact pop _ { x with wait := .done, out := .ok } rfl rfl rfl (by simp [mNR]) (by simp [wt])
    · exact pop _ { x with wait := .ready } rfl rfl rfl (by simp [mNR, hw1.2])
        (by simp [wt, hw1, show wWait .ready = 1 from rfl])

/-- `_flush_queue` computes how many sentinels it owes: at most one per live receiver -/
theorem term_flush {x' : Task} (hI : Inv s) (hw : x.wait = .ready) (hc : x.code = .flusher none) (hmc : x.mustCancel = false)
    (hfl : s.flushed = false) (hw' : x'.wait = .ready) (hc' : x'.code = .flusher (some (s.waiting - s.queue.length)))
    (hm' : x'.mustCancel = false) : Spare 0 s { s.setTask t x' with flushed := true } := by
  refine fun hP => ⟨putOk_set hP rfl (by simp [hw', Wait.inPut]), ?_⟩
  have a := tsum_set wt x' hx
  have b := tsum_set mNR x' hx
  have c := inGet_le_NR hI
  have e1 : mNR x' = 0 := by simp [mNR, hc', Code.isReceiver]
  have e2 : mNR x = 0 := by simp [mNR, hc, Code.isReceiver]
  have e3 : wt x' + 1 = wt x + 4 * (s.waiting - s.queue.length) := by
    simp [wt, hw, hw', hc, hc', hmc, hm', wCode, wWait]; omega
  unfold mu
  simp only [Sys.setTask, hfl, Bool.false_eq_true, if_false, if_true]
  omega

end

/-- **every atomic action of a runnable task preserves the invariant** and, where only tasks with something to put
    are inside `put()`, keeps that and **strictly decreases the measure** -/
theorem micro_step {s : Sys} (h : Inv s) (t : Nat) (hr : runnable s t = true) :
    Inv (micro s t) ∧ Spare 0 s (micro s t) := by
  unfold runnable waitOf at hr
  unfold micro
  cases hx : s.tasks[t]? with
  | none => simp [hx] at hr
  | some x =>
    simp only [hx, Option.map_some] at hr
    simp only
    cases hw : x.wait with
    | done => simp [hw] at hr
    | blocked g f =>
      cases f with
      | pending => simp [hw] at hr
      | cancelled =>
        exact ⟨inv_cancel_branch g .cancelled h hx (Or.inl ⟨rfl, hw⟩), term_cancelBranch hx g .cancelled (Or.inl ⟨rfl, hw⟩)⟩
      | woken =>
        simp only
        by_cases hm : x.mustCancel = true
        · rw [if_pos hm]
          exact ⟨inv_cancel_branch g .woken h hx (Or.inr ⟨rfl, hw, hm⟩), term_cancelBranch hx g .woken (Or.inr ⟨rfl, hw, hm⟩)⟩
        · rw [if_neg hm]
          cases g with
          | false =>
            simp only [Bool.false_eq_true, if_false]
            exact ⟨inv_putStep h hx (Or.inr hw), fun hP => term_putStep hx (Or.inr hw) (hP t x hx (by simp [hw])) hP⟩
          | true =>
            simp only [if_true]
            cases hq : s.queue with
            | nil =>
              dsimp only
              exact ⟨inv_reblock (x' := { x with wait := .blocked true .pending }) true h hx hw rfl rfl rfl rfl rfl rfl
                  (by simpa using hq),
                Spare.set hx rfl rfl (by simp [mNR, hw]) (by simp) (by simp [wt, hw, wWait, Sys.setTask])⟩
            | cons it rest =>
              exact ⟨inv_takeItem true h hx (by simpa using hw) hq (h.st.getRecv t x hx (by rw [hw]; rfl))
                  (by intro e; cases e),
                term_takeItem hx true (by simp [hw, wWait]) hq⟩
    | ready =>
      simp only
      have hwt : wt x = 1 + (if x.mustCancel then 1 else 0) + wCode x.timedOut x.code := by simp [wt, hw, wWait]
      have tdone : ∀ o, Spare 0 s (finish s t x o) := fun o => term_finish hx o rfl rfl rfl (by omega)
      -- `close()` after the task has finished costs 2 of the 3 units its program held for it
      have tclose : 3 ≤ wCode x.timedOut x.code → Spare 0 s (doClose (finish s t x .ok)) :=
        fun _ => (term_finish hx .ok rfl rfl rfl (by omega)).then (doClose_costs _)
      by_cases hm : x.mustCancel = true
      · rw [if_pos hm]
        obtain ⟨_, howed, hcp⟩ := canc_facts h hx (by simp [mCanc, hm])
        exact ⟨inv_finish' h hx hw _ (Or.inl (by simp [mFresh, hm])) howed (fun _ hc => absurd hc hcp), tdone _⟩
      · rw [if_neg hm]
        have hmf : x.mustCancel = false := by simpa using hm
        cases hcode : x.code with
        | sender m nx r cl =>
          simp only
          have ifin := inv_finish_plain h hx hw (by simp [hcode, owedOf, Code.isReceiver])
          -- the three modes of a sender differ only in `c`, whether `_closed` is tested before this step
          have sendStep : ∀ c : Bool, ∀ s', s' = (if (c && s.closed) = true then finish s t x .chanClosed
              else if r = 0 then (if cl = true then doClose (finish s t x .ok) else finish s t x .ok) else putStep s t x) →
              Inv s' ∧ Spare 0 s s' := by
            intro c s' hs'
            subst hs'
            by_cases hcc : (c && s.closed) = true
            · rw [if_pos hcc]; exact ⟨ifin _, tdone _⟩
            · rw [if_neg hcc]
              by_cases hr0 : r = 0
              · rw [if_pos hr0]
                cases cl
                · simp only [Bool.false_eq_true, if_false]; exact ⟨ifin _, tdone _⟩
                · simp only [if_true]
                  exact ⟨inv_close (ifin _), tclose (by simp [hcode, wCode])⟩
              · rw [if_neg hr0]
                exact ⟨inv_putStep h hx (Or.inl hw), term_putStep hx (Or.inl hw) (by
                  rw [hcode]; cases r with
                  | zero => exact absurd rfl hr0
                  | succ r => rfl)⟩
          cases m <;> exact sendStep _ _ rfl
        | receiver tm =>
          simp only
          split
          · rename_i hdone
            simp only [Bool.and_eq_true, decide_eq_true_eq] at hdone
            exact ⟨inv_finish' h hx hw _ (Or.inl (by simp [mFresh, hcode])) (by simp [hcode, owedOf])
              (fun _ _ => ⟨by rw [hdone.1]; rfl, hdone.2⟩), tdone _⟩
          · rename_i hnd
            have hnd' : ind s.closed = 1 → s.waiting < s.queue.length := by
              intro hc
              cases hcl : s.closed
              · rw [hcl] at hc; simp at hc
              · simp [hcl] at hnd; omega
            cases hq : s.queue with
            | nil =>
              dsimp only
              exact ⟨inv_block_get (x' := { x with wait := .blocked true .pending, code := .receiver tm }) h hx hw rfl
                  hcode.symm rfl hmf (by simp [hcode, Code.isReceiver]) hq hnd',
                Spare.set hx rfl rfl (by simp [mNR, hcode, hw]) (by simp) (by simp [wt, hw, wWait, Sys.setTask, hcode])⟩
            | cons it rest =>
              exact ⟨inv_takeItem false h hx (by simpa using hw) hq (by simp [hcode, Code.isReceiver]) (fun _ => hnd'),
                term_takeItem hx false (by simp [hw, wWait]) hq⟩
        | closer =>
          simp only
          exact ⟨inv_close (inv_finish_plain h hx hw (by simp [hcode, owedOf, Code.isReceiver]) _),
            tclose (by simp [hcode, wCode])⟩
        | canceller tg =>
          simp only
          exact ⟨inv_cancel_task (inv_finish_plain h hx hw (by simp [hcode, owedOf, Code.isReceiver]) _) tg false,
            (term_finish hx .ok rfl rfl rfl (by simp [hcode, wCode] at hwt; omega)).then (cancelTask_costs _ tg false)⟩
        | flusher r =>
          cases r with
          | none =>
            simp only
            split
            · rename_i hfl
              exact ⟨inv_finish' h hx hw _ (Or.inr (by rw [hfl]; rfl)) (by simp [hcode, owedOf])
                (by intro hr; simp [hcode, Code.isReceiver] at hr), tdone _⟩
            · rename_i hfl
              exact ⟨inv_flush_compute (x' := { x with code := .flusher (some (s.waiting - s.queue.length)), wait := .ready })
                  h hx hw hcode hmf rfl rfl hmf,
                term_flush hx h hw hcode hmf (by simpa using hfl) rfl rfl hmf⟩
          | some k =>
            cases k with
            | zero =>
              simp only
              exact ⟨inv_finish_plain h hx hw (by simp [hcode, owedOf, Code.isReceiver]) _, tdone _⟩
            | succ k =>
              simp only
              exact ⟨inv_putStep h hx (Or.inl hw), term_putStep hx (Or.inl hw) (by rw [hcode]; rfl)⟩

theorem micro_not_runnable {s : Sys} {t : Nat} (hr : runnable s t = false) : micro s t = s := by
  unfold runnable waitOf at hr
  unfold micro
  cases hx : s.tasks[t]? with
  | none => rfl
  | some x =>
    simp only [hx, Option.map_some] at hr
    simp only
    cases hw : x.wait with
    | done => rfl
    | ready => simp [hw] at hr
    | blocked g f => cases f <;> simp [hw] at hr ⊢

theorem micro_inv {s : Sys} (h : Inv s) (t : Nat) : Inv (micro s t) := by
  cases hr : runnable s t
  · rw [micro_not_runnable hr]; exact h
  · exact (micro_step h t hr).1

theorem runTask_inv {s : Sys} (h : Inv s) (fuel t : Nat) : Inv (runTask fuel s t) := by
  induction fuel generalizing s with
  | zero => exact h
  | succ n ih =>
    simp only [runTask]
    split
    · exact ih (micro_inv h t)
    · exact micro_inv h t

theorem step_inv {s : Sys} (h : Inv s) (c : Choice) : Inv (step s c) := by
  unfold step
  split
  · cases c with
    | run t => exact runTask_inv h _ t
    | fire t => exact inv_cancel_task h t true
  · exact h

theorem run_inv {s : Sys} (h : Inv s) (cs : List Choice) : Inv (run s cs) := by
  induction cs generalizing s with
  | nil => exact h
  | cons c cs ih => exact ih (step_inv h c)

theorem micro_term {s : Sys} (h : TInv s) (t : Nat) :
    TInv (micro s t) ∧ mu (micro s t) ≤ mu s ∧ (runnable s t = true → mu (micro s t) < mu s) := by
  cases hr : runnable s t
  · rw [micro_not_runnable hr]; exact ⟨h, Nat.le_refl _, fun e => by cases e⟩
  · obtain ⟨hi, hs⟩ := micro_step h.inv t hr
    obtain ⟨hp, hm⟩ := hs h.put
    exact ⟨⟨hi, hp⟩, Nat.le_of_lt hm, fun _ => hm⟩

theorem micro_tinv {s : Sys} (h : TInv s) (t : Nat) : TInv (micro s t) :=
  (micro_term h t).1

theorem runnable_of_ready {s : Sys} {t : Nat} (h : waitOf s t = some .ready) : runnable s t = true := by
  simp [runnable, h]

theorem runTask_term {s : Sys} (h : TInv s) (t : Nat) (fuel : Nat) :
    TInv (runTask fuel s t) ∧ mu (runTask fuel s t) ≤ mu s ∧
    (runnable s t = true → 0 < fuel → mu (runTask fuel s t) < mu s) := by
  induction fuel generalizing s with
  | zero => exact ⟨h, Nat.le_refl _, fun _ h0 => absurd h0 (Nat.lt_irrefl 0)⟩
  | succ n ih =>
    obtain ⟨m1, m2, m3⟩ := micro_term h t
    simp only [runTask]
    split
    · obtain ⟨i1, i2, _⟩ := ih m1
      exact ⟨i1, by omega, fun hr _ => by have := m3 hr; omega⟩
    · exact ⟨m1, m2, fun hr _ => m3 hr⟩

theorem step_tinv {s : Sys} (h : TInv s) (c : Choice) : TInv (step s c) := by
  unfold step
  split
  · cases c with
    | run t => exact (runTask_term h t _).1
    | fire t => exact ⟨inv_cancel_task h.inv t true, (cancelTask_costs s t true).1 h.put⟩
  · exact h

theorem run_tinv {s : Sys} (h : TInv s) (cs : List Choice) : TInv (run s cs) := by
  induction cs generalizing s with
  | nil => exact h
  | cons c cs ih => exact ih (step_tinv h c)

theorem init_tinv (maxsize : Nat) (progs : List Prog) : TInv (init maxsize progs) := by
  refine ⟨init_inv maxsize progs, ?_⟩
  intro t x hx hw
  have hm : x ∈ progs.map Prog.toTask := List.mem_of_getElem? hx
  obtain ⟨p, _, rfl⟩ := List.mem_map.mp hm
  rw [(toTask_wait p).1] at hw
  cases hw

theorem step_term {s : Sys} {c : Choice} (h : TInv s) (he : enabled s c = true) : mu (step s c) < mu s := by
  unfold step
  rw [if_pos he]
  cases c with
  | run t => exact (runTask_term h t _).2.2 he (by unfold fuelFor; omega)
  | fire t => exact mu_fire he

/-- every choice of the schedule is enabled when it is taken -/
def validSched (s : Sys) : List Choice → Bool
  | [] => true
  | c :: cs => enabled s c && validSched (step s c) cs

theorem run_cons (s : Sys) (c : Choice) (cs : List Choice) : run s (c :: cs) = run (step s c) cs := rfl

theorem run_append (s : Sys) (cs cs' : List Choice) : run s (cs ++ cs') = run (run s cs) cs' := by
  unfold run; exact List.foldl_append

theorem validSched_append (s : Sys) (cs cs' : List Choice) :
    validSched s (cs ++ cs') = (validSched s cs && validSched (run s cs) cs') := by
  induction cs generalizing s with
  | nil => simp [validSched, run]
  | cons c cs ih => simp only [List.cons_append, validSched, ih, run_cons, Bool.and_assoc]

theorem sched_term {s : Sys} (h : TInv s) (cs : List Choice) (hv : validSched s cs = true) :
    cs.length + mu (run s cs) ≤ mu s := by
  induction cs generalizing s with
  | nil => simp [run]
  | cons c cs ih =>
    simp only [validSched, Bool.and_eq_true] at hv
    have h1 := step_term h hv.1
    have h2 := ih (step_tinv h c) hv.2
    rw [run_cons, List.length_cons]
    omega

theorem not_quiescent {s : Sys} (hq : quiescent s = false) : ∃ t, runnable s t = true := by
  apply Classical.byContradiction
  intro hne
  have : quiescent s = true := by
    unfold quiescent
    rw [List.all_eq_true]
    intro t _
    cases hr : runnable s t
    · rfl
    · exact absurd ⟨t, hr⟩ hne
  rw [this] at hq; cases hq

theorem exists_quiescent_aux (n : Nat) : ∀ {s : Sys}, TInv s → mu s < n →
    ∃ cs, validSched s cs = true ∧ quiescent (run s cs) = true := by
  induction n with
  | zero => intro s _ hn; cases hn
  | succ n ih =>
    intro s h hn
    cases hq : quiescent s
    · obtain ⟨t, ht⟩ := not_quiescent hq
      have he : enabled s (.run t) = true := ht
      obtain ⟨cs, hv, hq'⟩ := ih (step_tinv h (.run t)) (by have := step_term h he; omega)
      exact ⟨.run t :: cs, by simp [validSched, he, hv], by rw [run_cons]; exact hq'⟩
    · exact ⟨[], rfl, hq⟩

theorem exists_quiescent {s : Sys} (h : TInv s) : ∃ cs, validSched s cs = true ∧ quiescent (run s cs) = true :=
  exists_quiescent_aux (mu s + 1) h (Nat.lt_succ_self _)

/-- what one program of the configuration contributes to the bound -/
def progCost : Prog → Nat
  | .sender _ n cl => 1 + 4 * n + (if cl then 3 else 0)
  | .receiver _ => 7
  | .closer => 4
  | .canceller _ => 3

def schedBound (progs : List Prog) : Nat := (progs.map progCost).sum

theorem mu_init (maxsize : Nat) (progs : List Prog) : mu (init maxsize progs) = schedBound progs := by
  have key : tsum wt (progs.map Prog.toTask) + 4 * tsum mNR (progs.map Prog.toTask) = schedBound progs := by
    unfold schedBound
    induction progs with
    | nil => rfl
    | cons p ps ih =>
      have e : wt p.toTask + 4 * mNR p.toTask = progCost p := by
        cases p with
        | sender sf n cl => cases sf <;> cases cl <;> simp [Prog.toTask, wt, mNR, wWait, wCode, progCost, Code.isReceiver] <;> omega
        | receiver tm => simp [Prog.toTask, wt, mNR, wWait, wCode, progCost, Code.isReceiver]
        | closer => simp [Prog.toTask, wt, mNR, wWait, wCode, progCost, Code.isReceiver]
        | canceller tg => simp [Prog.toTask, wt, mNR, wWait, wCode, progCost, Code.isReceiver]
      simp only [List.map_cons, tsum, List.sum_cons]
      omega
  unfold mu init
  simpa using key

end Bp.Chan
