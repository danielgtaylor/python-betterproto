import BpModel.Importing
import BpProofs.Casing
import BpProofs.CasingClass
import BpProofs.Importing
import BpProofs.ImportingParse
/-
  C13, "when many such references coexist in one module": the alias algebra.
  Every name a generated import binds is `enc k ws` = k underscores, the `_`-join of a
  non-empty list of package segments, and `__` when k > 0 — or, for a class of the root
  package, k underscores + ClassName + `__`.  With simple segments (`simpleSeg`) the code
  `(k, ws)` is read back from the name, and `(k, ws)` determines the module.
-/
namespace Bp.Importing
open Bp.Casing Bp.Naming

theorem simpleSeg_parts {s : Str} (h : simpleSeg s = true) :
    (∃ c t, s = c :: t ∧ cls c = .lo) ∧ tokens s = [s] ∧ lowerW s = s ∧ s ∉ kw := by
  unfold simpleSeg at h
  simp only [Bool.and_eq_true, decide_eq_true_eq, Bool.not_eq_true', List.contains_eq_mem, decide_eq_false_iff_not] at h
  obtain ⟨⟨⟨h1, h2⟩, h3⟩, h4⟩ := h
  refine ⟨?_, h2, h3, h4⟩
  cases s with
  | nil => simp at h1
  | cons c t => exact ⟨c, t, rfl, by simpa using h1⟩

theorem simpleSeg_ld {s : Str} (h : simpleSeg s = true) : LDWord s := by
  obtain ⟨-, ht, hl, -⟩ := simpleSeg_parts h
  have : Tok s := tokens_tok s s (by rw [ht]; simp)
  have := ldword_lowerW this
  rwa [hl] at this

theorem simpleSeg_no_us {s : Str} (h : simpleSeg s = true) : '_' ∉ s := by
  intro hm
  rcases ld_chars (simpleSeg_ld h) _ hm with h | h <;> simp [cls_underscore] at h

theorem simpleSeg_ne_nil {s : Str} (h : simpleSeg s = true) : s ≠ [] := (simpleSeg_ld h).1

theorem simpleSeg_segOk {s : Str} (h : simpleSeg s = true) : segOk s = true := by
  obtain ⟨⟨c, t, rfl, hc⟩, -, -, -⟩ := simpleSeg_parts h
  have hch := ld_chars (simpleSeg_ld h)
  unfold segOk
  simp only [Bool.and_eq_true, Bool.not_eq_true', List.all_eq_true, bne_iff_ne, ne_eq]
  refine ⟨⟨by simp, ?_⟩, by simp [isClassName, hc]⟩
  intro x hx
  rcases hch x hx with h | h <;> simp [identChar, h]

theorem simplePkg_pkgOk {p : Pkg} (h : simplePkg p = true) : pkgOk p = true := by
  simp only [simplePkg, pkgOk, List.all_eq_true] at h ⊢
  exact fun s hs => simpleSeg_segOk (h s hs)

theorem simplePkg_mem {p : Pkg} (h : simplePkg p = true) : ∀ s ∈ p, simpleSeg s = true := by
  simpa [simplePkg, List.all_eq_true] using h

theorem joinWith_eq_joinU : ∀ ws : List Str, joinWith '_' ws = joinU ws
  | [] => rfl
  | [w] => rfl
  | w :: w2 :: ws => by simp only [joinWith, joinU]; rw [joinWith_eq_joinU (w2 :: ws)]

theorem joinWith_head (sep : Char) (c : Char) (t : Str) (ws : List Str) :
    ∃ t', joinWith sep ((c :: t) :: ws) = c :: t' := by
  cases ws with
  | nil => exact ⟨t, rfl⟩
  | cons w ws => exact ⟨_, rfl⟩

theorem mem_joinWith_sep (sep : Char) : ∀ (w w2 : Str) (ws : List Str), sep ∈ joinWith sep (w :: w2 :: ws) := by
  intro w w2 ws
  simp [joinWith]

theorem safeSnake_dotted (ws : Pkg) (hne : ws ≠ []) (hs : ∀ w ∈ ws, simpleSeg w = true) :
    safeSnake (dotted ws) = joinWith '_' ws := by
  have hld : ∀ w ∈ ws, LDWord w := fun w hw => simpleSeg_ld (hs w hw)
  have htok : tokens (dotted ws) = ws := by
    have := tokens_joinWith_sym cls_dot cls_underscore ws
    show go .sym (joinWith '.' ws) = ws
    rw [this, joinWith_eq_joinU]
    exact tokens_joinU ws hld
  have hsn : snake (dotted ws) = joinWith '_' ws := by
    unfold snake; rw [htok, map_lowerW_fix ws hld, joinWith_eq_joinU]
  unfold safeSnake
  rw [hsn]
  have hid : pyIdent (joinWith '_' ws) = true := by
    cases ws with
    | nil => exact absurd rfl hne
    | cons w ws =>
      obtain ⟨⟨c, t, rfl, hc⟩, -, -, -⟩ := simpleSeg_parts (hs w (List.mem_cons_self ..))
      have hall : ∀ x ∈ joinWith '_' ((c :: t) :: ws), identChar x = true := by
        rw [joinWith_eq_joinU]; exact joinU_identChars _ hld
      obtain ⟨t', e⟩ := joinWith_head '_' c t ws
      rw [e] at hall ⊢
      simp only [pyIdent, Bool.and_eq_true, List.all_eq_true]
      exact ⟨by simp [identStart, hc], fun x hx => hall x (List.mem_cons_of_mem _ hx)⟩
  have hkw : joinWith '_' ws ∉ kw := by
    cases ws with
    | nil => exact absurd rfl hne
    | cons w ws =>
      cases ws with
      | nil => exact (simpleSeg_parts (hs w (List.mem_cons_self ..))).2.2.2
      | cons w2 ws => exact fun hm => kw_no_us _ hm (mem_joinWith_sep '_' w w2 ws)
  rcases sanitize_cases (joinWith '_' ws) with ⟨hk, -⟩ | ⟨-, -, h⟩ | ⟨-, hf, -⟩
  · exact absurd hk hkw
  · exact h
  · rw [hid] at hf; cases hf

def enc (k : Nat) (ws : Pkg) : Str := rep '_' k ++ (joinWith '_' ws ++ (if k = 0 then [] else dunder))

/- `x`, `y` with the equations `x = c :: t`, `y = c' :: t'` instead of `c :: t`, `c' :: t'` in the statement: the callers
   know the heads of their two bodies (`enc_body_head`, `className_head`) only through such equations and need
   `x = y` back about the bodies as they wrote them. -/
theorem rep_strip : ∀ (a b : Nat) (x y : Str) (c c' : Char) (t t' : Str), x = c :: t → y = c' :: t' → c ≠ '_' → c' ≠ '_' →
    rep '_' a ++ x = rep '_' b ++ y → a = b ∧ x = y := by
  intro a b x y c c' t t' hx hy hc hc' h
  -- the leading run of `_` is the replicated part on both sides
  have tw : ∀ n (d : Char) (r : Str), d ≠ '_' → (rep '_' n ++ d :: r).takeWhile (· = '_') = rep '_' n := by
    intro n d r hd
    rw [List.takeWhile_append_of_pos (by simp [rep]), List.takeWhile_cons_of_neg (by simpa using hd),
      List.append_nil]
  have e := congrArg (fun l => (l.takeWhile (· = '_')).length) h
  subst hx hy
  rw [tw _ _ _ hc, tw _ _ _ hc', rep, rep, List.length_replicate, List.length_replicate] at e
  subst e
  exact ⟨rfl, List.append_cancel_left h⟩

theorem lo_ne_us {c : Char} (h : cls c = .lo) : c ≠ '_' := by
  intro e; subst e; simp [cls_underscore] at h

theorem enc_body_head (k : Nat) (ws : Pkg) (hne : ws ≠ []) (hs : ∀ w ∈ ws, simpleSeg w = true) :
    ∃ c t, joinWith '_' ws ++ (if k = 0 then [] else dunder) = c :: t ∧ cls c = .lo := by
  cases ws with
  | nil => exact absurd rfl hne
  | cons w ws =>
    obtain ⟨⟨c, t, rfl, hc⟩, -, -, -⟩ := simpleSeg_parts (hs w (List.mem_cons_self ..))
    obtain ⟨t', e⟩ := joinWith_head '_' c t ws
    exact ⟨c, _, by rw [e]; rfl, hc⟩

theorem enc_inj (k k' : Nat) (ws ws' : Pkg) (hne : ws ≠ []) (hs : ∀ w ∈ ws, simpleSeg w = true)
    (hne' : ws' ≠ []) (hs' : ∀ w ∈ ws', simpleSeg w = true) (h : enc k ws = enc k' ws') : k = k' ∧ ws = ws' := by
  obtain ⟨c, t, e, hc⟩ := enc_body_head k ws hne hs
  obtain ⟨c', t', e', hc'⟩ := enc_body_head k' ws' hne' hs'
  obtain ⟨ek, eb⟩ := rep_strip k k' _ _ c c' t t' e e' (lo_ne_us hc) (lo_ne_us hc') h
  subst ek
  refine ⟨rfl, ?_⟩
  have ej : joinWith '_' ws = joinWith '_' ws' := List.append_cancel_right eb
  have r1 := splitOn_joinWith '_' ws hne (fun w hw => simpleSeg_no_us (hs w hw))
  have r2 := splitOn_joinWith '_' ws' hne' (fun w hw => simpleSeg_no_us (hs' w hw))
  rw [ej, r2] at r1
  exact r1.symm

/-- where well-known types are redirected to -/
def bundled (pydantic : Bool) : Pkg :=
  ["betterproto".toList, "lib".toList] ++ (if pydantic then ["pydantic".toList] else []) ++ googleProtobuf

theorem bundled_simple (pydantic : Bool) : (∀ w ∈ bundled pydantic, simpleSeg w = true) ∧ bundled pydantic ≠ [] := by
  have h : ∀ w ∈ bundled true, simpleSeg w = true := by
    rw [simpleSeg_fast, bundled, googleProtobuf]
    repeat rw [String.toList_ofList]
    decide +kernel
  refine ⟨fun w hw => h w ?_, by cases pydantic <;> exact List.cons_ne_nil _ _⟩
  cases pydantic with
  | true => exact hw
  | false =>
    simp only [bundled, Bool.false_eq_true, if_false, if_true, List.append_nil, List.mem_append] at hw ⊢
    exact hw.imp_left Or.inl

theorem refCore_redirect (cur tgt : Pkg) (pyd : Bool) (T : Str) :
    refCore cur (redirect cur tgt pyd) T =
      if tgt = googleProtobuf ∧ cur ≠ googleProtobuf then referenceAbsolute (bundled pyd) T else refCore cur tgt T := by
  unfold redirect
  split
  · next hg =>
    have ht1 : List.take 1 (bundled pyd) = ["betterproto".toList] := by cases pyd <;> rfl
    rw [hg.1]
    exact if_pos ht1
  · rfl

/-- a class of the root package imported into module `cur` (an ancestor import to the root) -/
def RootForm (cur : Pkg) (b : Str × Obj) : Prop :=
  cur ≠ [] ∧ ∃ T, isClassName T = true ∧ b = (rep '_' cur.length ++ (T ++ dunder), .cls (.gen []) T)

/-- a module bound under the name `enc k ws`: the generated package `k` levels up and then
    down `ws` (child / descendant: `k = 0`; ancestor: `ws` = its last segment; cousin), or the
    bundled library (absolute import, `ws` = its full path `betterproto.lib[.pydantic].google.protobuf`);
    the one generated package that would share its code with the bundled library is excluded -/
def ModForm (cur : Pkg) (pyd : Bool) (b : Str × Obj) : Prop :=
  ∃ k ws, ws ≠ [] ∧ (∀ w ∈ ws, simpleSeg w = true) ∧
    ((¬(k = 0 ∧ ws = bundled pyd) ∧ b = (enc k ws, .module (.gen (cur.take (cur.length - k) ++ ws))))
     ∨ (ws = bundled pyd ∧ b = (enc 0 ws, .module (.abs ws))))

def Form (cur : Pkg) (pyd : Bool) (b : Str × Obj) : Prop := RootForm cur b ∨ ModForm cur pyd b

theorem className_head {T : Str} (h : isClassName T = true) : ∃ c t, T = c :: t ∧ (cls c = .up ∨ cls c = .dg) := by
  cases T with
  | nil => simp [isClassName] at h
  | cons c t => exact ⟨c, t, rfl, by simpa [isClassName] using h⟩

theorem root_mod_ne (cur : Pkg) (T : Str) (hT : isClassName T = true) (k : Nat) (ws : Pkg)
    (hne : ws ≠ []) (hs : ∀ w ∈ ws, simpleSeg w = true) :
    rep '_' cur.length ++ (T ++ dunder) ≠ enc k ws := by
  intro h
  obtain ⟨c, t, e, hc⟩ := className_head hT
  obtain ⟨c', t', e', hc'⟩ := enc_body_head k ws hne hs
  have hcu : c ≠ '_' := by
    intro e0; subst e0; rcases hc with h | h <;> simp [cls_underscore] at h
  have ex : T ++ dunder = c :: (t ++ dunder) := by rw [e]; rfl
  obtain ⟨-, eb⟩ := rep_strip cur.length k _ _ c c' _ t' ex e' hcu (lo_ne_us hc') h
  rw [ex, e'] at eb
  injection eb with e1 _
  subst e1
  rcases hc with h | h <;> rw [hc'] at h <;> cases h

theorem form_inj (cur : Pkg) (pyd : Bool) (b1 b2 : Str × Obj) (h1 : Form cur pyd b1) (h2 : Form cur pyd b2)
    (e : b1.1 = b2.1) : b1 = b2 := by
  rcases h1 with ⟨-, T1, hT1, rfl⟩ | ⟨k1, ws1, hne1, hs1, h1⟩
  · rcases h2 with ⟨-, T2, hT2, rfl⟩ | ⟨k2, ws2, hne2, hs2, h2⟩
    · simp only at e
      have := List.append_cancel_right (List.append_cancel_left e)
      subst this; rfl
    · rcases h2 with ⟨-, rfl⟩ | ⟨-, rfl⟩ <;> exact absurd e (root_mod_ne cur T1 hT1 _ ws2 hne2 hs2)
  · rcases h2 with ⟨-, T2, hT2, rfl⟩ | ⟨k2, ws2, hne2, hs2, h2⟩
    · rcases h1 with ⟨-, rfl⟩ | ⟨-, rfl⟩ <;> exact absurd e.symm (root_mod_ne cur T2 hT2 _ ws1 hne1 hs1)
    · -- two modules; each is a generated package or the bundled library, in this order: (gen, gen), (gen, bundled),
      -- (bundled, gen), (bundled, bundled).  The mixed cases are what `ModForm` excludes (`k = 0 ∧ ws = bundled pyd`).
      rcases h1 with ⟨hb1, rfl⟩ | ⟨hb1, rfl⟩ <;> rcases h2 with ⟨hb2, rfl⟩ | ⟨hb2, rfl⟩ <;>
        obtain ⟨ek, ew⟩ := enc_inj _ _ ws1 ws2 hne1 hs1 hne2 hs2 e
      · subst ek; subst ew; rfl
      · subst ew; exact absurd ⟨ek, hb2⟩ hb1
      · subst ew; exact absurd ⟨ek.symm, hb1⟩ hb2
      · subst ew; rfl

/-- no import shadows a class of the module: bound names never look like class names -/
theorem form_not_className (cur : Pkg) (pyd : Bool) (b : Str × Obj) (h : Form cur pyd b) : isClassName b.1 = false := by
  rcases h with ⟨hc, T, -, rfl⟩ | ⟨k, ws, hne, hs, h⟩
  · cases cur with
    | nil => exact absurd rfl hc
    | cons a t => simp [rep, List.replicate_succ, isClassName, cls_underscore]
  · have hn : ∀ k, isClassName (enc k ws) = false := by
      intro k
      obtain ⟨c, t, e, hc⟩ := enc_body_head k ws hne hs
      unfold enc
      rw [e]
      cases k with
      | zero => simp [rep, isClassName, hc]
      | succ k => simp [rep, List.replicate_succ, isClassName, cls_underscore]
    rcases h with ⟨-, rfl⟩ | ⟨-, rfl⟩ <;> exact hn _

theorem simplePkg_not_class_ne_nil {tgt : Pkg} (hs : simplePkg tgt = true) :
    ∀ s ∈ tgt, isClassName s = false ∧ s ≠ [] := by
  intro s h
  have := simpleSeg_segOk (simplePkg_mem hs s h)
  exact ⟨segOk_not_class this, segOk_ne_nil this⟩

theorem refCore_form (cur tgt : Pkg) (pyd : Bool) (T : Str) (hs : simplePkg tgt = true)
    (hnb : tgt.take 1 ≠ ["betterproto".toList]) (hnd : tgt ≠ cur ++ bundled pyd)
    (hT : isClassName T = true) (b : Str × Obj) (hb : (refCore cur tgt T).imp.bind cur = some b) :
    Form cur pyd b ∧ b.2 = (if tgt = [] then .cls (.gen []) T else .module (.gen tgt)) := by
  have hseg := simplePkg_not_class_ne_nil hs
  have hsm := simplePkg_mem hs
  unfold refCore at hb
  rw [if_neg hnb] at hb
  by_cases h1 : tgt = cur
  · simp [h1, referenceSibling, Import.bind] at hb
  rw [if_neg h1] at hb
  by_cases h2 : tgt.take cur.length = cur
  · rw [if_pos h2, (bind_descendent cur tgt T h2 h1 hseg).2] at hb
    cases hb
    have hsplit := append_drop_of_take h2
    have hrest := drop_ne_nil_of_take h2 h1
    have htn : tgt ≠ [] := fun h => hrest (by simp [h])
    exact ⟨Or.inr ⟨0, tgt.drop cur.length, hrest, fun w hw => hsm w (List.mem_of_mem_drop hw), Or.inl
      ⟨fun h => hnd (by rw [← hsplit, h.2]), by simp [enc, rep, hsplit]⟩⟩, by simp [htn]⟩
  rw [if_neg h2] at hb
  by_cases h3 : cur.take tgt.length = tgt
  · rw [if_pos h3] at hb
    by_cases h4 : tgt = []
    · subst h4
      rw [(bind_ancestor_root cur T hT).2] at hb
      cases hb
      exact ⟨Or.inl ⟨fun h => h1 h.symm, T, hT, rfl⟩, by simp⟩
    · rw [(bind_ancestor cur tgt T h3 h4 hseg).2] at hb
      cases hb
      refine ⟨Or.inr ⟨cur.length - tgt.length + 1, [lastD tgt], by simp, ?_, Or.inl ⟨fun h => by omega, ?_⟩⟩,
        by simp [h4]⟩
      · intro w hw
        rw [List.mem_singleton.1 hw]
        exact hsm _ (lastD_mem tgt h4)
      · rw [up_eq_some (ancestor_up h3 h4), dropLast_lastD tgt h4]
        simp [enc, joinWith]
  · rw [if_neg h3, (bind_cousin cur tgt T h3 hseg).2] at hb
    cases hb
    have hrest := drop_commonPrefix_ne_nil h3
    have htn : tgt ≠ [] := fun h => hrest (by simp [h])
    -- not a descendant: the common prefix is shorter than `cur`
    have hd : cur.length - (commonPrefix cur tgt).length ≠ 0 := by
      intro h0
      have hle := commonPrefix_length_le_left cur tgt
      have hc : commonPrefix cur tgt = cur := by
        rw [← commonPrefix_take_left cur tgt, show (commonPrefix cur tgt).length = cur.length by omega,
          List.take_length]
      exact h2 (by rw [← hc]; exact commonPrefix_take_right cur tgt)
    have hrs : ∀ w ∈ tgt.drop (commonPrefix cur tgt).length, simpleSeg w = true :=
      fun w hw => hsm w (List.mem_of_mem_drop hw)
    refine ⟨Or.inr ⟨_, _, hrest, hrs, Or.inl ⟨fun h => hd h.1, ?_⟩⟩, by simp [htn]⟩
    rw [up_eq_some (cousin_up cur tgt), commonPrefix_append_drop, safeSnake_dotted _ hrest hrs]
    simp [enc, hd]

theorem typeRef_cases (cur tgt : Pkg) (ty : List Str) (unwrap pydantic : Bool)
    (hc : pkgOk cur = true) (ht : pkgOk tgt = true) (hty : typeOk ty = true) :
    ((getTypeReference (dotted cur) (fullName tgt ty) unwrap pydantic).imp = .none ∧
      ∃ t, (getTypeReference (dotted cur) (fullName tgt ty) unwrap pydantic).ref = .builtin t) ∨
    getTypeReference (dotted cur) (fullName tgt ty) unwrap pydantic
      = refCore cur (redirect cur tgt pydantic) (classOf ty) := by
  unfold getTypeReference
  split
  · left; exact ⟨rfl, _, rfl⟩
  · split
    · left; exact ⟨rfl, _, rfl⟩
    · split
      · left; exact ⟨rfl, _, rfl⟩
      · right
        simp only [parse_fullName tgt ty ht hty, splitPkg_dotted cur hc, splitPkg_dotted tgt ht, classOf_eq]

/-- the object bound to `a` after the statements binding `ns` have run in order (the last
    binding of a name wins) -/
def lookupNs (ns : List (Str × Obj)) (a : Str) : Option Obj := (ns.reverse.find? (fun b => b.1 = a)).map (·.2)

/-- evaluation of a forward reference in module `<root>.<cur>`: its own classes, then the
    bindings `ns` of all the import statements at the end of the file -/
def denoteNs (cur : Pkg) (ns : List (Str × Obj)) : Ref → Option (Loc × Str)
  | .bare n =>
    match lookupNs ns n with
    | some (.cls l c) => some (l, c)
    | some (.module _) => Option.none
    | Option.none => some (.gen cur, n)
  | .qualified a n =>
    match lookupNs ns a with
    | some (.module l) => some (l, n)
    | _ => Option.none
  | .builtin _ => Option.none

theorem lookupNs_unique (ns : List (Str × Obj)) (a : Str) (o : Obj) (hin : (a, o) ∈ ns)
    (hu : ∀ b ∈ ns, b.1 = a → b.2 = o) : lookupNs ns a = some o := by
  unfold lookupNs
  cases h : ns.reverse.find? (fun b => b.1 = a) with
  | none =>
    have := List.find?_eq_none.1 h (a, o) (List.mem_reverse.2 hin)
    simp at this
  | some b =>
    have h1 := List.mem_reverse.1 (List.mem_of_find?_eq_some h)
    have h2 : b.1 = a := by simpa using List.find?_some h
    simp [hu b h1 h2]

theorem lookupNs_none (ns : List (Str × Obj)) (a : Str) (h : ∀ b ∈ ns, b.1 ≠ a) : lookupNs ns a = Option.none := by
  unfold lookupNs
  have : ns.reverse.find? (fun b => b.1 = a) = Option.none := by
    apply List.find?_eq_none.2
    intro b hb
    simpa using h b (List.mem_reverse.1 hb)
  rw [this]; rfl

/-- in a namespace where two bindings of one name are the same binding, what a name is bound to depends on the SET
    of bindings only — not on the order of the import statements, nor on repetitions -/
theorem lookupNs_same_set (ns1 ns2 : List (Str × Obj)) (h12 : ∀ b ∈ ns1, b ∈ ns2) (h21 : ∀ b ∈ ns2, b ∈ ns1)
    (hcons : ∀ b ∈ ns1, ∀ b' ∈ ns1, b.1 = b'.1 → b = b') (a : Str) : lookupNs ns1 a = lookupNs ns2 a := by
  by_cases h : ∃ b ∈ ns1, b.1 = a
  · obtain ⟨⟨a', o⟩, hb, rfl⟩ := h
    rw [lookupNs_unique ns1 a' o hb (fun b' hb' e => by rw [hcons b' hb' (a', o) hb e]),
      lookupNs_unique ns2 a' o (h12 _ hb) (fun b' hb' e => by rw [hcons b' (h21 _ hb') (a', o) hb e])]
  · have h1 : ∀ b ∈ ns1, b.1 ≠ a := fun b hb e => h ⟨b, hb, e⟩
    rw [lookupNs_none ns1 a h1, lookupNs_none ns2 a (fun b hb => h1 b (h21 b hb))]

/-- … hence so does the value of every forward reference -/
theorem denoteNs_same_set (cur : Pkg) (ns1 ns2 : List (Str × Obj)) (h12 : ∀ b ∈ ns1, b ∈ ns2)
    (h21 : ∀ b ∈ ns2, b ∈ ns1) (hcons : ∀ b ∈ ns1, ∀ b' ∈ ns1, b.1 = b'.1 → b = b') (r : Ref) :
    denoteNs cur ns1 r = denoteNs cur ns2 r := by
  cases r <;> simp only [denoteNs, lookupNs_same_set ns1 ns2 h12 h21 hcons]

/-- one reference site of a module: the type referred to and the `unwrap` flag of the site -/
structure Site where
  tgt : Pkg
  ty : List Str
  unwrap : Bool

/-- the decidable guard: simple segments (no `_`, no digit-letter boundary, no keyword: D20
    outside), not a package `betterproto…` (taken for the runtime library), not the one
    descendant `<cur>.betterproto.lib[.pydantic].google.protobuf` whose alias is that of the
    bundled well-known types, a capitalised type name (D19 outside) -/
def Site.ok (cur : Pkg) (pyd : Bool) (s : Site) : Bool :=
  simplePkg s.tgt && s.tgt.take 1 != ["betterproto".toList] && s.tgt != cur ++ bundled pyd && typeOk s.ty

def siteRef (cur : Pkg) (pydantic : Bool) (s : Site) : TypeRef :=
  getTypeReference (dotted cur) (fullName s.tgt s.ty) s.unwrap pydantic

/-- everything the import statements of the module bind, in statement order -/
def moduleNs (cur : Pkg) (pydantic : Bool) (sites : List Site) : List (Str × Obj) :=
  sites.filterMap fun s => (siteRef cur pydantic s).imp.bind cur

theorem Site.ok_parts {cur : Pkg} {pyd : Bool} {s : Site} (h : s.ok cur pyd = true) :
    simplePkg s.tgt = true ∧ s.tgt.take 1 ≠ ["betterproto".toList] ∧ s.tgt ≠ cur ++ bundled pyd ∧ typeOk s.ty = true := by
  unfold Site.ok at h
  simp only [Bool.and_eq_true, bne_iff_ne, ne_eq] at h
  obtain ⟨⟨⟨hsimple, hlib⟩, hbundled⟩, hty⟩ := h
  exact ⟨hsimple, hlib, hbundled, hty⟩

theorem boundName_some {cur : Pkg} {r : TypeRef} {a : Str} (h : boundName cur r = some a) :
    ∃ o, r.imp.bind cur = some (a, o) := by
  unfold boundName at h
  cases e : r.imp.bind cur with
  | none => rw [e] at h; cases h
  | some b => rw [e] at h; cases h; exact ⟨b.2, rfl⟩

/-- **every import a reference adds has one of the shapes**, and the object it binds is the package of the
    type (the class itself for the root package; the bundled library for google.protobuf) -/
theorem siteRef_form {cur : Pkg} {pyd : Bool} {s : Site} (hc : pkgOk cur = true) (h : s.ok cur pyd = true)
    (b : Str × Obj) (hb : (siteRef cur pyd s).imp.bind cur = some b) :
    Form cur pyd b ∧
      b.2 = (if s.tgt = googleProtobuf ∧ cur ≠ googleProtobuf then .module (.abs (bundled pyd))
             else if s.tgt = [] then .cls (.gen []) (classOf s.ty) else .module (.gen s.tgt)) := by
  obtain ⟨hs, hnb, hnd, hty⟩ := Site.ok_parts h
  unfold siteRef at hb
  rcases typeRef_cases cur s.tgt s.ty s.unwrap pyd hc (simplePkg_pkgOk hs) hty with h | h
  · rw [h.1] at hb; simp [Import.bind] at hb
  · rw [h, refCore_redirect] at hb
    by_cases hg : s.tgt = googleProtobuf ∧ cur ≠ googleProtobuf
    · rw [if_pos hg, (bind_absolute ..).2] at hb
      injection hb with hb; subst hb
      obtain ⟨h1, h3⟩ := bundled_simple pyd
      refine ⟨Or.inr ⟨0, bundled pyd, h3, h1, Or.inr ⟨rfl, ?_⟩⟩, by simp [hg]⟩
      rw [safeSnake_dotted _ h3 h1]
      simp [enc, rep]
    · rw [if_neg hg] at hb
      obtain ⟨f1, f2⟩ := refCore_form cur s.tgt pyd (classOf s.ty) hs hnb hnd (classOf_isClassName s.ty hty) b hb
      exact ⟨f1, by rw [f2]; simp only [hg, if_false]⟩

theorem moduleNs_form (cur : Pkg) (pydantic : Bool) (sites : List Site) (hc : pkgOk cur = true)
    (hok : ∀ s ∈ sites, s.ok cur pydantic = true) : ∀ b ∈ moduleNs cur pydantic sites, Form cur pydantic b := by
  intro b hb
  obtain ⟨s, hs, e⟩ := List.mem_filterMap.1 hb
  exact (siteRef_form hc (hok s hs) b e).1

theorem denoteNs_eq_denote (cur : Pkg) (pydantic : Bool) (sites : List Site) (hc : pkgOk cur = true)
    (hok : ∀ s ∈ sites, s.ok cur pydantic = true) (s : Site) (hs : s ∈ sites) :
    denoteNs cur (moduleNs cur pydantic sites) (siteRef cur pydantic s).ref
      = denote cur ((siteRef cur pydantic s).imp.bind cur) (siteRef cur pydantic s).ref := by
  have hforms := moduleNs_form cur pydantic sites hc hok
  obtain ⟨h1, h2, -, h3⟩ := Site.ok_parts (hok s hs)
  have hT := classOf_isClassName s.ty h3
  -- what this site's import binds, the whole module binds to the same object
  have huniq : ∀ a o, (siteRef cur pydantic s).imp.bind cur = some (a, o) →
      lookupNs (moduleNs cur pydantic sites) a = some o := by
    intro a o hb
    have hmem : (a, o) ∈ moduleNs cur pydantic sites := List.mem_filterMap.2 ⟨s, hs, hb⟩
    apply lookupNs_unique _ a o hmem
    intro b' hb' e
    rw [form_inj cur pydantic b' (a, o) (hforms b' hb') (hforms _ hmem) e]
  rcases typeRef_cases cur s.tgt s.ty s.unwrap pydantic hc (simplePkg_pkgOk h1) h3 with ⟨_, t, hr⟩ | hcore
  · unfold siteRef; rw [hr]; rfl
  · have hsh : ∃ loc, Shape cur (siteRef cur pydantic s) (classOf s.ty) loc := by
      unfold siteRef
      rw [hcore, refCore_redirect]
      split
      · exact ⟨_, absolute_shape cur _ _⟩
      · exact ⟨_, refCore_shape cur s.tgt _ (simplePkg_not_class_ne_nil h1) h2 hT⟩
    obtain ⟨loc, hsh⟩ := hsh
    rw [hsh.resolves]
    rcases hsh with ⟨-, hr, rfl⟩ | ⟨a, hr, hb⟩ | ⟨a, hr, hb⟩
    · -- a sibling: no import of the module binds a class-like name
      have hnone : lookupNs (moduleNs cur pydantic sites) (classOf s.ty) = Option.none := by
        apply lookupNs_none
        intro b hb e
        have := form_not_className cur pydantic b (hforms b hb)
        rw [e, hT] at this; cases this
      rw [hr]
      simp [denoteNs, hnone]
    · rw [hr]
      simp [denoteNs, huniq _ _ hb]
    · rw [hr]
      simp [denoteNs, huniq _ _ hb]

end Bp.Importing
