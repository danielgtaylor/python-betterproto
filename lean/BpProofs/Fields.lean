import BpModel.All
import BpProofs.Varint
/-
  `load_fields` framing.  Every reader (the varint loop, `loadPayload`, `loadField`) is local: its
  result is determined by the bytes it consumed, whatever follows them, and on any fewer bytes it
  fails with EOFError.  `RecordOk` is what every record that was read satisfies, whatever it was read from;
  `loadFields_induct` is induction along a successful parse, field by field; `loadFields_append`: framing is
  compositional.
-/
namespace Bp
open Gen

theorem loadVarintAux_local (bs : Bytes) (shift res k v c : Nat)
    (h : loadVarintAux shift res k bs = .ok (v, c)) :
    (k < c ∧ c ≤ k + bs.length)
    ∧ (∀ rest, loadVarintAux shift res k (bs.take (c - k) ++ rest) = .ok (v, c))
    ∧ (∀ n, n < c - k → loadVarintAux shift res k (bs.take n) = .error .eof) := by
  induction bs generalizing shift res k with
  | nil => simp [loadVarintAux] at h; split at h <;> simp at h
  | cons b bs ih =>
    rw [loadVarintAux] at h
    split at h
    · cases h
    · rename_i hs
      have eof0 : loadVarintAux shift res k [] = .error .eof := by simp [loadVarintAux, hs]
      split at h
      · -- the last byte
        rename_i hb
        simp only [Except.ok.injEq, Prod.mk.injEq] at h
        obtain ⟨rfl, rfl⟩ := h
        refine ⟨by simp, fun rest => ?_, fun n hn => ?_⟩
        · rw [Nat.add_sub_cancel_left, List.take_succ_cons, List.take_zero, List.cons_append, List.nil_append,
            loadVarintAux]
          simp only [hs, hb, if_true, if_false]
        · obtain rfl : n = 0 := by omega
          exact eof0
      · rename_i hb
        obtain ⟨⟨h1, h2⟩, hp, ht⟩ := ih _ _ _ h
        refine ⟨⟨by omega, by simp only [List.length_cons]; omega⟩, fun rest => ?_, fun n hn => ?_⟩
        · rw [show c - k = (c - (k + 1)) + 1 by omega, List.take_succ_cons, List.cons_append, loadVarintAux]
          simp only [hs, hb, if_false]
          exact hp rest
        · cases n with
          | zero => exact eof0
          | succ n =>
            rw [List.take_succ_cons, loadVarintAux]
            simp only [hs, hb, if_false]
            exact ht n (by omega)

theorem loadVarintAux_consumed (bs : Bytes) (shift res k v c : Nat)
    (h : loadVarintAux shift res k bs = .ok (v, c)) : k < c ∧ c ≤ k + bs.length :=
  (loadVarintAux_local bs shift res k v c h).1

theorem loadVarint_ok {bs : Bytes} {v c : Nat} (h : loadVarint bs = .ok (v, c)) :
    ∃ v', loadVarintAux 0 0 0 bs = .ok (v', c) ∧ v = v' % 18446744073709551616 := by
  unfold loadVarint at h
  split at h
  · rename_i v' k' heq
    simp only [Except.ok.injEq, Prod.mk.injEq] at h
    exact ⟨v', h.2 ▸ heq, h.1.symm⟩
  · simp at h

theorem loadVarint_consumed (bs : Bytes) (v c : Nat) (h : loadVarint bs = .ok (v, c)) :
    0 < c ∧ c ≤ bs.length := by
  obtain ⟨v', h', _⟩ := loadVarint_ok h
  have := loadVarintAux_consumed bs 0 0 0 v' c h'
  omega

theorem loadVarint_nil_ne_ok (v c : Nat) : loadVarint [] ≠ .ok (v, c) := by
  intro h; have := loadVarint_consumed [] v c h; simp at this; omega

theorem loadPayload_varint_eq (bs : Bytes) :
    loadPayload wireVarint bs =
      match loadVarint bs with
      | .error e => .error e
      | .ok (v, k) => .ok (v, [], k) := rfl

/-- fixed64 and fixed32 differ in the width only -/
theorem loadPayload_fixed_eq {wt w : Nat} (hw : wt = wireFixed64 ∧ w = 8 ∨ wt = wireFixed32 ∧ w = 4)
    (bs : Bytes) :
    loadPayload wt bs = if bs.length < w then .error .eof else .ok (0, bs.take w, w) := by
  rcases hw with ⟨rfl, rfl⟩ | ⟨rfl, rfl⟩ <;> rfl

theorem loadPayload_lenDelim_eq (bs : Bytes) :
    loadPayload wireLenDelim bs =
      match loadVarint bs with
      | .error e => .error e
      | .ok (len, k) =>
        if (bs.drop k).length < len then .error .eof else .ok (0, (bs.drop k).take len, k + len) := rfl

theorem loadPayload_inv {wt : Nat} {bs : Bytes} {v : Nat} {p : Bytes} {c : Nat}
    (h : loadPayload wt bs = .ok (v, p, c)) :
    (wt = wireVarint ∧ p = [] ∧ loadVarint bs = .ok (v, c))
    ∨ (∃ w, (wt = wireFixed64 ∧ w = 8 ∨ wt = wireFixed32 ∧ w = 4)
        ∧ w ≤ bs.length ∧ v = 0 ∧ p = bs.take w ∧ c = w)
    ∨ (wt = wireLenDelim ∧ v = 0 ∧ ∃ len k, loadVarint bs = .ok (len, k)
        ∧ len ≤ (bs.drop k).length ∧ p = (bs.drop k).take len ∧ c = k + len) := by
  by_cases h0 : wt = wireVarint
  · subst h0
    rw [loadPayload_varint_eq] at h
    split at h
    · simp at h
    · rename_i v' k hv
      simp only [Except.ok.injEq, Prod.mk.injEq] at h
      exact Or.inl ⟨rfl, h.2.1.symm, by rw [hv, h.1, h.2.2]⟩
  by_cases hf : wt = wireFixed64 ∨ wt = wireFixed32
  · obtain ⟨w, hw⟩ : ∃ w, wt = wireFixed64 ∧ w = 8 ∨ wt = wireFixed32 ∧ w = 4 := by
      rcases hf with e | e
      · exact ⟨8, Or.inl ⟨e, rfl⟩⟩
      · exact ⟨4, Or.inr ⟨e, rfl⟩⟩
    rw [loadPayload_fixed_eq hw] at h
    split at h
    · simp at h
    · simp only [Except.ok.injEq, Prod.mk.injEq] at h
      exact Or.inr (Or.inl ⟨w, hw, by omega, h.1.symm, h.2.1.symm, h.2.2.symm⟩)
  by_cases h2 : wt = wireLenDelim
  · subst h2
    rw [loadPayload_lenDelim_eq] at h
    split at h
    · simp at h
    · rename_i len k hv
      split at h
      · simp at h
      · simp only [Except.ok.injEq, Prod.mk.injEq] at h
        exact Or.inr (Or.inr ⟨rfl, h.1.symm, len, k, hv, by omega, h.2.1.symm, h.2.2.symm⟩)
  · simp [loadPayload, h0, h2, not_or.mp hf] at h

theorem loadPayload_ok (wt : Nat) (rest : Bytes) (v : Nat) (p : Bytes) (c : Nat)
    (h : loadPayload wt rest = .ok (v, p, c)) :
    c ≤ rest.length ∧ 0 < c
    ∧ (wt = wireVarint ∨ wt = wireFixed64 ∨ wt = wireLenDelim ∨ wt = wireFixed32)
    ∧ (wt = wireFixed64 → p.length = 8) ∧ (wt = wireFixed32 → p.length = 4)
    ∧ (wt = wireVarint → p = []) ∧ (wt ≠ wireVarint → v = 0) := by
  rcases loadPayload_inv h with ⟨rfl, rfl, hv⟩ | ⟨w, hw, hl, rfl, rfl, rfl⟩ | ⟨rfl, rfl, len, k, hv, hl, _, rfl⟩
  · have := loadVarint_consumed _ _ _ hv
    exact ⟨this.2, this.1, Or.inl rfl, nofun, nofun, fun _ => rfl, fun h => absurd rfl h⟩
  · have hp := List.length_take_of_le hl
    rcases hw with ⟨rfl, rfl⟩ | ⟨rfl, rfl⟩
    · exact ⟨hl, by decide, Or.inr (Or.inl rfl), fun _ => hp, nofun, nofun, fun _ => rfl⟩
    · exact ⟨hl, by decide, Or.inr (Or.inr (Or.inr rfl)), nofun, fun _ => hp, nofun, fun _ => rfl⟩
  · -- the length varint is counted in `c`
    have := loadVarint_consumed _ _ _ hv
    rw [List.length_drop] at hl
    exact ⟨by omega, by omega, Or.inr (Or.inr (Or.inl rfl)), nofun, nofun, nofun, fun _ => rfl⟩

theorem loadPayload_seg {wt : Nat} {bs : Bytes} {v : Nat} {p : Bytes} {c : Nat}
    (h : loadPayload wt bs = .ok (v, p, c)) :
    p <:+: bs.take c ∧ p.length ≤ c ∧ v < 2 ^ 64 ∧ (wt = wireVarint → p = []) ∧ (wt ≠ wireVarint → v = 0) := by
  rcases loadPayload_inv h with ⟨rfl, rfl, hv⟩ | ⟨w, hw, hl, rfl, rfl, rfl⟩ | ⟨rfl, rfl, len, k, hv, hl, rfl, rfl⟩
  · obtain ⟨v', _, rfl⟩ := loadVarint_ok hv
    exact ⟨List.nil_infix, Nat.zero_le _, Nat.mod_lt _ (by decide), fun _ => rfl, fun h => absurd rfl h⟩
  · refine ⟨List.infix_refl _, by rw [List.length_take]; omega, by decide, fun h => ?_, fun _ => rfl⟩
    rcases hw with ⟨rfl, _⟩ | ⟨rfl, _⟩ <;> cases h
  · refine ⟨?_, by rw [List.length_take]; omega, by decide, nofun, fun _ => rfl⟩
    exact ⟨bs.take k, [], by rw [List.append_nil, ← List.take_add]⟩

/-- what `loadField` guarantees about the record it returns, whatever input it was read from -/
structure RecordOk (pf : PField) : Prop where
  raw_pos : 0 < pf.raw.length
  num_pos : pf.num ≠ 0
  wt_ok : pf.wt = wireVarint ∨ pf.wt = wireFixed64 ∨ pf.wt = wireLenDelim ∨ pf.wt = wireFixed32
  len64 : pf.wt = wireFixed64 → pf.payload.length = 8
  len32 : pf.wt = wireFixed32 → pf.payload.length = 4
  vint_lt : pf.vint < 2 ^ 64
  payload_seg : pf.payload <:+: pf.raw
  payload_lt : pf.payload.length < pf.raw.length
  varint_nil : pf.wt = wireVarint → pf.payload = []
  vint_zero : pf.wt ≠ wireVarint → pf.vint = 0

/-- result of one `load_fields` iteration: the field's raw bytes followed by the rest are
    exactly the input; the field is well-formed -/
structure FieldOk (bs : Bytes) (pf : PField) (rest : Bytes) : Prop extends RecordOk pf where
  raw_rest : pf.raw ++ rest = bs

theorem FieldOk.rest_lt {bs : Bytes} {pf : PField} {rest : Bytes} (ok : FieldOk bs pf rest) :
    rest.length < bs.length := by
  have := congrArg List.length ok.raw_rest
  have := ok.raw_pos
  simp only [List.length_append] at *
  omega

theorem loadField_inv {bs : Bytes} {pf : PField} {rest : Bytes} (h : loadField bs = .ok (pf, rest)) :
    ∃ tag k c, loadVarint bs = .ok (tag, k) ∧ (tag / 8 == 0) = false
      ∧ loadPayload (tag % 8) (bs.drop k) = .ok (pf.vint, pf.payload, c)
      ∧ pf.num = tag / 8 ∧ pf.wt = tag % 8 ∧ pf.raw = bs.take (k + c) ∧ rest = bs.drop (k + c) := by
  unfold loadField at h
  split at h
  · simp at h
  · rename_i tag k hk
    split at h
    · simp at h
    · rename_i hnum
      split at h
      · simp at h
      · rename_i v p c hp
        simp only [Except.ok.injEq, Prod.mk.injEq] at h
        obtain ⟨rfl, rfl⟩ := h
        exact ⟨tag, k, c, hk, by simpa using hnum, hp, rfl, rfl, rfl, rfl⟩

/-- the converse of `loadField_inv`: a tag `tg` that reads as `t`, then a payload of wire type `t % 8` -/
theorem loadField_of_tag (tg body : Bytes) (t v c : Nat) (p : Bytes)
    (ht : loadVarint (tg ++ body) = .ok (t, tg.length)) (hnum : (t / 8 == 0) = false)
    (hp : loadPayload (t % 8) body = .ok (v, p, c)) :
    loadField (tg ++ body)
      = .ok ({ num := t / 8, wt := t % 8, vint := v, payload := p, raw := tg ++ body.take c }, body.drop c) := by
  unfold loadField
  rw [ht]
  simp only [hnum, Bool.false_eq_true, if_false]
  rw [List.drop_left, hp]
  simp only [List.take_length_add_append, List.drop_length_add_append]

theorem loadField_ok (bs : Bytes) (pf : PField) (rest : Bytes) (h : loadField bs = .ok (pf, rest)) :
    FieldOk bs pf rest := by
  obtain ⟨tag, k, c, hk, hnum, hp, hn, hw, hraw, rfl⟩ := loadField_inv h
  have hk' := loadVarint_consumed bs tag k hk
  obtain ⟨hc, _, hwt, h64, h32, _⟩ := loadPayload_ok _ _ _ _ _ hp
  rw [List.length_drop] at hc
  -- by terms: `omega` is slow among the hypotheses on `tag / 8`, `tag % 8`
  have hlen : pf.raw.length = k + c := by
    rw [hraw, List.length_take]; exact Nat.min_eq_left (Nat.add_le_of_le_sub' hk'.2 hc)
  obtain ⟨⟨s, t, hseg⟩, hpl, hv, hnil, hzero⟩ := loadPayload_seg hp
  rw [← hw] at hwt h64 h32 hnil hzero
  refine ⟨⟨?_, ?_, hwt, h64, h32, hv, ?_, ?_, hnil, hzero⟩, by rw [hraw]; exact List.take_append_drop _ _⟩
  · rw [hlen]; exact Nat.lt_of_lt_of_le hk'.1 (Nat.le_add_right _ _)
  · rw [hn]; simpa using hnum
  · exact ⟨bs.take k ++ s, t, by rw [hraw, List.take_add, ← hseg]; simp only [List.append_assoc]⟩
  · rw [hlen]; exact Nat.lt_of_le_of_lt hpl (Nat.lt_add_of_pos_left hk'.1)

theorem loadFieldsFuel_cons (f : Nat) (b : Nat) (bs : Bytes) :
    loadFieldsFuel (f + 1) (b :: bs) =
      match loadField (b :: bs) with
      | .error e => .error e
      | .ok (pf, rest) =>
        match loadFieldsFuel f rest with
        | .error e => .error e
        | .ok pfs => .ok (pf :: pfs) := rfl

theorem loadFieldsFuel_fuel (f g : Nat) (bs : Bytes) (hf : bs.length < f) (hg : bs.length < g) :
    loadFieldsFuel f bs = loadFieldsFuel g bs := by
  induction f generalizing g bs with
  | zero => omega
  | succ f ih =>
    cases g with
    | zero => omega
    | succ g =>
      cases bs with
      | nil => rfl
      | cons b bs =>
        rw [loadFieldsFuel_cons, loadFieldsFuel_cons]
        cases hlf : loadField (b :: bs) with
        | error e => rfl
        | ok r =>
          obtain ⟨pf, rest⟩ := r
          have hlen := (loadField_ok _ _ _ hlf).rest_lt
          simp only []
          rw [ih g rest (by omega) (by omega)]

theorem loadFields_nil : loadFields [] = .ok [] := rfl

theorem loadFields_cons (bs : Bytes) (pf : PField) (rest : Bytes) (hne : bs ≠ [])
    (h : loadField bs = .ok (pf, rest)) :
    loadFields bs = (loadFields rest).bind fun pfs => .ok (pf :: pfs) := by
  unfold loadFields
  cases bs with
  | nil => exact absurd rfl hne
  | cons b bs =>
    have hlen := (loadField_ok _ _ _ h).rest_lt
    rw [List.length_cons, loadFieldsFuel_cons, h]
    simp only []
    rw [loadFieldsFuel_fuel (bs.length + 1) (rest.length + 1) rest hlen (by omega)]
    cases loadFieldsFuel (rest.length + 1) rest <;> rfl

theorem loadFields_cons_err (bs : Bytes) (e : PyErr) (hne : bs ≠ [])
    (h : loadField bs = .error e) : loadFields bs = .error e := by
  unfold loadFields
  cases bs with
  | nil => exact absurd rfl hne
  | cons b bs => rw [List.length_cons, loadFieldsFuel_cons, h]

theorem loadFields_induct {P : Bytes → List PField → Prop} (nil : P [] [])
    (cons : ∀ bs pf rest pfs, bs ≠ [] → loadField bs = .ok (pf, rest) → loadFields rest = .ok pfs →
      P rest pfs → P bs (pf :: pfs))
    {bs : Bytes} {pfs : List PField} (h : loadFields bs = .ok pfs) : P bs pfs := by
  induction hn : bs.length using Nat.strongRecOn generalizing bs pfs with
  | _ n ih =>
    cases bs with
    | nil => cases h; exact nil
    | cons b bs =>
      cases hlf : loadField (b :: bs) with
      | error e => rw [loadFields_cons_err _ e (by simp) hlf] at h; cases h
      | ok r =>
        obtain ⟨pf, rest⟩ := r
        rw [loadFields_cons _ pf rest (by simp) hlf] at h
        cases hr : loadFields rest with
        | error e => rw [hr] at h; cases h
        | ok pfs' =>
          rw [hr] at h; cases h
          have hlen := (loadField_ok _ _ _ hlf).rest_lt
          exact cons _ pf rest pfs' (by simp) hlf hr (ih rest.length (hn ▸ hlen) hr rfl)

def joinRaw : List PField → Bytes
  | [] => []
  | pf :: pfs => pf.raw ++ joinRaw pfs

def AllFieldsOk (pfs : List PField) : Prop :=
  ∀ pf ∈ pfs, 0 < pf.raw.length ∧ pf.num ≠ 0
    ∧ (pf.wt = wireVarint ∨ pf.wt = wireFixed64 ∨ pf.wt = wireLenDelim ∨ pf.wt = wireFixed32)
    ∧ (pf.wt = wireFixed64 → pf.payload.length = 8) ∧ (pf.wt = wireFixed32 → pf.payload.length = 4)

theorem loadVarint_prefix (bs : Bytes) (v c : Nat) (h : loadVarint bs = .ok (v, c)) (rest : Bytes) :
    loadVarint (bs.take c ++ rest) = .ok (v, c) := by
  obtain ⟨v', h', rfl⟩ := loadVarint_ok h
  have := (loadVarintAux_local bs 0 0 0 v' c h').2.1 rest
  rw [Nat.sub_zero] at this
  unfold loadVarint
  rw [this]

theorem take_app (bs r : Bytes) (n : Nat) (h : n ≤ bs.length) : (bs.take n ++ r).take n = bs.take n :=
  List.take_left' (List.length_take_of_le h)

theorem drop_app (bs r : Bytes) (n : Nat) (h : n ≤ bs.length) : (bs.take n ++ r).drop n = r :=
  List.drop_left' (List.length_take_of_le h)

theorem len_app_ge (bs r : Bytes) (n : Nat) (h : n ≤ bs.length) : ¬ (bs.take n ++ r).length < n := by
  rw [List.length_append, List.length_take_of_le h]; omega

theorem loadPayload_prefix (wt : Nat) (bs : Bytes) (v : Nat) (p : Bytes) (c : Nat)
    (h : loadPayload wt bs = .ok (v, p, c)) (rest : Bytes) :
    loadPayload wt (bs.take c ++ rest) = .ok (v, p, c) := by
  rcases loadPayload_inv h with ⟨rfl, rfl, hv⟩ | ⟨w, hw, hl, rfl, rfl, rfl⟩ | ⟨rfl, rfl, len, k, hv, hl, rfl, rfl⟩
  · rw [loadPayload_varint_eq, loadVarint_prefix _ _ _ hv]
  · rw [loadPayload_fixed_eq hw, if_neg (len_app_ge bs rest c hl), take_app bs rest c hl]
  · have hk := (loadVarint_consumed _ _ _ hv).2
    rw [loadPayload_lenDelim_eq, List.take_add, List.append_assoc, loadVarint_prefix _ _ _ hv]
    simp only []
    rw [drop_app bs _ k hk, if_neg (len_app_ge _ rest len hl), take_app _ rest len hl]

theorem take_split (bs : Bytes) {k n : Nat} (h : k ≤ n) :
    bs.take n = bs.take k ++ (bs.drop k).take (n - k) := by
  rw [← List.take_add, Nat.add_sub_cancel' h]

/-- **locality**: the same field is decoded from its raw bytes followed by anything -/
theorem loadField_prefix (bs : Bytes) (pf : PField) (rest : Bytes)
    (h : loadField bs = .ok (pf, rest)) (rest' : Bytes) :
    loadField (pf.raw ++ rest') = .ok (pf, rest') := by
  obtain ⟨tag, k, c, hk, hnum, hp, hn, hw, hraw, _⟩ := loadField_inv h
  have hk' := (loadVarint_consumed bs tag k hk).2
  have hc := (loadPayload_ok _ _ _ _ _ hp).1
  rw [List.length_drop] at hc
  have hkc : k + c ≤ bs.length := by omega
  have e : bs.take k ++ ((bs.drop k).take c ++ rest') = pf.raw ++ rest' := by
    rw [hraw, List.take_add, List.append_assoc]
  unfold loadField
  rw [← e, loadVarint_prefix _ _ _ hk]
  simp only [hnum]
  rw [drop_app bs _ k hk', loadPayload_prefix _ _ _ _ _ hp]
  simp only [Bool.false_eq_true, if_false]
  rw [e, hraw, take_app bs rest' (k + c) hkc, drop_app bs rest' (k + c) hkc, ← hraw, ← hn, ← hw]

def Parsed (pf : PField) : Prop := ∃ bs rest, loadField bs = .ok (pf, rest)

theorem Parsed.ok {pf : PField} (h : Parsed pf) : RecordOk pf := by
  obtain ⟨bs, rest, h⟩ := h
  exact (loadField_ok _ _ _ h).toRecordOk

theorem raw_infix_join {pfs : List PField} {pf : PField} (h : pf ∈ pfs) : pf.raw <:+: joinRaw pfs := by
  induction pfs with
  | nil => cases h
  | cons q qs ih =>
    rcases List.mem_cons.mp h with rfl | h
    · exact (List.prefix_append _ _).isInfix
    · exact (ih h).trans (List.suffix_append _ _).isInfix

/-- framing is compositional: records that were read once, written one after the other in front of any input,
    are read back first -/
theorem loadFields_append (pfs : List PField) (h : ∀ pf ∈ pfs, Parsed pf) (bs : Bytes) :
    loadFields (joinRaw pfs ++ bs) = (loadFields bs).map (pfs ++ ·) := by
  induction pfs with
  | nil => show loadFields bs = _; cases loadFields bs <;> rfl
  | cons pf pfs ih =>
    obtain ⟨b0, rest, hlf⟩ := h pf (by simp)
    have hne := List.append_ne_nil_of_left_ne_nil (List.ne_nil_of_length_pos (loadField_ok _ _ _ hlf).raw_pos) (joinRaw pfs ++ bs)
    rw [joinRaw, List.append_assoc, loadFields_cons _ pf _ hne (loadField_prefix b0 pf rest hlf _),
      ih fun x hx => h x (by simp [hx])]
    cases loadFields bs <;> rfl

/-- **any sequence of decoded fields re-parses to itself** from the concatenation of
    their raw bytes (sub-sequences, permutations, duplications of records included) -/
theorem loadFields_join (pfs : List PField) (h : ∀ pf ∈ pfs, Parsed pf) :
    loadFields (joinRaw pfs) = .ok pfs := by
  have := loadFields_append pfs h []
  rw [List.append_nil, loadFields_nil] at this
  exact this.trans (congrArg Except.ok (List.append_nil pfs))

/-- **what the framing accepts, exactly**: `bs` is split into `pfs` iff `bs` is the raw bytes of `pfs` one after
    the other (no byte lost or invented) and each of them is a record `load_field` returns on some input -/
theorem loadFields_iff (bs : Bytes) (pfs : List PField) :
    loadFields bs = .ok pfs ↔ joinRaw pfs = bs ∧ ∀ pf ∈ pfs, Parsed pf := by
  refine ⟨fun h => ?_, fun ⟨e, h⟩ => e ▸ loadFields_join pfs h⟩
  refine loadFields_induct (P := fun bs pfs => joinRaw pfs = bs ∧ ∀ pf ∈ pfs, Parsed pf) ⟨rfl, nofun⟩ ?_ h
  intro bs pf rest pfs _ hlf _ ih
  refine ⟨by simp only [joinRaw, ih.1]; exact (loadField_ok _ _ _ hlf).raw_rest, fun x hx => ?_⟩
  rcases List.mem_cons.mp hx with rfl | hx
  · exact ⟨_, _, hlf⟩
  · exact ih.2 x hx

theorem loadFields_parsed (bs : Bytes) (pfs : List PField) (h : loadFields bs = .ok pfs) :
    ∀ pf ∈ pfs, Parsed pf := ((loadFields_iff bs pfs).mp h).2

theorem loadFields_raw (bs : Bytes) (pfs : List PField) (h : loadFields bs = .ok pfs) :
    joinRaw pfs = bs ∧ AllFieldsOk pfs :=
  ⟨((loadFields_iff bs pfs).mp h).1, fun pf hpf =>
    have ok := (loadFields_parsed bs pfs h pf hpf).ok
    ⟨ok.raw_pos, ok.num_pos, ok.wt_ok, ok.len64, ok.len32⟩⟩

theorem loadFields_payload {bs : Bytes} {pfs : List PField} (h : loadFields bs = .ok pfs) {pf : PField}
    (hpf : pf ∈ pfs) : pf.payload <:+: bs ∧ pf.payload.length < bs.length := by
  have ok := (loadFields_parsed bs pfs h pf hpf).ok
  have hr := raw_infix_join hpf
  rw [(loadFields_raw bs pfs h).1] at hr
  exact ⟨ok.payload_seg.trans hr, Nat.lt_of_lt_of_le ok.payload_lt hr.length_le⟩

theorem loadVarint_trunc (bs : Bytes) (v c n : Nat) (h : loadVarint bs = .ok (v, c)) (hn : n < c) :
    loadVarint (bs.take n) = .error .eof := by
  obtain ⟨v', h', _⟩ := loadVarint_ok h
  unfold loadVarint
  rw [(loadVarintAux_local bs 0 0 0 v' c h').2.2 n (by omega)]

theorem loadPayload_trunc (wt : Nat) (bs : Bytes) (v : Nat) (p : Bytes) (c n : Nat)
    (h : loadPayload wt bs = .ok (v, p, c)) (hn : n < c) :
    loadPayload wt (bs.take n) = .error .eof := by
  rcases loadPayload_inv h with ⟨rfl, _, hv⟩ | ⟨w, hw, hl, _, _, rfl⟩ | ⟨rfl, _, len, k, hv, hl, _, rfl⟩
  · rw [loadPayload_varint_eq, loadVarint_trunc _ _ _ _ hv hn]
  · rw [loadPayload_fixed_eq hw, if_pos (by rw [List.length_take]; omega)]
  · have hk := (loadVarint_consumed _ _ _ hv).2
    rw [loadPayload_lenDelim_eq]
    by_cases hnk : n < k
    · rw [loadVarint_trunc _ _ _ _ hv hnk]
    · -- the length varint is complete, the payload is short
      rw [take_split bs (Nat.le_of_not_lt hnk), loadVarint_prefix _ _ _ hv]
      simp only []
      rw [drop_app bs _ k hk, if_pos (by rw [List.length_take]; omega)]

/-- **a field cut anywhere in the middle is rejected** (EOFError) -/
theorem loadField_trunc (bs : Bytes) (pf : PField) (rest : Bytes) (n : Nat)
    (h : loadField bs = .ok (pf, rest)) (hn : n < pf.raw.length) :
    loadField (bs.take n) = .error .eof := by
  obtain ⟨tag, k, c, hk, hnum, hp, _, _, hraw, _⟩ := loadField_inv h
  have hk' := (loadVarint_consumed bs tag k hk).2
  rw [hraw, List.length_take] at hn
  unfold loadField
  by_cases hnk : n < k
  · rw [loadVarint_trunc _ _ _ _ hk hnk]
  · rw [take_split bs (Nat.le_of_not_lt hnk), loadVarint_prefix _ _ _ hk]
    simp only [hnum]
    rw [drop_app bs _ k hk', loadPayload_trunc _ _ _ _ _ _ hp (by omega)]
    rfl

end Bp
