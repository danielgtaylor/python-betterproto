import BpModel.All
import BpModel.PyDict
import BpProofs.Presence
import BpProofs.Len
import BpProofs.JsonEqv
import BpProofs.EqSound
/-
  C14, the reads of an observer at EVERY nesting level.

  `getattr` on a PLACEHOLDER slot stores the field's default in the slot (`object.__setattr__`: no
  flag is touched).  `to_pydict` (and `to_dict`, `bytes`, …) does that to the message it is called
  on and, through its recursive calls, to sub-messages, to the items of repeated message fields, to
  the message values of map fields — and to the default sub-message it has just stored, when that one
  is written (selected oneof member / `include_default_values`).

  `MatV S v v'`: `v'` is `v` with SOME PLACEHOLDER slots of visible fields replaced by their defaults,
  at any depth, also inside the defaults that were stored.  By recursion on the derivation (`MatV.induct`), such a
  change keeps every position and every nested instance (`mat_at`, `matV_subAt`); it is invisible to
  `value == default` (`mat_eqDefault`: what `dump`, `to_dict`, `__bool__` test) and to the encoder (`mat_dump`,
  `matV_dumpVal`) when proto3-optional fields are singular non-map fields (`WfSchemaOpt`: only then is a fresh
  instance equal to its default by that test), and for every schema to the comparison with a default (`mat_defEq`)
  and to `==` (`mat_valEq`, `matV_msgEq`).  In each of these the two rules for a slot are the same two facts: the
  comparison of a slot follows that of its value, and PLACEHOLDER compares as the default does.  The reads of
  `to_pydict` (`pyReads_mat`) and of `bytes` / `len` / `to_dict` (`materializeAll_mat`) are such a change.
-/
namespace Bp
open Gen EqS

section reads
variable (S : Schema)

mutual
/-- a slot value / a message before and after reads -/
inductive MatV (S : Schema) : Val → Val → Prop
  | same (v : Val) : MatV S v v
  | list (xs ys : List Val) : MatL S xs ys → MatV S (.list xs) (.list ys)
  | dict (ks vs vs' : List Val) : MatL S vs vs' → MatV S (.dict ks vs) (.dict ks vs')
  | msg (c : Nat) (sl sl' : List Val) (ow : Bool) (unk : Bytes) (cur : List (Option Nat)) :
      MatSlots S (fieldsOf S c) cur 0 sl sl' → MatV S (.msg c sl ow unk cur) (.msg c sl' ow unk cur)
/-- the items of a list / the values of a dict: each one untouched, or a message that was read -/
inductive MatL (S : Schema) : List Val → List Val → Prop
  | nil : MatL S [] []
  | same (x : Val) (xs ys : List Val) : MatL S xs ys → MatL S (x :: xs) (x :: ys)
  | msg (c : Nat) (sl sl' : List Val) (ow : Bool) (unk : Bytes) (cur : List (Option Nat)) (xs ys : List Val) :
      MatSlots S (fieldsOf S c) cur 0 sl sl' → MatL S xs ys →
      MatL S (.msg c sl ow unk cur :: xs) (.msg c sl' ow unk cur :: ys)
/-- the raw slots from index `i` on: a slot keeps its value (itself possibly read), or a PLACEHOLDER
    slot of a field that is not a hidden oneof member receives the field's default (possibly read) -/
inductive MatSlots (S : Schema) : List FieldD → List (Option Nat) → Nat → List Val → List Val → Prop
  | nil (fs : List FieldD) (cur : List (Option Nat)) (i : Nat) : MatSlots S fs cur i [] []
  | keep (fs : List FieldD) (cur : List (Option Nat)) (i : Nat) (v v' : Val) (vs vs' : List Val) :
      MatV S v v' → MatSlots S fs cur (i + 1) vs vs' → MatSlots S fs cur i (v :: vs) (v' :: vs')
  | fill (fs : List FieldD) (cur : List (Option Nat)) (i : Nat) (f : FieldD) (d : Val) (vs vs' : List Val) :
      fs[i]? = some f → hidden f i cur = false → MatV S (defaultOf S f) d →
      MatSlots S fs cur (i + 1) vs vs' → MatSlots S fs cur i (.ph :: vs) (d :: vs')
end

/-- Induction over the derivation of `MatV` / `MatL` / `MatSlots`, the three conclusions at once: `P` of a pair of
    values, `Q` of a pair of lists, `R` of a pair of slot lists.  Every statement about reads below is one use of it. -/
theorem MatV.induct {S : Schema} {P : Val → Val → Prop} {Q : List Val → List Val → Prop}
    {R : List FieldD → List (Option Nat) → Nat → List Val → List Val → Prop}
    (same : ∀ v, P v v)
    (list : ∀ xs ys, MatL S xs ys → Q xs ys → P (.list xs) (.list ys))
    (dict : ∀ ks vs vs', MatL S vs vs' → Q vs vs' → P (.dict ks vs) (.dict ks vs'))
    (msg : ∀ c sl sl' ow unk cur, MatSlots S (fieldsOf S c) cur 0 sl sl' → R (fieldsOf S c) cur 0 sl sl' →
      P (.msg c sl ow unk cur) (.msg c sl' ow unk cur))
    (nil : Q [] [])
    (consSame : ∀ x xs ys, MatL S xs ys → Q xs ys → Q (x :: xs) (x :: ys))
    (consMsg : ∀ c sl sl' ow unk cur xs ys, MatSlots S (fieldsOf S c) cur 0 sl sl' → MatL S xs ys →
      R (fieldsOf S c) cur 0 sl sl' → Q xs ys → Q (.msg c sl ow unk cur :: xs) (.msg c sl' ow unk cur :: ys))
    (slotsNil : ∀ fs cur i, R fs cur i [] [])
    (keep : ∀ fs cur i v v' vs vs', MatV S v v' → MatSlots S fs cur (i + 1) vs vs' → P v v' → R fs cur (i + 1) vs vs' →
      R fs cur i (v :: vs) (v' :: vs'))
    (fill : ∀ fs cur i f d vs vs', fs[i]? = some f → hidden f i cur = false → MatV S (defaultOf S f) d →
      MatSlots S fs cur (i + 1) vs vs' → P (defaultOf S f) d → R fs cur (i + 1) vs vs' →
      R fs cur i (.ph :: vs) (d :: vs')) :
    (∀ {v v'}, MatV S v v' → P v v') ∧ (∀ {xs ys}, MatL S xs ys → Q xs ys)
      ∧ ∀ {fs cur i sl sl'}, MatSlots S fs cur i sl sl' → R fs cur i sl sl' :=
  ⟨fun h => MatV.rec (motive_1 := fun v v' _ => P v v') (motive_2 := fun xs ys _ => Q xs ys)
      (motive_3 := fun fs cur i sl sl' _ => R fs cur i sl sl') same list dict msg nil consSame consMsg slotsNil keep fill h,
    fun h => MatL.rec (motive_1 := fun v v' _ => P v v') (motive_2 := fun xs ys _ => Q xs ys)
      (motive_3 := fun fs cur i sl sl' _ => R fs cur i sl sl') same list dict msg nil consSame consMsg slotsNil keep fill h,
    fun h => MatSlots.rec (motive_1 := fun v v' _ => P v v') (motive_2 := fun xs ys _ => Q xs ys)
      (motive_3 := fun fs cur i sl sl' _ => R fs cur i sl sl') same list dict msg nil consSame consMsg slotsNil keep fill h⟩

theorem matL_isEmpty {xs ys : List Val} (h : MatL S xs ys) : ys.isEmpty = xs.isEmpty := by
  cases h <;> rfl

theorem matL_refl (S : Schema) : ∀ xs : List Val, MatL S xs xs
  | [] => MatL.nil
  | x :: xs => MatL.same x xs xs (matL_refl S xs)

theorem matSlots_refl (S : Schema) (fs : List FieldD) (cur : List (Option Nat)) : ∀ (vs : List Val) (i : Nat), MatSlots S fs cur i vs vs
  | [], i => MatSlots.nil fs cur i
  | v :: vs, i => MatSlots.keep fs cur i v v vs vs (MatV.same v) (matSlots_refl S fs cur vs (i + 1))

theorem matV_ph (v v' : Val) (h : MatV S v v') : (v = .ph ↔ v' = .ph) := by
  cases h <;> simp

theorem matV_none (v v' : Val) (h : MatV S v v') : (v = .none ↔ v' = .none) := by
  cases h <;> simp

theorem matV_isSet (f : FieldD) (v v' : Val) (h : MatV S v v') : isSet f v' = isSet f v := by
  cases h <;> rfl

/-- reads keep the positions: the value at a position is related to the value there before, or is the default that
    filled a PLACEHOLDER -/
theorem mat_at (S : Schema) :
    (∀ {v v'}, MatV S v v' → True)
    ∧ (∀ {xs ys}, MatL S xs ys → ∀ (k : Nat) (x : Val), xs[k]? = some x → ∃ y, ys[k]? = some y ∧ MatV S x y)
    ∧ ∀ {fs cur i sl sl'}, MatSlots S fs cur i sl sl' → sl'.length = sl.length
        ∧ ∀ (k : Nat) (v : Val), sl[k]? = some v → ∃ v', sl'[k]? = some v' ∧
          (MatV S v v' ∨ (v = .ph ∧ ∃ f, fs[i + k]? = some f ∧ hidden f (i + k) cur = false ∧ MatV S (defaultOf S f) v')) := by
  apply MatV.induct
  case same | list | dict | msg => intros; trivial
  case nil => exact fun _ _ hk => by simp at hk
  case consSame =>
    intro x xs ys _ ih k y hk
    cases k with
    | zero => cases hk; exact ⟨_, rfl, MatV.same _⟩
    | succ k => exact ih k y hk
  case consMsg =>
    intro c sl sl' ow unk cur xs ys hs _ _ ih k y hk
    cases k with
    | zero => cases hk; exact ⟨_, rfl, MatV.msg c sl sl' ow unk cur hs⟩
    | succ k => exact ih k y hk
  case slotsNil => exact fun _ _ _ => ⟨rfl, fun _ _ hk => by simp at hk⟩
  case keep =>
    intro fs cur i v v' vs vs' hv _ _ ih
    refine ⟨by simp [ih.1], fun k w hk => ?_⟩
    cases k with
    | zero => cases hk; exact ⟨v', rfl, .inl hv⟩
    | succ k =>
      have := ih.2 k w hk
      rwa [Nat.add_right_comm i 1 k] at this
  case fill =>
    intro fs cur i f d vs vs' hf hh hd _ _ ih
    refine ⟨by simp [ih.1], fun k w hk => ?_⟩
    cases k with
    | zero => cases hk; exact ⟨d, rfl, .inr ⟨rfl, f, hf, hh, hd⟩⟩
    | succ k =>
      have := ih.2 k w hk
      rwa [Nat.add_right_comm i 1 k] at this

theorem matL_get (S : Schema) {xs ys : List Val} (h : MatL S xs ys) : ∀ (k : Nat) (x : Val), xs[k]? = some x →
    ∃ y, ys[k]? = some y ∧ MatV S x y :=
  (mat_at S).2.1 h

theorem matSlots_length (S : Schema) {fs : List FieldD} {cur : List (Option Nat)} {i : Nat} {sl sl' : List Val}
    (h : MatSlots S fs cur i sl sl') : sl'.length = sl.length :=
  ((mat_at S).2.2 h).1

/-- the `i`-th raw slot of a message / item of a list / value of a dict -/
def childAt : Val → Nat → Option Val
  | .msg _ sl _ _ _, i => sl[i]?
  | .list xs, i => xs[i]?
  | .dict _ vs, i => vs[i]?
  | _, _ => Option.none

/-- the value reached by descending along a path of such indices -/
def subAt : Val → List Nat → Option Val
  | v, [] => some v
  | v, i :: p => (childAt v i).bind fun w => subAt w p

theorem matSlots_get {fs : List FieldD} {cur : List (Option Nat)} {i : Nat} {sl sl' : List Val}
    (h : MatSlots S fs cur i sl sl') (k : Nat) (v : Val) (hk : sl[k]? = some v) (hne : v ≠ .ph) :
    ∃ v', sl'[k]? = some v' ∧ MatV S v v' := by
  obtain ⟨v', hv', hm | ⟨e, _⟩⟩ := ((mat_at S).2.2 h).2 k v hk
  · exact ⟨v', hv', hm⟩
  · exact absurd e hne

theorem matSlots_get_ph {fs : List FieldD} {cur : List (Option Nat)} {i : Nat} {sl sl' : List Val}
    (h : MatSlots S fs cur i sl sl') (k : Nat) (hk : sl[k]? = some .ph) :
    sl'[k]? = some .ph ∨ ∃ f d, fs[i + k]? = some f ∧ hidden f (i + k) cur = false ∧ sl'[k]? = some d ∧ MatV S (defaultOf S f) d := by
  obtain ⟨v', hv', hm | ⟨_, f, hf, hh, hd⟩⟩ := ((mat_at S).2.2 h).2 k .ph hk
  · cases hm; exact .inl hv'
  · exact .inr ⟨f, v', hf, hh, hv', hd⟩

theorem matV_child (v v' : Val) (h : MatV S v v') (i : Nat) (w : Val) (hc : childAt v i = some w) (hne : w ≠ .ph) :
    ∃ w', childAt v' i = some w' ∧ MatV S w w' := by
  cases h with
  | same => exact ⟨w, hc, MatV.same w⟩
  | list xs ys hl => exact matL_get S hl i w hc
  | dict ks vs vs' hl => exact matL_get S hl i w hc
  | msg c sl sl' ow unk cur hs => exact matSlots_get S hs i w hc hne

theorem matV_subAt (S : Schema) : ∀ (p : List Nat) (v v' : Val), MatV S v v' →
    ∀ (c : Nat) (sl : List Val) (ow : Bool) (unk : Bytes) (cur : List (Option Nat)),
      subAt v p = some (.msg c sl ow unk cur) →
      ∃ sl', subAt v' p = some (.msg c sl' ow unk cur) ∧ MatSlots S (fieldsOf S c) cur 0 sl sl'
  | [], v, v', h, c, sl, ow, unk, cur, hs => by
    simp only [subAt, Option.some.injEq] at hs
    subst hs
    cases h with
    | same => exact ⟨sl, rfl, matSlots_refl S _ cur sl 0⟩
    | msg _ _ sl' _ _ _ hm => exact ⟨sl', rfl, hm⟩
  | i :: p, v, v', h, c, sl, ow, unk, cur, hs => by
    simp only [subAt] at hs ⊢
    cases hc : childAt v i with
    | none => rw [hc] at hs; simp at hs
    | some w =>
      rw [hc] at hs
      simp only [Option.bind_some] at hs
      have hne : w ≠ .ph := by
        intro e; subst e
        cases p <;> simp [subAt, childAt] at hs
      obtain ⟨w', hc', hw'⟩ := matV_child S v v' h i w hc hne
      rw [hc']
      simp only [Option.bind_some]
      exact matV_subAt S p w w' hw' c sl ow unk cur hs

theorem drop_cases (fs : List FieldD) (i : Nat) :
    fs.drop i = [] ∨ (∃ f, fs[i]? = some f ∧ fs.drop i = f :: fs.drop (i + 1)) := by
  cases h : fs[i]? with
  | none => exact .inl (List.drop_eq_nil_of_le (List.getElem?_eq_none_iff.mp h))
  | some f => exact .inr ⟨f, rfl, drop_cons_of_get fs i f h⟩

theorem slotsEqFresh_nil_slots (S : Schema) (fs : List FieldD) : slotsEqFresh S fs [] = true :=
  slotsEqFresh_nil_right S fs

theorem matV_default_ne_ph (f : FieldD) (d : Val) (h : MatV S (defaultOf S f) d) : d ≠ .ph :=
  fun e => defaultOf_ne_ph S f ((matV_ph S _ _ h).mpr e)

theorem mat_eqDefault (S : Schema) (hw : WfSchemaOpt S) :
    (∀ {v v'}, MatV S v v' → ∀ k, eqDefault S k v' = eqDefault S k v) ∧ (∀ {xs ys}, MatL S xs ys → True)
      ∧ ∀ {fs cur i sl sl'}, MatSlots S fs cur i sl sl' →
        slotsEqFresh S (fs.drop i) sl' = slotsEqFresh S (fs.drop i) sl := by
  apply MatV.induct
  case same => exact fun _ _ => rfl
  case list => exact fun _ _ hl _ _ => by rw [eqDefault, eqDefault, matL_isEmpty S hl]
  case dict => exact fun _ _ _ _ _ _ => by rw [eqDefault, eqDefault]
  case msg =>
    intro c sl sl' _ _ cur _ ih k
    rw [eqDefault.eq_def, eqDefault.eq_def]
    simp only [show slotsEqFresh S (fieldsOf S c) sl' = slotsEqFresh S (fieldsOf S c) sl from ih]
  case nil | consSame | consMsg => intros; trivial
  case slotsNil => exact fun _ _ _ => rfl
  case keep =>
    intro fs _ i v v' _ _ hv _ ihv ihs
    rcases drop_cases fs i with hd | ⟨f, _, hd⟩
    · rw [hd, slotsEqFresh_nil_left, slotsEqFresh_nil_left]
    · rw [hd, slotsEqFresh_cons, slotsEqFresh_cons, ihs]
      congr 1
      by_cases hph : v = .ph
      · rw [hph, (matV_ph S v v' hv).mp hph]
      · rw [isDefSlot_set S f v hph, isDefSlot_set S f v' (mt (matV_ph S v v' hv).mpr hph), ihv]
  case fill =>
    intro fs _ i f d _ _ hf _ hd _ ihd ihs
    rw [drop_cons_of_get _ _ _ hf, slotsEqFresh_cons, slotsEqFresh_cons, ihs,
      isDefSlot_set S f d (matV_default_ne_ph S f d hd), ihd, eqDefault_default S hw f]
    rfl

theorem matV_eqDefault (S : Schema) (hw : WfSchemaOpt S) {v v' : Val} (h : MatV S v v') :
    ∀ k, eqDefault S k v' = eqDefault S k v :=
  (mat_eqDefault S hw).1 h

theorem matSlots_eqFresh (S : Schema) (hw : WfSchemaOpt S) {fs : List FieldD} {cur : List (Option Nat)} {i : Nat}
    {sl sl' : List Val} (h : MatSlots S fs cur i sl sl') :
    slotsEqFresh S (fs.drop i) sl' = slotsEqFresh S (fs.drop i) sl :=
  (mat_eqDefault S hw).2.2 h

theorem dumpSlots_nil (S : Schema) (fs : List FieldD) (cur : List (Option Nat)) (i : Nat) : dumpSlots S fs cur i [] = .ok [] := by
  rw [dumpSlots]

/-- What differs between the two sides is always under a `msg` rule, where the encoder only looks at the slots
    through `dumpSlots`: a value as a slot; a list as items, as the values of a dict and as a packed payload; a
    slot list. -/
theorem mat_dump (S : Schema) (hw : WfSchemaOpt S) :
    (∀ {v v'}, MatV S v v' → ∀ (f : FieldD) (hid sel : Bool), dumpSlot S f hid sel v' = dumpSlot S f hid sel v)
    ∧ (∀ {xs ys}, MatL S xs ys → (∀ f, dumpItems S f ys = dumpItems S f xs)
        ∧ (∀ f ks, dumpEntries S f ks ys = dumpEntries S f ks xs) ∧ ∀ t, prepPacked S t ys = prepPacked S t xs)
    ∧ ∀ {fs cur i sl sl'}, MatSlots S fs cur i sl sl' → dumpSlots S fs cur i sl' = dumpSlots S fs cur i sl := by
  apply MatV.induct
  case same => exact fun _ _ _ _ => rfl
  case list =>
    intro xs ys hl ih f _ _
    rw [dumpSlot, dumpSlot, matV_eqDefault S hw (.list xs ys hl), ih.2.2, ih.1 f]
  case dict =>
    intro ks vs vs' hl ih f _ _
    rw [dumpSlot, dumpSlot, matV_eqDefault S hw (.dict ks vs vs' hl), ih.2.1 f ks]
  case msg =>
    intro c sl sl' ow unk cur hs ih f _ _
    rw [dumpSlot, dumpSlot, matV_eqDefault S hw (.msg c sl sl' ow unk cur hs), ih]
  case nil => exact ⟨fun _ => rfl, fun _ _ => rfl, fun _ => rfl⟩
  case consSame =>
    intro x xs ys _ ih
    refine ⟨fun f => by rw [dumpItems_cons', dumpItems_cons', ih.1 f], fun f ks => ?_,
      fun t => by rw [prepPacked, prepPacked, ih.2.2 t]⟩
    cases ks with
    | nil => rw [dumpEntries_nil_left, dumpEntries_nil_left]
    | cons k ks => rw [dumpEntries_cons', dumpEntries_cons', ih.2.1 f ks]
  case consMsg =>
    intro c sl sl' ow unk cur xs ys _ _ ihs ih
    refine ⟨fun f => by rw [dumpItems_cons', dumpItems_cons', ih.1 f, dumpRec, dumpRec, ihs], fun f ks => ?_,
      fun t => by rw [prepPacked, prepPacked, ih.2.2 t, prepScalar_msg S t c sl' ow unk cur c sl ow unk cur]⟩
    cases ks with
    | nil => rw [dumpEntries_nil_left, dumpEntries_nil_left]
    | cons k ks => rw [dumpEntries_cons', dumpEntries_cons', ih.2.1 f ks, dumpRec, dumpRec, ihs]
  case slotsNil => exact fun _ _ _ => rfl
  case keep =>
    intro fs cur i v v' vs vs' _ _ ihv ihs
    rw [dumpSlots_cons, dumpSlots_cons, ihs]
    cases fs[i]? with
    | none => rfl
    | some f => simp only [ihv f]
  case fill =>
    -- a PLACEHOLDER slot encodes as its default does (`dumpSlot_default`), read or not
    intro fs cur i f d vs vs' hf hh _ _ ihd ihs
    rw [dumpSlots_cons, dumpSlots_cons, ihs, hf]
    simp only [hh, ihd f, dumpSlot_default S hw f]
    rw [dumpSlot]
    simp

theorem matV_dumpSlot (S : Schema) (hw : WfSchemaOpt S) : ∀ (v' v : Val), MatV S v v' →
    ∀ (f : FieldD) (hid sel : Bool), dumpSlot S f hid sel v' = dumpSlot S f hid sel v :=
  fun _ _ h => (mat_dump S hw).1 h

theorem matL_dumpItems (S : Schema) (hw : WfSchemaOpt S) : ∀ (ys xs : List Val), MatL S xs ys →
    ∀ f, dumpItems S f ys = dumpItems S f xs :=
  fun _ _ h => ((mat_dump S hw).2.1 h).1

theorem matL_dumpEntries (S : Schema) (hw : WfSchemaOpt S) : ∀ (ys xs : List Val), MatL S xs ys →
    ∀ f ks, dumpEntries S f ks ys = dumpEntries S f ks xs :=
  fun _ _ h => ((mat_dump S hw).2.1 h).2.1

theorem matV_dumpVal (hw : WfSchemaOpt S) (v v' : Val) (h : MatV S v v') : dumpVal S v' = dumpVal S v := by
  cases h with
  | same => rfl
  | list | dict => rw [dumpVal_nonmsg S _ rfl, dumpVal_nonmsg S _ rfl]
  | msg c sl sl' ow unk cur hs => rw [dumpVal_msg, dumpVal_msg, (mat_dump S hw).2.2 hs]

theorem matV_lenVal (hw : WfSchemaOpt S) (v v' : Val) (h : MatV S v v') : lenVal S v' = lenVal S v := by
  rw [lenVal_eq, lenVal_eq, matV_dumpVal S hw v v' h]

theorem slotsDef_fresh (S : Schema) : ∀ fs : List FieldD, slotsDef S fs (fs.map freshVal) = true
  | [] => slotsDef_nil S []
  | f :: fs => by
    rw [List.map_cons, slotsDef_cons, slotsDef_fresh S fs]
    unfold slotDefB freshVal
    cases f.optional <;> simp

theorem defEq_default (k : DefKind) : defEq S k (defaultOfKind S k) = true := by
  cases k with
  | msg c =>
    simp only [defaultOfKind]
    rw [fresh_slots, defEq]
    simp [slotsDef_fresh]
  | list | dict => simp only [defaultOfKind]; rw [defEq]; rfl
  | _ => exact (defEq_atom S _ _ rfl).trans ((atomEq_default S _ _).symm.trans (atomEq_refl _ rfl))

theorem slotDefB_set (f : FieldD) (v : Val) (hp : v ≠ .ph) (hn : v ≠ .none) :
    slotDefB S f v = if f.optional then false else defEq S f.defKind v := by
  cases v with
  | ph => exact absurd rfl hp
  | none => exact absurd rfl hn
  | _ => rfl

theorem slotDefB_congr (f : FieldD) {v v' : Val} (hp : v = .ph ↔ v' = .ph) (hn : v = .none ↔ v' = .none)
    (h : defEq S f.defKind v' = defEq S f.defKind v) : slotDefB S f v' = slotDefB S f v := by
  by_cases hph : v = .ph
  · rw [hph, hp.mp hph]
  · by_cases hnn : v = .none
    · rw [hnn, hn.mp hnn]
    · rw [slotDefB_set S f v hph hnn, slotDefB_set S f v' (mt hp.mpr hph) (mt hn.mpr hnn), h]

/-- both sides are the comparison with the slot of a fresh instance (`slotEqB_fresh`): `None` against the default, or
    PLACEHOLDER against it -/
theorem slotDefB_default (f : FieldD) : slotDefB S f (defaultOf S f) = slotDefB S f .ph := by
  rw [← (slotEqB_fresh S f _).1, ← (slotEqB_fresh S f .ph).2]
  unfold freshVal
  cases f.optional
  · exact (slotEqB_ph_right S f _ (defaultOf_ne_ph S f)).trans (defEq_default S f.defKind)
  · exact (slotEqB_set S f _ .none (defaultOf_ne_ph S f) nofun).trans
      ((valEq_default_left S _ _).trans (slotEqB_ph_right S f .none nofun).symm)

theorem mat_defEq (S : Schema) :
    (∀ {v v'}, MatV S v v' → ∀ k, defEq S k v' = defEq S k v) ∧ (∀ {xs ys}, MatL S xs ys → True)
      ∧ ∀ {fs cur i sl sl'}, MatSlots S fs cur i sl sl' →
        slotsDef S (fs.drop i) sl' = slotsDef S (fs.drop i) sl := by
  apply MatV.induct
  case same => exact fun _ _ => rfl
  case list => exact fun _ _ hl _ _ => by rw [defEq, defEq, matL_isEmpty S hl]
  case dict => exact fun _ _ _ _ _ _ => by rw [defEq, defEq]
  case msg =>
    intro c sl sl' _ _ cur _ ih k
    rw [defEq.eq_def, defEq.eq_def]
    simp only [show slotsDef S (fieldsOf S c) sl' = slotsDef S (fieldsOf S c) sl from ih]
  case nil | consSame | consMsg => intros; trivial
  case slotsNil => exact fun _ _ _ => rfl
  case keep =>
    intro fs _ i v v' _ _ hv _ ihv ihs
    rcases drop_cases fs i with hd | ⟨f, _, hd⟩
    · rw [hd, slotsDef_nil_fields, slotsDef_nil_fields]
    · rw [hd, slotsDef_cons, slotsDef_cons, ihs, slotDefB_congr S f (matV_ph S v v' hv) (matV_none S v v' hv) (ihv _)]
  case fill =>
    intro fs _ i f d _ _ hf _ hd _ ihd ihs
    rw [drop_cons_of_get _ _ _ hf, slotsDef_cons, slotsDef_cons, ihs,
      slotDefB_congr S f (matV_ph S _ d hd) (matV_none S _ d hd) (ihd _), slotDefB_default]

theorem matSlots_slotsDef (S : Schema) (hw : WfSchemaOpt S) : ∀ (sl' : List Val) (fs : List FieldD) (cur : List (Option Nat))
    (i : Nat) (sl : List Val), WfOptional fs → MatSlots S fs cur i sl sl' →
    slotsDef S (fs.drop i) sl' = slotsDef S (fs.drop i) sl :=
  fun _ _ _ _ _ _ h => (mat_defEq S).2.2 h

theorem matV_default_defEq (f : FieldD) (d : Val) (h : MatV S (defaultOf S f) d) :
    defEq S f.defKind d = true := by
  rw [(mat_defEq S).1 h]
  exact defEq_default S f.defKind

theorem slotsOk_drop (fs : List FieldD) (i : Nat) (v : Val) (vs : List Val) (h : SlotsOk S (fs.drop i) (v :: vs)) :
    ∃ f, fs[i]? = some f ∧ fs.drop i = f :: fs.drop (i + 1) ∧ SlotOk S f v ∧ SlotsOk S (fs.drop (i + 1)) vs := by
  rcases drop_cases fs i with hd | ⟨f, hf, hd⟩
  · rw [hd] at h; cases h
  · rw [hd] at h
    cases h with
    | cons _ _ _ _ h1 h2 => exact ⟨f, hf, hd, h1, h2⟩

theorem valEq_msg_of_slotsEq (c : Nat) (sl sl' : List Val) (ow : Bool) (unk : Bytes) (cur : List (Option Nat))
    (hm : MsgOk S (.msg c sl ow unk cur))
    (h : SlotsOk S (fieldsOf S c) sl →
      slotsEq S (fieldsOf S c) sl sl' = true ∧ slotsEq S (fieldsOf S c) sl' sl = true) :
    valEq S (.msg c sl ow unk cur) (.msg c sl' ow unk cur) = true ∧
    valEq S (.msg c sl' ow unk cur) (.msg c sl ow unk cur) = true := by
  cases hm with
  | mk _ d _ _ _ _ hdd _ _ _ _ _ _ _ hsl _ =>
    rw [← fieldsOf_some S c d hdd] at hsl
    rw [valEq_msg_msg, valEq_msg_msg]
    simp [(h hsl).1, (h hsl).2]

theorem mat_valEq (S : Schema) :
    (∀ {v v'}, MatV S v v' → DeepOk S v → valEq S v v' = true ∧ valEq S v' v = true)
    ∧ (∀ {xs ys}, MatL S xs ys → DeepOkL S xs → listEq S xs ys = true ∧ listEq S ys xs = true)
    ∧ ∀ {fs cur i sl sl'}, MatSlots S fs cur i sl sl' → SlotsOk S (fs.drop i) sl →
        slotsEq S (fs.drop i) sl sl' = true ∧ slotsEq S (fs.drop i) sl' sl = true := by
  apply MatV.induct
  case same => exact fun _ hd => ⟨valEq_refl S _ hd, valEq_refl S _ hd⟩
  case list =>
    intro xs ys _ ih hd
    rw [DeepOk] at hd
    rw [valEq_list_list, valEq_list_list]
    exact ih hd
  case dict =>
    intro ks vs vs' _ ih hd
    rw [DeepOk] at hd
    obtain ⟨_, h2, h3, h4⟩ := hd
    have := ih h4
    exact ⟨valEq_dict_same_keys S ks vs vs' h2 h3 this.1, valEq_dict_same_keys S ks vs' vs h2 h3 this.2⟩
  case msg =>
    intro c sl sl' ow unk cur _ ih hd
    rw [DeepOk] at hd
    exact valEq_msg_of_slotsEq S c sl sl' ow unk cur hd ih
  case nil => exact fun _ => ⟨by rw [listEq], by rw [listEq]⟩
  case consSame =>
    intro x xs ys _ ih hd
    rw [DeepOkL] at hd
    have ih := ih hd.2
    rw [listEq_cons, listEq_cons, valEq_refl S _ hd.1, ih.1, ih.2]; exact ⟨rfl, rfl⟩
  case consMsg =>
    intro c sl sl' ow unk cur xs ys _ _ ihs ih hd
    rw [DeepOkL, DeepOk] at hd
    have ih := ih hd.2
    have hm := valEq_msg_of_slotsEq S c sl sl' ow unk cur hd.1 ihs
    rw [listEq_cons, listEq_cons, hm.1, hm.2, ih.1, ih.2]; exact ⟨rfl, rfl⟩
  case slotsNil => exact fun _ _ _ _ => ⟨slotsEq_nil_left S _ _, slotsEq_nil_left S _ _⟩
  case keep =>
    intro fs cur i v v' vs vs' hv _ ihv ihs hok
    obtain ⟨f, _, hd, h1, h2⟩ := slotsOk_drop S fs i v vs hok
    have ih := ihs h2
    rw [hd, slotsEq_cons, slotsEq_cons, ih.1, ih.2]
    have hp := matV_ph S v v' hv
    by_cases hph : v = .ph
    · rw [hph, hp.mp hph]; exact ⟨rfl, rfl⟩
    · have hph' : v' ≠ .ph := mt hp.mpr hph
      have hve := ihv (slotOk_deepOk S f v h1)
      rw [slotEqB_set S f v v' hph hph', slotEqB_set S f v' v hph' hph, hve.1, hve.2]; exact ⟨rfl, rfl⟩
  case fill =>
    intro fs cur i f d vs vs' hf _ hd' _ _ ihs hok
    obtain ⟨f', hf', hd, _, h2⟩ := slotsOk_drop S fs i .ph vs hok
    cases hf.symm.trans hf'
    have ih := ihs h2
    have hne := matV_default_ne_ph S f d hd'
    rw [hd, slotsEq_cons, slotsEq_cons, ih.1, ih.2, slotEqB_ph_left S f d hne, slotEqB_ph_right S f d hne,
      matV_default_defEq S f d hd']
    exact ⟨rfl, rfl⟩

theorem matL_listEq (S : Schema) (hw : WfSchemaOpt S) : ∀ (ys xs : List Val), MatL S xs ys → DeepOkL S xs →
    listEq S xs ys = true ∧ listEq S ys xs = true :=
  fun _ _ h => (mat_valEq S).2.1 h

theorem matSlots_slotsEq (S : Schema) (hw : WfSchemaOpt S) : ∀ (sl' : List Val) (fs : List FieldD) (cur : List (Option Nat))
    (i : Nat) (sl : List Val), MatSlots S fs cur i sl sl' → SlotsOk S (fs.drop i) sl →
    slotsEq S (fs.drop i) sl sl' = true ∧ slotsEq S (fs.drop i) sl' sl = true :=
  fun _ _ _ _ _ h => (mat_valEq S).2.2 h

theorem matV_msgEq (m m' : Val) (h : MatV S m m') (hm : MsgOk S m) :
    msgEq S m m' = true ∧ msgEq S m' m = true := by
  cases hm with
  | mk c d sl ow unk cur hd h1 h2 h3 h4 h5 h6 h7 hsl hunk =>
    have hmo : MsgOk S (.msg c sl ow unk cur) := MsgOk.mk c d sl ow unk cur hd h1 h2 h3 h4 h5 h6 h7 hsl hunk
    have hdo : DeepOk S (.msg c sl ow unk cur) := by rw [DeepOk]; exact hmo
    have hv := (mat_valEq S).1 h hdo
    cases h with
    | same => simp [msgEq, isMsgVal, hv.1]
    | msg _ _ sl' _ _ _ hs => simp [msgEq, isMsgVal, hv.1, hv.2]

theorem freshRead_slots (S : Schema) (cur : List (Option Nat)) (fs : List FieldD) :
    ∀ (suf pre : List FieldD), fs = pre ++ suf →
      MatSlots S fs cur pre.length
        (suf.map fun f => if f.optional then Val.none else Val.ph)
        (suf.map fun f => if f.optional then Val.none else if f.group.isSome then Val.ph else defaultOf S f)
  | [], pre, _ => MatSlots.nil fs cur pre.length
  | f :: suf, pre, h => by
    have ih := freshRead_slots S cur fs suf (pre ++ [f]) (by rw [h]; simp)
    simp only [List.length_append, List.length_cons, List.length_nil, Nat.zero_add] at ih
    have hf : fs[pre.length]? = some f := by rw [h]; simp
    rw [List.map_cons, List.map_cons]
    cases ho : f.optional with
    | true => exact MatSlots.keep fs cur pre.length _ _ _ _ (MatV.same _) ih
    | false =>
      cases hg : f.group with
      | some g => exact MatSlots.keep fs cur pre.length _ _ _ _ (MatV.same _) ih
      | none => exact MatSlots.fill fs cur pre.length f _ _ _ hf (hidden_nogroup _ _ _ hg) (MatV.same _) ih

theorem freshRead_mat (c : Nat) : MatV S (fresh S c) (freshRead S c) := by
  unfold fresh freshRead
  exact MatV.msg c _ _ false [] _ (freshRead_slots S _ (fieldsOf S c) (fieldsOf S c) [] rfl)

theorem pyReadsSlot_ph_mat (f : FieldD) (sel : Bool) : MatV S (defaultOf S f) (pyReadsSlot S f sel .ph) := by
  rw [pyReadsSlot]
  unfold defaultOf
  cases hk : f.defKind with
  | msg c =>
    simp only [defaultOfKind]
    split
    · exact freshRead_mat S c
    · exact MatV.same _
  | _ => exact MatV.same _

mutual
theorem pyReadsSlots_mat (S : Schema) (fs : List FieldD) (cur : List (Option Nat)) : ∀ (vs : List Val) (i : Nat),
    MatSlots S fs cur i vs (pyReadsSlots S fs cur i vs)
  | [], i => by rw [pyReadsSlots]; exact MatSlots.nil fs cur i
  | v :: vs, i => by
    rw [pyReadsSlots]
    have ih := pyReadsSlots_mat S fs cur vs (i + 1)
    cases hf : fs[i]? with
    | none => exact MatSlots.keep fs cur i v v _ _ (MatV.same v) ih
    | some f =>
      simp only
      cases hh : hidden f i cur with
      | true => exact MatSlots.keep fs cur i v v _ _ (MatV.same v) ih
      | false =>
        by_cases hp : v = .ph
        · subst hp
          exact MatSlots.fill fs cur i f _ _ _ hf hh (pyReadsSlot_ph_mat S f _) ih
        · exact MatSlots.keep fs cur i v _ _ _ (pyReadsSlot_mat S f _ v hp) ih

theorem pyReadsSlot_mat (S : Schema) (f : FieldD) (sel : Bool) : ∀ v : Val, v ≠ .ph → MatV S v (pyReadsSlot S f sel v)
  | v, h => by
    rw [pyReadsSlot.eq_def]
    cases v with
    | ph => exact absurd rfl h
    | list xs => exact MatV.list xs _ (pyReadsList_mat S xs)
    | dict ks vs => exact MatV.dict ks vs _ (pyReadsList_mat S vs)
    | msg c sl ow unk cur =>
      simp only
      split
      · exact MatV.msg c sl _ ow unk cur (pyReadsSlots_mat S (fieldsOf S c) cur sl 0)
      · exact MatV.same _
    | _ => exact MatV.same _

theorem pyReadsList_mat (S : Schema) : ∀ xs : List Val, MatL S xs (pyReadsList S xs)
  | [] => by rw [pyReadsList]; exact MatL.nil
  | x :: xs => by
    rw [pyReadsList.eq_def]
    cases x with
    | msg c sl ow unk cur =>
      exact MatL.msg c sl _ ow unk cur xs _ (pyReadsSlots_mat S (fieldsOf S c) cur sl 0) (pyReadsList_mat S xs)
    | _ => exact MatL.same _ xs _ (pyReadsList_mat S xs)
end

theorem pyReads_mat (v : Val) : MatV S v (pyReads S v) := by
  rw [pyReads.eq_def]
  cases v with
  | msg c sl ow unk cur => exact MatV.msg c sl _ ow unk cur (pyReadsSlots_mat S (fieldsOf S c) cur sl 0)
  | _ => exact MatV.same _

/-- the top-level reads of `bytes` / `len` / `to_dict` (`Op.readAll`, BpModel/Ops.lean) are such a change too -/
theorem materializeAll_mat (S : Schema) (fs : List FieldD) (cur : List (Option Nat)) : ∀ (vs : List Val) (i : Nat),
    MatSlots S fs cur i vs (materializeAll S fs cur i vs)
  | [], i => by rw [materializeAll]; exact MatSlots.nil fs cur i
  | v :: vs, i => by
    rw [materializeAll]
    have ih := materializeAll_mat S fs cur vs (i + 1)
    cases hf : fs[i]? with
    | none => exact MatSlots.keep fs cur i v v _ _ (MatV.same v) ih
    | some f =>
      simp only
      cases hh : hidden f i cur with
      | true => exact MatSlots.keep fs cur i v v _ _ (MatV.same v) ih
      | false =>
        cases v with
        | ph => exact MatSlots.fill fs cur i f _ _ _ hf hh (MatV.same _) ih
        | _ => exact MatSlots.keep fs cur i _ _ _ _ (MatV.same _) ih

/-- the decidable form of `WfSchemaOpt` -/
def wfSchemaOptB (S : Schema) : Bool :=
  S.all fun d => d.fields.all fun f => !f.optional || (!f.repeated && f.ty != .map)

theorem wfSchemaOpt_of_B (h : wfSchemaOptB S = true) : WfSchemaOpt S := by
  intro c f hf ho
  unfold fieldsOf at hf
  cases hc : S[c]? with
  | none => simp [hc] at hf
  | some d =>
    simp only [hc] at hf
    unfold wfSchemaOptB at h
    simp only [List.all_eq_true] at h
    have := h d (List.mem_of_getElem? hc) f hf
    simp [ho] at this
    exact ⟨this.1, this.2⟩

end reads

end Bp
