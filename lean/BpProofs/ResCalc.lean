import BpProofs.PyPrelude
/-
  The calculus of a source tie.  A translated function is a term of the monad `Py.Res`; the model function it is
  tied to is a term of `R = Except PyErr`, seen in `Res` through `ofR`.  `Res` is a monad (`Res.ok_bind`, `Res.bind_ok`,
  `Res.bind_assoc`) and `ofR` a monad morphism (`Res.ofR_ok`, `Res.ofR_error`, `Res.ofR_bind`, `Res.ofR_map`): rewriting
  with these brings both sides of a tie to the same right-nested chain of binds over the same `ofR`-leaves, so that a
  straight-line piece of translated code needs no case analysis on the outcome of each call; where what follows a call
  depends on what it returned, `Res.bind_congr` / `Res.ofR_bind_congr` keep that fact.

  Everything here is `Bp.Py.Res.*` and nothing is `@[simp]`: the tie modules have lemmas `ofR_ok`, `res_bind_ok`, `ok_bind` …
  of their own under these short names, and a second `Bp.Py.ofR_ok` would be ambiguous wherever `Bp.Py` and such a module
  are both open.
-/
namespace Bp.Py.Res
variable {α β γ : Type}

theorem ok_bind (a : α) (f : α → Res β) : (Res.ok a).bind f = f a := rfl
theorem raise_bind (e : PyErr) (f : α → Res β) : (Res.raise e : Res α).bind f = .raise e := rfl
theorem diverge_bind (f : α → Res β) : (Res.diverge : Res α).bind f = .diverge := rfl
theorem bind_ok (x : Res α) : (x.bind fun a => .ok a) = x := by cases x <;> rfl
theorem bind_assoc (x : Res α) (f : α → Res β) (g : β → Res γ) :
    (x.bind f).bind g = x.bind fun a => (f a).bind g := by cases x <;> rfl
theorem ite_bind (c : Prop) [Decidable c] (a b : Res α) (g : α → Res β) :
    (if c then a else b).bind g = if c then a.bind g else b.bind g := by split <;> rfl
theorem ok_ite (c : Prop) [Decidable c] (a b : α) : (if c then Res.ok a else Res.ok b) = Res.ok (if c then a else b) := by
  split <;> rfl
/-- a translated `x or y` on Booleans, the second operand evaluated only if needed -/
theorem ok_or (a r : Bool) : (if a = true then Res.ok true else Res.ok r) = Res.ok (a || r) := by cases a <;> rfl
/-- two chains that start with the same call agree if they go on alike after it; what follows may use that the
    call returned `a` -/
theorem bind_congr {x : Res α} {f g : α → Res β} (h : ∀ a, x = .ok a → f a = g a) : x.bind f = x.bind g := by
  cases x with
  | ok a => exact h a rfl
  | raise e => rfl
  | diverge => rfl

theorem ofR_ok (a : α) : ofR (Except.ok a : R α) = .ok a := rfl
theorem ofR_error (e : PyErr) : ofR (Except.error e : R α) = .raise e := rfl
theorem ofR_bind (r : R α) (g : α → R β) : ofR (r.bind g) = (ofR r).bind fun a => ofR (g a) := by cases r <;> rfl
/-- `ofR_bind` for a model function written with `>>=` / `do` -/
theorem ofR_bind' (r : R α) (g : α → R β) : ofR (r >>= g) = (ofR r).bind fun a => ofR (g a) := ofR_bind r g
theorem ofR_map (r : R α) (g : α → β) : ofR (r.map g) = (ofR r).bind fun a => .ok (g a) := by cases r <;> rfl
theorem ofR_eq_ok {r : R α} {a : α} (h : ofR r = .ok a) : r = .ok a := by
  cases r with
  | ok b => exact congrArg Except.ok (Res.ok.inj h)
  | error e => cases h
/-- `bind_congr` after a call of the model: what follows may use that the model returned `a` -/
theorem ofR_bind_congr {r : R α} {f g : α → Res β} (h : ∀ a, r = .ok a → f a = g a) : (ofR r).bind f = (ofR r).bind g :=
  bind_congr fun a ha => h a (ofR_eq_ok ha)

/-- A translated `for` loop whose body neither raises nor returns early is a `List.foldl`.  The loop is a variable: the
    generated loops are separate recursive definitions with the body inlined, so `hc` (one round, for an element satisfying
    `P`) is the content of each use and nothing of the generated text is restated. -/
theorem loop_foldl {α σ : Type} {loop : List α → σ → Res σ} {step : σ → α → σ} (P : α → Prop)
    (h0 : ∀ st, loop [] st = .ok st) (hc : ∀ x xs st, P x → loop (x :: xs) st = loop xs (step st x)) :
    ∀ xs st, (∀ x ∈ xs, P x) → loop xs st = .ok (xs.foldl step st)
  | [], st, _ => h0 st
  | x :: xs, st, h => by
    rw [hc x xs st (h x List.mem_cons_self), loop_foldl P h0 hc xs _ fun y hy => h y (List.mem_cons_of_mem _ hy)]
    rfl

end Bp.Py.Res
