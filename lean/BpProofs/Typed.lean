import BpModel.All
import BpProofs.LoadStep
import BpProofs.Presence
/-
  C17, last sentence: whatever `parse` returns is a message in which every field holds a
  value of its declared Python type (`msgTypedB false`), and — for an input made of bytes —
  a value of the encoder's domain (`msgTypedB true`), on which `dumpVal` succeeds.

  Definitions: BpModel/Typed.lean.  The decoder's half is an induction on the fuel of `loadInto`
  with the invariant `StTyped` of the fold state.  What holds of every typed value (the encoder
  succeeds; the stricter reading implies the other) is a case per clause of the typing, by `typed_induction`.
-/
namespace Bp
open Gen

theorem loadVarint_lt (bs : Bytes) (v k : Nat) (h : loadVarint bs = .ok (v, k)) : v < 18446744073709551616 := by
  obtain ⟨v', _, rfl⟩ := loadVarint_ok h
  exact Nat.mod_lt _ (by decide)

def StTyped (s : Bool) (S : Schema) (d : MsgD) (st : MState) : Prop :=
  st.cur.length = d.nGroups ∧ slotsTypedB s S d.fields st.slots = true

def WfD (S : Schema) (d : MsgD) : Prop := ∀ f ∈ d.fields, wfFieldB S.length f = true

def WfSchemaT (S : Schema) : Prop := wfSchemaTB S = true

instance (S : Schema) : Decidable (WfSchemaT S) := by unfold WfSchemaT; infer_instance

section decoder
-- a lemma of this section takes, first and in this order, those of `s` (the reading: Python type only / encoder's
-- domain) and `S` that its statement mentions
variable (s : Bool) (S : Schema)

theorem slotTypedB_ph (f : FieldD) : slotTypedB s S f .ph = true := by
  rw [slotTypedB]

theorem slotsTyped_iff :
    ∀ (fs : List FieldD) (sl : List Val), slotsTypedB s S fs sl = true ↔
      sl.length = fs.length ∧ ∀ i f, fs[i]? = some f → slotTypedB s S f (sl.getD i .ph) = true
  | [], [] => by simp [slotsTypedB]
  | [], _ :: _ => by simp [slotsTypedB]
  | _ :: _, [] => by simp [slotsTypedB]
  | f0 :: fs, v :: vs => by
    rw [slotsTypedB, Bool.and_eq_true, slotsTyped_iff fs vs]
    constructor
    · rintro ⟨h0, hl, hr⟩
      refine ⟨congrArg Nat.succ hl, fun i f hf => ?_⟩
      cases i with
      | zero => cases hf; exact h0
      | succ i => exact hr i f hf
    · rintro ⟨hl, hr⟩
      exact ⟨hr 0 f0 rfl, Nat.succ.inj hl, fun i f hf => hr (i + 1) f hf⟩

theorem slotsTyped_length :
    ∀ (fs : List FieldD) (sl : List Val), slotsTypedB s S fs sl = true → sl.length = fs.length :=
  fun fs sl h => ((slotsTyped_iff s S fs sl).mp h).1

theorem slotsTyped_getD :
    ∀ (fs : List FieldD) (sl : List Val) (i : Nat) (f : FieldD), slotsTypedB s S fs sl = true →
      fs[i]? = some f → slotTypedB s S f (sl.getD i .ph) = true :=
  fun fs sl i f h => ((slotsTyped_iff s S fs sl).mp h).2 i f

theorem slotsTyped_set :
    ∀ (fs : List FieldD) (sl : List Val) (i : Nat) (f : FieldD) (v : Val), slotsTypedB s S fs sl = true →
      fs[i]? = some f → slotTypedB s S f v = true → slotsTypedB s S fs (setAt sl i v) = true := by
  intro fs sl i f v h hf hv
  rw [slotsTyped_iff] at h ⊢
  refine ⟨by rw [setAt_length, h.1], fun j g hg => ?_⟩
  rw [setAt_getD]
  split
  · rename_i hj
    obtain rfl : f = g := Option.some.inj (hf.symm.trans (hj.1 ▸ hg))
    exact hv
  · exact h.2 j g hg

theorem msgTypedB_iff (c : Nat) (sl : List Val) (ow : Bool) (unk : Bytes)
    (cur : List (Option Nat)) :
    msgTypedB s S (.msg c sl ow unk cur) = true
      ↔ ∃ d, S[c]? = some d ∧ cur.length = d.nGroups ∧ slotsTypedB s S d.fields sl = true := by
  rw [msgTypedB]
  cases S[c]? <;> simp

theorem msgFieldB_iff (f : FieldD) (c : Nat) :
    msgFieldB f c = true ↔ f.ty = .message ∧ f.kind = .user c ∧ f.wraps = Option.none := by
  simp [msgFieldB, and_assoc]

theorem slotTypedB_markEmpty (f : FieldD) (v : Val) :
    slotTypedB s S f (markEmpty S v) = slotTypedB s S f v := by
  cases v <;> try rfl
  rename_i c sl ow unk cur
  simp only [markEmpty]
  by_cases he : (fieldsOf S c).isEmpty = true
  · simp only [he, if_true]; rw [slotTypedB, slotTypedB]
  · simp only [he]; rfl

theorem setAttr_typed (d : MsgD) (st : MState) (idx : Nat) (f : FieldD) (v : Val)
    (hf : d.fields[idx]? = some f) (h : StTyped s S d st) (hv : slotTypedB s S f v = true) :
    StTyped s S d (setAttr S d.fields st idx v) := by
  refine ⟨by rw [setAttr_cur_length, h.1], (slotsTyped_iff s S _ _).mpr
    ⟨by rw [setAttr_slots_length, slotsTyped_length s S _ _ h.2], fun i g hg => ?_⟩⟩
  -- slot by slot: the assigned value, a sibling reset to PLACEHOLDER, or the old content
  rw [setAttr_slots_getD S d.fields st idx v f hf i]
  split
  · rename_i hi
    obtain rfl : f = g := Option.some.inj (hf.symm.trans (hi.1 ▸ hg))
    rw [storedVal_eq, slotTypedB_markEmpty]; exact hv
  · split
    · exact slotTypedB_ph s S g
    · exact slotsTyped_getD s S _ _ i g h.2 hg

theorem freshSlots_typed :
    ∀ fs : List FieldD, slotsTypedB s S fs (fs.map fun f => if f.optional then Val.none else Val.ph) = true
  | [] => by simp [slotsTypedB]
  | f :: fs => by
    simp only [List.map_cons]
    rw [slotsTypedB, freshSlots_typed fs]
    cases ho : f.optional
    · simp [slotTypedB_ph]
    · simp only [if_true]; rw [slotTypedB]; simp [noneOkB, ho]

theorem freshState_typed (d : MsgD) : StTyped s S d (freshState d) :=
  ⟨by simp [freshState], freshSlots_typed s S d.fields⟩

theorem wfSchema_class (hS : WfSchemaT S) (c : Nat) (d : MsgD) (h : S[c]? = some d) : WfD S d := by
  unfold WfSchemaT wfSchemaTB at hS
  rw [List.all_eq_true] at hS
  have := hS d (List.mem_of_getElem? h)
  unfold wfMsgDB at this
  rw [List.all_eq_true] at this
  exact this

theorem wfField_rep {n : Nat} {f : FieldD} (h : wfFieldB n f = true) (hr : f.repeated = true) :
    f.optional = false := by
  unfold wfFieldB at h
  simp only [Bool.and_eq_true] at h
  simpa [hr] using h.1.1

theorem wfField_user {n : Nat} {f : FieldD} (h : wfFieldB n f = true) (c : Nat)
    (ht : f.ty = .message) (hk : f.kind = .user c) (hwr : f.wraps = Option.none) : c < n := by
  unfold wfFieldB at h
  simp only [Bool.and_eq_true] at h
  simpa [ht, hk, hwr] using h.1.2

theorem wfField_wrap {n : Nat} {f : FieldD} (h : wfFieldB n f = true) (c : Nat) (w : PType)
    (ht : f.ty = .message) (hk : f.kind = .user c) (hwr : f.wraps = some w) : isScalarTy w = true := by
  unfold wfFieldB at h
  simp only [Bool.and_eq_true] at h
  simpa [ht, hk, hwr] using h.1.2

theorem wfField_map {n : Nat} {f : FieldD} (h : wfFieldB n f = true) (ht : f.ty = .map) :
    isScalarTy f.mapK = true ∧ f.mapV ≠ .map ∧ (f.mapV = .message → ∀ c, f.mapVKind = .user c → c < n) := by
  unfold wfFieldB at h
  simp only [Bool.and_eq_true] at h
  have h2 := h.2
  simp only [ht, beq_self_eq_true, Bool.not_true, Bool.false_or, Bool.and_eq_true] at h2
  refine ⟨h2.1.1, by simpa using h2.1.2, ?_⟩
  intro hm c hc
  simpa [hm, hc] using h2.2

-- `signRecover bits n` is `toSigned bits (n % 2 ^ bits)` by definition
theorem signRecover32_ge (n : Nat) : (-9223372036854775808 : Int) ≤ signRecover 32 n :=
  Int.le_trans (by decide) (toSigned_range 32 (by decide) (n % 2 ^ 32) (Nat.mod_lt _ (by decide))).1

theorem signRecover64_ge (n : Nat) : (-9223372036854775808 : Int) ≤ signRecover 64 n :=
  (toSigned_range 64 (by decide) (n % 2 ^ 64) (Nat.mod_lt _ (by decide))).1

theorem postVarint_typed (t : PType) (n : Nat) (ht : wireVarintTypes.contains t = true) :
    scalarTypedB s t (postVarint t n) = true := by
  cases t with
  | bool => rfl
  | enum | int32 | int64 | uint32 | uint64 | sint32 | sint64 =>
    simp [postVarint, scalarTypedB, isIntTy, intEncB, signRecover32_ge, signRecover64_ge]
  | _ => cases ht

theorem quiet32_lt (b : Nat) (h : b < 4294967296) : quiet32 b < 4294967296 := by
  unfold quiet32
  split
  · rename_i hc
    simp only [Bool.and_eq_true, beq_iff_eq] at hc
    have := hc.2
    omega
  · exact h

/-- `_pack_fmt`, row by row: byte width, signed, floating -/
theorem fmtOf_cases {t : PType} {w : Nat} {sg fl : Bool} (h : fmtOf t = some (w, sg, fl)) :
    (t = .float ∧ w = 4 ∧ sg = false ∧ fl = true) ∨ (t = .double ∧ w = 8 ∧ sg = false ∧ fl = true)
    ∨ (t = .fixed32 ∧ w = 4 ∧ sg = false ∧ fl = false) ∨ (t = .sfixed32 ∧ w = 4 ∧ sg = true ∧ fl = false)
    ∨ (t = .fixed64 ∧ w = 8 ∧ sg = false ∧ fl = false) ∨ (t = .sfixed64 ∧ w = 8 ∧ sg = true ∧ fl = false) := by
  cases t <;> cases h <;> simp

theorem postFixed_typed (t : PType) (p : Bytes) (v : Val) (hw : s = true → WfBytes p)
    (h : postFixed t p = .ok v) : scalarTypedB s t v = true := by
  obtain ⟨w, sg, fl, hfmt, hl, rfl⟩ := postFixed_ok t p v h
  cases s with
  | false => rcases fmtOf_cases hfmt with h | h | h | h | h | h <;> (obtain ⟨rfl, rfl, rfl, rfl⟩ := h; rfl)
  | true =>
    have hlt := unpackLE_lt p (hw rfl)
    rw [hl] at hlt
    -- what is left of `scalarTypedB` in each row is the range of the unpacked value
    rcases fmtOf_cases hfmt with h | h | h | h | h | h <;> obtain ⟨rfl, rfl, rfl, rfl⟩ := h <;>
      simp only [Nat.reducePow] at hlt
    · -- float
      simp [scalarTypedB]
      exact quiet32_lt _ hlt
    · -- double
      simp [scalarTypedB]
      exact hlt
    · -- fixed32
      simp [scalarTypedB, isIntTy, intEncB]
      omega
    · -- sfixed32
      simp [scalarTypedB, isIntTy, intEncB]
      exact toSigned_range 32 (by decide) _ hlt
    · -- fixed64
      simp [scalarTypedB, isIntTy, intEncB]
      omega
    · -- sfixed64
      simp [scalarTypedB, isIntTy, intEncB]
      exact toSigned_range 64 (by decide) _ hlt

theorem wf_take (p : Bytes) (n : Nat) (h : WfBytes p) : WfBytes (p.take n) :=
  fun b hb => h b (List.mem_of_mem_take hb)

theorem wf_drop (p : Bytes) (n : Nat) (h : WfBytes p) : WfBytes (p.drop n) :=
  fun b hb => h b (List.mem_of_mem_drop hb)

theorem packed_varint (t : PType) (hp : isPacked t = true)
    (h1 : (t == .float || t == .fixed32 || t == .sfixed32) = false)
    (h2 : (t == .double || t == .fixed64 || t == .sfixed64) = false) :
    wireVarintTypes.contains t = true := by
  obtain ⟨w, r, hw⟩ := wire_row t
  rw [r.packed] at hp; rw [r.four] at h1; rw [r.eight] at h2
  rw [r.varint]
  rcases hw with rfl | rfl | rfl | rfl
  · rfl
  · exact absurd h1 (by decide)
  · exact absurd h2 (by decide)
  · exact absurd hp (by decide)

theorem decodePackedFuel_typed (t : PType) (hp : isPacked t = true) :
    ∀ (fuel : Nat) (p : Bytes) (vs : List Val), (s = true → WfBytes p) →
      decodePackedFuel t fuel p = .ok vs → ∀ v ∈ vs, scalarTypedB s t v = true := by
  intro fuel
  induction fuel with
  | zero => intro p vs _ h; cases h
  | succ fuel ih =>
    intro p vs hw h
    have step : ∀ (v0 : Val) (k : Nat), scalarTypedB s t v0 = true →
        ((decodePackedFuel t fuel (p.drop k)).bind fun vs => .ok (v0 :: vs)) = .ok vs →
        ∀ v ∈ vs, scalarTypedB s t v = true := by
      intro v0 k h0 h
      obtain ⟨vs0, h2, h⟩ := bind_inv h
      cases h
      intro v hv
      rcases List.mem_cons.mp hv with rfl | hv
      · exact h0
      · exact ih _ _ (fun hs => wf_drop _ _ (hw hs)) h2 v hv
    cases p with
    | nil => cases h; intro v hv; cases hv
    | cons b p =>
      rw [decodePackedFuel_ne t fuel _ (List.cons_ne_nil b p)] at h
      split at h
      · obtain ⟨v0, h1, h⟩ := bind_inv h
        exact step v0 4 (postFixed_typed s t _ _ (fun hs => wf_take _ _ (hw hs)) h1) h
      · split at h
        · obtain ⟨v0, h1, h⟩ := bind_inv h
          exact step v0 8 (postFixed_typed s t _ _ (fun hs => wf_take _ _ (hw hs)) h1) h
        · rename_i hn1 hn2
          split at h
          · cases h
          · exact step _ _ (postVarint_typed s t _ (packed_varint t hp (by simpa using hn1) (by simpa using hn2))) h

theorem items_cons (f : FieldD) (x : Val) (xs : List Val) :
    itemsTypedB s S f (x :: xs) = (itemsTypedB s S f [x] && itemsTypedB s S f xs) := by
  cases x <;> simp [itemsTypedB]

theorem items_append (f : FieldD) (xs ys : List Val) :
    itemsTypedB s S f (xs ++ ys) = (itemsTypedB s S f xs && itemsTypedB s S f ys) := by
  induction xs with
  | nil => simp [itemsTypedB]
  | cons x xs ih => rw [List.cons_append, items_cons, ih, items_cons s S f x xs, Bool.and_assoc]

theorem items_iff (f : FieldD) (xs : List Val) :
    itemsTypedB s S f xs = true ↔ ∀ x ∈ xs, itemsTypedB s S f [x] = true := by
  induction xs with
  | nil => exact ⟨fun _ _ h => (nomatch h), fun _ => by simp [itemsTypedB]⟩
  | cons x xs ih => rw [items_cons, Bool.and_eq_true, ih, List.forall_mem_cons]

theorem item_leaf (f : FieldD) (x : Val) (h : leafTypedB s f x = true) :
    itemsTypedB s S f [x] = true := by
  cases x <;> simp [leafTypedB] at h <;> simp [itemsTypedB, leafTypedB, h]

theorem leaf_of_scalar (f : FieldD) (t : PType) (v : Val) (he : elemTy f = some t)
    (h : scalarTypedB s t v = true) : leafTypedB s f v = true := by
  cases v <;> simp [scalarTypedB] at h <;> simp [leafTypedB, he, scalarTypedB, h]

theorem elemTy_plain (f : FieldD) (h : f.ty ≠ .message) : elemTy f = some f.ty := by
  unfold elemTy
  simp [h]

theorem item_iff_slot (f : FieldD) (v : Val) (hs : singularB f = true) :
    itemsTypedB s S f [v] = true ↔ slotTypedB s S f v = true ∧ v ≠ .ph ∧ v ≠ .none := by
  have hs' := hs
  simp only [singularB, Bool.and_eq_true, Bool.not_eq_true', bne_iff_ne, ne_eq] at hs'
  cases v <;> simp [itemsTypedB, slotTypedB, leafTypedB, hs, hs'.1, hs'.2]

theorem scalarDef_typed (t : PType) (h1 : t ≠ .message) (h2 : t ≠ .map) :
    scalarTypedB s t (defaultOfKind S (scalarDef t)) = true := by
  cases t with
  | message => exact absurd rfl h1
  | map => exact absurd rfl h2
  | _ => cases s <;> rfl

theorem defaultOf_typed (f : FieldD) (hw : wfFieldB S.length f = true) :
    slotTypedB s S f (defaultOf S f) = true := by
  unfold defaultOf
  rcases defKind_cases f with ⟨hr, hk⟩ | ⟨hr, hm, hk⟩ | ⟨hr, _, _, hk⟩ | ⟨hr, hmsg, _, hwr, hk⟩ | ⟨hr, hm, hmsg, _, _, hk⟩ <;>
    rw [hk]
  · rw [defaultOfKind, slotTypedB, itemsTypedB, hr]; rfl
  · rw [defaultOfKind, slotTypedB]; simp [hm, hr, itemsTypedB]
  · rw [defaultOfKind, slotTypedB]; simp [noneOkB, hk]
  · have hs : singularB f = true := by simp [singularB, hr, hmsg]
    cases hkind : f.kind with
    | user c =>
      obtain ⟨d, hd⟩ : ∃ d, S[c]? = some d := ⟨S[c]'(wfField_user hw c hmsg hkind hwr), by simp⟩
      rw [msgKindDef, defaultOfKind, fresh_eq S c d hd, slotTypedB]
      simp [hs, msgFieldB, hmsg, hkind, hwr, hd, (freshState_typed s S d).1, (freshState_typed s S d).2]
    | timestamp =>
      simp [msgKindDef, defaultOfKind, slotTypedB, hs, hmsg, leafTypedB, hkind, tsRangeB, tsMinUs, tsMaxUs]
    | duration =>
      simp [msgKindDef, defaultOfKind, slotTypedB, hs, hmsg, leafTypedB, hkind, durRangeB, durMinUs, durMaxUs]
  · have hs : singularB f = true := by simp [singularB, hr, hm]
    exact ((item_iff_slot s S f _ hs).mp (item_leaf s S f _ (leaf_of_scalar s f f.ty _ (elemTy_plain f hmsg)
      (scalarDef_typed s S f.ty hmsg hm)))).1

theorem materialize_typed (f : FieldD) (hw : wfFieldB S.length f = true) (v : Val)
    (h : slotTypedB s S f v = true) : slotTypedB s S f (materialize S f v) = true := by
  cases v with
  | ph => exact defaultOf_typed s S f hw
  | _ => exact h

theorem dictInsert_typed (fk fv : FieldD) (k v : Val)
    (hk : itemsTypedB s S fk [k] = true) (hv : itemsTypedB s S fv [v] = true) :
    ∀ (ks vs : List Val), ks.length = vs.length → itemsTypedB s S fk ks = true → itemsTypedB s S fv vs = true →
      (dictInsert ks vs k v).1.length = (dictInsert ks vs k v).2.length
      ∧ itemsTypedB s S fk (dictInsert ks vs k v).1 = true ∧ itemsTypedB s S fv (dictInsert ks vs k v).2 = true
  | [], [], _, _, _ => by simp [dictInsert, hk, hv]
  | [], _ :: _, hl, _, _ => by simp at hl
  | _ :: _, [], hl, _, _ => by simp at hl
  | k' :: ks, v' :: vs, hl, h1, h2 => by
    rw [items_cons] at h1 h2
    simp only [Bool.and_eq_true] at h1 h2
    simp only [List.length_cons, Nat.add_right_cancel_iff] at hl
    obtain ⟨i1, i2, i3⟩ := dictInsert_typed fk fv k v hk hv ks vs hl h1.2 h2.2
    rw [dictInsert]
    split
    · refine ⟨by simp [hl], ?_, ?_⟩
      · rw [items_cons]; simp [h1.1, h1.2]
      · rw [items_cons]; simp [hv, h2.2]
    · refine ⟨by simp [i1], ?_, ?_⟩
      · simp only; rw [items_cons]; simp [h1.1, i2]
      · simp only; rw [items_cons]; simp [h2.1, i3]

theorem item_scalar (g : FieldD) (v : Val) (hg : g.ty ≠ .message)
    (h : itemsTypedB s S g [v] = true) : scalarTypedB s g.ty v = true := by
  cases v <;> simp [itemsTypedB, leafTypedB, elemTy_plain g hg, msgFieldB, hg] at h <;> exact h

/-- what the nested loader is assumed to do (induction hypothesis on the fuel) -/
def LoaderOk (rec : Loader) : Prop :=
  ∀ (d : MsgD) (st : MState) (bs : Bytes) (st' : MState), WfD S d → (s = true → WfBytes bs) →
    StTyped s S d st → rec d st bs = .ok st' → StTyped s S d st'

/-- the decoded value fits what `storeValue` does with it: a chunk of list items, one map
    entry, or one element -/
def decodedOkB (f : FieldD) : Val → Bool
  | .list vs => f.repeated && itemsTypedB s S f vs
  | .dict ks vs => f.ty == .map && itemsTypedB s S (keyFieldOf f) ks && itemsTypedB s S (valFieldOf f) vs
  | v => itemsTypedB s S f [v]

theorem decoded_of_item (f : FieldD) (v : Val)
    (h : itemsTypedB s S f [v] = true) : decodedOkB s S f v = true := by
  cases v with
  | list _ | dict _ _ => simp [itemsTypedB, leafTypedB] at h
  | _ => exact h

theorem decoded_of_scalar (f : FieldD) (v : Val) (hne : f.ty ≠ .message)
    (h : scalarTypedB s f.ty v = true) : decodedOkB s S f v = true :=
  decoded_of_item s S f v (item_leaf s S f v (leaf_of_scalar s f f.ty v (elemTy_plain f hne) h))

theorem wfD_secNanos : WfD S secNanosD := by
  intro f hf
  simp [secNanosD] at hf
  rcases hf with rfl | rfl <;> simp [wfFieldB]

theorem isScalarTy_iff {t : PType} : isScalarTy t = true ↔ t ≠ .message ∧ t ≠ .map := by
  simp [isScalarTy]

theorem wfD_wrapper (w : PType) (hw : isScalarTy w = true) : WfD S (wrapperD w) := by
  intro f hf
  simp [wrapperD] at hf
  subst hf
  simp [wfFieldB, isScalarTy_iff.mp hw]

theorem entryD_fields (f : FieldD) : (entryD f).fields = [keyFieldOf f, valFieldOf f] := rfl

theorem wfD_entry (f : FieldD) (hw : wfFieldB S.length f = true) (ht : f.ty = .map) :
    WfD S (entryD f) := by
  obtain ⟨h1, h2, h3⟩ := wfField_map hw ht
  rw [isScalarTy_iff] at h1
  intro g hg
  rw [entryD_fields] at hg
  simp at hg
  rcases hg with rfl | rfl
  · simp [wfFieldB, keyFieldOf, h1.1, h1.2]
  · by_cases hm : f.mapV = .message
    · cases hk : f.mapVKind with
      | user c => simp [wfFieldB, valFieldOf, hm, hk, h3 hm c hk]
      | timestamp => simp [wfFieldB, valFieldOf, hm, hk]
      | duration => simp [wfFieldB, valFieldOf, hm, hk]
    · simp [wfFieldB, valFieldOf, hm, h2]

/-- a field without `repeated`, `optional`, `wraps` and not a map (the `value` of a wrapper, the key and the
    value of a map entry): its default is not `None`, so reading the attribute yields an element -/
theorem plain_item (g : FieldD) (hw : wfFieldB S.length g = true)
    (hr : g.repeated = false) (ho : g.optional = false) (hwr : g.wraps = Option.none) (hm : g.ty ≠ .map)
    (v : Val) (h : slotTypedB s S g v = true) : itemsTypedB s S g [materialize S g v] = true := by
  have hk := defKind_ne_none g hr ho hwr hm
  refine (item_iff_slot s S g _ (by simp [singularB, hr, hm])).mpr ⟨materialize_typed s S g hw v h, ?_⟩
  cases v with
  | ph => cases hd : g.defKind <;> simp [materialize, defaultOf, defaultOfKind, fresh, hd]; exact hk hd
  | none => rw [slotTypedB] at h; simp [noneOkB, ho, hk] at h
  | _ => simp [materialize]

theorem idx_lt_slots (d : MsgD) (st : MState) (idx : Nat) (f : FieldD)
    (hf : d.fields[idx]? = some f) (h : StTyped s S d st) : idx < st.slots.length := by
  rw [slotsTyped_length s S _ _ h.2]; exact (List.getElem?_eq_some_iff.mp hf).1

theorem current_typed (d : MsgD) (st : MState) (idx : Nat) (f : FieldD)
    (hf : d.fields[idx]? = some f) (hw : wfFieldB S.length f = true) (h : StTyped s S d st) :
    slotTypedB s S f (current S d st idx f) = true := by
  rw [current_eq S d st idx f hf, if_pos (idx_lt_slots s S d st idx f hf h)]
  split
  · rw [storedVal_eq, slotTypedB_markEmpty]; exact defaultOf_typed s S f hw
  · exact materialize_typed s S f hw _ (slotsTyped_getD s S _ _ idx f h.2 hf)

theorem current_list (d : MsgD) (st : MState) (idx : Nat) (f : FieldD)
    (hf : d.fields[idx]? = some f) (hw : wfFieldB S.length f = true) (h : StTyped s S d st)
    (hr : f.repeated = true) : ∃ xs, current S d st idx f = .list xs := by
  have hdef := defaultOf_repeated S f hr
  rw [current_eq S d st idx f hf, if_pos (idx_lt_slots s S d st idx f hf h)]
  split
  · rw [hdef]; exact ⟨[], rfl⟩
  · have hslot := slotsTyped_getD s S _ _ idx f h.2 hf
    generalize st.slots.getD idx .ph = v at hslot
    have hopt := wfField_rep hw hr
    cases v with
    | ph => exact ⟨[], by simp [materialize, hdef]⟩
    | none => rw [slotTypedB] at hslot; simp [noneOkB, hopt, FieldD.defKind, hr] at hslot
    | list xs => exact ⟨xs, rfl⟩
    | dict ks vs => rw [slotTypedB] at hslot; simp [hr] at hslot
    | msg c sl ow unk cur => rw [slotTypedB] at hslot; simp [singularB, hr] at hslot
    | _ => simp [slotTypedB, singularB, hr] at hslot

/-- the one assignment of a decode step keeps the state typed: a map entry goes into the typed dict
    `getattr` returned, elements are appended to the typed list, a single value is assigned to a singular field -/
theorem commit_typed (d : MsgD) (st : MState) (idx : Nat) (f : FieldD) (value : Val) (u : Bool × Val)
    (hf : d.fields[idx]? = some f) (hw : wfFieldB S.length f = true) (h : StTyped s S d st)
    (hv : decodedOkB s S f value = true) (hu : slotUpdate f (current S d st idx f) value = .ok u) :
    StTyped s S d (commit S d st idx f u) := by
  have hslot := current_typed s S d st idx f hf hw h
  -- either way of assigning needs the new content typed, nothing else
  suffices hy : slotTypedB s S f u.2 = true by
    unfold commit
    split
    · exact setAttr_typed s S d st idx f _ hf h hy
    · exact ⟨h.1, slotsTyped_set s S _ _ idx f _ h.2 hf hy⟩
  rcases slotUpdate_ok_cases f _ value u hu with ⟨_, ks, vs, k, v, hc, rfl, rfl⟩ | ⟨hnm, xs, hc, rfl⟩ | ⟨hnm, hnl, rfl⟩
  · rw [hc, slotTypedB] at hslot
    simp only [Bool.and_eq_true, beq_iff_eq, Bool.not_eq_true'] at hslot
    obtain ⟨⟨⟨⟨h1, h2⟩, h3⟩, h4⟩, h5⟩ := hslot
    simp only [decodedOkB, Bool.and_eq_true] at hv
    obtain ⟨i1, i2, i3⟩ := dictInsert_typed s S _ _ k v hv.1.2 hv.2 ks vs h3 h4 h5
    rw [slotTypedB]
    simp [h1, h2, i1, i2, i3]
  · rw [hc, slotTypedB] at hslot
    simp only [Bool.and_eq_true] at hslot
    have hy : itemsTypedB s S f (elemsOf value) = true := by
      cases value with
      | list ys => simp only [decodedOkB, Bool.and_eq_true] at hv; exact hv.2
      | dict ks vs => simp [decodedOkB, hnm] at hv
      | _ => exact hv
    show slotTypedB s S f (.list (xs ++ elemsOf value)) = true
    rw [slotTypedB, items_append]; simp [hslot.1, hslot.2, hy]
  · have hrep : f.repeated = false := by
      cases hr : f.repeated with
      | false => rfl
      | true => obtain ⟨xs, hx⟩ := current_list s S d st idx f hf hw h hr; exact absurd hx (hnl xs)
    have slot_of_item : ∀ v, itemsTypedB s S f [v] = true → slotTypedB s S f v = true :=
      fun v hv => ((item_iff_slot s S f v (by simp [singularB, hrep, hnm])).mp hv).1
    cases value with
    | list vs =>
      simp only [decodedOkB, Bool.and_eq_true] at hv
      rw [hrep] at hv; simp at hv
    | dict ks vs => simp [decodedOkB, hnm] at hv
    | _ => exact slot_of_item _ hv

section nested
-- the lemmas of this section take, after `s S`: the nested loader `rec`, `hrec` (it preserves `StTyped`) and `hS`
variable (rec : Loader) (hrec : LoaderOk s S rec) (hS : WfSchemaT S)
include hrec hS

/-- a case per kind of record; the nested loader is used for map entries, Timestamp / Duration, wrappers and
    sub-messages, each time on a bundled or declared class from its fresh state -/
theorem decodes_typed (f : FieldD) (pf : PField) (v : Val) (hw : wfFieldB S.length f = true)
    (hb : s = true → WfBytes pf.payload) (h : Decodes S rec f pf v) : decodedOkB s S f v = true := by
  have leaf : ∀ x, leafTypedB s f x = true → decodedOkB s S f x = true :=
    fun x hx => decoded_of_item s S f x (item_leaf s S f x hx)
  cases h with
  | chunk vs hrep hp hwt hd =>
    simp only [decodedOkB, hrep, Bool.true_and]
    exact (items_iff s S f vs).mpr fun v hv => item_leaf s S f v <|
      leaf_of_scalar s f f.ty v (elemTy_plain f (packed_ne_message hp))
        (decodePackedFuel_typed s f.ty hp _ _ _ hb hd v hv)
  | varint hv hwt =>
    exact decoded_of_scalar s S f _ (by rintro e; rw [e] at hv; cases hv) (postVarint_typed s f.ty _ hv)
  | fixed v hfx hp hwt hpost =>
    exact decoded_of_scalar s S f _ (packed_ne_message hp) (postFixed_typed s f.ty _ _ hb hpost)
  | entry est hmap hr =>
    have hwe := wfD_entry S f hw hmap
    obtain ⟨m1, m2, _⟩ := wfField_map hw hmap
    rw [isScalarTy_iff] at m1
    have hst := hrec _ _ _ _ hwe hb (freshState_typed s S _) hr
    simp only [decodedOkB, hmap, beq_self_eq_true, Bool.true_and, Bool.and_eq_true]
    exact ⟨plain_item s S (keyFieldOf f) (hwe _ (by simp [entryD_fields])) rfl rfl rfl m1.2 _
        (slotsTyped_getD s S _ _ 0 _ hst.2 rfl),
      plain_item s S (valFieldOf f) (hwe _ (by simp [entryD_fields])) rfl rfl rfl m2 _
        (slotsTyped_getD s S _ _ 1 _ hst.2 rfl)⟩
  | str ht hu =>
    exact leaf _ (leaf_of_scalar s f .string _ (ht ▸ elemTy_plain f (by rw [ht]; decide)) (by simp [scalarTypedB, hu]))
  | byt ht =>
    exact leaf _ (leaf_of_scalar s f .bytes _ (ht ▸ elemTy_plain f (by rw [ht]; decide)) rfl)
  | ts st sec n ht hk _ _ _ hrange =>
    exact leaf _ (by cases s <;> simp [leafTypedB, ht, hk, tsRangeB, hrange.1, hrange.2])
  | dur st sec n ht hk _ _ _ hrange =>
    exact leaf _ (by cases s <;> simp [leafTypedB, ht, hk, durRangeB, hrange.1, hrange.2])
  | wrap c w st ht hk hwr hr =>
    have hsc := wfField_wrap hw c w ht hk hwr
    have hst := hrec _ _ _ _ (wfD_wrapper S w hsc) hb (freshState_typed s S _) hr
    have hitem := plain_item s S (wrapperD w).fields[0]! (wfD_wrapper S w hsc _ (by simp [wrapperD]))
      rfl rfl rfl (isScalarTy_iff.mp hsc).2 _ (slotsTyped_getD s S _ _ 0 _ hst.2 rfl)
    exact leaf _ (leaf_of_scalar s f w _ (by simp [elemTy, ht, hk, hwr])
      (item_scalar s S (wrapperD w).fields[0]! _ (isScalarTy_iff.mp hsc).1 hitem))
  | sub c d st ht hk hwr hd hr =>
    have hst := hrec _ _ _ _ (wfSchema_class S hS c d hd) hb (freshState_typed s S _) hr
    simp only [decodedOkB]
    rw [itemsTypedB, itemsTypedB]
    simp [msgFieldB, ht, hk, hwr, hd, hst.1, hst.2]

theorem decodeValue_typed (f : FieldD) (pf : PField) (value : Val) (hw : wfFieldB S.length f = true)
    (hfit : wireFits f pf.wt = true) (hb : s = true → WfBytes pf.payload)
    (h : decodeValue S rec f pf = .ok value) : decodedOkB s S f value = true :=
  decodes_typed s S rec hrec hS f pf value hw hb (decodeValue_decodes S rec f pf value hfit h)

theorem applyField_typed (d : MsgD) (hd : WfD S d) (st st' : MState) (pf : PField)
    (hb : s = true → WfBytes pf.payload) (h : StTyped s S d st)
    (ha : applyField S rec d st pf = .ok st') : StTyped s S d st' := by
  rcases applyField_commit_ok S rec d st st' pf ha with ⟨_, rfl⟩ | ⟨idx, f, v, u, ht, hv, hu, rfl⟩
  · exact h
  · have hw := hd f (List.mem_of_getElem? ht.2.1)
    exact commit_typed s S d st idx f v u ht.2.1 hw h (decodeValue_typed s S rec hrec hS f pf v hw ht.2.2 hb hv) hu

end nested

theorem loadFields_payload_mem (bs : Bytes) (pfs : List PField) (h : loadFields bs = .ok pfs) :
    ∀ pf ∈ pfs, ∀ b ∈ pf.payload, b ∈ bs := fun _ hpf _ hb => (loadFields_payload h hpf).1.subset hb

theorem loadInto_typed (hS : WfSchemaT S) :
    ∀ fuel : Nat, LoaderOk s S (loadInto S fuel) := by
  intro fuel
  induction fuel with
  | zero => intro d st bs st' _ _ _ hl; simp [loadInto] at hl
  | succ fuel ih =>
    intro d st bs st' hd hb h hl
    rw [loadInto_succ] at hl
    obtain ⟨pfs, hp, hl⟩ := bind_inv hl
    have hmem := loadFields_payload_mem bs pfs hp
    exact foldFields_induct S _ d (StTyped s S d) pfs
      (fun a a' pf hpf ha hstep =>
        applyField_typed s S _ ih hS d hd a a' pf (fun hs b hbm => hb hs b (hmem pf hpf b hbm)) ha hstep)
      { st with onWire := true } st' ⟨h.1, h.2⟩ hl

theorem parse_typed (hS : WfSchemaT S) (c : Nat) (bs : Bytes) (m : Val)
    (hb : s = true → WfBytes bs) (h : parse S c bs = .ok m) : msgTypedB s S m = true := by
  obtain ⟨d, st, hd, hl, rfl⟩ := parse_ok h
  have hst := loadInto_typed s S hS _ d _ bs st (wfSchema_class S hS c d hd) hb (freshState_typed s S d) hl
  exact (msgTypedB_iff s S c _ _ _ _).mpr ⟨d, hd, hst⟩

end decoder

/-- Induction over a typed value, a case per clause of `slotTypedB` / `itemsTypedB`: `I f v` is what is shown of `v`
    as an element of field `f` (a single value, a list item, a dict key or value), `R f v` of `v` as the slot of `f`. -/
theorem typed_induction (s : Bool) (S : Schema) {I R : FieldD → Val → Prop}
    (leaf : ∀ f v, leafTypedB s f v = true → I f v)
    (msg : ∀ f c d sl ow unk cur, msgFieldB f c = true → S[c]? = some d → cur.length = d.nGroups →
      slotsTypedB s S d.fields sl = true → (∀ i g, d.fields[i]? = some g → R g (sl.getD i .ph)) →
      I f (.msg c sl ow unk cur))
    (ph : ∀ f, R f .ph)
    (none : ∀ f, noneOkB f = true → R f .none)
    (one : ∀ f v, singularB f = true → isOneVal v = true → I f v → R f v)
    (list : ∀ f xs, f.repeated = true → itemsTypedB s S f xs = true → (∀ x ∈ xs, I f x) → R f (.list xs))
    (dict : ∀ f ks vs, f.ty = .map → f.repeated = false → ks.length = vs.length →
      itemsTypedB s S (keyFieldOf f) ks = true → itemsTypedB s S (valFieldOf f) vs = true →
      (∀ k ∈ ks, I (keyFieldOf f) k) → (∀ v ∈ vs, I (valFieldOf f) v) → R f (.dict ks vs)) :
    ∀ v, (∀ f, itemsTypedB s S f [v] = true → I f v) ∧ ∀ f, slotTypedB s S f v = true → R f v := by
  refine val_induction_mem ?_ ?_ ?_ ?_
  · intro v hv
    refine ⟨fun f h => ?_, fun f h => ?_⟩
    · cases v with
      | list | dict | msg => cases hv
      | _ => exact leaf f _ (by simpa [itemsTypedB] using h)
    · cases v with
      | list | dict | msg => cases hv
      | ph => exact ph f
      | none => exact none f (by rwa [slotTypedB] at h)
      | _ => simp only [slotTypedB, Bool.and_eq_true] at h; exact one f _ h.1 rfl (leaf f _ h.2)
  · intro xs ih
    refine ⟨fun f h => by simp [itemsTypedB, leafTypedB] at h, fun f h => ?_⟩
    rw [slotTypedB, Bool.and_eq_true] at h
    exact list f xs h.1 h.2 fun x hx => (ih x hx).1 f ((items_iff s S f xs).mp h.2 x hx)
  · intro ks vs ihk ihv
    refine ⟨fun f h => by simp [itemsTypedB, leafTypedB] at h, fun f h => ?_⟩
    rw [slotTypedB] at h
    simp only [Bool.and_eq_true, beq_iff_eq, Bool.not_eq_true'] at h
    obtain ⟨⟨⟨⟨ht, hr⟩, hl⟩, hk⟩, hv⟩ := h
    exact dict f ks vs ht hr hl hk hv (fun k hkm => (ihk k hkm).1 _ ((items_iff s S _ ks).mp hk k hkm))
      fun v hvm => (ihv v hvm).1 _ ((items_iff s S _ vs).mp hv v hvm)
  · intro c sl ow unk cur ih
    have hi : ∀ f, msgFieldB f c = true → msgTypedB s S (.msg c sl ow unk cur) = true → I f (.msg c sl ow unk cur) := by
      intro f hmf h
      obtain ⟨d, hd, hc, hsl⟩ := (msgTypedB_iff s S c sl ow unk cur).mp h
      obtain ⟨hl, hget⟩ := (slotsTyped_iff s S d.fields sl).mp hsl
      refine msg f c d sl ow unk cur hmf hd hc hsl fun i g hg => (ih _ ?_).2 g (hget i g hg)
      have hlt : i < sl.length := hl ▸ (List.getElem?_eq_some_iff.mp hg).1
      rw [List.getD_eq_getElem?_getD, List.getElem?_eq_getElem hlt]; exact List.getElem_mem hlt
    refine ⟨fun f h => ?_, fun f h => ?_⟩
    · rw [itemsTypedB, Bool.and_eq_true, Bool.and_eq_true] at h; exact hi f h.1.1 h.1.2
    · rw [slotTypedB, Bool.and_eq_true, Bool.and_eq_true] at h; exact one f _ h.1.1 rfl (hi f h.1.2 h.2)

theorem prepPlain_total (t : PType) (v : Val) (h : scalarTypedB true t v = true) : ∃ b, prepPlain t v = .ok b := by
  cases v with
  | int i =>
    simp [scalarTypedB] at h
    obtain ⟨hi, he⟩ := h
    cases t with
    | enum | int32 | int64 | uint32 | uint64 => exact dumpVarint_total i (of_decide_eq_true he)
    | sint32 | sint64 => exact dumpVarint_total (zig i) (by have := zig_nonneg i; omega)
    | fixed32 | sfixed32 | fixed64 | sfixed64 =>
      simp [intEncB] at he
      simp [prepPlain, isFixed, fixedTypes, packFixed, fmtOf, packFmt, he]
    | _ => cases hi
  | bool b => simp [scalarTypedB] at h; subst h; cases b <;> exact ⟨_, rfl⟩
  | f32 b =>
    simp [scalarTypedB] at h
    obtain ⟨ht, hb⟩ := h; subst ht; simp [prepPlain, isFixed, fixedTypes, packFixed, fmtOf, packFmt, hb]
  | f64 b =>
    simp [scalarTypedB] at h
    obtain ⟨ht, hb⟩ := h; subst ht; simp [prepPlain, isFixed, fixedTypes, packFixed, fmtOf, packFmt, hb]
  | str u => simp [scalarTypedB] at h; obtain ⟨ht, _⟩ := h; subst ht; exact ⟨_, rfl⟩
  | byt b => simp [scalarTypedB] at h; subst h; exact ⟨_, rfl⟩
  | _ => cases h

theorem tsBytes_total (us : Int) (h : tsRangeB us = true) : ∃ b, tsBytes us = .ok b := by
  unfold tsRangeB tsMinUs tsMaxUs at h
  simp only [Bool.and_eq_true, decide_eq_true_eq] at h
  unfold tsBytes tsSplit
  exact secNanosBytes_ok _ _ (by omega) (by omega)

theorem durBytes_total (us : Int) (h : durRangeB us = true) : ∃ b, durBytes us = .ok b := by
  unfold durRangeB durMinUs durMaxUs at h
  simp only [Bool.and_eq_true, decide_eq_true_eq] at h
  unfold durBytes durSplit
  simp only
  split <;> exact secNanosBytes_ok _ _ (by omega) (by omega)

theorem wrapperBytes_total (S : Schema) (w : PType) (v : Val) (h : scalarTypedB true w v = true) :
    ∃ b, wrapperBytes S w v = .ok b := by
  obtain ⟨p, hp⟩ := prepPlain_total w v h
  rw [wrapperBytes, hp]
  exact ok_of_guard _ _ _ (frame_ok _ _ _ _ _)

theorem scalarTyped_ne_message (s : Bool) (v : Val) : scalarTypedB s .message v = false := by
  cases v <;> simp [scalarTypedB, isIntTy]

theorem elemTy_message {f : FieldD} {w : PType} (hm : f.ty = .message) (he : elemTy f = some w) :
    f.wraps = some w := by
  unfold elemTy at he
  simp only [hm, beq_self_eq_true, if_true] at he
  cases hk : f.kind <;> cases hwr : f.wraps <;> simp [hk, hwr] at he
  rw [he]

theorem serializeScalar_total (S : Schema) (f : FieldD) (num : Nat) (v : Val) (se : Bool)
    (h : leafTypedB true f v = true) : ∃ b, serializeScalar S num f.ty v se f.wraps = .ok b := by
  unfold serializeScalar
  suffices hp : ∃ p, prepScalar S f.ty f.wraps v = .ok p by
    obtain ⟨p, hp⟩ := hp
    rw [hp]; exact frame_ok _ _ _ _ _
  unfold prepScalar
  by_cases hm : f.ty = .message
  · simp only [hm, beq_self_eq_true, if_true]
    cases v <;> simp [leafTypedB] at h
    case ts us => exact tsBytes_total us h.2
    case dur us => exact durBytes_total us h.2
    all_goals
      (cases he : elemTy f with
       | none => rw [he] at h; cases h
       | some w => rw [he] at h; rw [elemTy_message hm he]; exact wrapperBytes_total S w _ h)
  · have hm' : (f.ty == PType.message) = false := by simpa using hm
    simp only [hm', Bool.false_eq_true, if_false]
    exact prepPlain_total f.ty v (item_scalar true S f v hm (item_leaf true S f v h))

theorem prepPacked_total (S : Schema) (f : FieldD) (hp : isPacked f.ty = true) :
    ∀ xs : List Val, itemsTypedB true S f xs = true → ∃ b, prepPacked S f.ty xs = .ok b
  | [], _ => ⟨[], rfl⟩
  | x :: xs, h => by
    have hne : f.ty ≠ .message := packed_ne_message hp
    rw [items_cons] at h
    simp only [Bool.and_eq_true] at h
    obtain ⟨b, hb⟩ := prepPacked_total S f hp xs h.2
    obtain ⟨a, ha⟩ := prepPlain_total f.ty x (item_scalar true S f x hne h.1)
    have hm' : (f.ty == PType.message) = false := by simpa using hne
    rw [prepPacked]
    simp only [prepScalar, hm', Bool.false_eq_true, if_false, ha, hb]
    exact ⟨_, rfl⟩

theorem dumpKey_total (S : Schema) (f : FieldD) (hw : wfFieldB S.length f = true) (ht : f.ty = .map) (k : Val)
    (hk : itemsTypedB true S (keyFieldOf f) [k] = true) :
    ∃ b, serializeScalar S 1 f.mapK k false Option.none = .ok b := by
  have hne : f.mapK ≠ .message := (isScalarTy_iff.mp (wfField_map hw ht).1).1
  exact serializeScalar_total S (keyFieldOf f) 1 k false
    (leaf_of_scalar true (keyFieldOf f) f.mapK k (elemTy_plain (keyFieldOf f) hne)
      (item_scalar true S (keyFieldOf f) k hne hk))

/-- every value typed for the encoder is encoded: the one record of an item, a whole slot -/
theorem dump_total (S : Schema) (hS : WfSchemaT S) : ∀ v,
    (∀ g, itemsTypedB true S g [v] = true → ∀ num se, ∃ b, dumpRec S num g.ty g.wraps se v = .ok b)
    ∧ ∀ f, slotTypedB true S f v = true → wfFieldB S.length f = true →
        ∀ hid sel, ∃ b, dumpSlot S f hid sel v = .ok b := by
  apply typed_induction
  case leaf =>
    intro g v h num se
    cases v with
    | msg => simp [leafTypedB] at h
    | _ => exact serializeScalar_total S g num _ se h
  case msg =>
    intro g c d sl ow unk cur hmf hd _ _ ih num se
    obtain ⟨ht, _, hwr⟩ := (msgFieldB_iff g c).mp hmf
    rw [ht, dumpRec_msg S _ _ _ _ _ _ _ _ hwr, dumpVal_msg, fieldsOf_some S c d hd]
    obtain ⟨b, hb⟩ := dumpSlots_ok S d.fields cur sl 0 fun i f hf =>
      have hf' : d.fields[i]? = some f := by simpa using hf
      ih i f hf' (wfSchema_class S hS c d hd f (List.mem_of_getElem? hf'))
    rw [hb]
    exact frame_ok _ _ _ _ _
  case ph => exact fun f _ hid sel => dumpSlot_ph_ok S f hid sel (dumpDefault_ok S f sel)
  case none => exact fun f _ _ hid sel => ⟨[], by rw [dumpSlot]⟩
  case one => exact fun f v _ ho h _ hid sel => dumpSlot_one_ok S f hid sel v ho fun se => h _ se
  case list =>
    exact fun f xs _ hx h _ hid sel => dumpSlot_list_ok S f hid sel xs (fun hp => prepPacked_total S f hp xs hx)
      fun _ => dumpItems_ok S f xs fun x hx => h x hx _ _
  case dict =>
    exact fun f ks vs ht _ _ hk _ _ hv hw hid sel => dumpSlot_dict_ok S f hid sel ks vs <| dumpEntries_ok S f ks vs
      (fun k hkm => dumpKey_total S f hw ht k ((items_iff true S _ ks).mp hk k hkm)) fun v hvm => hv v hvm _ _

theorem dumpSlots_total (S : Schema) (hS : WfSchemaT S) (fs : List FieldD) (cur : List (Option Nat))
    (hwf : ∀ f ∈ fs, wfFieldB S.length f = true) (sl : List Val) (h : slotsTypedB true S fs sl = true) :
    ∃ b, dumpSlots S fs cur 0 sl = .ok b :=
  dumpSlots_ok S fs cur sl 0 fun i f hf =>
    have hf' : fs[i]? = some f := by simpa using hf
    ((dump_total S hS) _).2 f (slotsTyped_getD true S fs sl i f h hf') (hwf f (List.mem_of_getElem? hf'))

theorem dumpItems_total (S : Schema) (hS : WfSchemaT S) (f : FieldD) :
    ∀ (xs : List Val), itemsTypedB true S f xs = true → ∃ b, dumpItems S f xs = .ok b :=
  fun xs h => dumpItems_ok S f xs fun x hx => ((dump_total S hS) x).1 f ((items_iff true S f xs).mp h x hx) _ _

theorem dumpEntries_total (S : Schema) (hS : WfSchemaT S) (f : FieldD) (hw : wfFieldB S.length f = true)
    (ht : f.ty = .map) :
    ∀ (ks vs : List Val), itemsTypedB true S (keyFieldOf f) ks = true → itemsTypedB true S (valFieldOf f) vs = true →
      ∃ b, dumpEntries S f ks vs = .ok b :=
  fun ks vs hk hv => dumpEntries_ok S f ks vs
    (fun k hkm => dumpKey_total S f hw ht k ((items_iff true S _ ks).mp hk k hkm))
    fun v hvm => ((dump_total S hS) v).1 _ ((items_iff true S _ vs).mp hv v hvm) _ _

theorem dumpVal_total (S : Schema) (hS : WfSchemaT S) (m : Val) (h : msgTypedB true S m = true) :
    ∃ bs', dumpVal S m = .ok bs' := by
  cases m with
  | msg c sl ow unk cur =>
    obtain ⟨d, hd, _, hsl⟩ := (msgTypedB_iff true S c sl ow unk cur).mp h
    obtain ⟨b, hb⟩ := dumpSlots_total S hS d.fields cur (wfSchema_class S hS c d hd) sl hsl
    rw [dumpVal_msg, fieldsOf_some S c d hd, hb]; exact ⟨_, rfl⟩
  | _ => cases h

theorem scalarTyped_weaken (t : PType) (v : Val) (h : scalarTypedB true t v = true) :
    scalarTypedB false t v = true := by
  cases v <;> simp [scalarTypedB] at h ⊢ <;> simp [h]

theorem leafTyped_weaken (f : FieldD) (v : Val) (h : leafTypedB true f v = true) :
    leafTypedB false f v = true := by
  cases v <;> simp [leafTypedB] at h ⊢
  case ts => exact h.1
  case dur => exact h.1
  all_goals
    (cases he : elemTy f with
     | none => rw [he] at h; simp at h
     | some t => rw [he] at h; exact scalarTyped_weaken t _ h)

/-- the encoder's domain lies in the Python typing: a value as an item and as a slot -/
theorem typed_weaken (S : Schema) : ∀ v,
    (∀ f, itemsTypedB true S f [v] = true → itemsTypedB false S f [v] = true)
    ∧ ∀ f, slotTypedB true S f v = true → slotTypedB false S f v = true := by
  apply typed_induction
  case leaf => exact fun f v h => item_leaf false S f v (leafTyped_weaken f v h)
  case msg =>
    intro f c d sl ow unk cur hmf hd hc hsl ih
    rw [itemsTypedB, itemsTypedB, Bool.and_true, Bool.and_eq_true]
    exact ⟨hmf, (msgTypedB_iff false S c sl ow unk cur).mpr
      ⟨d, hd, hc, (slotsTyped_iff false S _ _).mpr ⟨slotsTyped_length true S _ _ hsl, ih⟩⟩⟩
  case ph => exact slotTypedB_ph false S
  case none => exact fun f h => by rwa [slotTypedB]
  case one => exact fun f v hs _ h => ((item_iff_slot false S f v hs).mp h).1
  case list =>
    intro f xs hr _ h
    rw [slotTypedB, Bool.and_eq_true]
    exact ⟨hr, (items_iff false S f xs).mpr h⟩
  case dict =>
    intro f ks vs ht hr hl _ _ hk hv
    rw [slotTypedB]
    simp only [Bool.and_eq_true, beq_iff_eq, Bool.not_eq_true']
    exact ⟨⟨⟨⟨ht, hr⟩, hl⟩, (items_iff false S _ ks).mpr hk⟩, (items_iff false S _ vs).mpr hv⟩

theorem slotTyped_weaken (S : Schema) (f : FieldD) :
    ∀ v : Val, slotTypedB true S f v = true → slotTypedB false S f v = true :=
  fun v => (typed_weaken S v).2 f

theorem itemsTyped_weaken (S : Schema) (f : FieldD) :
    ∀ xs : List Val, itemsTypedB true S f xs = true → itemsTypedB false S f xs = true :=
  fun xs h => (items_iff false S f xs).mpr fun x hx => (typed_weaken S x).1 f ((items_iff true S f xs).mp h x hx)

theorem slotsTyped_weaken (S : Schema) :
    ∀ (fs : List FieldD) (sl : List Val), slotsTypedB true S fs sl = true → slotsTypedB false S fs sl = true :=
  fun fs sl h =>
    have ⟨hl, hg⟩ := (slotsTyped_iff true S fs sl).mp h
    (slotsTyped_iff false S fs sl).mpr ⟨hl, fun i f hf => (typed_weaken S _).2 f (hg i f hf)⟩

theorem msgTyped_weaken (S : Schema) (m : Val) (h : msgTypedB true S m = true) : msgTypedB false S m = true := by
  cases m with
  | msg c sl ow unk cur =>
    obtain ⟨d, hd, hc, hsl⟩ := (msgTypedB_iff true S c sl ow unk cur).mp h
    exact (msgTypedB_iff false S c sl ow unk cur).mpr ⟨d, hd, hc, slotsTyped_weaken S d.fields sl hsl⟩
  | _ => cases h

/-- the raw slot value `v` of field `f` has the Python type the field declares -/
def PyTyped (S : Schema) (f : FieldD) (v : Val) : Prop := slotTypedB false S f v = true

/-- every field of the message (and, recursively, of every message it contains) holds a
    value of its declared Python type -/
def MsgTyped (S : Schema) (m : Val) : Prop := msgTypedB false S m = true

/-- … and every leaf lies in the domain of the encoder -/
def MsgEnc (S : Schema) (m : Val) : Prop := msgTypedB true S m = true

instance (S : Schema) (f : FieldD) (v : Val) : Decidable (PyTyped S f v) := by unfold PyTyped; infer_instance
instance (S : Schema) (m : Val) : Decidable (MsgTyped S m) := by unfold MsgTyped; infer_instance
instance (S : Schema) (m : Val) : Decidable (MsgEnc S m) := by unfold MsgEnc; infer_instance

theorem msgTyped_iff (S : Schema) (c : Nat) (sl : List Val) (ow : Bool) (unk : Bytes) (cur : List (Option Nat)) :
    MsgTyped S (.msg c sl ow unk cur) ↔
      ∃ d, S[c]? = some d ∧ cur.length = d.nGroups ∧ sl.length = d.fields.length
        ∧ ∀ i f, d.fields[i]? = some f → PyTyped S f (sl.getD i .ph) := by
  simp only [MsgTyped, PyTyped, msgTypedB_iff, slotsTyped_iff]

/-- **C17**: whatever `parse` returns is a typed message — for every list of numbers, bytes or not -/
theorem parse_msgTyped (S : Schema) (hS : WfSchemaT S) (c : Nat) (bs : Bytes) (m : Val)
    (h : parse S c bs = .ok m) : MsgTyped S m :=
  parse_typed false S hS c bs m (fun hs => absurd hs (by decide)) h

/-- for an input made of bytes the result lies in the encoder's domain … -/
theorem parse_msgEnc (S : Schema) (hS : WfSchemaT S) (c : Nat) (bs : Bytes) (m : Val) (hb : WfBytes bs)
    (h : parse S c bs = .ok m) : MsgEnc S m :=
  parse_typed true S hS c bs m (fun _ => hb) h

/-- … and can be encoded again -/
theorem parse_reencodes (S : Schema) (hS : WfSchemaT S) (c : Nat) (bs : Bytes) (m : Val) (hb : WfBytes bs)
    (h : parse S c bs = .ok m) : ∃ bs', dumpVal S m = .ok bs' :=
  dumpVal_total S hS m (parse_msgEnc S hS c bs m hb h)

end Bp

#print axioms Bp.parse_msgTyped
#print axioms Bp.parse_msgEnc
#print axioms Bp.parse_reencodes
#print axioms Bp.dumpVal_total
#print axioms Bp.msgTyped_weaken
