import BpModel.All
import BpProofs.Varint
import BpProofs.Props.C16
import BpProofs.Fields
import BpProofs.Len
import BpProofs.RtScalar
import BpProofs.Emits
/-
  Round trip of packed repeated scalar fields: `prepPacked` (the concatenation of
  `_preprocess_single` of the items) against `decodePacked` (the loop of
  `_postprocess_single` over a packed payload), and the whole record
  tag ++ length ++ payload against `loadField` / `decodeValue`.
-/
namespace Bp
open Gen

/-- "`b` is an encoding of the element `x`": it is not empty, and one iteration of the
    packed decoder on `b ++ rest` yields `x` and continues on `rest` -/
def ElemRT (t : PType) (x : Val) (b : Bytes) : Prop :=
  b ≠ [] ∧ ∀ fuel rest, decodePackedFuel t (fuel + 1) (b ++ rest)
      = (decodePackedFuel t fuel rest).bind fun vs => .ok (x :: vs)

theorem packed_dispatch (t : PType) :
    (wireVarintTypes.contains t = true →
      (t == .float || t == .fixed32 || t == .sfixed32) = false ∧ (t == .double || t == .fixed64 || t == .sfixed64) = false)
    ∧ (wireFixed32Types.contains t = true → (t == .float || t == .fixed32 || t == .sfixed32) = true)
    ∧ (wireFixed64Types.contains t = true →
      (t == .float || t == .fixed32 || t == .sfixed32) = false ∧ (t == .double || t == .fixed64 || t == .sfixed64) = true) := by
  obtain ⟨w, r, rfl | rfl | rfl | rfl⟩ := wire_row t <;> rw [r.varint, r.fixed32, r.fixed64, r.four, r.eight] <;> decide

theorem step_varint (t : PType) (hv : wireVarintTypes.contains t = true) (b : Bytes) (n : Nat)
    (hb : b ≠ []) (hl : ∀ rest, loadVarint (b ++ rest) = .ok (n, b.length)) :
    ElemRT t (postVarint t n) b := by
  refine ⟨hb, fun fuel rest => ?_⟩
  obtain ⟨h1, h2⟩ := (packed_dispatch t).1 hv
  rw [decodePackedFuel_ne _ _ _ (List.append_ne_nil_of_left_ne_nil hb rest), h1, h2]
  simp only [Bool.false_eq_true, if_false]
  rw [hl rest]
  simp only [List.drop_left]

theorem step_fixed32 (t : PType) (ht : wireFixed32Types.contains t = true)
    (b : Bytes) (x : Val) (hlen : b.length = 4) (hp : postFixed t b = .ok x) : ElemRT t x b := by
  have hb : b ≠ [] := by intro hc; rw [hc] at hlen; cases hlen
  refine ⟨hb, fun fuel rest => ?_⟩
  rw [decodePackedFuel_ne _ _ _ (List.append_ne_nil_of_left_ne_nil hb rest), if_pos ((packed_dispatch t).2.1 ht),
    List.take_left' hlen, List.drop_left' hlen, hp]
  rfl

theorem step_fixed64 (t : PType) (ht : wireFixed64Types.contains t = true)
    (b : Bytes) (x : Val) (hlen : b.length = 8) (hp : postFixed t b = .ok x) : ElemRT t x b := by
  have hb : b ≠ [] := by intro hc; rw [hc] at hlen; cases hlen
  obtain ⟨h1, h2⟩ := (packed_dispatch t).2.2 ht
  refine ⟨hb, fun fuel rest => ?_⟩
  rw [decodePackedFuel_ne _ _ _ (List.append_ne_nil_of_left_ne_nil hb rest), h1]
  simp only [Bool.false_eq_true, if_false]
  rw [if_pos h2, List.take_left' hlen, List.drop_left' hlen, hp]
  rfl

theorem isPacked_scalar (t : PType) (ht : isPacked t = true) : isScalarType t = true := by
  obtain ⟨w, r, _⟩ := wire_row t
  rw [r.packed] at ht
  have hn := mt r.lenTy.mpr (of_decide_eq_true ht)
  simp only [isScalarType, Bool.and_eq_true, bne_iff_ne]
  exact ⟨fun e => hn (.inr (.inr (.inl e))), fun e => hn (.inr (.inr (.inr e)))⟩

/-- **element lemma**: every well-typed element of a packable type is encoded to a
    non-empty byte string from which one decoder iteration recovers it.  The payload is
    the one `payload_spec` describes; the packed decoder reads it back the way the
    field decoder of the same wire class does. -/
theorem elem_rt (t : PType) (x : Val) (ht : isPacked t = true) (hx : scalarOk t x = true) :
    ∃ b, prepPlain t x = .ok b ∧ ElemRT t x b := by
  obtain ⟨pre, hpre, spec⟩ := payload_spec t x (isPacked_scalar t ht) hx
  refine ⟨pre, hpre, ?_⟩
  rcases spec with ⟨hT, n, rfl, hn, rfl⟩ | ⟨hT, hl, hpost⟩ | ⟨hT, hl, hpost⟩ | ⟨hT, _⟩
  · exact step_varint t hT.varint _ n (encNat_ne_nil n) (fun rest => loadVarint_encNat n rest hn)
  · exact step_fixed32 t hT.fixed32 pre x hl hpost
  · exact step_fixed64 t hT.fixed64 pre x hl hpost
  · exact absurd ht (by rw [hT.1.packed]; decide)

theorem prepPacked_cons (S : Schema) (t : PType) (x : Val) (xs : List Val) :
    prepPacked S t (x :: xs)
      = (prepScalar S t Option.none x).bind fun a => (prepPacked S t xs).bind fun b => .ok (a ++ b) := rfl

theorem prepPlain_packable (t : PType) (x : Val) (ht : isPacked t = true) (hx : scalarOk t x = true) :
    ∃ b, prepPlain t x = .ok b ∧ b ≠ [] := by
  obtain ⟨b, h1, h2⟩ := elem_rt t x ht hx
  exact ⟨b, h1, h2.1⟩

theorem prepPacked_ok (S : Schema) (t : PType) (xs : List Val) (ht : isPacked t = true)
    (hx : ∀ x ∈ xs, scalarOk t x = true) :
    ∃ buf, prepPacked S t xs = .ok buf ∧ (buf = [] ↔ xs = []) := by
  induction xs with
  | nil => exact ⟨[], rfl, by simp⟩
  | cons x xs ih =>
    obtain ⟨b, h1, h2⟩ := prepPlain_packable t x ht (hx x (by simp))
    obtain ⟨buf, h3, _⟩ := ih (fun y hy => hx y (by simp [hy]))
    refine ⟨b ++ buf, ?_, ?_⟩
    · rw [prepPacked_cons, prepScalar_packed S t ht, h1, h3]; rfl
    · constructor
      · intro hc; exact absurd (List.append_eq_nil_iff.mp hc).1 h2
      · intro hc; exact absurd hc (by simp)

theorem prepPacked_cons_ok (S : Schema) (t : PType) (x : Val) (xs : List Val) (ht : isPacked t = true)
    (hx : scalarOk t x = true) (buf : Bytes) (h : prepPacked S t (x :: xs) = .ok buf) :
    ∃ b buf', prepPlain t x = .ok b ∧ ElemRT t x b ∧ prepPacked S t xs = .ok buf' ∧ buf = b ++ buf' := by
  obtain ⟨b, h1, h2⟩ := elem_rt t x ht hx
  rw [prepPacked_cons, prepScalar_packed S t ht, h1, bind_ok] at h
  cases h3 : prepPacked S t xs with
  | error e => rw [h3] at h; cases h
  | ok buf' => rw [h3] at h; cases h; exact ⟨b, buf', h1, h2, rfl, rfl⟩

theorem packed_fuel (S : Schema) (t : PType) (xs : List Val) (ht : isPacked t = true)
    (hx : ∀ x ∈ xs, scalarOk t x = true) :
    ∀ buf, prepPacked S t xs = .ok buf → ∀ fuel, xs.length < fuel → decodePackedFuel t fuel buf = .ok xs := by
  induction xs with
  | nil =>
    intro buf h fuel hf
    cases h
    cases fuel with
    | zero => cases hf
    | succ f => rfl
  | cons x xs ih =>
    intro buf h fuel hf
    obtain ⟨b, buf', _, h2, h3, rfl⟩ := prepPacked_cons_ok S t x xs ht (hx x (by simp)) buf h
    cases fuel with
    | zero => cases hf
    | succ f =>
      rw [h2.2 f buf', ih (fun y hy => hx y (by simp [hy])) buf' h3 f (by simpa using hf)]
      rfl

theorem prepPacked_length (S : Schema) (t : PType) (xs : List Val) (ht : isPacked t = true)
    (hx : ∀ x ∈ xs, scalarOk t x = true) :
    ∀ buf, prepPacked S t xs = .ok buf → xs.length ≤ buf.length := by
  induction xs with
  | nil => intro buf _; simp
  | cons x xs ih =>
    intro buf h
    obtain ⟨b, buf', _, h2, h3, rfl⟩ := prepPacked_cons_ok S t x xs ht (hx x (by simp)) buf h
    have := ih (fun y hy => hx y (by simp [hy])) buf' h3
    have hbl : 0 < b.length := List.length_pos_iff.mpr h2.1
    simp only [List.length_cons, List.length_append]
    omega

/-- **a packed payload decodes to exactly the list it was made from** -/
theorem packed_roundtrip (S : Schema) (t : PType) (xs : List Val) (buf : Bytes)
    (ht : isPacked t = true) (hx : ∀ x ∈ xs, scalarOk t x = true)
    (h : prepPacked S t xs = .ok buf) :
    decodePacked t buf = .ok xs := by
  unfold decodePacked
  have := prepPacked_length S t xs ht hx buf h
  exact packed_fuel S t xs ht hx buf h _ (by omega)

/-- the payload of a concatenation is the concatenation of the payloads (a packed field may arrive split into
    several chunks) -/
theorem packed_append (S : Schema) (t : PType) (xs ys : List Val) (b1 b2 : Bytes)
    (ht : isPacked t = true) (hx : ∀ x ∈ xs ++ ys, scalarOk t x = true)
    (h1 : prepPacked S t xs = .ok b1) (h2 : prepPacked S t ys = .ok b2) :
    prepPacked S t (xs ++ ys) = .ok (b1 ++ b2) := by
  induction xs generalizing b1 with
  | nil => cases h1; exact h2
  | cons x xs ih =>
    obtain ⟨b, buf', h3, _, h4, rfl⟩ := prepPacked_cons_ok S t x xs ht (hx x (by simp)) b1 h1
    rw [List.cons_append, prepPacked_cons, prepScalar_packed S t ht, h3,
      ih buf' (fun y hy => hx y (by simp [hy])) h4, List.append_assoc]
    rfl

theorem frame_bytes (num : Nat) (buf : Bytes) (h : buf ≠ []) :
    frame num .bytes buf false false = .ok (encNat (num * 8 + 2) ++ encNat buf.length ++ buf) := by
  rw [frame_len num .bytes buf false false ⟨.of rfl, rfl⟩, if_pos]
  cases buf with
  | nil => exact absurd rfl h
  | cons b bs => rfl

theorem wireFits_packed (f : FieldD) (ht : isPacked f.ty = true) (hrep : f.repeated = true) :
    wireFits f 2 = true := by
  rw [wireFits_eq, ht, hrep]; simp [wireLenDelim]

/-- **the packed record of a repeated scalar field decodes to the list**, consuming exactly
    its own bytes, whatever follows -/
theorem packed_record_roundtrip (S : Schema) (rec : Loader) (f : FieldD) (xs : List Val) (out : Bytes)
    (hnum : numOk f.num = true) (ht : isPacked f.ty = true) (hrep : f.repeated = true)
    (hx : ∀ x ∈ xs, scalarOk f.ty x = true) (hne : xs ≠ []) (hlen : out.length < 2 ^ 64)
    (h : ((prepPacked S f.ty xs).bind fun buf => frame f.num .bytes buf false false) = .ok out) :
    RecordOf S rec f out (.list xs) := by
  obtain ⟨buf, hb, hbe⟩ := prepPacked_ok S f.ty xs ht hx
  have hbne : buf ≠ [] := fun hc => hne (hbe.mp hc)
  rw [hb, bind_ok, frame_bytes f.num buf hbne] at h
  cases h
  have hbl : buf.length < 2 ^ 64 := by
    simp only [List.length_append] at hlen; omega
  refine ⟨_, loadField_len f.num buf hnum hbl, rfl, rfl, wireFits_packed f ht hrep, ?_⟩
  rw [decodeValue_eq_packed S rec f _ rfl ht, packed_roundtrip S f.ty xs buf ht hx hb]
  rfl

example : prepPacked [] .sint32 [.int (-1), .int 150] = .ok [1, 172, 2] := by decide +kernel
example : decodePacked .sint32 [1, 172, 2] = .ok [.int (-1), .int 150] := rfl
-- the hypotheses of `packed_record_roundtrip` are jointly satisfiable (protobuf's own example, field 4)
example : ((prepPacked [] .int32 [.int 3, .int 270, .int 86942]).bind fun buf => frame 4 .bytes buf false false)
    = .ok [0x22, 6, 3, 0x8E, 2, 0x9E, 0xA7, 5] := by decide +kernel
example : numOk 4 = true ∧ isPacked .int32 = true
    ∧ ∀ x ∈ [Val.int 3, .int 270, .int 86942], scalarOk .int32 x = true := by
  refine ⟨by decide, by decide, ?_⟩
  intro x hx
  simp only [List.mem_cons, List.not_mem_nil, or_false] at hx
  rcases hx with rfl | rfl | rfl <;> decide

#print axioms prepPlain_packable
#print axioms prepPacked_ok
#print axioms packed_roundtrip
#print axioms packed_append
#print axioms packed_record_roundtrip

end Bp
