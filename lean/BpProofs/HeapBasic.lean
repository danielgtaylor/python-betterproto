import BpModel.Heap
import Mathlib.Tactic.Common
/-
  Heap model (BpModel/Heap.lean): reachability, closedness, and the FRAME lemma
  (a value only depends on the cells reachable from it).
-/
namespace Bp.Hp

theorem mem_itemRefs {b : Nat} {vs : List HVal} : b ∈ itemRefs vs ↔ HVal.ref b ∈ vs := by
  induction vs with
  | nil => simp [itemRefs]
  | cons v r ih =>
    cases v <;> simp [itemRefs, HVal.refs, ih]

theorem mem_itemRefs_of {b : Nat} {v : HVal} {vs : List HVal} (hv : v ∈ vs) (hb : b ∈ v.refs) :
    b ∈ itemRefs vs := by
  cases v <;> simp [HVal.refs] at hb
  subst hb; exact mem_itemRefs.mpr hv

theorem itemRefs_append (a b : List HVal) : itemRefs (a ++ b) = itemRefs a ++ itemRefs b := by
  induction a with
  | nil => rfl
  | cons v r ih => simp [itemRefs, ih]

/-- `Reach h a x`: `x` is `a` or is reachable from `a` through references stored in cells -/
inductive Reach (h : Heap) : Nat → Nat → Prop
  | refl (a : Nat) : Reach h a a
  | step {a b x : Nat} {c : Cell} : h[a]? = some c → b ∈ c.refs → Reach h b x → Reach h a x

theorem Reach.trans {h : Heap} {a b c : Nat} (h1 : Reach h a b) (h2 : Reach h b c) : Reach h a c := by
  induction h1 with
  | refl => exact h2
  | step hc hb _ ih => exact .step hc hb (ih h2)

theorem Reach.edge {h : Heap} {a b : Nat} {c : Cell} (hc : h[a]? = some c) (hb : b ∈ c.refs) : Reach h a b :=
  .step hc hb (.refl b)

theorem Reach.cell_iff {h : Heap} {a x : Nat} {c : Cell} (hc : h[a]? = some c) :
    Reach h a x ↔ x = a ∨ ∃ b ∈ c.refs, Reach h b x := by
  refine ⟨fun hr => ?_, fun hx => hx.elim (fun e => e ▸ .refl _) fun ⟨_, hb, hr⟩ => .step hc hb hr⟩
  cases hr with
  | refl => exact Or.inl rfl
  | step hc' hb hr => cases hc.symm.trans hc'; exact Or.inr ⟨_, hb, hr⟩

theorem Reach.leaf_iff {h : Heap} {a x : Nat} {c : Cell} (hc : h[a]? = some c) (h0 : c.refs = []) :
    Reach h a x ↔ x = a := by
  rw [Reach.cell_iff hc, h0]; simp

def ReachL (h : Heap) (roots : List Nat) (x : Nat) : Prop := ∃ r ∈ roots, Reach h r x

theorem reachL_singleton {h : Heap} {r x : Nat} : ReachL h [r] x ↔ Reach h r x :=
  ⟨fun ⟨_, hr, hx⟩ => List.mem_singleton.mp hr ▸ hx, fun hx => ⟨r, List.mem_singleton_self r, hx⟩⟩

def ReachV (h : Heap) (v : HVal) (x : Nat) : Prop := ∃ r ∈ v.refs, Reach h r x

def Closed (h : Heap) : Prop := ∀ (i : Nat) (c : Cell), h[i]? = some c → ∀ r ∈ c.refs, r < h.length

theorem closedB_iff (h : Heap) : closedB h = true ↔ Closed h := by
  unfold closedB Closed
  simp only [List.all_eq_true, decide_eq_true_eq]
  constructor
  · intro hh i c hc r hr
    exact hh c (List.mem_of_getElem? hc) r hr
  · intro hh c hc r hr
    obtain ⟨i, hi⟩ := List.getElem?_of_mem hc
    exact hh i c hi r hr

theorem Closed.reach {h : Heap} (hc : Closed h) {a x : Nat} (ha : a < h.length) (hr : Reach h a x) :
    x < h.length := by
  induction hr with
  | refl => exact ha
  | step hcell hb _ ih => exact ih (hc _ _ hcell _ hb)

theorem Reach.of_bytes {h : Heap} {a x : Nat} (hb : isBytes h a = true) (hr : Reach h a x) : x = a := by
  unfold isBytes at hb
  split at hb
  · exact (Reach.leaf_iff ‹_› rfl).mp hr
  · cases hb

theorem Reach.of_oob {h : Heap} {a x : Nat} (ha : h.length ≤ a) (hr : Reach h a x) : x = a := by
  cases hr with
  | refl => rfl
  | step hc _ _ => rw [List.getElem?_eq_none ha] at hc; cases hc

theorem Reach.transport {h h' : Heap} {a : Nat} (hsame : ∀ x, Reach h a x → h'[x]? = h[x]?) {x : Nat}
    (hr : Reach h a x) : Reach h' a x := by
  induction hr with
  | refl => exact .refl _
  | step hc hb hr ih =>
    refine .step ((hsame _ (.refl _)).trans hc) hb (ih ?_)
    intro y hy
    exact hsame y (.step hc hb hy)

theorem Reach.transport_back {h h' : Heap} {a : Nat} (hsame : ∀ x, Reach h a x → h'[x]? = h[x]?) {x : Nat}
    (hr : Reach h' a x) : Reach h a x := by
  induction hr with
  | refl => exact .refl _
  | step hc hb hr ih =>
    have hc' := (hsame _ (.refl _)).symm.trans hc
    refine .step hc' hb (ih ?_)
    intro y hy
    exact hsame y (.step hc' hb hy)

theorem reachF_sound (n : Nat) (h : Heap) (a x : Nat) (hx : x ∈ reachF n h a) : Reach h a x := by
  induction n generalizing a with
  | zero => cases List.mem_singleton.mp hx; exact .refl _
  | succ n ih =>
    unfold reachF at hx
    rcases List.mem_cons.mp hx with rfl | hx
    · exact .refl _
    · split at hx
      · obtain ⟨b, hb, hbx⟩ := List.mem_flatMap.mp hx
        exact .step ‹_› hb (ih b hbx)
      · cases hx

theorem reach_sound (h : Heap) (a x : Nat) (hx : x ∈ reach h a) : Reach h a x := by
  unfold reach at hx
  exact reachF_sound _ h a x (List.mem_eraseDups.mp hx)

theorem reachF_complete (h : Heap) (rank : Nat → Nat)
    (hrank : ∀ (a b : Nat) (c : Cell), h[a]? = some c → b ∈ c.refs → rank b < rank a)
    {a x : Nat} (hr : Reach h a x) : ∀ n, rank a ≤ n → x ∈ reachF n h a := by
  induction hr with
  | refl a => intro n _; cases n <;> exact List.mem_cons_self
  | @step a b x c hc hb _ ih =>
    intro n hn
    have hlt := Nat.lt_of_lt_of_le (hrank a b c hc hb) hn
    cases n with
    | zero => exact absurd hlt (Nat.not_lt_zero _)
    | succ n =>
      simp only [reachF, hc]
      exact List.mem_cons_of_mem _ (List.mem_flatMap.mpr ⟨b, hb, ih n (Nat.le_of_lt_succ hlt)⟩)

section
variable {h h' t : Heap} {a b i k u x : Nat}

theorem bytesAt_congr (hu : h'[u]? = h[u]?) : bytesAt h' u = bytesAt h u := by
  unfold bytesAt; rw [hu]

theorem selAt_congr (hu : h'[u]? = h[u]?) : selAt h' u = selAt h u := by
  unfold selAt; rw [hu]

theorem selAt_eq {s : List (Option Nat)} (hk : h[k]? = some (.gcur s)) : selAt h k = s := by
  unfold selAt; rw [hk]

theorem isBytes_congr (hu : h'[u]? = h[u]?) : isBytes h' u = isBytes h u := by
  unfold isBytes; rw [hu]

theorem absV_frame (n : Nat) (h h' : Heap) (v : HVal) (hsame : ∀ x, ReachV h v x → h'[x]? = h[x]?) :
    absV n h' v = absV n h v := by
  induction n generalizing v with
  | zero => cases v <;> rfl
  | succ n ih =>
    cases v with
    | ph => rfl
    | leaf t => rfl
    | ref i =>
      have hroot : i ∈ (HVal.ref i).refs := List.mem_singleton_self i
      simp only [absV, hsame i ⟨i, hroot, .refl i⟩]
      cases hc : h[i]? with
      | none => rfl
      | some c =>
        have hone : ∀ b ∈ c.refs, h'[b]? = h[b]? := fun b hb => hsame b ⟨i, hroot, .edge hc hb⟩
        have hsub : ∀ vs : List HVal, (∀ b ∈ itemRefs vs, b ∈ c.refs) → vs.map (absV n h') = vs.map (absV n h) :=
          fun vs hvs => List.map_congr_left fun w hw => ih w fun x ⟨r, hr, hrx⟩ =>
            hsame x ⟨i, hroot, .step hc (hvs r (mem_itemRefs_of hw hr)) hrx⟩
        cases c with
        | msg sl ow u g =>
          simp only []
          rw [hsub sl fun b hb => List.mem_cons_of_mem _ (List.mem_cons_of_mem _ hb),
            bytesAt_congr (hone u List.mem_cons_self),
            selAt_congr (hone g (List.mem_cons_of_mem _ List.mem_cons_self))]
        | list it => simp only []; rw [hsub it fun _ hb => hb]
        | dict ks vs => simp only []; rw [hsub vs fun _ hb => hb]
        | gcur sel => rfl
        | bytes bs => rfl

theorem absV_msg_congr {sl sl' : List HVal} {ow : Bool} {u' ga gb : Nat}
    (ha : h'[a]? = some (.msg sl' ow u' ga)) (hb : h[b]? = some (.msg sl ow u gb))
    (hsl : ∀ n, sl'.map (absV n h') = sl.map (absV n h)) (hu : bytesAt h' u' = bytesAt h u)
    (hsel : selAt h' ga = selAt h gb) (n : Nat) : absV n h' (.ref a) = absV n h (.ref b) := by
  cases n with
  | zero => rfl
  | succ n => simp only [absV, ha, hb, hsl n, hu, hsel]

theorem getElem?_prefix (hp : h <+: h') (hx : x < h.length) : h'[x]? = h[x]? := by
  obtain ⟨ext, rfl⟩ := hp; exact List.getElem?_append_left hx

/-- allocation leaves the values of a closed heap as they were -/
theorem absV_prefix (hc : Closed h) (hp : h <+: h') {v : HVal} (hv : ∀ r ∈ v.refs, r < h.length) (n : Nat) :
    absV n h' v = absV n h v :=
  absV_frame n h h' v fun _ ⟨r, hr, hrx⟩ => getElem?_prefix hp (hc.reach (hv r hr) hrx)

theorem absV_prefix_ref (hc : Closed h) (hp : h <+: h') (hi : i < h.length) (n : Nat) :
    absV n h' (.ref i) = absV n h (.ref i) :=
  absV_prefix hc hp (v := .ref i) (fun _ hr => List.mem_singleton.mp hr ▸ hi) n

theorem map_absV_prefix (hc : Closed h) (hp : h <+: h') {vs : List HVal} (hvs : ∀ r ∈ itemRefs vs, r < h.length)
    (n : Nat) : vs.map (absV n h') = vs.map (absV n h) :=
  List.map_congr_left fun _ hw => absV_prefix hc hp (fun r hr => hvs r (mem_itemRefs_of hw hr)) n

theorem Reach.append_iff (ext : Heap) (hc : Closed h) (ha : a < h.length) :
    Reach (h ++ ext) a x ↔ Reach h a x :=
  have hsame (y : Nat) (hy : Reach h a y) : (h ++ ext)[y]? = h[y]? :=
    List.getElem?_append_left (hc.reach ha hy)
  ⟨Reach.transport_back hsame, Reach.transport hsame⟩

/-- what is allocated later is not reachable from an old object of a closed heap -/
theorem Closed.not_reach_new {ext : Heap} (hc : Closed h) (ha : a < h.length) (hx : h.length ≤ x) :
    ¬ Reach (h ++ ext) a x :=
  fun hr => Nat.not_lt_of_le hx (hc.reach ha ((Reach.append_iff ext hc ha).mp hr))

theorem isBytes_lt (hx : isBytes h x = true) : x < h.length := by
  by_contra hge
  unfold isBytes at hx
  rw [List.getElem?_eq_none (by omega)] at hx
  cases hx

theorem isBytes_prefix (hp : h <+: h') (hx : isBytes h x = true) : isBytes h' x = true :=
  (isBytes_congr (getElem?_prefix hp (isBytes_lt hx))).trans hx

theorem getElem?_append_len {a : Cell} : (h ++ a :: t)[h.length]? = some a :=
  (List.getElem?_append_right (Nat.le_refl _)).trans (by rw [Nat.sub_self]; rfl)

theorem getElem?_append_len_succ {a b : Cell} : (h ++ a :: b :: t)[h.length + 1]? = some b :=
  (List.getElem?_append_right (Nat.le_add_right _ 1)).trans (by rw [Nat.add_sub_cancel_left]; rfl)

theorem getElem?_snoc {c c' : Cell} (hk : (h ++ [c])[k]? = some c') :
    h[k]? = some c' ∨ (k = h.length ∧ c' = c) := by
  by_cases hlt : k < h.length
  · exact Or.inl ((List.getElem?_append_left hlt).symm.trans hk)
  · have hk' : k < (h ++ [c]).length := (List.getElem?_eq_some_iff.mp hk).1
    rw [List.length_append] at hk'
    cases Nat.le_antisymm (Nat.le_of_lt_succ hk') (Nat.le_of_not_lt hlt)
    exact Or.inr ⟨rfl, Option.some.inj (hk.symm.trans List.getElem?_concat_length)⟩

theorem getElem?_append_two {c1 c2 c' : Cell} (hk : (h ++ [c1, c2])[k]? = some c') :
    h[k]? = some c' ∨ (k = h.length ∧ c' = c1) ∨ (k = h.length + 1 ∧ c' = c2) := by
  rw [List.append_cons] at hk
  rcases getElem?_snoc hk with hk | ⟨rfl, rfl⟩
  · exact (getElem?_snoc hk).imp_right Or.inl
  · exact Or.inr (Or.inr ⟨List.length_append, rfl⟩)

theorem shallowCopy_eq {o : Nat} (hcp : shallowCopy h o = some (h', k)) :
    ∃ sl ow u g, h[o]? = some (.msg sl ow u g) ∧
      h' = h ++ [.gcur (selAt h g), .msg sl ow u h.length] ∧ k = h.length + 1 := by
  unfold shallowCopy at hcp
  split at hcp
  · cases hcp; exact ⟨_, _, _, _, ‹_›, rfl, rfl⟩
  · cases hcp

end

end Bp.Hp
