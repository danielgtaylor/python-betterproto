import BpProofs.Json
import BpProofs.JsonGuard
/-
  The value guard `wellTyped'` (BpProofs/JsonGuard.lean) read as typing rules: `JOk`, the rules themselves, each with
  the facts about the field it rests on, and `jslot_of`, the one recursion over `Val` that finds the rule the guard
  accepted (through what JsonGuard.lean says of `slotOk'` by kind of value).
  The theorems about `to_dict` on typed values (BpProofs/JsonRtMain.lean, JsonText.lean, JsonCanon.lean,
  PyDictRt.lean) are inductions on `JOk`.
-/
namespace Bp
open Gen

/-- a repeated field inside `fieldJsonOk`: not a map, not optional, no wrapper, no oneof member -/
structure Rep (f : FieldD) : Prop where
  rep : f.repeated = true
  nmap : (f.ty == PType.map) = false
  opt : f.optional = false
  nw : f.wraps = Option.none

/-- a map field inside `fieldJsonOk` -/
structure MapF (f : FieldD) : Prop where
  ty : (f.ty == PType.map) = true
  rep : f.repeated = false
  opt : f.optional = false
  vb : f.mapV ≠ .bytes

/-- where a typing rule applies: one slot of a field (with its oneof flags), the slots of a message from index `idx` on,
    a list of messages of class `c` (the items of a repeated field, the values of a map) -/
inductive JAt
  | slot (f : FieldD) (hid sel : Bool) (v : Val)
  | slots (fs : List FieldD) (cur : List (Option Nat)) (idx : Nat) (vs : List Val)
  | msgs (c : Nat) (xs : List Val)

/-- The typing rules that the Boolean guard decides: for a field inside `fieldJsonOk`, `slotOk'` (and with it `slotsOk'`,
    `itemsOk'`, `mapValsOk'`: the value guard `wellTyped'` of the round-trip theorems, of which the driver evaluates the
    stronger `wellTyped`, BpProofs/JsonGuard.lean) accepts a value through one of these (`jslot_of`).  Each slot rule
    names what it uses of the field.  `hid` / `sel` are the oneof flags as `to_dict` computes them: only an unset slot may be
    hidden, a `None`, a list or a dict never sits in a oneof member.  `cons` runs along the slot list as the loop of
    `to_dict` does. -/
inductive JOk (S : Schema) : JAt → Prop
  | unset {f hid} : FJ f → f.optional = false → JOk S (.slot f hid false .ph)
  | none {f} : f.repeated = false → (f.ty == PType.map) = false → (f.optional || f.wraps.isSome) = true →
      JOk S (.slot f false false .none)
  | wrapped {f sel v} (w : PType) : (f.ty == PType.message) = true → f.wraps = some w → w ≠ .bytes →
      f.repeated = false → valOfType w v = true → JOk S (.slot f false sel v)
  | time {f sel v} : (f.ty == PType.message) = true → f.wraps = Option.none → f.repeated = false →
      ((f.kind = .timestamp ∧ ∃ us, v = .ts us) ∨ (f.kind = .duration ∧ ∃ us, v = .dur us)) → JOk S (.slot f false sel v)
  | scalar {f sel v} : (f.ty == PType.message) = false → (f.ty == PType.map) = false → f.repeated = false →
      valOfType f.ty v = true → JOk S (.slot f false sel v)
  | times {f xs} : Rep f → (f.ty == PType.message) = true →
      ((f.kind = .timestamp ∧ ∀ x ∈ xs, ∃ us, x = .ts us) ∨ (f.kind = .duration ∧ ∀ x ∈ xs, ∃ us, x = .dur us)) →
      JOk S (.slot f false false (.list xs))
  | scalars {f xs} : Rep f → (f.ty == PType.message) = false → (∀ x ∈ xs, valOfType f.ty x = true) →
      JOk S (.slot f false false (.list xs))
  | items {f xs} (c : Nat) : Rep f → (f.ty == PType.message) = true → f.kind = .user c → JOk S (.msgs c xs) →
      JOk S (.slot f false false (.list xs))
  | mapS {f ks vs} : MapF f → (f.mapV == PType.message) = false → ks.length = vs.length →
      (∀ k ∈ ks, ∃ s, k = Val.str s) → (∀ x ∈ vs, valOfType f.mapV x = true) → JOk S (.slot f false false (.dict ks vs))
  | mapM {f ks vs} (c : Nat) : MapF f → (f.mapV == PType.message) = true → f.mapVKind = .user c →
      ks.length = vs.length → (∀ k ∈ ks, ∃ s, k = Val.str s) → JOk S (.msgs c vs) → JOk S (.slot f false false (.dict ks vs))
  | sub {f sel c sl ow unk cur} : (f.ty == PType.message) = true → f.wraps = Option.none → f.repeated = false →
      f.kind = .user c → (f.group = Option.none → sel = false) → bodyOk S c sl unk cur = true →
      JOk S (.slots (fieldsOf S c) cur 0 sl) → JOk S (.slot f false sel (.msg c sl ow unk cur))
  | nil {fs cur idx} : JOk S (.slots fs cur idx [])
  | cons {fs cur idx f v vs} : fs[idx]? = some f → JOk S (.slot f (hidden f idx cur) (selectedInGroup f idx cur) v) →
      JOk S (.slots fs cur (idx + 1) vs) → JOk S (.slots fs cur idx (v :: vs))
  | nilM {c} : JOk S (.msgs c [])
  | consM {c sl ow unk cur xs} : bodyOk S c sl unk cur = true → JOk S (.slots (fieldsOf S c) cur 0 sl) →
      JOk S (.msgs c xs) → JOk S (.msgs c (.msg c sl ow unk cur :: xs))

theorem rep_of {S : Schema} {f : FieldD} {hid sel : Bool} {xs : List Val} (hj : FJ f) (hs : HS f hid sel)
    (h : slotOk' S f hid sel (.list xs) = true) : hid = false ∧ sel = false ∧ Rep f ∧ itemsOk' S f xs = true := by
  obtain ⟨hh, hsel, hr, hmap, ho, hw, hit⟩ := list_common S f hid sel xs hj hs h
  exact ⟨hh, hsel, ⟨hr, hmap, ho, hw⟩, hit⟩

theorem jslot_leaf {S : Schema} {f : FieldD} {hid sel : Bool} (hj : FJ f) (v : Val) (hl : isLeafVal v = true)
    (hn : v ≠ .none) (h : slotOk' S f hid sel v = true) : JOk S (.slot f hid sel v) := by
  rw [slotOk_leaf S f hid sel v hl hn] at h
  simp only [Bool.and_eq_true, Bool.not_eq_true'] at h
  obtain ⟨⟨rfl, hr⟩, hok⟩ := h
  rcases leafOk_cases f v hok with ⟨hm, w, hw, hv⟩ | ⟨hm, hw, hk⟩ | ⟨hm, hmap, hv⟩
  · exact .wrapped w hm hw (fun e => hj.wr_b (by rw [hw, e])) hr hv
  · exact .time hm hw hr hk
  · exact .scalar hm hmap hr hv

mutual
theorem jslots_of (S : Schema) (hS : ∀ c, ∀ f ∈ fieldsOf S c, fieldJsonOk f = true) (fs : List FieldD)
    (cur : List (Option Nat)) (hfs : ∀ f ∈ fs, fieldJsonOk f = true) :
    ∀ (vs : List Val) (idx : Nat), slotsOk' S fs cur idx vs = true → JOk S (.slots fs cur idx vs)
  | [], _, _ => .nil
  | a :: as, idx, h => by
    rw [slotsOk'] at h
    simp only [Bool.and_eq_true] at h
    cases hf : fs[idx]? with
    | none => rw [hf] at h; cases h.1
    | some f =>
      rw [hf] at h
      exact .cons hf (jslot_of S hS f _ _ (fj_of f (hfs f (List.mem_of_getElem? hf))) (hs_slot f idx cur) a h.1)
        (jslots_of S hS fs cur hfs as (idx + 1) h.2)
termination_by structural vs => vs

theorem jslot_of (S : Schema) (hS : ∀ c, ∀ f ∈ fieldsOf S c, fieldJsonOk f = true) (f : FieldD) (hid sel : Bool)
    (hj : FJ f) (hs : HS f hid sel) : ∀ (v : Val), slotOk' S f hid sel v = true → JOk S (.slot f hid sel v)
  | .ph, h => by
    rw [slotOk_ph] at h
    simp only [Bool.and_eq_true, Bool.not_eq_true'] at h
    obtain ⟨rfl, ho⟩ := h
    exact .unset hj ho
  | .none, h => by
    rw [slotOk_none] at h
    simp only [Bool.and_eq_true, Bool.not_eq_true', bne_iff_ne, ne_eq, Option.isNone_iff_eq_none] at h
    obtain ⟨⟨⟨hg, ho⟩, hr⟩, hmap⟩ := h
    obtain ⟨rfl, rfl⟩ := hs.1 hg
    exact .none hr (by simpa using hmap) ho
  | .int _, h | .bool _, h | .f32 _, h | .f64 _, h | .str _, h | .byt _, h | .ts _, h | .dur _, h =>
    jslot_leaf hj _ rfl nofun h
  | .list xs, h => by
    obtain ⟨rfl, rfl, hrep, hit⟩ := rep_of hj hs h
    by_cases hu : (f.ty == PType.message) = true ∧ f.wraps = Option.none ∧ ∃ c, f.kind = .user c
    · obtain ⟨hm, hw, c, hk⟩ := hu
      exact .items c hrep hm hk (jmsgs_of S hS c xs (itemsOk_user S f c xs hm hw hk hit))
    · rcases itemsOk_flat_cases S f xs hrep.nw hu hit with ⟨hm, hk⟩ | ⟨hm, hv⟩
      · exact .times hrep hm hk
      · exact .scalars hrep hm hv
  | .dict ks vs, h => by
    have hl := by
      have := h
      rw [slotOk_dict] at this
      simp only [Bool.and_eq_true, beq_iff_eq] at this
      exact this.1.1.2
    obtain ⟨rfl, rfl, hty, hks, hvs⟩ := dict_common S f hid sel ks vs hj hs h
    have hmap : (f.ty == PType.map) = true := by simp [hty]
    have hmf : MapF f := ⟨hmap, hj.map_rep hmap, hj.map_opt hmap, hj.map_vb hmap⟩
    by_cases hv : (f.mapV == PType.message) = true
    · obtain ⟨c, hk⟩ := hj.map_vk hmap hv
      exact .mapM c hmf hv hk hl hks (jmsgs_of S hS c vs (mapValsOk_user S f c vs hv hk hvs))
    · have hv : (f.mapV == PType.message) = false := by simpa using hv
      exact .mapS hmf hv hl hks (mapValsOk_scalar S f vs hv hvs)
  | .msg c sl ow unk cur, h => by
    rw [slotOk_msg] at h
    simp only [Bool.and_eq_true, Bool.not_eq_true', beq_iff_eq, Option.isNone_iff_eq_none] at h
    obtain ⟨⟨⟨⟨⟨rfl, hty⟩, hw⟩, hr⟩, hk⟩, hbody⟩ := h
    exact .sub (by simp [hty]) hw hr hk (fun hg => (hs.1 hg).2) hbody
      (jslots_of S hS (fieldsOf S c) cur (hS c) sl 0 (bodyOk_spec S c sl unk cur hbody).2.2.2)
termination_by structural v => v

theorem jmsgs_of (S : Schema) (hS : ∀ c, ∀ f ∈ fieldsOf S c, fieldJsonOk f = true) (c : Nat) :
    ∀ (xs : List Val), (∀ x ∈ xs, ∃ sl ow unk cur, x = Val.msg c sl ow unk cur ∧ bodyOk S c sl unk cur = true) →
      JOk S (.msgs c xs)
  | [], _ => .nilM
  | .msg c' sl ow unk cur :: xs, h => by
    obtain ⟨sl0, ow0, unk0, cur0, e, hbody⟩ := h _ List.mem_cons_self
    injection e with e1 e2 e3 e4 e5
    subst e1 e2 e3 e4 e5
    exact .consM hbody (jslots_of S hS (fieldsOf S c') cur (hS c') sl 0 (bodyOk_spec S c' sl unk cur hbody).2.2.2)
      (jmsgs_of S hS c' xs fun x hx => h x (List.mem_cons_of_mem _ hx))
  | .ph :: _, h | .none :: _, h | .int _ :: _, h | .bool _ :: _, h | .f32 _ :: _, h
  | .f64 _ :: _, h | .str _ :: _, h | .byt _ :: _, h | .ts _ :: _, h | .dur _ :: _, h
  | .list _ :: _, h | .dict _ _ :: _, h => by
    obtain ⟨_, _, _, _, e, _⟩ := h _ List.mem_cons_self
    cases e
termination_by structural xs => xs
end

end Bp
