import BpModel.All
import BpModel.Spec
import BpProofs.Fields
/-
  C02, link between the MODEL of betterproto and the independent SPEC-level wire decoder
  (`BpModel/Spec.lean`): FRAMING.

  `Spec.parse` (written from the encoding document) and `loadFields` (the model of
  `load_fields`) accept exactly the same byte strings and cut them into the same records:
  same field number, wire type, varint value and payload, for ALL lists of naturals (no
  `WfBytes` hypothesis is needed: both read a "byte" ≥ 256 as a continuation byte and use
  it modulo 128).  There is no exception: groups (wire types 3 / 4), wire types 6 / 7,
  field number 0, truncated input and varints longer than 10 bytes are rejected by both.
-/
namespace Bp
open Gen

/-- the record a framed field of the model denotes (everything but the retained raw bytes) -/
def toRec (pf : PField) : Spec.WireRec :=
  { num := pf.num, wt := pf.wt, vint := pf.vint, payload := pf.payload }

/-- `Except` results seen as options -/
def okOpt {α : Type} : R α → Option α
  | .ok a => some a
  | .error _ => none

theorem okOpt_ok {α : Type} (a : α) : okOpt (Except.ok a : R α) = some a := rfl
theorem okOpt_error {α : Type} (e : PyErr) : okOpt (Except.error e : R α) = none := rfl

/-- the varint reader of the model, started after `j` bytes, and the spec-level reader
    allowed `n = 10 - j` more bytes -/
theorem loadAux_take (n : Nat) : ∀ (j : Nat) (_ : j + n = 10) (bs : Bytes) (res k : Nat),
    match Spec.takeVarint n bs with
    | some (v, r) =>
        loadVarintAux (7 * j) res k bs = .ok (res + Spec.varintValue v * 2 ^ (7 * j), k + v.length)
          ∧ v ++ r = bs
    | none => ∃ e, loadVarintAux (7 * j) res k bs = .error e := by
  induction n with
  | zero =>
    intro j hj bs res k
    have h64 : 7 * j ≥ 64 := by omega
    show ∃ e, loadVarintAux (7 * j) res k bs = .error e
    cases bs with
    | nil => exact ⟨_, by rw [loadVarintAux, if_pos h64]⟩
    | cons b bs => exact ⟨_, by rw [loadVarintAux, if_pos h64]⟩
  | succ n ih =>
    intro j hj bs res k
    have h64 : ¬ 7 * j ≥ 64 := by omega
    cases bs with
    | nil => exact ⟨_, by rw [loadVarintAux, if_neg h64]⟩
    | cons b bs =>
      by_cases hb : b < 128
      · simp [Spec.takeVarint, loadVarintAux, h64, hb, Spec.varintValue]
      · have ih' := ih (j + 1) (by omega) bs (res + b % 128 * 2 ^ (7 * j)) (k + 1)
        have e7 : 7 * j + 7 = 7 * (j + 1) := by omega
        rw [Spec.takeVarint]
        simp only [hb, if_false]
        rw [loadVarintAux]
        simp only [h64, hb, if_false]
        rw [e7]
        cases ht : Spec.takeVarint n bs with
        | none =>
          rw [ht] at ih'
          exact ih'
        | some vr =>
          obtain ⟨v, r⟩ := vr
          rw [ht] at ih'
          simp only at ih' ⊢
          obtain ⟨h1, h2⟩ := ih'
          refine ⟨?_, by simp [h2]⟩
          rw [h1]
          simp only [Spec.varintValue, List.length_cons]
          congr 1
          simp only [Prod.mk.injEq]
          constructor
          · have : (2:Nat) ^ (7 * (j + 1)) = 128 * 2 ^ (7 * j) := by
              rw [show 7 * (j + 1) = 7 + 7 * j by omega, Nat.pow_add]
            rw [this, Nat.add_mul, Nat.add_assoc, Nat.mul_assoc, Nat.mul_left_comm]
          · omega

theorem readVarint_eq (bs : Bytes) :
    Spec.readVarint bs = okOpt ((loadVarint bs).map fun vk => (vk.1, bs.drop vk.2)) := by
  have h := loadAux_take 10 0 (by omega) bs 0 0
  unfold Spec.readVarint loadVarint
  cases ht : Spec.takeVarint 10 bs with
  | none =>
    rw [ht] at h
    obtain ⟨e, he⟩ := h
    simp only [Nat.mul_zero] at he
    rw [he]
    rfl
  | some vr =>
    obtain ⟨v, r⟩ := vr
    rw [ht] at h
    simp only [Nat.mul_zero, Nat.pow_zero, Nat.mul_one, Nat.zero_add] at h
    obtain ⟨h1, h2⟩ := h
    rw [h1]
    simp only [Except.map, okOpt]
    subst h2
    simp

theorem readVarint_ok (bs : Bytes) (v k : Nat) (h : loadVarint bs = .ok (v, k)) :
    Spec.readVarint bs = some (v, bs.drop k) := by
  rw [readVarint_eq, h]; rfl

theorem readVarint_err (bs : Bytes) (e : PyErr) (h : loadVarint bs = .error e) :
    Spec.readVarint bs = none := by
  rw [readVarint_eq, h]; rfl

theorem readRec_eq (bs : Bytes) :
    Spec.readRec bs = okOpt ((loadField bs).map fun pr => (toRec pr.1, pr.2)) := by
  unfold Spec.readRec loadField
  cases hv : loadVarint bs with
  | error e => rw [readVarint_err bs e hv]; rfl
  | ok vk =>
    obtain ⟨tag, k⟩ := vk
    rw [readVarint_ok bs tag k hv]
    dsimp only
    by_cases h0 : tag / 8 = 0
    · rw [if_pos h0, if_pos (show (tag / 8 == 0) = true by simpa using h0)]; rfl
    rw [if_neg h0, if_neg (show ¬ (tag / 8 == 0) = true by simpa using h0)]
    -- both readers try the wire types in the order 0, 1, 2, 5
    unfold loadPayload
    generalize tag % 8 = w
    by_cases w0 : w = 0
    · rw [if_pos w0, if_pos (show (w == wireVarint) = true by simpa [wireVarint] using w0)]
      cases hv2 : loadVarint (bs.drop k) with
      | error e => rw [readVarint_err _ e hv2]; rfl
      | ok vk2 =>
        rw [readVarint_ok _ vk2.1 vk2.2 hv2]
        simp only [okOpt, Except.map, toRec, List.drop_drop, w0]
    rw [if_neg w0, if_neg (show ¬ (w == wireVarint) = true by simpa [wireVarint] using w0)]
    by_cases w1 : w = 1
    · rw [if_pos w1, if_pos (show (w == wireFixed64) = true by simpa [wireFixed64] using w1)]
      by_cases hl : bs.length - k < 8 <;> simp [hl, okOpt, Except.map, toRec, List.drop_drop, w1]
    rw [if_neg w1, if_neg (show ¬ (w == wireFixed64) = true by simpa [wireFixed64] using w1)]
    by_cases w2 : w = 2
    · rw [if_pos w2, if_pos (show (w == wireLenDelim) = true by simpa [wireLenDelim] using w2)]
      cases hv2 : loadVarint (bs.drop k) with
      | error e => rw [readVarint_err _ e hv2]; rfl
      | ok vk2 =>
        rw [readVarint_ok _ vk2.1 vk2.2 hv2]
        by_cases hl : bs.length - (k + vk2.2) < vk2.1 <;>
          simp [hl, okOpt, Except.map, toRec, List.drop_drop, Nat.add_assoc, w2]
    rw [if_neg w2, if_neg (show ¬ (w == wireLenDelim) = true by simpa [wireLenDelim] using w2)]
    by_cases w5 : w = 5
    · rw [if_pos w5, if_pos (show (w == wireFixed32) = true by simpa [wireFixed32] using w5)]
      by_cases hl : bs.length - k < 4 <;> simp [hl, okOpt, Except.map, toRec, List.drop_drop, w5]
    rw [if_neg w5, if_neg (show ¬ (w == wireFixed32) = true by simpa [wireFixed32] using w5)]
    rfl

theorem parseFuel_eq (fuel : Nat) (bs : Bytes) :
    Spec.parseFuel fuel bs = okOpt ((loadFieldsFuel fuel bs).map fun pfs => pfs.map toRec) := by
  induction fuel generalizing bs with
  | zero => rfl
  | succ fuel ih =>
    cases bs with
    | nil => rfl
    | cons b bs =>
      rw [loadFieldsFuel_cons]
      simp only [Spec.parseFuel]
      rw [readRec_eq]
      cases hlf : loadField (b :: bs) with
      | error e => rfl
      | ok pr =>
        obtain ⟨pf, rest⟩ := pr
        simp only [Except.map, okOpt]
        rw [ih rest]
        cases loadFieldsFuel fuel rest with
        | error e => rfl
        | ok pfs => rfl

theorem framing_agree (bs : Bytes) :
    Spec.parse bs = okOpt ((loadFields bs).map fun pfs => pfs.map toRec) :=
  parseFuel_eq (bs.length + 1) bs

theorem framing_ok (bs : Bytes) (pfs : List PField) (h : loadFields bs = .ok pfs) :
    Spec.parse bs = some (pfs.map toRec) := by rw [framing_agree, h]; rfl

theorem framing_err (bs : Bytes) (e : PyErr) (h : loadFields bs = .error e) : Spec.parse bs = none := by
  rw [framing_agree, h]; rfl

theorem framing_accepts (bs : Bytes) : (Spec.parse bs).isSome = (loadFields bs).isOk := by
  rw [framing_agree]; cases loadFields bs <;> rfl

theorem framing_some (bs : Bytes) (rs : List Spec.WireRec) (h : Spec.parse bs = some rs) :
    ∃ pfs, loadFields bs = .ok pfs ∧ rs = pfs.map toRec := by
  rw [framing_agree] at h
  cases hl : loadFields bs with
  | error e => rw [hl] at h; simp [okOpt, Except.map] at h
  | ok pfs => rw [hl] at h; simp [okOpt, Except.map] at h; exact ⟨pfs, rfl, h.symm⟩

end Bp
