import BpProofs.ImportingFast
import BpProofs.ImportingAlias
/-
  The reference sites of a module (BpProofs/ImportingAlias.lean: `Site.ok`, `siteRef`, `moduleNs`) over `Importing.Fast`,
  for the closed witnesses and examples of C13; same plan as BpProofs/ImportingFast.lean.
-/
namespace Bp.Importing

namespace Fast

def siteOk (cur : Pkg) (pyd : Bool) (s : Site) : Bool :=
  simplePkg s.tgt && s.tgt.take 1 != ["betterproto".toList] && s.tgt != cur ++ bundled pyd && typeOk s.ty
def siteRef (cur : Pkg) (pydantic : Bool) (s : Site) : TypeRef :=
  getTypeReference (dotted cur) (fullName s.tgt s.ty) s.unwrap pydantic
def moduleNs (cur : Pkg) (pydantic : Bool) (sites : List Site) : List (Str × Obj) :=
  sites.filterMap fun s => bind cur (siteRef cur pydantic s).imp

end Fast

theorem siteOk_fast : Site.ok = Fast.siteOk := by funext c y s; rw [Site.ok, simplePkg_fast, typeOk_fast]; rfl
theorem siteRef_fast : siteRef = Fast.siteRef := by funext c y s; rw [siteRef, getTypeReference_fast]; rfl
theorem moduleNs_fast : moduleNs = Fast.moduleNs := by funext c y s; rw [moduleNs, siteRef_fast, bind_fast]; rfl

end Bp.Importing
