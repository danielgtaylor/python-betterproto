import BpModel.All
import BpProofs.NestedDefs
import BpProofs.RtScalar
import BpProofs.RtFlat
import BpProofs.RtSub
import BpProofs.RtTime
import BpProofs.RtMap
import BpProofs.Emits
/-
  C01, the remaining Timestamp / Duration shapes:
    * REPEATED Timestamp / Duration fields (`List[datetime]` / `List[timedelta]`): one
      length-delimited record per item (`serialize_empty = True`, so the epoch / a zero
      duration is written as tag + length 0 and the `or b"\n\x00"` fallback of `dumpItems`
      never applies), each decoded through the two-field message `secNanosD` and appended;
    * MAPS whose values are Timestamps / Durations: the value half of an entry is written
      with `serialize_empty = False`, so the epoch / a zero duration writes NOTHING and the
      decoder materialises the default of the entry's value field — which is
      `datetime(1970, 1, 1, tzinfo=utc)` / `timedelta(0)`, i.e. the original value.
-/
namespace Bp
open Gen

theorem secNanosBytes_nil (s ns : Int) (h : secNanosBytes s ns = .ok []) : s = 0 ∧ ns = 0 :=
  Decidable.byContradiction fun hc => secNanosBytes_ne_nil s ns [] h (by omega) rfl

theorem slotStep_times (S : Schema) (rec rec' : Loader) (hu : Unfolds S rec rec') (d : MsgD) (k : Nat) (f : FieldD)
    (isDur : Bool) (sel : Bool) (xs : List Val)
    (hd : NumsDistinct d.fields) (hk : d.fields[k]? = some f) (htf : TimesField f isDur)
    (hx : ∀ x ∈ xs, timeValOk isDur x = true) (hsel : sel = false)
    (R : FieldD → Val → Val → Prop) (hR : ∀ f v, R f v v) :
    SlotStep S rec d R k f false sel (.list xs) :=
  slotStep_many S rec d k f sel xs (fun a b => a = b) R hd hk (by rw [htf.ty]; rfl) (by rw [htf.ty]; rfl) htf.rep htf.opt
    htf.grp hsel
    (fun x hxm => itemRt_time S rec rec' hu f isDur x htf.ty htf.nw htf.num htf.kind (hx x hxm))
    (fun ys h => by rw [← forall₂_eq xs ys h]; exact hR f _)

/-- the statement with the element conditions spelled out, Timestamp -/
theorem slotStep_tss (S : Schema) (n : Nat) (d : MsgD) (k : Nat) (f : FieldD) (sel : Bool) (xs : List Val)
    (hd : NumsDistinct d.fields) (hk : d.fields[k]? = some f) (htf : TimesField f false)
    (hx : ∀ x ∈ xs, ∃ us, x = Val.ts us ∧ tsOk us = true) (hsel : sel = false)
    (R : FieldD → Val → Val → Prop) (hR : ∀ f v, R f v v) :
    SlotStep S (loadInto S (n + 1)) d R k f false sel (.list xs) :=
  slotStep_times S _ _ (unfolds_succ S n) d k f false sel xs hd hk htf
    (fun x hxm => by obtain ⟨us, rfl, hus⟩ := hx x hxm; simpa [timeValOk] using hus) hsel R hR

/-- the statement with the element conditions spelled out, Duration -/
theorem slotStep_durs (S : Schema) (n : Nat) (d : MsgD) (k : Nat) (f : FieldD) (sel : Bool) (xs : List Val)
    (hd : NumsDistinct d.fields) (hk : d.fields[k]? = some f) (htf : TimesField f true)
    (hx : ∀ x ∈ xs, ∃ us, x = Val.dur us ∧ durOk us = true) (hsel : sel = false)
    (R : FieldD → Val → Val → Prop) (hR : ∀ f v, R f v v) :
    SlotStep S (loadInto S (n + 1)) d R k f false sel (.list xs) :=
  slotStep_times S _ _ (unfolds_succ S n) d k f true sel xs hd hk htf
    (fun x hxm => by obtain ⟨us, rfl, hus⟩ := hx x hxm; simpa [timeValOk] using hus) hsel R hR

theorem entry_value_time (f : FieldD) (isDur : Bool) (hvty : f.mapV = PType.message)
    (hvk : f.mapVKind = (if isDur then MsgKind.duration else MsgKind.timestamp)) :
    TimeField (entryValF f) isDur :=
  ⟨hvty, rfl, hvk, rfl, rfl⟩

theorem entry_value_default (S : Schema) (f : FieldD) (isDur : Bool) (hvty : f.mapV = PType.message)
    (hvk : f.mapVKind = (if isDur then MsgKind.duration else MsgKind.timestamp)) :
    defaultOf S (entryValF f) = defaultOfKind S (if isDur then DefKind.dur else DefKind.ts) := by
  unfold defaultOf
  rw [time_defKind (entryValF f) isDur (entry_value_time f isDur hvty hvk)]
  rfl

/-- a Timestamp / Duration map value: the epoch / the zero duration writes NOTHING (`serialize_empty = False`) and
    the decoder materialises the default of the entry's value field, which is that same value -/
theorem mapValue_time (S : Schema) (rec rec' : Loader) (hu : Unfolds S rec rec') (f : FieldD) (isDur : Bool) (x : Val)
    (hvty : f.mapV = PType.message)
    (hvk : f.mapVKind = (if isDur then MsgKind.duration else MsgKind.timestamp))
    (hx : timeValOk isDur x = true) :
    EntryRt S rec (entryValF f) (fun a b => a = b) x := by
  have htf := entry_value_time f isDur hvty hvk
  refine ⟨itemRt_time S rec rec' hu (entryValF f) isDur x htf.ty rfl htf.num htf.kind hx, fun he => ?_⟩
  obtain ⟨hxt, s, ns, hprep, hs, hn, _, hzero⟩ := timeCodec_of_ok S rec (entryValF f) isDur x htf.ty htf.kind hx
  have he' := he
  rw [dumpRec_nonmsg S _ _ _ _ x (isTimeVal_plain x hxt).2, serializeScalar, htf.ty, htf.nw, hprep] at he
  obtain ⟨p, hp, he⟩ := bind_inv he
  obtain rfl := ((frame_nil_iff _ _ _ _ _).mp he).2.1
  obtain ⟨hs0, hn0⟩ := secNanosBytes_nil s ns hp
  rw [entry_value_default S f isDur hvty hvk, ← hzero hs0 hn0]
  exact ⟨rfl, he'⟩

/-! non-vacuity, the epoch / zero-duration cases, the `or b"\n\x00"` fallback -/

/-- class 0: `repeated Timestamp ts = 3; repeated Duration ds = 4;
    map<string, Duration> md = 5; map<int32, Timestamp> mt = 6` -/
def STimes : Schema :=
  [ { fields := [{ name := "ts", num := 3, ty := .message, kind := .timestamp, repeated := true },
                 { name := "ds", num := 4, ty := .message, kind := .duration, repeated := true },
                 { name := "md", num := 5, ty := .map, mapK := .string, mapV := .message, mapVKind := .duration },
                 { name := "mt", num := 6, ty := .map, mapK := .int32, mapV := .message, mapVKind := .timestamp }] } ]

example : TimesField (STimes[0]!.fields[0]!) false := ⟨rfl, rfl, rfl, by decide, rfl, rfl, rfl⟩
example : TimesField (STimes[0]!.fields[1]!) true := ⟨rfl, rfl, rfl, by decide, rfl, rfl, rfl⟩
example : MapFieldT (STimes[0]!.fields[2]!) true := ⟨rfl, rfl, rfl, rfl, by decide, rfl, rfl, rfl, rfl⟩
example : MapFieldT (STimes[0]!.fields[3]!) false := ⟨rfl, rfl, rfl, rfl, by decide, rfl, rfl, rfl, rfl⟩

/-- `serialize_empty = True`: the epoch / the zero duration as an ITEM is tag + length 0, never
    the empty string — so the replacement bytes `0a 00` (right for field number 1 only) of
    `dumpItems` are never used for these fields -/
example : serializeScalar STimes 3 .message (.ts 0) true Option.none = .ok [26, 0] := by decide +kernel
example : serializeScalar STimes 4 .message (.dur 0) true Option.none = .ok [34, 0] := by decide +kernel

/-- epoch, a pre-epoch datetime (floor division: seconds -2, nanos 500000000) and a zero, a
    negative (common sign: seconds -1, nanos -500000000) duration -/
def mT : Val :=
  .msg 0 [.list [.ts 0, .ts (-1500000)], .list [.dur 0, .dur (-1500000)],
          .dict [.str [97], .str []] [.dur 0, .dur (-1500000)],
          .dict [.int 1, .int 0] [.ts 0, .ts 1500000]] false [] []

/-- `bytes(mT)`, computed with `#eval dumpVal STimes mT`: the items `ts 0` / `dur 0` are the
    records `1a 00` / `22 00`; the entry `"a" ↦ timedelta(0)` carries the key only (`2a 03 0a 01 61`) -/
def bsT : Bytes :=
  [26, 0, 26, 17, 8, 254, 255, 255, 255, 255, 255, 255, 255, 255, 1, 16, 128, 202, 181, 238, 1, 34, 0, 34, 22,
   8, 255, 255, 255, 255, 255, 255, 255, 255, 255, 1, 16, 128, 182, 202, 145, 254, 255, 255, 255, 255, 1, 42, 3, 10, 1,
   97, 42, 24, 18, 22, 8, 255, 255, 255, 255, 255, 255, 255, 255, 255, 1, 16, 128, 182, 202, 145, 254, 255, 255, 255, 255,
   1, 50, 2, 8, 1, 50, 12, 8, 0, 18, 8, 8, 1, 16, 128, 202, 181, 238, 1]

example : dumpVal STimes mT = .ok bsT := by decide +kernel
/-- every element / value comes back exactly (also the epoch / zero-duration map values, which
    the decoder materialises as the default of the entry's value field) -/
example : parse STimes 0 bsT =
    .ok (.msg 0 [.list [.ts 0, .ts (-1500000)], .list [.dur 0, .dur (-1500000)],
                 .dict [.str [97], .str []] [.dur 0, .dur (-1500000)],
                 .dict [.int 1, .int 0] [.ts 0, .ts 1500000]] true [] []) := by decide +kernel
/-- the default of the entry's value field IS the epoch / the zero duration -/
example : defaultOf STimes (entryValF (STimes[0]!.fields[2]!)) = .dur 0 := rfl
example : defaultOf STimes (entryValF (STimes[0]!.fields[3]!)) = .ts 0 := rfl
example : dumpEntryVal STimes (STimes[0]!.fields[2]!) (.dur 0) = .ok [] := by decide +kernel
example : dumpEntryVal STimes (STimes[0]!.fields[3]!) (.ts 0) = .ok [] := by decide +kernel

end Bp

#print axioms Bp.secNanosBytes_nil
#print axioms Bp.slotStep_times
#print axioms Bp.slotStep_tss
#print axioms Bp.slotStep_durs
