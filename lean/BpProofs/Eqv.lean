import BpModel.All
import BpProofs.Rt
/-
  C01, nested values: the relation `ValEqv` between a value and its decoded copy, and the
  order `LoaderLe` on loaders (the well-typedness predicate is in BpProofs/NestedDefs.lean).
-/
namespace Bp
open Gen

mutual
/-- a value and what it decodes back to: identical, or — for messages — the same class,
    oneof selection and unknown fields, `serialized_on_wire` set, and slot-wise either an
    equivalent value or (where the original slot emitted no byte) the unset default -/
inductive ValEqv (S : Schema) : Val → Val → Prop
  | refl (v : Val) : ValEqv S v v
  /-- `-0.0 == 0.0` in Python; where a float is written under implicit presence inside an
      always-written record (wrapper, map entry) a negative zero comes back as `+0.0` -/
  | negZero32 : ValEqv S (.f32 0x80000000) (.f32 0)
  | negZero64 : ValEqv S (.f64 0x8000000000000000) (.f64 0)
  /-- a message that encodes to no byte at all and the fresh instance of its class: arises
      for MAP VALUES only (an entry whose value encodes to nothing carries no value record,
      and the decoder materialises `Cls()` for it; `serialized_on_wire` of a map value is
      not observable through bytes, `==` or any presence query of the property) -/
  | emptyMsg (c : Nat) (sl : List Val) (ow : Bool) (unk : Bytes) (cur : List (Option Nat)) :
      dumpVal S (.msg c sl ow unk cur) = .ok [] → ValEqv S (.msg c sl ow unk cur) (fresh S c)
  | msg (c : Nat) (sl sl' : List Val) (ow : Bool) (unk : Bytes) (cur : List (Option Nat)) :
      SlotsEqv S (fieldsOf S c) cur 0 sl sl' → ValEqv S (.msg c sl ow unk cur) (.msg c sl' true unk cur)
  | list (xs ys : List Val) : ListEqv S xs ys → ValEqv S (.list xs) (.list ys)
  | dict (ks vs vs' : List Val) : ListEqv S vs vs' → ValEqv S (.dict ks vs) (.dict ks vs')
inductive ListEqv (S : Schema) : List Val → List Val → Prop
  | nil : ListEqv S [] []
  | cons (x y : Val) (xs ys : List Val) : ValEqv S x y → ListEqv S xs ys → ListEqv S (x :: xs) (y :: ys)
inductive SlotsEqv (S : Schema) : List FieldD → List (Option Nat) → Nat → List Val → List Val → Prop
  | nil (fs : List FieldD) (cur : List (Option Nat)) (k : Nat) : SlotsEqv S fs cur k [] []
  | consEqv (fs : List FieldD) (cur : List (Option Nat)) (k : Nat) (v v' : Val) (vs vs' : List Val) :
      ValEqv S v v' → SlotsEqv S fs cur (k + 1) vs vs' → SlotsEqv S fs cur k (v :: vs) (v' :: vs')
  | consFresh (fs : List FieldD) (cur : List (Option Nat)) (k : Nat) (v v' : Val) (vs vs' : List Val) (f : FieldD) :
      fs[k]? = some f → v' = freshVal f →
      dumpSlot S f (hidden f k cur) (selectedInGroup f k cur) v = .ok [] →
      SlotsEqv S fs cur (k + 1) vs vs' → SlotsEqv S fs cur k (v :: vs) (v' :: vs')
end

/-- build `SlotsEqv` from the index-wise statement `fold_of_steps` gives -/
theorem slotsEqv_of_index (S : Schema) (fs : List FieldD) (cur : List (Option Nat)) (k : Nat) (vs vs' : List Val)
    (hl : vs'.length = vs.length)
    (h : ∀ (j : Nat) (f : FieldD), fs[k + j]? = some f → j < vs.length →
      ValEqv S (vs.getD j .ph) (vs'.getD j .ph)
      ∨ (vs'.getD j .ph = freshVal f
          ∧ dumpSlot S f (hidden f (k + j) cur) (selectedInGroup f (k + j) cur) (vs.getD j .ph) = .ok []))
    (hfs : vs.length + k ≤ fs.length) :
    SlotsEqv S fs cur k vs vs' := by
  induction vs generalizing k vs' with
  | nil =>
    obtain rfl := List.eq_nil_of_length_eq_zero hl
    exact .nil fs cur k
  | cons v vs ih =>
    cases vs' with
    | nil => cases hl
    | cons v' vs' =>
      have hk : k < fs.length := Nat.lt_of_lt_of_le (Nat.lt_add_of_pos_left (Nat.succ_pos _)) hfs
      have hf : fs[k]? = some fs[k] := List.getElem?_eq_getElem hk
      have hrest : SlotsEqv S fs cur (k + 1) vs vs' := by
        refine ih (k + 1) vs' (Nat.succ.inj hl) (fun j fj hfj hj => ?_) (by rw [List.length_cons, Nat.add_right_comm] at hfs; exact hfs)
        rw [Nat.add_right_comm] at hfj ⊢
        exact h (j + 1) fj hfj (Nat.succ_lt_succ hj)
      rcases h 0 fs[k] hf (Nat.succ_pos _) with h0 | h0
      · exact .consEqv fs cur k v v' vs vs' h0 hrest
      · exact .consFresh fs cur k v v' vs vs' fs[k] hf h0.1 h0.2 hrest

theorem listEqv_of_forall₂ (S : Schema) (xs ys : List Val) (h : List.Forall₂ (fun a b => ValEqv S a b) xs ys) :
    ListEqv S xs ys := by
  induction h with
  | nil => exact ListEqv.nil
  | cons h1 _ ih => exact ListEqv.cons _ _ _ _ h1 ih

/-- `r2` succeeds, with the same result, wherever `r1` does -/
def LoaderLe (r1 r2 : Loader) : Prop := ∀ d st bs res, r1 d st bs = .ok res → r2 d st bs = .ok res

end Bp
