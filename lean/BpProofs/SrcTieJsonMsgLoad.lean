import BpProofs.Gen.SrcJsonMsg
import BpProofs.SrcTieFromDict
import BpProofs.Props.C04
/-
  THE TIE BETWEEN THE TRANSLATED WHOLE METHODS `Message._from_dict_init` / `Message.from_dict` (both forms)
  AND THE MODEL, nested to any depth.

  `Bp.Src.json_from_dict_init`, `json_from_dict_cls`, `json_from_dict_inst` (BpProofs/Gen/SrcJsonMsg.lean) are
  regenerated from the Python AST on every run; the key loop calls the translated loop body
  `Src.from_dict_key` (Gen/SrcFromDict.lean).  `Src.class_from_dict S E depth c j` ties the recursive knot:
  `sub_cls.from_dict(item)` inside the loop body is the translated class form itself, one nesting level down.
  `C04.src_from_dict_cls_whole` (Props/C04SrcMsg.lean) says, for every schema, class and JSON-side value inside the guard,

      forget (Src.class_from_dict S E k c j)            = forget (ofR (fromDictC S E c j))

  by induction on the budget from the one-level lemma `init_eq`; the instance form and `from_json` follow from the
  same lemma.

  (`forget`: WHICH exception is raised is not compared, as in SrcTieFromDict.)

  Guard `jOkAt S k j` (decidable; `k` bounds the nesting of `j`): at every nesting level `dictOk` — every dict
  value has as many keys as values, no two keys with a value other than None denote the same field — for
  EVERY class of the schema (an over-approximation that saves following which class reads which sub-dict).

  How the knot is tied: (1) with `dec := fromDictC S E` the translated `_from_dict_init` is the hand-written
  `srcFromDictInit` of SrcTieFromDict, whose tie to the model is reused; (2) the translated loop body depends
  on `dec` only through `Py.clsFromDict dec cls x` for `x` the value, an item of a list value, a value of a
  dict value, and only through their outcomes up to which exception
  (`from_dict_key_sim`, proved on the generated code by pushing `forget` to the leaves); (3) induction on the
  budget.
-/
namespace Bp.SrcTieJsonMsgLoad
open Bp Bp.Py Bp.SrcTieFromDict

theorem forget_idem {α} (r : Res α) : forget (forget r) = forget r := by cases r <;> rfl

theorem mapMRes_sim {α β} (g g' : α → Res β) : ∀ (xs : List α), (∀ x ∈ xs, forget (g x) = forget (g' x)) →
    forget (mapMRes g xs) = forget (mapMRes g' xs)
  | [], _ => rfl
  | x :: xs, h => by
    have ih := mapMRes_sim g g' xs (fun y hy => h y (List.mem_cons_of_mem _ hy))
    simp only [mapMRes, forget_bind, h x (List.mem_cons_self ..), ih]

/-- the JSON-side values the loop body may hand to `dec` for the value `j` of one key -/
def jsubs : JVal → List JVal
  | .arr xs => .arr xs :: xs
  | .obj ks vs => .obj ks vs :: vs
  | j => [j]

theorem jsubs_self (j : JVal) : j ∈ jsubs j := by cases j <;> simp [jsubs]

section sim
variable (S : Schema) (E : Enums) (c : Nat) (dec dec' : Nat → JVal → R Val)

theorem listComp_sim (g g' : JVal → Res Val) (value : JVal) (h : ∀ x ∈ jsubs value, forget (g x) = forget (g' x)) :
    forget (listComp g value) = forget (listComp g' value) := by
  cases value with
  | arr xs =>
    simp only [listComp]
    exact sim_bind _ _ _ (mapMRes_sim g g' xs (fun x hx => h x (by simp [jsubs, hx])))
  | _ => rfl

theorem dictComp_sim (g g' : JVal → Res Val) (value : JVal) (h : ∀ x ∈ jsubs value, forget (g x) = forget (g' x)) :
    forget (dictCompValues g value) = forget (dictCompValues g' value) := by
  cases value with
  | obj ks vs =>
    simp only [dictCompValues]
    exact sim_bind _ _ _ (mapMRes_sim g g' vs (fun x hx => h x (by simp [jsubs, hx])))
  | _ => rfl

theorem from_dict_key_sim (key : JKey) (value : JVal) (init : Kwargs)
    (h : ∀ cls, ∀ x ∈ jsubs value, forget (clsFromDict dec cls x) = forget (clsFromDict dec' cls x)) :
    forget (Src.from_dict_key S E c dec key value init) = forget (Src.from_dict_key S E c dec' key value init) := by
  unfold Src.from_dict_key
  refine bind_sim _ _ _ fun name _ => ?_
  cases hmeta : metaByFieldName S c name with
  | none => simp only [hmeta]
  | some f =>
    -- `dec` occurs only as `cls.from_dict` of the value, of the items of a list value, of the values of a dict value
    simp only [hmeta, Res.bind_ok, forget_bind, forget_ite, fun cls => h cls value (jsubs_self value),
      fun cls => listComp_sim _ _ value (h cls), fun cls => dictComp_sim _ _ value (h cls)]

theorem loop_sim : ∀ (items : List (JKey × JVal)) (init : Kwargs),
    (∀ p ∈ items, ∀ cls, ∀ x ∈ jsubs p.2, forget (clsFromDict dec cls x) = forget (clsFromDict dec' cls x)) →
    forget (Src.json_from_dict_init.loop1 S E dec c items init) = forget (Src.json_from_dict_init.loop1 S E dec' c items init)
  | [], init, _ => rfl
  | (k, v) :: items, init, h => by
    simp only [Src.json_from_dict_init.loop1]
    exact (sim_bind _ _ _ (from_dict_key_sim S E c dec dec' k v init (h (k, v) (List.mem_cons_self ..)))).trans
      (bind_sim _ _ _ fun kw _ => loop_sim items kw fun p hp => h p (List.mem_cons_of_mem _ hp))

def jvals : JVal → List JVal
  | .obj _ vs => vs
  | _ => []

theorem mappingItems_snd (j : JVal) (items : List (JKey × JVal)) (hm : JsonMsg.mappingItems j = .ok items)
    (p : JKey × JVal) (hp : p ∈ items) : p.2 ∈ jvals j := by
  cases j with
  | obj ks vs =>
    cases hm
    exact (List.of_mem_zip hp).2
  | _ => cases hm

theorem init_sim (j : JVal)
    (h : ∀ v ∈ jvals j, ∀ cls, ∀ x ∈ jsubs v, forget (clsFromDict dec cls x) = forget (clsFromDict dec' cls x)) :
    forget (Src.json_from_dict_init S E dec c j) = forget (Src.json_from_dict_init S E dec' c j) := by
  unfold Src.json_from_dict_init
  simp only [Res.bind_ok]
  exact bind_sim _ _ _ fun items hm => loop_sim S E c dec dec' items [] fun p hp => h p.2 (mappingItems_snd j items hm p hp)

end sim

section tie
variable (S : Schema) (E : Enums)

theorem loop_srcInitLoop (c : Nat) : ∀ (ks : List JKey) (vs : List JVal) (init : Kwargs),
    Src.json_from_dict_init.loop1 S E (fromDictC S E) c (ks.zip vs) init = srcInitLoop S E c ks vs init
  | [], _, init => by simp [Src.json_from_dict_init.loop1, srcInitLoop]
  | _ :: _, [], init => by simp [Src.json_from_dict_init.loop1, srcInitLoop]
  | k :: ks, v :: vs, init => by
    simp only [List.zip_cons_cons, Src.json_from_dict_init.loop1, srcInitLoop]
    congr 1
    funext kw
    exact loop_srcInitLoop c ks vs kw

theorem init_model (c : Nat) (j : JVal) :
    Src.json_from_dict_init S E (fromDictC S E) c j = srcFromDictInit S E c j := by
  unfold Src.json_from_dict_init
  cases j with
  | obj ks vs => simp only [JsonMsg.mappingItems, Res.ok_bind, Res.bind_ok, loop_srcInitLoop, srcFromDictInit]
  | _ => rfl

/-- `dictOk` for every class at every nesting level, at most `k` levels (decidable; recursion on the budget) -/
def jOkAt (S : Schema) : Nat → JVal → Bool
  | 0, _ => false
  | k + 1, j => (List.range (S.length + 1)).all (fun c => dictOk (fieldsOf S c) j) &&
      (jvals j).all fun v => (jsubs v).all fun x => jOkAt S k x

theorem fieldsOf_big (c : Nat) (h : S.length ≤ c) : fieldsOf S c = [] := by
  unfold fieldsOf
  rw [List.getElem?_eq_none h]

/-- the guard of the whole-mapping tie is the top level of `jOkAt` (a class beyond the schema has no fields, as
    the class `S.length` that the guard covers) -/
theorem dictOk_of_jOkAt (k : Nat) (j : JVal) (h : jOkAt S (k + 1) j = true) (c : Nat) :
    dictOk (fieldsOf S c) j = true := by
  rw [jOkAt, Bool.and_eq_true, List.all_eq_true] at h
  by_cases hc : c < S.length + 1
  · exact h.1 c (List.mem_range.mpr hc)
  · rw [fieldsOf_big S c (by omega), ← fieldsOf_big S S.length (Nat.le_refl _)]
    exact h.1 S.length (List.mem_range.mpr (by omega))

/-- `<Cls c'>.from_dict(j)` as the loop body sees it with `k` nesting levels left -/
def decAt (k : Nat) : Nat → JVal → R Val :=
  fun c' j => JsonMsg.toR (Src.class_from_dict S E k c' j)

theorem forget_ofR_toR {α} (r : Res α) (m : R α) (h : forget r = forget (ofR m)) :
    forget (ofR (JsonMsg.toR r)) = forget (ofR m) := by
  cases r with
  | ok a => exact h
  | raise e => exact h
  | diverge => cases m <;> simp [forget, ofR] at h

theorem clsFromDict_sim (k : Nat) (x : JVal)
    (ih : ∀ c', forget (Src.class_from_dict S E k c' x) = forget (ofR (fromDictC S E c' x))) (cls : Cls) :
    forget (clsFromDict (decAt S E k) cls x) = forget (clsFromDict (fromDictC S E) cls x) := by
  cases cls with
  | message c' => exact forget_ofR_toR _ _ (ih c')
  | _ => rfl

theorem init_eq (k c : Nat) (j : JVal) (h : jOkAt S (k + 1) j = true)
    (ih : ∀ c' x, jOkAt S k x = true → forget (Src.class_from_dict S E k c' x) = forget (ofR (fromDictC S E c' x))) :
    forget (finish (fieldsOf S c) (Src.json_from_dict_init S E (decAt S E k) c j)) = forget (ofR (fromDictInit S E c j)) := by
  have hd := dictOk_of_jOkAt S k j h c
  simp only [jOkAt, Bool.and_eq_true, List.all_eq_true] at h
  have hinit : forget (Src.json_from_dict_init S E (decAt S E k) c j) = forget (srcFromDictInit S E c j) := by
    rw [← init_model]
    exact init_sim S E c _ _ j fun v hv cls x hx => clsFromDict_sim S E k x (fun c' => ih c' x (h.2 v hv x hx)) cls
  exact (sim_bind _ _ _ hinit).trans (from_dict_init_eq S E c j hd)

end tie

/-- `jOkAt` over `dictOkF`: the kernel evaluates the twin, `jOkAt_fast` says it is the guard -/
def jOkAtF (S : Schema) : Nat → JVal → Bool
  | 0, _ => false
  | k + 1, j => (List.range (S.length + 1)).all (fun c => dictOkF (fieldsOf S c) j) &&
      (jvals j).all fun v => (jsubs v).all fun x => jOkAtF S k x

theorem jOkAt_fast (S : Schema) : ∀ (k : Nat) (j : JVal), jOkAt S k j = jOkAtF S k j
  | 0, _ => rfl
  | k + 1, j => by
    rw [jOkAt, jOkAtF]
    simp only [dictOk_fast, jOkAt_fast S k]

/-! the guard on the dicts of C04's own instances `m1` (flat; both casings) and `m3` (nested), evaluated once:
    the property files project their non-vacuity examples from these -/
theorem jOkAt_m1_camel : jOkAt C04.S1 2 (toDict C04.S1 C04.E1 .camel false C04.m1) = true := by
  rw [jOkAt_fast]; decide +kernel
theorem jOkAt_m1_snake : jOkAt C04.S1 2 (toDict C04.S1 C04.E1 .snake false C04.m1) = true := by
  rw [jOkAt_fast]; decide +kernel
theorem jOkAt_m3 : jOkAt C04.S3 5 (toDict C04.S3 [] .camel false C04.m3) = true := by
  rw [jOkAt_fast]; decide +kernel

end Bp.SrcTieJsonMsgLoad
