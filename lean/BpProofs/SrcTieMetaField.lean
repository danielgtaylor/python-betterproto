import BpProofs.Gen.SrcMeta
/-
  THE TIE FOR `dataclass_field` AND THE `*_field` HELPERS (BpProofs/Gen/SrcMeta.lean, regenerated from the Python AST on
  every run): `dataclass_field` stores the metadata as given and makes the dataclass default `None` for an optional field,
  `PLACEHOLDER` otherwise — the prelude's `fieldDefault`, i.e. the slot value the model's `fresh` / `initSlots` give a field
  that received no argument; every helper is `dataclass_field` at its `TYPE_*` constant.
-/
namespace Bp.SrcTieMeta
open Bp Bp.PyMeta
open Bp.Py (Res)

theorem dataclass_field_eq (n : Nat) (t : PType) (mt : Option (PType × PType)) (g : Option Nat) (w : Option PType) (o : Bool) :
    SrcMeta.dataclass_field n t mt g w o
      = .ok { default := if o then Val.none else Val.ph, metadata := ⟨n, t, mt, g, w, o⟩ } := rfl

theorem scalar_helpers (n : Nat) (g : Option Nat) (o : Bool) :
    SrcMeta.enum_field n g o = SrcMeta.dataclass_field n .enum none g none o
    ∧ SrcMeta.bool_field n g o = SrcMeta.dataclass_field n .bool none g none o
    ∧ SrcMeta.int32_field n g o = SrcMeta.dataclass_field n .int32 none g none o
    ∧ SrcMeta.int64_field n g o = SrcMeta.dataclass_field n .int64 none g none o
    ∧ SrcMeta.uint32_field n g o = SrcMeta.dataclass_field n .uint32 none g none o
    ∧ SrcMeta.uint64_field n g o = SrcMeta.dataclass_field n .uint64 none g none o
    ∧ SrcMeta.sint32_field n g o = SrcMeta.dataclass_field n .sint32 none g none o
    ∧ SrcMeta.sint64_field n g o = SrcMeta.dataclass_field n .sint64 none g none o
    ∧ SrcMeta.float_field n g o = SrcMeta.dataclass_field n .float none g none o
    ∧ SrcMeta.double_field n g o = SrcMeta.dataclass_field n .double none g none o
    ∧ SrcMeta.fixed32_field n g o = SrcMeta.dataclass_field n .fixed32 none g none o
    ∧ SrcMeta.fixed64_field n g o = SrcMeta.dataclass_field n .fixed64 none g none o
    ∧ SrcMeta.sfixed32_field n g o = SrcMeta.dataclass_field n .sfixed32 none g none o
    ∧ SrcMeta.sfixed64_field n g o = SrcMeta.dataclass_field n .sfixed64 none g none o
    ∧ SrcMeta.string_field n g o = SrcMeta.dataclass_field n .string none g none o
    ∧ SrcMeta.bytes_field n g o = SrcMeta.dataclass_field n .bytes none g none o :=
  ⟨rfl, rfl, rfl, rfl, rfl, rfl, rfl, rfl, rfl, rfl, rfl, rfl, rfl, rfl, rfl, rfl⟩

theorem message_map_helpers (n : Nat) (g : Option Nat) (w : Option PType) (o : Bool) (k v : PType) :
    SrcMeta.message_field n g w o = SrcMeta.dataclass_field n .message none g w o
    ∧ SrcMeta.map_field n k v g = SrcMeta.dataclass_field n .map (some (k, v)) g none false :=
  ⟨rfl, rfl⟩

end Bp.SrcTieMeta
