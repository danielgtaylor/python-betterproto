import BpModel.Casing
import BpProofs.CasingChar
import BpProofs.CasingFast
/-
  Every word the tokenizer emits is capitals, then lower-case letters, then digits (`Tok`): the tokenizer emits the
  first word of its input (`FirstWord`, read off the maximal runs at its head; `FirstWord.go`) and goes on with the
  rest.  Hence the words of `snake_case` output are read back from it (`tokens_joinU`, `tokens_snake`), which gives
  idempotence and the key round trips of Props/C19.lean; `pascal_case` / `camel_case` output is read back only when
  every word begins with two letters (`CapW`).
-/
namespace Bp.Casing

def AllC (k : Cls) (w : List Char) : Prop := ∀ c ∈ w, cls c = k

theorem AllC.nil {k} : AllC k [] := by intro c h; cases h
theorem AllC.cons {k c w} (h : cls c = k) (hw : AllC k w) : AllC k (c :: w) := by
  intro x hx
  cases hx with
  | head => exact h
  | tail _ hx => exact hw x hx
theorem AllC.head {k c w} (h : AllC k (c :: w)) : cls c = k := h c (List.mem_cons_self ..)
theorem AllC.tail {k c w} (h : AllC k (c :: w)) : AllC k w := fun x hx => h x (List.mem_cons_of_mem _ hx)
theorem AllC.append {k a b} (ha : AllC k a) (hb : AllC k b) : AllC k (a ++ b) := by
  intro x hx
  rcases List.mem_append.1 hx with h | h
  · exact ha x h
  · exact hb x h

/-- shape of every word the tokenizer emits: capitals, then lower-case letters, then digits -/
def Tok (w : List Char) : Prop :=
  w ≠ [] ∧ ∃ u l d, w = u ++ l ++ d ∧ AllC .up u ∧ AllC .lo l ∧ AllC .dg d

/-- shape of the words of `snake_case` output: `[a-z]*[0-9]*`, non-empty -/
def LDWord (w : List Char) : Prop :=
  w ≠ [] ∧ ∃ l d, w = l ++ d ∧ AllC .lo l ∧ AllC .dg d

theorem mem_emit {w x rest} (h : x ∈ emit w rest) : (x = w ∧ w ≠ []) ∨ x ∈ rest := by
  cases w with
  | nil => right; exact h
  | cons a t =>
    simp only [emit, List.mem_cons] at h
    rcases h with h | h
    · left; exact ⟨h, by simp⟩
    · right; exact h

theorem emit_of_ne_nil {w : List Char} (h : w ≠ []) (rest : List (List Char)) : emit w rest = w :: rest := by
  cases w with
  | nil => exact absurd rfl h
  | cons a t => rfl

theorem emit_append (w : List Char) (a b : List (List Char)) : emit w (a ++ b) = emit w a ++ b := by
  cases w <;> rfl

theorem go_sym_split {a : Char} (ha : cls a = .sym) (y : List Char) :
    ∀ (w : List Char) (st : St), go st (w ++ a :: y) = go st w ++ go .sym y := by
  intro w
  induction w with
  | nil =>
    intro st
    cases st <;> simp [go, ha]
  | cons c w ih =>
    intro st
    -- in every state and for every class of `c` the two sides step alike; `.up pre l` before a
    -- lower-case letter emits `pre` (`emit_append`)
    rw [List.cons_append]
    cases st <;> rw [go, go] <;> cases cls c <;> simp only [ih, emit_append, List.cons_append]

theorem go_run (f : List Char → St) (k : Cls)
    (step : ∀ cur c s, cls c = k → go (f cur) (c :: s) = go (f (cur ++ [c])) s) :
    ∀ (l cur s : List Char), AllC k l → go (f cur) (l ++ s) = go (f (cur ++ l)) s := by
  intro l
  induction l with
  | nil => intro cur s _; simp
  | cons c l ih =>
    intro cur s h
    rw [List.cons_append, step _ _ _ h.head, ih _ _ h.tail]
    simp

theorem go_lo_run : ∀ (l cur s : List Char), AllC .lo l → go (.lo cur) (l ++ s) = go (.lo (cur ++ l)) s :=
  go_run .lo .lo fun _ _ _ h => by rw [go, h]

theorem go_dg_run : ∀ (d cur s : List Char), AllC .dg d → go (.dg cur) (d ++ s) = go (.dg (cur ++ d)) s :=
  go_run .dg .dg fun _ _ _ h => by rw [go, h]

theorem go_sym_run {sy : List Char} (h : AllC .sym sy) (s : List Char) : go .sym (sy ++ s) = go .sym s := by
  simpa using go_run (fun _ => .sym) .sym (fun _ c s h => by rw [go, h]) sy [] s h

theorem tokens_cons_sym {c : Char} (s : List Char) (h : cls c = .sym) : tokens (c :: s) = tokens s :=
  go_sym_run (AllC.cons h AllC.nil) s

theorem go_append_syms : ∀ (t s : List Char) (st : St), AllC .sym t → go st (s ++ t) = go st s
  | [], s, st, _ => by rw [List.append_nil]
  | c :: t, s, st, h => by
    rw [go_sym_split h.head, ← List.append_nil t, go_sym_run h.tail]
    exact List.append_nil _

def NotHead (k : Cls) : List Char → Prop
  | [] => True
  | c :: _ => cls c ≠ k

theorem NotHead.head? {k : Cls} {rest : List Char} (h : NotHead k rest) : ∀ c ∈ rest.head?, cls c ≠ k := by
  cases rest <;> simp_all [NotHead]

theorem AllC.notHead {j k : Cls} {x s : List Char} (hx : AllC j x) (hjk : j ≠ k) (hs : NotHead k s) :
    NotHead k (x ++ s) := by
  cases x with
  | nil => exact hs
  | cons c t => exact fun e => hjk (hx.head.symm.trans e)

theorem run_split (k : Cls) : ∀ s : List Char, ∃ x rest, s = x ++ rest ∧ AllC k x ∧ NotHead k rest
  | [] => ⟨[], [], rfl, AllC.nil, trivial⟩
  | c :: s => by
    by_cases h : cls c = k
    · obtain ⟨x, rest, hs, hx, hr⟩ := run_split k s
      exact ⟨c :: x, rest, by rw [hs]; rfl, AllC.cons h hx, hr⟩
    · exact ⟨[], c :: s, rfl, AllC.nil, h⟩

/-- the capitals phase swallows capitals (`pre ++ [l]` is what it has read) -/
theorem go_up_run {x : Char} (hx : cls x = .up) (s : List Char) : ∀ (u pre : List Char) (l : Char), AllC .up u →
    go (.up pre l) (u ++ x :: s) = go (.up (pre ++ l :: u) x) s := by
  intro u
  induction u with
  | nil => intro pre l _; rw [List.nil_append, go, hx]
  | cons c u ih =>
    intro pre l h
    rw [List.cons_append, go, h.head, ih _ _ h.tail, List.append_assoc]; rfl

theorem go_sym_up {u : List Char} {x : Char} (s : List Char) (hu : AllC .up u) (hx : cls x = .up) :
    go .sym (u ++ x :: s) = go (.up u x) s := by
  cases u with
  | nil => rw [List.nil_append, go, hx]
  | cons c u => rw [List.cons_append, go, hu.head, go_up_run hx s u [] c hu.tail]; rfl

/- The states of the tokenizer are phases of one word, up → lo → dg: at a character that is not of its own class
   a phase behaves as the next one, and the last one closes the word. -/
theorem go_up_dg {rest : List Char} (h1 : NotHead .up rest) (h2 : NotHead .lo rest) (pre : List Char) (l : Char) :
    go (.up pre l) rest = go (.dg (pre ++ [l])) rest := by
  cases rest with
  | nil => rfl
  | cons c t => rw [go, go]; cases hc : cls c <;> simp_all [NotHead]

theorem go_lo_dg {rest : List Char} (h : NotHead .lo rest) (cur : List Char) : go (.lo cur) rest = go (.dg cur) rest := by
  cases rest with
  | nil => rfl
  | cons c t => rw [go, go]; cases hc : cls c <;> simp_all [NotHead]

theorem go_dg_end {rest : List Char} (h : NotHead .dg rest) (cur : List Char) :
    go (.dg cur) rest = cur :: go .sym rest := by
  cases rest with
  | nil => rfl
  | cons c t => rw [go, go]; cases hc : cls c <;> simp_all [NotHead]

theorem go_lo_word {l d rest : List Char} (hl : AllC .lo l) (hd : AllC .dg d) (h1 : NotHead .lo (d ++ rest))
    (h2 : NotHead .dg rest) (cur : List Char) : go (.lo cur) (l ++ (d ++ rest)) = (cur ++ l ++ d) :: go .sym rest := by
  rw [go_lo_run l cur _ hl, go_lo_dg h1, go_dg_run d _ _ hd, go_dg_end h2]

/-- a word without capitals, from between words -/
theorem go_sym_ld {l d rest : List Char} (hl : AllC .lo l) (hd : AllC .dg d) (h1 : NotHead .lo (d ++ rest))
    (h2 : NotHead .dg rest) : go .sym (l ++ (d ++ rest)) = emit (l ++ d) (go .sym rest) := by
  cases l with
  | cons y l1 =>
    simp only [List.cons_append, go, hl.head]
    rw [go_lo_word hl.tail hd h1 h2]; rfl
  | nil =>
    cases d with
    | cons z d1 =>
      simp only [List.nil_append, List.cons_append, go, hd.head]
      rw [go_dg_run d1 _ _ hd.tail, go_dg_end h2]; rfl
    | nil => rfl  -- the empty word: `rest` is the input and nothing is emitted

/-- `FirstWord s w rest`: the input `s` begins with the word `w` — the `word` group of one match of the regular
    expression — and `rest` follows.  The runs `u`, `l`, `d` of capitals, lower-case letters and digits are maximal. -/
inductive FirstWord : List Char → List Char → List Char → Prop
  /-- no capital: lower-case letters, then digits; empty when `s` is empty or begins with a symbol -/
  | ld {l d rest : List Char} (hl : AllC .lo l) (hd : AllC .dg d) (h0 : NotHead .up (l ++ (d ++ rest)))
      (h1 : NotHead .lo (d ++ rest)) (h2 : NotHead .dg rest) : FirstWord (l ++ (d ++ rest)) (l ++ d) rest
  /-- capitals `u ++ [x]`, lower-case letters only if there is one capital, digits -/
  | up {u l d rest : List Char} {x : Char} (hu : AllC .up u) (hx : cls x = .up) (hl : AllC .lo l) (hd : AllC .dg d)
      (h0 : NotHead .up (l ++ (d ++ rest))) (h1 : NotHead .lo (d ++ rest)) (h2 : NotHead .dg rest)
      (h : l = [] ∨ u = []) : FirstWord (u ++ x :: (l ++ (d ++ rest))) (u ++ x :: (l ++ d)) rest
  /-- two or more capitals before a lower-case letter: the look-ahead `(?![a-z])` ends the word before the last
      capital, which begins the next word -/
  | back {u t : List Char} {x y : Char} (hu : AllC .up u) (hne : u ≠ []) (hx : cls x = .up) (hy : cls y = .lo) :
      FirstWord (u ++ x :: y :: t) u (x :: y :: t)

theorem exists_firstWord (s : List Char) : ∃ w rest, FirstWord s w rest := by
  obtain ⟨U, s2, rfl, hU, h0⟩ := run_split .up s
  obtain ⟨l, s3, rfl, hl, h1⟩ := run_split .lo s2
  obtain ⟨d, rest, rfl, hd, h2⟩ := run_split .dg s3
  rcases List.eq_nil_or_concat U with rfl | ⟨u, x, rfl⟩
  · rw [List.nil_append]; exact ⟨_, _, .ld hl hd h0 h1 h2⟩
  · rw [List.concat_eq_append] at hU ⊢
    rw [List.append_assoc, List.singleton_append]
    have hx : cls x = .up := hU x (by simp)
    have hu : AllC .up u := fun c hc => hU c (by simp [hc])
    by_cases h : l = [] ∨ u = []
    · exact ⟨_, _, .up hu hx hl hd h0 h1 h2 h⟩
    · obtain ⟨y, l1, rfl⟩ := List.exists_cons_of_ne_nil fun e => h (.inl e)
      exact ⟨_, _, .back hu (fun e => h (.inr e)) hx hl.head⟩

namespace FirstWord
variable {s w rest : List Char} (h : FirstWord s w rest)
include h

theorem eq : s = w ++ rest := by cases h <;> simp

theorem go : go .sym s = emit w (go .sym rest) := by
  cases h with
  | ld hl hd h0 h1 h2 => exact go_sym_ld hl hd h1 h2
  | up hu hx hl hd h0 h1 h2 h =>
    rename_i u l d x
    rw [go_sym_up _ hu hx]
    cases l with
    | nil => rw [go_up_dg h0 h1, List.nil_append, go_dg_run d _ _ hd, go_dg_end h2]; cases u <;> simp [emit]
    | cons y l1 =>
      have : u = [] := h.resolve_left (List.cons_ne_nil y l1)
      subst this
      simp only [List.cons_append, Casing.go, hl.head, emit]
      rw [go_lo_word hl.tail hd h1 h2]; rfl
  | back hu hne hx hy =>
    rw [go_sym_up _ hu hx]
    cases w with
    | nil => exact absurd rfl hne
    | cons c u => simp only [Casing.go, hy, hx, emit]

theorem tok (hw : w ≠ []) : Tok w := by
  cases h with
  | ld hl hd => exact ⟨hw, [], _, _, rfl, AllC.nil, hl, hd⟩
  | up hu hx hl hd =>
    refine ⟨hw, _, _, _, by rw [← List.singleton_append, ← List.append_assoc, ← List.append_assoc], ?_, hl, hd⟩
    exact hu.append (AllC.cons hx AllC.nil)
  | back hu => exact ⟨hw, _, [], [], by simp, hu, AllC.nil, AllC.nil⟩

/-- the word is empty only at the end of the input or before a symbol -/
theorem nil (hw : w = []) (hs : NotHead .sym s) : rest = [] := by
  cases h with
  | ld hl hd h0 h1 h2 =>
    obtain ⟨rfl, rfl⟩ := List.append_eq_nil_iff.1 hw
    cases rest with
    | nil => rfl
    | cons c t => cases hc : cls c <;> simp_all [NotHead]
  | up => simp at hw
  | back _ hne => exact absurd hw hne
end FirstWord

theorem tokens_tok (s : List Char) : ∀ w ∈ tokens s, Tok w := by
  induction hn : s.length using Nat.strongRecOn generalizing s with
  | _ n ih =>
    intro w hw
    obtain ⟨sy, s1, rfl, hsy, hs1⟩ := run_split .sym s
    obtain ⟨w1, rest, hf⟩ := exists_firstWord s1
    rw [tokens, go_sym_run hsy, hf.go] at hw
    rcases mem_emit hw with ⟨rfl, hne⟩ | hr
    · exact hf.tok hne
    · by_cases hw1 : w1 = []
      · -- an empty first word: the input is exhausted, nothing more is emitted
        rw [hf.nil hw1 hs1] at hr
        cases hr
      · -- the rest is shorter
        refine ih rest.length ?_ rest rfl w hr
        have := congrArg List.length hf.eq
        have : 0 < w1.length := List.length_pos_iff.2 hw1
        simp only [List.length_append] at *
        omega

/-- `s` is empty or begins with a symbol or a capital: the word ends where `w` ends -/
theorem go_ld_close (w s : List Char) (hw : LDWord w) (h1 : NotHead .lo s) (h2 : NotHead .dg s) :
    go .sym (w ++ s) = w :: go .sym s := by
  obtain ⟨hne, l, d, rfl, hl, hd⟩ := hw
  rw [List.append_assoc, go_sym_ld hl hd (hd.notHead (by decide) h1) h2, emit_of_ne_nil hne]

theorem tokens_joinU : ∀ ws : List (List Char), (∀ w ∈ ws, LDWord w) → tokens (joinU ws) = ws := by
  intro ws
  induction ws with
  | nil => intro _; rfl
  | cons w ws ih =>
    intro h
    have hw : go .sym w = [w] := by
      simpa [go] using go_ld_close w [] (h w (List.mem_cons_self ..)) trivial trivial
    cases ws with
    | nil => exact hw
    | cons w2 ws =>
      show go .sym (w ++ '_' :: joinU (w2 :: ws)) = _
      rw [go_sym_split cls_underscore, hw]
      exact congrArg (w :: ·) (ih fun x hx => h x (List.mem_cons_of_mem _ hx))

theorem lowerW_allLo_of_up {u : List Char} (h : AllC .up u) : AllC .lo (lowerW u) := by
  intro c hc
  simp only [lowerW, List.mem_map] at hc
  obtain ⟨a, ha, rfl⟩ := hc
  exact cls_lowerC_of_up (h a ha)

theorem map_fix {α} {f : α → α} {l : List α} (h : ∀ x ∈ l, f x = x) : l.map f = l :=
  (List.map_congr_left h).trans (List.map_id l)

theorem lowerW_fix {k : Cls} (hk : k ≠ .up) {w : List Char} (h : AllC k w) : lowerW w = w :=
  map_fix fun c hc => lowerC_of_not_up (by rw [h c hc]; exact hk)

theorem lowerW_cons (c : Char) (w : List Char) : lowerW (c :: w) = lowerC c :: lowerW w := rfl

theorem lowerW_idem : ∀ w : List Char, lowerW (lowerW w) = lowerW w
  | [] => rfl
  | c :: w => by rw [lowerW_cons, lowerW_cons, lowerC_idem, lowerW_idem w]

theorem lowerW_append (a b : List Char) : lowerW (a ++ b) = lowerW a ++ lowerW b := by
  simp [lowerW]

theorem ldword_lowerW {w : List Char} (h : Tok w) : LDWord (lowerW w) := by
  obtain ⟨hne, u, l, d, rfl, hu, hl, hd⟩ := h
  refine ⟨?_, lowerW u ++ l, d, ?_, (lowerW_allLo_of_up hu).append hl, hd⟩
  · simpa [lowerW] using hne
  · rw [lowerW_append, lowerW_append, lowerW_fix (by decide) hl, lowerW_fix (by decide) hd]

theorem ld_chars {w : List Char} (h : LDWord w) : ∀ c ∈ w, cls c = .lo ∨ cls c = .dg := by
  obtain ⟨-, l, d, rfl, hl, hd⟩ := h
  intro c hc
  rcases List.mem_append.1 hc with h | h
  · exact Or.inl (hl c h)
  · exact Or.inr (hd c h)

theorem lowerW_ldword {w : List Char} (h : LDWord w) : lowerW w = w :=
  map_fix fun c hc => lowerC_of_not_up (by rcases ld_chars h c hc with e | e <;> rw [e] <;> decide)

theorem snake_words_ld (s : List Char) : ∀ w ∈ (tokens s).map lowerW, LDWord w := by
  intro w hw
  obtain ⟨a, ha, rfl⟩ := List.mem_map.1 hw
  exact ldword_lowerW (tokens_tok s a ha)

theorem map_lowerW_fix (ws : List (List Char)) (h : ∀ w ∈ ws, LDWord w) : ws.map lowerW = ws :=
  map_fix fun w hw => lowerW_ldword (h w hw)

theorem tokens_snake (s : List Char) : tokens (snake s) = (tokens s).map lowerW :=
  tokens_joinU _ (snake_words_ld s)

theorem snake_idem (s : List Char) : snake (snake s) = snake s := by
  unfold snake
  rw [show tokens (joinU ((tokens s).map lowerW)) = (tokens s).map lowerW from tokens_snake s]
  rw [map_lowerW_fix _ (snake_words_ld s)]

theorem rstripU_decomp (x : List Char) : ∃ t, x = rstripU x ++ t ∧ AllC .sym t := by
  refine ⟨(x.reverse.takeWhile (· = '_')).reverse, ?_, ?_⟩
  · unfold rstripU
    rw [← List.reverse_append, List.takeWhile_append_dropWhile, List.reverse_reverse]
  · intro c hc
    rw [List.mem_reverse] at hc
    have := List.all_eq_true.1 List.all_takeWhile c hc
    simp only [decide_eq_true_eq] at this
    subst this
    exact cls_underscore

theorem tokens_rstripU (x : List Char) : tokens (rstripU x) = tokens x := by
  obtain ⟨t, h, ht⟩ := rstripU_decomp x
  conv => rhs; rw [h]
  exact (go_append_syms t _ .sym ht).symm

theorem snake_rstripU (x : List Char) : snake (rstripU x) = snake x := by
  unfold snake; rw [tokens_rstripU]

theorem kw_letters : ∀ k ∈ kw, k ≠ [] ∧ ∀ c ∈ k, isLetter c = true := by
  rw [kw_fast, isLetter_fast]; decide +kernel

theorem isLetter_iff (c : Char) : isLetter c = true ↔ cls c = .up ∨ cls c = .lo := by
  simp [isLetter]

theorem isLetter_ident {c : Char} (h : isLetter c = true) : identStart c = true ∧ identChar c = true := by
  rcases (isLetter_iff c).1 h with h | h <;> simp [identStart, identChar, h]

theorem kw_no_us : ∀ k ∈ kw, '_' ∉ k := fun k hk hm => by
  have := (kw_letters k hk).2 _ hm
  simp [isLetter, cls_underscore] at this

theorem identChar_of_ne_sym {c : Char} (h : cls c ≠ .sym) : identChar c = true := by
  simp [identChar, h]

theorem identChar_underscore : identChar '_' = true := by simp [identChar]

theorem ldword_identChars {w : List Char} (h : LDWord w) : ∀ c ∈ w, identChar c = true := fun c hc =>
  identChar_of_ne_sym (by rcases ld_chars h c hc with e | e <;> rw [e] <;> decide)

theorem joinU_identChars : ∀ ws : List (List Char), (∀ w ∈ ws, LDWord w) → ∀ c ∈ joinU ws, identChar c = true := by
  intro ws
  induction ws with
  | nil => intro _ c hc; simp [joinU] at hc
  | cons w ws ih =>
    intro h c hc
    have hw := h w (List.mem_cons_self ..)
    cases ws with
    | nil => exact ldword_identChars hw c (by simpa [joinU] using hc)
    | cons w2 ws =>
      simp only [joinU, List.mem_append, List.mem_cons] at hc
      rcases hc with hc | rfl | hc
      · exact ldword_identChars hw c hc
      · exact identChar_underscore
      · exact ih (fun x hx => h x (List.mem_cons_of_mem _ hx)) c hc

theorem snake_identChars (s : List Char) : ∀ c ∈ snake s, identChar c = true :=
  joinU_identChars _ (snake_words_ld s)

theorem sanitize_cases (v : List Char) :
    (v ∈ kw ∧ sanitize v = v ++ ['_']) ∨ (v ∉ kw ∧ pyIdent v = true ∧ sanitize v = v)
      ∨ (v ∉ kw ∧ pyIdent v = false ∧ sanitize v = '_' :: v) := by
  unfold sanitize
  by_cases h1 : v ∈ kw
  · left; simp [h1]
  · right
    cases h2 : pyIdent v
    · right; simp [h1]
    · left; simp [h1]

/-- `sanitize_name` only adds symbols at either end, so the words are unchanged -/
theorem tokens_sanitize (v : List Char) : tokens (sanitize v) = tokens v := by
  rcases sanitize_cases v with ⟨_, h⟩ | ⟨_, _, h⟩ | ⟨_, _, h⟩ <;> rw [h]
  · exact go_append_syms _ v .sym (AllC.cons cls_underscore AllC.nil)
  · exact tokens_cons_sym v cls_underscore

theorem snake_safeSnake (s : List Char) : snake (safeSnake s) = snake s := by
  show joinU ((tokens (sanitize (snake s))).map lowerW) = _
  rw [tokens_sanitize]
  exact snake_idem s

theorem safeSnake_idem (s : List Char) : safeSnake (safeSnake s) = safeSnake s := by
  show sanitize (snake (safeSnake s)) = safeSnake s
  rw [snake_safeSnake]; rfl

theorem sanitize_valid (v : List Char) (hv : ∀ c ∈ v, identChar c = true) :
    pyIdent (sanitize v) = true ∧ sanitize v ∉ kw := by
  rcases sanitize_cases v with ⟨hk, h⟩ | ⟨hk, hid, h⟩ | ⟨hk, hid, h⟩ <;> rw [h]
  · -- a keyword is a word of letters; with `_` appended it is an identifier and no keyword
    obtain ⟨hne, hl⟩ := kw_letters v hk
    refine ⟨?_, fun hm => kw_no_us _ hm (by simp)⟩
    cases v with
    | nil => exact absurd rfl hne
    | cons c t =>
      simp only [pyIdent, List.cons_append, Bool.and_eq_true, List.all_eq_true, List.mem_append, List.mem_singleton]
      refine ⟨(isLetter_ident (hl c (by simp))).1, ?_⟩
      rintro x (hx | rfl)
      · exact (isLetter_ident (hl x (by simp [hx]))).2
      · exact identChar_underscore
  · exact ⟨hid, hk⟩
  · exact ⟨by simpa [pyIdent, identStart] using hv, fun hm => kw_no_us _ hm (by simp)⟩

theorem safeSnake_valid (s : List Char) : pyIdent (safeSnake s) = true ∧ safeSnake s ∉ kw :=
  sanitize_valid _ (snake_identChars s)

/-- what `str.capitalize` makes of a word that begins with two letters -/
def CapW (w : List Char) : Prop :=
  ∃ X l1 l d, w = X :: l1 :: (l ++ d) ∧ cls X = .up ∧ cls l1 = .lo ∧ AllC .lo l ∧ AllC .dg d

theorem capW_notHead {ws : List (List Char)} (h : ∀ w ∈ ws, CapW w) :
    NotHead .lo ws.flatten ∧ NotHead .dg ws.flatten := by
  cases ws with
  | nil => exact ⟨trivial, trivial⟩
  | cons w ws =>
    obtain ⟨X, l1, l, d, rfl, hX, _⟩ := h w (List.mem_cons_self ..)
    simp [NotHead, hX]

theorem go_sym_capW : ∀ ws : List (List Char), (∀ w ∈ ws, CapW w) → go .sym ws.flatten = ws := by
  intro ws
  induction ws with
  | nil => intro _; rfl
  | cons w ws ih =>
    intro h
    obtain ⟨⟨X, l1, l, d, rfl, hX, hl1, hl, hd⟩, hws⟩ := List.forall_mem_cons.1 h
    have hn := capW_notHead hws
    simp only [List.flatten_cons, List.cons_append, go, hX, hl1, emit]
    rw [List.append_assoc, go_lo_word hl hd (hd.notHead (by decide) hn.1) hn.2, ih hws]
    simp

theorem capW_capitalize {w : List Char} (h : LDWord w) (h2 : startsAlpha2 w = true) : CapW (capitalize w) := by
  obtain ⟨_, l, d, rfl, hl, hd⟩ := h
  -- a digit is no letter, so the two leading letters are in `l`
  have nd : ∀ {c}, cls c = .dg → isLetter c = false := fun hc => by rw [isLetter, hc]; rfl
  match l, d, hl, hd with
  | a :: b :: l, d, hl, hd =>
    refine ⟨upperC a, b, l, d, ?_, cls_upperC_of_lo hl.head, hl.tail.head, hl.tail.tail, hd⟩
    show upperC a :: lowerW ((b :: l) ++ d) = _
    rw [lowerW_append, lowerW_fix (by decide) hl.tail, lowerW_fix (by decide) hd]; rfl
  | [a], b :: d, _, hd => rw [List.singleton_append, startsAlpha2, nd hd.head, Bool.and_false] at h2; cases h2
  | [], a :: b :: d, _, hd => rw [List.nil_append, startsAlpha2, nd hd.head, Bool.false_and] at h2; cases h2
  | [_], [], _, _ | [], [], _, _ | [], [_], _, _ => cases h2

/- The case maps absorb one another on every word, whatever its shape. -/
theorem capitalize_lowerW (w : List Char) : capitalize (lowerW w) = capitalize w := by
  cases w with
  | nil => rfl
  | cons c w => rw [lowerW_cons, capitalize, capitalize, upperC_lowerC, lowerW_idem]

theorem lowerW_capitalize (w : List Char) : lowerW (capitalize w) = lowerW w := by
  cases w with
  | nil => rfl
  | cons c w => rw [capitalize, lowerW_cons, lowerW_cons, lowerC_upperC, lowerW_idem]

theorem capitalize_idem (w : List Char) : capitalize (capitalize w) = capitalize w := by
  cases w with
  | nil => rfl
  | cons c w => rw [capitalize, capitalize, upperC_idem, lowerW_idem]

theorem isLetter_lowerC (c : Char) : isLetter (lowerC c) = isLetter c := by
  simp only [isLetter, cls_lowerC]; cases cls c <;> rfl

theorem startsAlpha2_lowerW : ∀ w : List Char, startsAlpha2 (lowerW w) = startsAlpha2 w
  | [] => rfl
  | [_] => by simp [lowerW, startsAlpha2]
  | a :: b :: r => by rw [lowerW_cons, lowerW_cons, startsAlpha2, startsAlpha2, isLetter_lowerC, isLetter_lowerC]

theorem capW_of_tokens {s : List Char} (h : allWordsAlpha2 s = true) : ∀ w ∈ (tokens s).map capitalize, CapW w := by
  intro w hw
  obtain ⟨a, ha, rfl⟩ := List.mem_map.1 hw
  rw [← capitalize_lowerW]
  exact capW_capitalize (ldword_lowerW (tokens_tok s a ha)) ((startsAlpha2_lowerW a).trans (List.all_eq_true.1 h a ha))

theorem tokens_pascal {s : List Char} (h : allWordsAlpha2 s = true) : tokens (pascal s) = (tokens s).map capitalize :=
  go_sym_capW _ (capW_of_tokens h)

theorem pascal_idem_of_alpha2 {s : List Char} (h : allWordsAlpha2 s = true) : pascal (pascal s) = pascal s := by
  show ((tokens (pascal s)).map capitalize).flatten = _
  rw [tokens_pascal h, List.map_map]
  exact congrArg List.flatten (List.map_congr_left fun w _ => capitalize_idem w)

theorem tokens_camel_lowerW {s : List Char} (h : allWordsAlpha2 s = true) :
    (tokens (camel s)).map lowerW = (tokens s).map lowerW := by
  have hc := capW_of_tokens h
  have ht := tokens_tok s
  unfold camel pascal
  generalize tokens s = ws at hc ht
  cases ws with
  | nil => rfl
  | cons w ws =>
    rw [List.map_cons, List.forall_mem_cons] at hc
    have hw := ldword_lowerW (ht w (List.mem_cons_self ..))
    have hn := capW_notHead hc.2
    -- `lowercase_first` undoes the capital of the first word, which then is a `snake_case` word before a capital
    have e : lowerFirst (capitalize w ++ (ws.map capitalize).flatten) = lowerW w ++ (ws.map capitalize).flatten := by
      cases w with
      | nil => exact absurd rfl (ht [] (List.mem_cons_self ..)).1
      | cons a t => simp [capitalize, lowerFirst, lowerW, lowerC_upperC]
    rw [List.map_cons, List.flatten_cons, e]
    show (go .sym _).map lowerW = _
    rw [go_ld_close _ _ hw hn.1 hn.2, go_sym_capW _ hc.2, List.map_cons, lowerW_idem, List.map_cons, List.map_map]
    exact congrArg _ (List.map_congr_left fun x _ => lowerW_capitalize x)

theorem snake_camel {s : List Char} (h : allWordsAlpha2 s = true) : snake (camel s) = snake s := by
  unfold snake; rw [tokens_camel_lowerW h]

theorem allWordsAlpha2_safeSnake (s : List Char) : allWordsAlpha2 (safeSnake s) = allWordsAlpha2 s := by
  have : tokens (safeSnake s) = (tokens s).map lowerW := by
    unfold safeSnake; rw [tokens_sanitize, tokens_snake]
  unfold allWordsAlpha2
  rw [this, List.all_map]
  exact congrArg (List.all _) (funext startsAlpha2_lowerW)

end Bp.Casing
