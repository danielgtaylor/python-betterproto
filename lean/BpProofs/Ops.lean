import BpModel.All
import BpProofs.Load
/-
  C07 / C06 / C14: the oneof invariant `Inv` and its preservation by every operation of the
  instance state machine; before that, what `setAt`, the sibling reset `resetGroup` and `__setattr__`
  (`setAttr_slots_getD`, `setAttr_cur_getD`) do to a single slot.
-/
namespace Bp

def WfGroups (fs : List FieldD) (n : Nat) : Prop := ∀ f ∈ fs, ∀ g, f.group = some g → g < n

/-- the raw slot holds "not set": PLACEHOLDER, or None for an optional member -/
def SentinelAt (f : FieldD) (v : Val) : Prop := v = .ph ∨ (f.optional = true ∧ v = .none)

/-- **the oneof invariant**: every member of a group other than the selected one is unset -/
def Inv (fs : List FieldD) (n : Nat) (st : MState) : Prop :=
  st.cur.length = n ∧
  ∀ i f g, fs[i]? = some f → f.group = some g → st.cur.getD g Option.none ≠ some i →
    SentinelAt f (st.slots.getD i .ph)

theorem fieldsOf_some (S : Schema) (c : Nat) (d : MsgD) (h : S[c]? = some d) : fieldsOf S c = d.fields := by
  simp [fieldsOf, h]

theorem getD_setAt_ne (xs : List Val) (i j : Nat) (v : Val) (h : i ≠ j) :
    (setAt xs i v).getD j .ph = xs.getD j .ph := by
  unfold setAt
  simp [List.getD_eq_getElem?_getD, h]

theorem getD_setAt_self (xs : List Val) (i : Nat) (v : Val) (h : i < xs.length) : (setAt xs i v).getD i .ph = v := by
  unfold setAt; simp [List.getD_eq_getElem?_getD, h]

theorem setAt_setAt (xs : List Val) (i : Nat) (a b : Val) : setAt (setAt xs i a) i b = setAt xs i b := by
  unfold setAt; simp [List.set_set]

theorem setAt_length (xs : List Val) (i : Nat) (v : Val) : (setAt xs i v).length = xs.length := by
  simp [setAt]

/-- oneof group of the k-th declared field (none: no such field, or not in a oneof) -/
def grp (fs : List FieldD) (k : Nat) : Option Nat := (fs[k]?).bind (·.group)

theorem grp_of (fs : List FieldD) (k : Nat) (f : FieldD) (h : fs[k]? = some f) : grp fs k = f.group := by
  simp [grp, h]

/-- both lists of the state, the slots and the selection, are updated by `List.set` -/
theorem getD_set {α : Type} (xs : List α) (i k : Nat) (v d : α) :
    (xs.set i v).getD k d = if k = i ∧ i < xs.length then v else xs.getD k d := by
  simp only [List.getD_eq_getElem?_getD, List.getElem?_set]
  by_cases h : i = k
  · subst h
    by_cases hl : i < xs.length
    · simp [hl]
    · simp [hl]
  · have : ¬ (k = i ∧ i < xs.length) := fun hh => h hh.1.symm
    simp [h, this]

theorem setAt_getD (xs : List Val) (i k : Nat) (v : Val) :
    (setAt xs i v).getD k .ph = if k = i ∧ i < xs.length then v else xs.getD k .ph := getD_set xs i k v .ph

theorem grp_nil (k : Nat) : grp [] k = Option.none := rfl
theorem grp_cons_zero (f : FieldD) (fs : List FieldD) : grp (f :: fs) 0 = f.group := rfl
theorem grp_cons_succ (f : FieldD) (fs : List FieldD) (k : Nat) : grp (f :: fs) (k + 1) = grp fs k := rfl

theorem resetGroup_eq (g idx : Nat) (fs : List FieldD) (ss : List Val) (j : Nat) :
    resetGroup g idx fs ss j = ss.mapIdx fun k s => if grp fs k = some g ∧ j + k ≠ idx then Val.ph else s := by
  induction fs generalizing ss j with
  | nil =>
    rw [show resetGroup g idx [] ss j = ss by cases ss <;> rfl]
    exact List.ext_getElem? fun k => by simp [grp_nil]
  | cons f fs ih =>
    cases ss with
    | nil => rfl
    | cons s ss =>
      rw [resetGroup, ih, List.mapIdx_cons]
      simp [grp_cons_zero, grp_cons_succ, Nat.add_assoc, Nat.add_comm 1]
      rfl

theorem resetGroup_length (g idx : Nat) (fs : List FieldD) (ss : List Val) (j : Nat) :
    (resetGroup g idx fs ss j).length = ss.length := by
  rw [resetGroup_eq, List.length_mapIdx]

theorem resetGroup_getD (g idx : Nat) (fs : List FieldD) (ss : List Val) (j k : Nat) :
    (resetGroup g idx fs ss j).getD k .ph
      = if grp fs k = some g ∧ j + k ≠ idx then Val.ph else ss.getD k .ph := by
  rw [resetGroup_eq, List.getD_eq_getElem?_getD, List.getD_eq_getElem?_getD, List.getElem?_mapIdx]
  cases ss[k]? <;> simp

/-- the value `__setattr__` actually stores (an empty-class message is marked on the wire) -/
def storedVal (S : Schema) : Val → Val
  | .msg c sl ow unk cur => if (fieldsOf S c).isEmpty then Val.msg c sl true unk cur else .msg c sl ow unk cur
  | v => v

theorem storedVal_eq (S : Schema) (v : Val) : storedVal S v = markEmpty S v := by cases v <;> rfl

section SetAttr
variable (S : Schema) (fs : List FieldD) (st : MState) (idx : Nat) (v : Val)

theorem setAttr_eq :
    setAttr S fs st idx v =
      match fs[idx]? with
      | Option.none => st
      | some f =>
        match f.group with
        | Option.none => { st with onWire := true, slots := setAt st.slots idx (storedVal S v) }
        | some g => { st with onWire := true, cur := st.cur.set g (some idx),
                              slots := setAt (resetGroup g idx fs st.slots 0) idx (storedVal S v) } := by
  unfold setAttr storedVal
  cases v <;> rfl

theorem setAttr_none (h : fs[idx]? = Option.none) : setAttr S fs st idx v = st := by rw [setAttr_eq, h]

theorem setAttr_slots_length : (setAttr S fs st idx v).slots.length = st.slots.length := by
  rw [setAttr_eq]
  cases fs[idx]? with
  | none => rfl
  | some f =>
    dsimp only
    cases f.group with
    | none => simp [setAt_length]
    | some g => simp [setAt_length, resetGroup_length]

theorem setAttr_cur_length : (setAttr S fs st idx v).cur.length = st.cur.length := by
  rw [setAttr_eq]
  cases fs[idx]? with
  | none => rfl
  | some f =>
    dsimp only
    cases f.group with
    | none => rfl
    | some g => simp

theorem setAttr_slots_getD (f : FieldD) (hf : fs[idx]? = some f) (k : Nat) :
    (setAttr S fs st idx v).slots.getD k .ph
      = if k = idx ∧ idx < st.slots.length then storedVal S v
        else if f.group.isSome ∧ grp fs k = f.group ∧ k ≠ idx then Val.ph
        else st.slots.getD k .ph := by
  rw [setAttr_eq, hf]
  dsimp only
  cases hg : f.group with
  | none =>
    show (setAt st.slots idx (storedVal S v)).getD k .ph = _
    rw [setAt_getD]
    simp
  | some g =>
    show (setAt (resetGroup g idx fs st.slots 0) idx (storedVal S v)).getD k .ph = _
    rw [setAt_getD, resetGroup_length, resetGroup_getD]
    simp only [Nat.zero_add, Option.isSome_some, true_and]

theorem setAttr_cur_getD (f : FieldD) (hf : fs[idx]? = some f) (g' : Nat) :
    (setAttr S fs st idx v).cur.getD g' Option.none
      = if f.group = some g' ∧ g' < st.cur.length then some idx else st.cur.getD g' Option.none := by
  rw [setAttr_eq, hf]
  dsimp only
  cases hg : f.group with
  | none => simp
  | some g =>
    simp only [getD_set]
    by_cases e : g' = g
    · subst e; simp
    · have : ¬ (some g = some g') := fun h => e (Option.some.inj h).symm
      simp [e, this]

theorem setAttr_onWire (f : FieldD) (hf : fs[idx]? = some f) : (setAttr S fs st idx v).onWire = true := by
  rw [setAttr_eq, hf]
  dsimp only
  cases f.group <;> rfl

end SetAttr

theorem setAt_resetGroup_congr (g idx : Nat) (fs : List FieldD) (s1 s : List Val) (b : Val)
    (hl : s1.length = s.length)
    (h : ∀ k, k ≠ idx → grp fs k ≠ some g → s1.getD k .ph = s.getD k .ph) :
    setAt (resetGroup g idx fs s1 0) idx b = setAt (resetGroup g idx fs s 0) idx b := by
  apply list_ext_getD Val.ph _ _ (by simp only [setAt_length, resetGroup_length, hl])
  intro k
  rw [setAt_getD, setAt_getD, resetGroup_length, resetGroup_length, hl]
  by_cases hk : k = idx ∧ idx < s.length
  · rw [if_pos hk, if_pos hk]
  · rw [if_neg hk, if_neg hk, resetGroup_getD, resetGroup_getD]
    by_cases hg : grp fs k = some g ∧ 0 + k ≠ idx
    · rw [if_pos hg, if_pos hg]
    · rw [if_neg hg, if_neg hg]
      by_cases hki : k = idx
      · have : ¬ k < s.length := fun hc => hk ⟨hki, hki ▸ hc⟩
        rw [List.getD_eq_getElem?_getD, List.getD_eq_getElem?_getD, List.getElem?_eq_none (by omega),
          List.getElem?_eq_none (by omega)]
      · exact h k hki (fun hc => hg ⟨hc, by omega⟩)

theorem isSentinel_iff (f : FieldD) (v : Val) : isSentinel f v = true ↔ SentinelAt f v := by
  unfold SentinelAt
  cases v <;> simp [isSentinel]

/-- the invariant only looks at WHICH of the slots `getattr` refuses are unset: an operation that leaves the
    selection alone and the sentinel-ness of those slots as it was preserves it (the reads, the copies) -/
theorem inv_of_sentinel_eq {fs : List FieldD} {n : Nat} {st : MState} (h : Inv fs n st) (sl : List Val)
    (he : ∀ i f, fs[i]? = some f → hidden f i st.cur = true →
      isSentinel f (sl.getD i .ph) = isSentinel f (st.slots.getD i .ph)) :
    Inv fs n { st with slots := sl } := by
  refine ⟨h.1, fun i f g hf hg hcur => ?_⟩
  rw [← isSentinel_iff, he i f hf (hidden_of_cur_ne f i g _ hg hcur), isSentinel_iff]
  exact h.2 i f g hf hg hcur

theorem setSlot_inv (fs : List FieldD) (n : Nat) (st : MState) (idx : Nat) (f : FieldD) (v : Val)
    (hf : fs[idx]? = some f) (hvis : hidden f idx st.cur = false) (h : Inv fs n st) :
    Inv fs n { st with slots := setAt st.slots idx v } :=
  inv_of_sentinel_eq h _ fun i fi hfi hh => by
    rw [getD_setAt_ne]
    rintro rfl
    rw [hf] at hfi; cases hfi
    rw [hvis] at hh; cases hh

theorem setAttr_inv (S : Schema) (fs : List FieldD) (n : Nat) (st : MState) (idx : Nat) (v : Val)
    (hw : WfGroups fs n) (h : Inv fs n st) : Inv fs n (setAttr S fs st idx v) := by
  cases hf : fs[idx]? with
  | none => rwa [setAttr_none S fs st idx v hf]
  | some f =>
    refine ⟨by rw [setAttr_cur_length, h.1], fun i fi gi hfi hgi hcur => ?_⟩
    rw [setAttr_cur_getD S fs st idx v f hf gi] at hcur
    rw [setAttr_slots_getD S fs st idx v f hf i]
    -- the assigned member is the new selection of its group, so `i` is another slot
    have hne : i ≠ idx := by
      rintro rfl
      obtain rfl : f = fi := Option.some.inj (hf.symm.trans hfi)
      exact hcur (if_pos ⟨hgi, h.1 ▸ hw f (List.mem_of_getElem? hf) gi hgi⟩)
    rw [if_neg (fun hc => hne hc.1)]
    by_cases hg : f.group = some gi
    · exact Or.inl (if_pos ⟨by rw [hg]; rfl, by rw [grp_of fs i fi hfi, hgi, hg], hne⟩)
    · rw [if_neg (fun hc => hg hc.1)] at hcur
      rw [if_neg (fun hc => hg (by rw [← hc.2.1, grp_of fs i fi hfi, hgi]))]
      exact h.2 i fi gi hfi hgi hcur

/-- after assigning member `idx` of group `g` — any value, its default included — it is the
    selected member -/
theorem setAttr_selects (S : Schema) (fs : List FieldD) (st : MState) (idx : Nat) (v : Val) (f : FieldD) (g : Nat)
    (hf : fs[idx]? = some f) (hg : f.group = some g) (hl : g < st.cur.length) :
    (setAttr S fs st idx v).cur.getD g Option.none = some idx := by
  rw [setAttr_cur_getD S fs st idx v f hf g, if_pos ⟨hg, hl⟩]

/-- `__post_init__` looking at one field: a set member of a group becomes its selection -/
def initStep (f : FieldD) (v : Val) (i : Nat) (cur : List (Option Nat)) : List (Option Nat) :=
  match f.group with
  | some g => if !isSentinel f v then cur.set g (some i) else cur
  | Option.none => cur

theorem initCur_cons (f : FieldD) (fs : List FieldD) (v : Val) (vs : List Val) (i : Nat) (cur : List (Option Nat)) :
    initCur (f :: fs) (v :: vs) i cur = initCur fs vs (i + 1) (initStep f v i cur) := rfl

theorem initStep_length (f : FieldD) (v : Val) (i : Nat) (cur : List (Option Nat)) :
    (initStep f v i cur).length = cur.length := by
  unfold initStep
  cases f.group with
  | none => rfl
  | some g => dsimp only; split <;> simp

theorem initStep_getD (f : FieldD) (v : Val) (i : Nat) (cur : List (Option Nat)) (g : Nat) :
    (initStep f v i cur).getD g Option.none
      = if f.group = some g ∧ isSentinel f v = false ∧ g < cur.length then some i else cur.getD g Option.none := by
  unfold initStep
  cases hg : f.group with
  | none => simp
  | some g' =>
    cases hs : isSentinel f v
    · simp only [Bool.not_false, if_true, getD_set, Option.some.injEq, true_and]
      by_cases e : g' = g
      · subst e; rfl
      · simp only [e, Ne.symm e, false_and, if_false]
    · simp

theorem initCur_length (fs : List FieldD) (vs : List Val) (i : Nat) (cur : List (Option Nat)) :
    (initCur fs vs i cur).length = cur.length := by
  fun_induction initCur fs vs i cur with
  | case1 f fs v vs i cur ih => rw [ih]; exact initStep_length f v i cur
  | case2 => rfl

theorem initCur_untouched (fs : List FieldD) (vs : List Val) (i : Nat) (cur : List (Option Nat)) (g : Nat)
    (h : ∀ k f, fs[k]? = some f → f.group = some g → isSentinel f (vs.getD k .ph) = true) :
    (initCur fs vs i cur).getD g Option.none = cur.getD g Option.none := by
  fun_induction initCur fs vs i cur with
  | case1 f fs v vs i cur ih =>
    refine (ih fun k f' hk hg => h (k + 1) f' hk hg).trans ((initStep_getD f v i cur g).trans (if_neg ?_))
    intro ⟨hg, hs, _⟩
    have := h 0 f rfl hg
    rw [List.getD_cons_zero, hs] at this
    cases this
  | case2 => rfl

/-- the last set member of a group is the one `__post_init__` selects -/
theorem initCur_last (fs : List FieldD) (vs : List Val) (i0 : Nat) (cur : List (Option Nat)) (g k : Nat) (f : FieldD)
    (hl : g < cur.length) (hf : fs[k]? = some f) (hg : f.group = some g)
    (hset : isSentinel f (vs.getD k .ph) = false)
    (hlater : ∀ k' f', k < k' → fs[k']? = some f' → f'.group = some g → isSentinel f' (vs.getD k' .ph) = true) :
    (initCur fs vs i0 cur).getD g Option.none = some (i0 + k) := by
  induction fs generalizing vs i0 cur k with
  | nil => cases hf
  | cons f0 fs ih =>
    cases vs with
    | nil => cases hset
    | cons v vs =>
      rw [initCur_cons]
      cases k with
      | zero =>
        obtain rfl : f0 = f := Option.some.inj hf
        rw [initCur_untouched _ _ _ _ _ (fun k' f' hk' hg' => hlater (k' + 1) f' (Nat.succ_pos k') hk' hg'),
          initStep_getD, if_pos ⟨hg, hset, hl⟩]
        rfl
      | succ k =>
        rw [ih vs (i0 + 1) _ k (by rw [initStep_length]; exact hl) hf hset
          (fun k' f' hk' hf' hg' => hlater (k' + 1) f' (Nat.succ_lt_succ hk') hf' hg')]
        congr 1; omega

/-- **under the oneof invariant `__post_init__` re-derives exactly the stored selection** -/
theorem initCur_eq_cur (fs : List FieldD) (n : Nat) (sl : List Val) (cur : List (Option Nat))
    (hw : WfGroups fs n)
    (hopt : ∀ f ∈ fs, f.group.isSome = true → f.optional = false)
    (hlen : cur.length = n)
    (h5 : ∀ g i, cur.getD g Option.none = some i → ∃ f, fs[i]? = some f ∧ f.group = some g)
    (h6 : ∀ i f g, fs[i]? = some f → f.group = some g → cur.getD g Option.none ≠ some i → sl.getD i .ph = Val.ph)
    (h7 : ∀ g i, cur.getD g Option.none = some i → sl.getD i .ph ≠ Val.ph) :
    initCur fs sl 0 (List.replicate n Option.none) = cur := by
  apply list_ext_getD Option.none _ _ (by rw [initCur_length]; simp [hlen])
  intro g
  cases hc : cur.getD g Option.none with
  | none =>
    rw [initCur_untouched]
    · simp [List.getD_eq_getElem?_getD, List.getElem?_replicate]
      split <;> rfl
    · intro k f hf hg
      rw [h6 k f g hf hg (by rw [hc]; simp)]
      rfl
  | some i =>
    obtain ⟨f, hf, hg⟩ := h5 g i hc
    have hmem : f ∈ fs := List.mem_of_getElem? hf
    have hgn : g < n := hw f hmem g hg
    have ho : f.optional = false := hopt f hmem (by simp [hg])
    have hset : isSentinel f (sl.getD i .ph) = false := by
      have hne := h7 g i hc
      cases hv : sl.getD i .ph with
      | ph => exact absurd hv hne
      | none => simp [isSentinel, ho]
      | _ => rfl
    have := initCur_last fs sl 0 (List.replicate n Option.none) g i f (by simp [hgn]) hf hg hset
      (by
        intro k' f' hk hf' hg'
        rw [h6 k' f' g hf' hg' (by rw [hc]; intro e; injection e with e; omega)]
        rfl)
    rw [this]; simp

/-- at most one member of each group is set in the raw slots -/
def AtMostOne (fs : List FieldD) (vs : List Val) : Prop :=
  ∀ i j fi fj g, fs[i]? = some fi → fs[j]? = some fj → fi.group = some g → fj.group = some g →
    isSentinel fi (vs.getD i .ph) = false → isSentinel fj (vs.getD j .ph) = false → i = j

/-- the invariant read the other way round: a set member of a group is the selected one -/
theorem inv_iff_selects (fs : List FieldD) (n : Nat) (st : MState) :
    Inv fs n st ↔ st.cur.length = n ∧ ∀ i f g, fs[i]? = some f → f.group = some g →
      isSentinel f (st.slots.getD i .ph) = false → st.cur.getD g Option.none = some i := by
  refine and_congr_right fun _ => forall_congr' fun i => forall_congr' fun f => forall_congr' fun g =>
    imp_congr_right fun _ => imp_congr_right fun _ => ?_
  rw [← isSentinel_iff, ← not_imp_not, Bool.not_eq_true, Ne, Decidable.not_not]

theorem postInit_inv (fs : List FieldD) (n : Nat) (vs : List Val) (ow : Bool) (unk : Bytes)
    (hw : WfGroups fs n) (h1 : AtMostOne fs vs) :
    Inv fs n { slots := vs, onWire := ow, unknown := unk,
               cur := initCur fs vs 0 (List.replicate n Option.none) } := by
  refine (inv_iff_selects _ _ _).mpr ⟨by simp [initCur_length], fun i f g hf hg hs => ?_⟩
  -- it is the only set member of its group, hence the last
  refine (initCur_last fs vs 0 _ g i f (by simp [hw f (List.mem_of_getElem? hf) g hg]) hf hg hs
    fun k' f' hk hf' hg' => ?_).trans (by simp)
  by_contra hc
  have := h1 i k' f f' g hf hf' hg hg' hs (by simpa using hc)
  omega

theorem inv_atMostOne (fs : List FieldD) (n : Nat) (st : MState) (h : Inv fs n st) : AtMostOne fs st.slots := by
  intro i j fi fj g hfi hfj hgi hgj hi hj
  have sel := ((inv_iff_selects _ _ _).mp h).2
  exact Option.some.inj ((sel i fi g hfi hgi hi).symm.trans (sel j fj g hfj hgj hj))

theorem deepCopy_sentinel (S : Schema) (f : FieldD) (v : Val) :
    isSentinel f (deepCopy S v) = isSentinel f v := by
  cases v <;> simp [deepCopy, isSentinel]

theorem deepCopySlots_cons (S : Schema) (f : FieldD) (fs : List FieldD) (v : Val) (vs : List Val) :
    deepCopySlots S (f :: fs) (v :: vs) =
      (match v with
       | .ph => if f.optional then Val.none else Val.ph
       | v => deepCopy S v) :: deepCopySlots S fs vs := by
  cases v <;> rfl

/-- a slot of a copy: PLACEHOLDER becomes the dataclass default of the fresh instance, anything else its
    copy `g v` -/
def copySlot (g : Val → Val) (p : Val × FieldD) : Val :=
  match p.1 with
  | .ph => if p.2.optional then Val.none else Val.ph
  | v => g v

theorem deepCopySlots_eq (S : Schema) (fs : List FieldD) (sl : List Val) :
    deepCopySlots S fs sl = (sl.zip fs).map (copySlot (deepCopy S)) := by
  induction fs generalizing sl with
  | nil => cases sl <;> rfl
  | cons f fs ih =>
    cases sl with
    | nil => rfl
    | cons v vs => rw [deepCopySlots_cons, ih]; rfl

/-- a copied slot is unset exactly when the original is -/
theorem copySlots_sentinel (g : Val → Val) (hg : ∀ f v, isSentinel f (g v) = isSentinel f v) (fs : List FieldD)
    (sl : List Val) (i : Nat) (fi : FieldD) (hf : fs[i]? = some fi) :
    isSentinel fi (((sl.zip fs).map (copySlot g)).getD i .ph) = isSentinel fi (sl.getD i .ph) := by
  rw [List.getD_eq_getElem?_getD, List.getD_eq_getElem?_getD, List.getElem?_map, List.zip_eq_zipWith,
    List.getElem?_zipWith, hf]
  cases sl[i]? with
  | none => rfl
  | some v =>
    cases v
    case ph => cases ho : fi.optional <;> simp [copySlot, isSentinel, ho]
    all_goals exact hg _ _

theorem atMostOne_of_sentinel_eq (fs : List FieldD) (vs vs' : List Val)
    (he : ∀ i fi, fs[i]? = some fi → isSentinel fi (vs'.getD i .ph) = isSentinel fi (vs.getD i .ph))
    (h : AtMostOne fs vs) : AtMostOne fs vs' := by
  intro i j fi fj g hfi hfj hgi hgj hi hj
  rw [he i fi hfi] at hi
  rw [he j fj hfj] at hj
  exact h i j fi fj g hfi hfj hgi hgj hi hj

/-- `copy.copy` is `g = id`, `copy.deepcopy` is `g = deepCopy S` (`deepCopySlots_eq`) -/
theorem copy_inv {fs : List FieldD} {n : Nat} {st : MState} (h : Inv fs n st) (g : Val → Val)
    (hg : ∀ f v, isSentinel f (g v) = isSentinel f v) :
    Inv fs n { st with slots := (st.slots.zip fs).map (copySlot g) } :=
  inv_of_sentinel_eq h _ fun i fi hf _ => copySlots_sentinel g hg fs _ i fi hf

/-- what a read of slot `i` leaves in it -/
def materializeAt (S : Schema) (fs : List FieldD) (cur : List (Option Nat)) (i : Nat) (v : Val) : Val :=
  match fs[i]? with
  | some f => if hidden f i cur then v else materialize S f v
  | Option.none => v

theorem materializeAt_of_ne_ph (S : Schema) (fs : List FieldD) (cur : List (Option Nat)) (i : Nat) {v : Val}
    (h : v ≠ .ph) : materializeAt S fs cur i v = v := by
  unfold materializeAt
  cases fs[i]? with
  | none => rfl
  | some f => simp only [materialize_of_ne_ph S f h, ite_self]

theorem materializeAll_eq (S : Schema) (fs : List FieldD) (cur : List (Option Nat)) (j : Nat) (vs : List Val) :
    materializeAll S fs cur j vs = vs.mapIdx fun k v => materializeAt S fs cur (j + k) v := by
  induction vs generalizing j with
  | nil => rfl
  | cons v vs ih =>
    rw [materializeAll, ih, List.mapIdx_cons]
    simp only [Nat.add_assoc, Nat.add_comm 1]
    rfl

theorem materializeAll_length (S : Schema) (fs : List FieldD) (cur : List (Option Nat)) (j : Nat) (vs : List Val) :
    (materializeAll S fs cur j vs).length = vs.length := by
  rw [materializeAll_eq, List.length_mapIdx]

theorem materializeAll_inv (S : Schema) (fs : List FieldD) (n : Nat) (st : MState) (h : Inv fs n st) :
    Inv fs n { st with slots := materializeAll S fs st.cur 0 st.slots } :=
  inv_of_sentinel_eq h _ fun i f hf hh => by
    -- a hidden member is not read
    have hid : materializeAt S fs st.cur (0 + i) = id :=
      funext fun v => by simp only [materializeAt, Nat.zero_add, hf, hh, if_true, id]
    rw [materializeAll_eq, List.getD_eq_getElem?_getD, List.getElem?_mapIdx, hid, Option.map_id, id_eq,
      ← List.getD_eq_getElem?_getD]

section GetAttr
variable (S : Schema) (fs : List FieldD) (st : MState) (idx : Nat)

theorem getAttr_hidden (f : FieldD) (hf : fs[idx]? = some f) (hh : hidden f idx st.cur = true) :
    getAttr S fs st idx = .error .attr := by
  unfold getAttr; rw [hf]; simp only [hh, if_true]

theorem getAttr_visible (f : FieldD) (hf : fs[idx]? = some f) (hh : hidden f idx st.cur = false) :
    getAttr S fs st idx = .ok (materialize S f (st.slots.getD idx .ph),
      { st with slots := setAt st.slots idx (materialize S f (st.slots.getD idx .ph)) }) := by
  unfold getAttr; rw [hf]; simp only [hh, Bool.false_eq_true, if_false]

theorem getAttr_ok {v : Val} {st' : MState} (h : getAttr S fs st idx = .ok (v, st')) :
    ∃ f, fs[idx]? = some f ∧ hidden f idx st.cur = false ∧ v = materialize S f (st.slots.getD idx .ph)
      ∧ st' = { st with slots := setAt st.slots idx v } := by
  cases hf : fs[idx]? with
  | none => simp [getAttr, hf] at h
  | some f =>
    cases hh : hidden f idx st.cur with
    | true => rw [getAttr_hidden S fs st idx f hf hh] at h; cases h
    | false => rw [getAttr_visible S fs st idx f hf hh] at h; cases h; exact ⟨f, rfl, hh, rfl, rfl⟩

end GetAttr

theorem getAttr_inv (S : Schema) (fs : List FieldD) (n : Nat) (st st' : MState) (idx : Nat) (v : Val)
    (h : Inv fs n st) (hg : getAttr S fs st idx = .ok (v, st')) : Inv fs n st' := by
  obtain ⟨f, hf, hh, _, rfl⟩ := getAttr_ok S fs st idx hg
  exact setSlot_inv fs n st idx f _ hf hh h

theorem applyKw_inv (S : Schema) (fs : List FieldD) (n : Nat) (kw : List (Nat × Val)) (st : MState)
    (hw : WfGroups fs n) (h : Inv fs n st) : Inv fs n (applyKw S fs st kw) := by
  induction kw generalizing st with
  | nil => exact h
  | cons p kw ih => obtain ⟨i, v⟩ := p; exact ih _ (setAttr_inv S fs n st i v hw h)

theorem fresh_inv (S : Schema) (c : Nat) :
    Inv (fieldsOf S c) (groupsOf S c) (freshState { fields := fieldsOf S c, nGroups := groupsOf S c }) := by
  refine ⟨by simp [freshState], ?_⟩
  intro i f g hf _ _
  simp only [freshState, List.getD_eq_getElem?_getD, List.getElem?_map, hf, Option.map_some, Option.getD_some]
  unfold SentinelAt
  by_cases ho : f.optional = true
  · simp [ho]
  · simp [ho]

/-- an operation that succeeds takes the state of an instance to a state of the same class; `parse` and the
    unpickling half of `pickle` are both a `load`, into the instance's state or into a fresh one (`hload`), the
    two copies differ in what they do to a value (`hcopy`) -/
theorem stepOp_elim (S : Schema) (c : Nat) (st : MState) (op : Op) (m' : Val)
    (hs : stepOp S (st.toVal c) op = .ok m') (P : MState → Prop)
    (hset : ∀ idx v, P (setAttr S (fieldsOf S c) st idx v))
    (hget : ∀ idx v st', getAttr S (fieldsOf S c) st idx = .ok (v, st') → P st')
    (hload : ∀ st0 bs st', st0 = st ∨ st0 = freshState ⟨fieldsOf S c, groupsOf S c⟩ →
      loadInto S (bs.length + 1) ⟨fieldsOf S c, groupsOf S c⟩ st0 bs = .ok st' → P st')
    (hkw : ∀ kw, P (applyKw S (fieldsOf S c) { st with onWire := true } kw))
    (hcopy : ∀ g, g = id ∨ g = deepCopy S → P { st with slots := (st.slots.zip (fieldsOf S c)).map (copySlot g) })
    (hread : P { st with slots := materializeAll S (fieldsOf S c) st.cur 0 st.slots }) (hraw : P st) :
    ∃ st', m' = st'.toVal c ∧ P st' := by
  obtain ⟨sl, ow, unk, cur⟩ := st
  have hd : ∀ d, S[c]? = some d → d = ⟨fieldsOf S c, groupsOf S c⟩ := fun d h => by simp [fieldsOf, groupsOf, h]
  unfold stepOp at hs
  simp only [MState.toVal, stateOf] at hs
  cases op with
  | setattr idx v =>
    simp only at hs
    split at hs
    · cases hs; exact ⟨_, rfl, hset idx v⟩
    · cases hs
  | getattr idx =>
    simp only at hs
    cases hg : getAttr S (fieldsOf S c) ⟨sl, ow, unk, cur⟩ idx with
    | error e => rw [hg] at hs; cases hs
    | ok r => rw [hg] at hs; cases hs; exact ⟨_, rfl, hget idx r.1 r.2 hg⟩
  | parse bs =>
    obtain ⟨d, st', hc, hl, rfl⟩ := parseInto_ok S c sl ow unk cur bs m' hs
    obtain rfl := hd d hc
    exact ⟨_, rfl, hload _ bs st' (Or.inl rfl) hl⟩
  | fromDict kw => cases hs; exact ⟨_, rfl, hkw kw⟩
  | copy => cases hs; exact ⟨_, rfl, hcopy id (Or.inl rfl)⟩
  | deepcopy =>
    cases hs
    exact ⟨_, by rw [deepCopy, deepCopySlots_eq]; rfl, hcopy _ (Or.inr rfl)⟩
  | pickle =>
    simp only at hs
    cases hb : dumpVal S (.msg c sl ow unk cur) with
    | error e => rw [hb] at hs; cases hs
    | ok bs =>
      rw [hb] at hs
      obtain ⟨d, st', hc, hl, rfl⟩ := parseInto_ok S c _ _ _ _ bs m' hs
      obtain rfl := hd d hc
      exact ⟨_, rfl, hload _ bs st' (Or.inr rfl) hl⟩
  | readAll => cases hs; exact ⟨_, rfl, hread⟩
  | rawObs => cases hs; exact ⟨_, rfl, hraw⟩

end Bp

#print axioms Bp.initCur_eq_cur
