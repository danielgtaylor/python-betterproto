import BpProofs.SrcTieJsonMsg
/-
  The value guard `vOkAt` of the whole-method writer tie follows from the typing judgement of C04 / C05
  (`wellTyped'`) and `kOkAt k m`: every dict at every nesting level has pairwise distinct keys (what a Python
  dict is; the typing judgement does not say it) and the Message instances nest at most `k` levels deep.
  Proved as `C04.src_value_guard_of_typed` (Props/C04SrcMsg.lean) from the lemmas below.
-/
namespace Bp.SrcTieJsonMsg
open Bp Bp.Py Gen Bp.SrcTieJson

/-- pairwise distinct dict keys at every nesting level, at most `k` nested levels of Message instances
    (decidable; recursion on the budget) -/
def kOkAt : Nat → Val → Bool
  | 0, _ => false
  | k + 1, .msg _ sl _ _ _ => sl.all fun v => keysDistinct v && (subs v).all fun x => !isMsgVal x || kOkAt k x
  | _ + 1, _ => false

theorem vOkAt_mono (S : Schema) : ∀ (k : Nat) (m : Val), vOkAt S k m = true → vOkAt S (k + 1) m = true
  | 0, m, h => by simp [vOkAt] at h
  | k + 1, m, h => by
    cases m with
    | msg c sl ow unk cur =>
      simp only [vOkAt, Bool.and_eq_true, beq_iff_eq, List.all_eq_true, Bool.or_eq_true, Bool.not_eq_true'] at h ⊢
      exact ⟨h.1, fun p hp => ⟨(h.2 p hp).1, fun x hx => ((h.2 p hp).2 x hx).imp id (vOkAt_mono S k x)⟩⟩
    | _ => simp [vOkAt] at h

theorem slotsOk'_get (S : Schema) (fs : List FieldD) (cur : List (Option Nat)) :
    ∀ (vs : List Val) (i : Nat), slotsOk' S fs cur i vs = true → ∀ (j : Nat) (f : FieldD) (v : Val),
      fs[i + j]? = some f → vs[j]? = some v →
      slotOk' S f (hidden f (i + j) cur) (selectedInGroup f (i + j) cur) v = true
  | [], _, _, j, f, v, _, hv => by simp at hv
  | w :: vs, i, h, j, f, v, hf, hv => by
    rw [slotsOk', Bool.and_eq_true] at h
    cases j with
    | zero =>
      cases hv
      rw [Nat.add_zero] at hf ⊢
      rw [hf] at h
      exact h.1
    | succ j =>
      rw [show i + (j + 1) = i + 1 + j by omega] at hf ⊢
      exact slotsOk'_get S fs cur vs (i + 1) h.2 j f v hf (by simpa using hv)

/-- in `slotOk'`, `itemsOk'` and `mapValsOk'` the clause of a Message instance ends with the four conjuncts of
    `wellTyped'` -/
theorem and_tail4 (p a b c d : Bool) (h : (p && a && b && c && d) = true) : (a && b && c && d) = true := by
  cases p
  · simp at h
  · simpa using h

theorem items_typed (S : Schema) (f : FieldD) : ∀ (xs : List Val), itemsOk' S f xs = true → ∀ x ∈ xs,
    isMsgVal x = true → wellTyped' S x = true
  | [], _, x, hx, _ => by simp at hx
  | y :: ys, h, x, hx, hm => by
    rcases List.mem_cons.mp hx with rfl | hx
    · cases x with
      | msg c sl ow unk cur =>
        rw [itemsOk', Bool.and_eq_true] at h
        rw [wellTyped']
        exact and_tail4 _ _ _ _ _ h.1
      | _ => cases hm
    · exact items_typed S f ys (itemsOk'_cons S f y ys h).1 x hx hm

theorem mapVals_typed (S : Schema) (f : FieldD) : ∀ (xs : List Val), mapValsOk' S f xs = true → ∀ x ∈ xs,
    isMsgVal x = true → wellTyped' S x = true
  | [], _, x, hx, _ => by simp at hx
  | y :: ys, h, x, hx, hm => by
    rcases List.mem_cons.mp hx with rfl | hx
    · cases x with
      | msg c sl ow unk cur =>
        rw [mapValsOk', Bool.and_eq_true] at h
        rw [wellTyped']
        exact and_tail4 _ _ _ _ _ h.1
      | _ => cases hm
    · exact mapVals_typed S f ys (mapValsOk'_cons S f y ys h).1 x hx hm

theorem valOfType_not_msg (t : PType) (x : Val) (h : valOfType t x = true) : isMsgVal x = false := by
  cases x with
  | msg c sl ow unk cur => cases t <;> simp [valOfType] at h
  | _ => rfl

theorem subs_typed (S : Schema) (f : FieldD) (hid sel : Bool) (v : Val) (ht : slotOk' S f hid sel v = true)
    (x : Val) (hx : x ∈ subs v) (hm : isMsgVal x = true) : wellTyped' S x = true := by
  cases v with
  | list xs =>
    rw [slotOk', Bool.and_eq_true] at ht
    exact items_typed S f xs ht.2 x hx hm
  | dict ks vs =>
    rw [slotOk'] at ht
    simp only [Bool.and_eq_true, List.all_eq_true] at ht
    rcases List.mem_append.mp hx with hx | hx
    · rw [valOfType_not_msg _ _ (ht.1.2 x hx)] at hm; cases hm
    · exact mapVals_typed S f vs ht.2 x hx hm
  | msg c sl ow unk cur =>
    rw [List.mem_singleton.mp hx, wellTyped']
    rw [slotOk'] at ht
    exact and_tail4 _ _ _ _ _ ht
  | _ => cases hx

end Bp.SrcTieJsonMsg
