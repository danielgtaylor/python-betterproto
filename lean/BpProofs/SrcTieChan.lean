import BpProofs.Gen.SrcChan
import BpProofs.ChanTerm
/-
  The SOURCE TIE of C12: the methods of `AsyncChannel` as translated from the working tree
  (BpProofs/Gen/SrcChan.lean, resumption programs `Co`), run over the model's `asyncio.Queue`
  (BpProofs/PyPreludeChan.lean: `runSync`, `tryGet`, `tryPut`, `cancelWaiter`), ARE what `Chan.micro` does.

  * `frame fl t x` — the simulation relation: the coroutine state of task `t` when its model record is `x`
    (program counter `x.code`, suspension state `x.wait`): the start of the method the task's program is about to call
    (`receive` / `__anext__` — `fl t` says which —, `send`, `send_from`, `close`, `_flush_queue`), or the `await` node
    inside that method at which it is suspended / the loop head of `send_from` / `_flush_queue` it has reached.
  * `exec1` / `throwIn` — ONE SEGMENT STEP of the coroutine: synchronous commands; if an `await` is reached it is
    attempted; if it completes, the synchronous commands that follow — up to the next loop head (`Co.iter`), `await`, or
    the end of the method; resp. CancelledError thrown in at the await.  `exec2` = two such steps: a task that ENTERS
    `send_from` checks `_closed` and puts its first item in one atomic action of the model — the only place where the
    model's steps and the source's segments do not line up one to one (see `srcExec`).
  * `commit` — what the task's PROGRAM (the loops of harness/chanloop.py: `_sender`, `_receiver`, `_closer`) does with
    the method's result, and the new model record.
  * `micro_eq_srcMicro` (A): for every state and every task whose record is coherent (`Coh`: only a receiver is inside
    `get()`, only a sender / flusher with something left to put is inside `put()` — invariants of the reachable
    states), `micro s t = srcMicro fl s t`, for EVERY assignment `fl` of `receive` / `__anext__` to the receivers.
  * `StopOk` (B): the `Co` at which that run stopped is the `frame` of the record `commit` wrote.
  A and B together are the step of a simulation (stuttering only at the entry of `send_from`: `exec2`); they are the two
  halves of `src_step`, which walks the cases of a step once (`ready_step`, `blocked_step`);
  `run_eq`: hence `run = srcRun` from every state that satisfies the invariant, in particular `init`.
-/
namespace Bp.SrcTieChan
open Bp.Chan Bp.PyChan

/-- which method a receiver program calls: `receive()` or `__anext__()` (`async for`) -/
inductive Flavour where
  | receive | anext
deriving DecidableEq, Repr

/-- the items a sender task `t` still has to send: `(t, nx)`, `(t, nx + 1)`, … (`r` of them) -/
def items (t : Nat) : Nat → Nat → List Item
  | _, 0 => []
  | nx, r + 1 => .data t nx :: items t (nx + 1) r

def recvCo : Flavour → Co
  | .receive => SrcChan.receive
  | .anext => SrcChan.anext

/-- the `finally:` block of `receive` / `__anext__`, then `k` -/
def recvFin (k : Co) : Co := .getWaiting fun w => .setWaiting (w - (1 : Int)) k

/-- `receive` / `__anext__` after `await self._queue.get()` returned `result` -/
def getK : Flavour → Item → Co
  | .receive => fun result => .taskDone
      (if isFlush result then recvFin (.ret .none) else recvFin (.ret (.item result)))
      (fun e => recvFin (.raise e))
  | .anext => fun result => .taskDone
      (if isFlush result then recvFin (.raise .stopAsyncIteration) else recvFin (.ret (.item result)))
      (fun e => recvFin (.raise e))

/-- `receive` / `__anext__` when `await self._queue.get()` raises `e` -/
def getH (e : Exc) : Co := recvFin (.raise e)

/-- `receive` / `__anext__` at `await self._queue.get()` -/
def atGet (f : Flavour) : Co := .awaitGet (getK f) getH

/-- what follows the loop of `send_from` -/
def sendFromTail (cl : Bool) : Co := if cl then SrcChan.close (fun _ => .ret .self) else .ret .self

/-- the coroutine state of a task that is NOT suspended on a waiter future: the start of the method its program is
    about to call, or the loop head of `send_from` / `_flush_queue` it has reached -/
def frameReady (fl : Nat → Flavour) (t : Nat) : Code → Co
  | .receiver _ => recvCo (fl t)
  | .sender .each nx (_ + 1) _ => SrcChan.send (.data t nx)
  | .sender .each _ 0 cl => if cl then SrcChan.close (fun _ => .ret .none) else .ret .none
  | .sender .fromStart nx r cl => SrcChan.send_from (items t nx r) cl
  | .sender .fromRunning nx r cl => SrcChan.send_from_for1 (sendFromTail cl) (items t nx r)
  | .closer => SrcChan.close (fun _ => .ret .none)
  | .flusher none => SrcChan._flush_queue
  | .flusher (some r) => SrcChan._flush_queue_for1 (.ret .none) r
  | .canceller _ => .ret .none

/-- the `await` node a task is suspended at -/
def frameBlocked (fl : Nat → Flavour) (t : Nat) : Code → Co
  | .receiver _ => atGet (fl t)
  | .sender .each nx (_ + 1) _ => .awaitPut (.data t nx) (.ret .self) Co.raise
  | .sender _ nx (r + 1) cl => .awaitPut (.data t nx) (SrcChan.send_from_for1 (sendFromTail cl) (items t (nx + 1) r)) Co.raise
  | .flusher (some (r + 1)) => .awaitPut flush (SrcChan._flush_queue_for1 (.ret .none) r) Co.raise
  | _ => .ret .none

/-- the coroutine state of task `t` whose model record is `x` -/
def frame (fl : Nat → Flavour) (t : Nat) (x : Task) : Co :=
  match x.wait with
  | .blocked _ _ => frameBlocked fl t x.code
  | _ => frameReady fl t x.code

/-- where a run of a coroutine stopped -/
inductive Stop where
  | suspended (g : Bool) (c : Co)
  | atHead (c : Co)
  | returned (v : Val)
  | raised (e : Exc)

/-- where `runSync` stopped: the method returned / raised, or it is at a loop head (or at a further `await`) -/
def stopOf : Sys × Co → Sys × Stop
  | (s1, .ret v) => (s1, .returned v)
  | (s1, .raise e) => (s1, .raised e)
  | (s1, c1) => (s1, .atHead c1)

/-- ONE SEGMENT STEP of a coroutine that is at the start of a method, at a loop head or at an `await` (woken): run the
    synchronous commands; if an `await` is reached, attempt it (`none`: suspend); if it completes, run the synchronous
    commands that follow.  The step ends at the next loop head / await, or with the method. -/
def exec1 (t : Nat) (s : Sys) (c : Co) : Sys × Stop :=
  match runSync s (unIter c) with
  | (s1, .awaitGet k h) =>
    (match tryGet s1 with
     | none => (suspendOn s1 t true, .suspended true (.awaitGet k h))
     | some (it, s2) => stopOf (runSync s2 (k it)))
  | (s1, .awaitPut x k h) =>
    (match tryPut s1 x with
     | none => (suspendOn s1 t false, .suspended false (.awaitPut x k h))
     | some s2 => stopOf (runSync s2 k))
  | r => stopOf r

/-- TWO segment steps: the one that reaches the first loop head, and the next (`send_from` entered: the model checks
    `_closed` and puts the first item in one atomic action) -/
def exec2 (t : Nat) (s : Sys) (c : Co) : Sys × Stop :=
  match exec1 t s c with
  | (s1, .atHead c1) => exec1 t s1 c1
  | r => r

/-- CancelledError is thrown into the coroutine suspended at the `await` node `c` (its waiter future was in state `f`) -/
def throwIn (t : Nat) (s : Sys) (g : Bool) (f : Fut) (c : Co) : Sys × Stop :=
  match c with
  | .awaitGet _ h => stopOf (runSync (cancelWaiter s t g f) (h .cancelledError))
  | .awaitPut _ _ h => stopOf (runSync (cancelWaiter s t g f) (h .cancelledError))
  | _ => (s, .raised .cancelledError)

/-- how an exception that leaves the method ends the task's program: `_receiver` catches ChannelDone /
    the `async for` ends on StopAsyncIteration; `wait_for` turns a CancelledError into TimeoutError (`cancelOutcome`) -/
def outcomeOf (x : Task) : Exc → Outcome
  | .channelClosed => .chanClosed
  | .channelDone => .ok
  | .stopAsyncIteration => .ok
  | .cancelledError => cancelOutcome x
  | .valueError => .valueError

/-- the program counter of a task that suspends inside `put()` -/
def inPut : Code → Code
  | .sender m nx r cl => .sender m.running nx r cl
  | c => c

/-- the program counter after the step that stopped at a loop head (state `s0` before the step) -/
def nextCode (s0 : Sys) : Code → Code
  | .flusher none => .flusher (some (s0.waiting - s0.queue.length))
  | .sender m nx (r + 1) cl => .sender m.running (nx + 1) r cl
  | .flusher (some (r + 1)) => .flusher (some r)
  | c => c

/-- the task's program gets `v` back from the method it called -/
def driverRet (s : Sys) (t : Nat) (x : Task) (v : Val) : Sys :=
  match x.code, v with
  | .receiver _, .item it => { s.setTask t { x with wait := .ready } with recvLog := s.recvLog ++ [(t, it)] }
  | .sender .each nx (r + 1) cl, _ => s.setTask t { x with wait := .ready, code := .sender .each (nx + 1) r cl }
  | _, _ => finish s t x .ok

/-- the new record of the task (`s0`: the state before the step, `s`: after the run of the coroutine) -/
def commit (s0 s : Sys) (t : Nat) (x : Task) : Stop → Sys
  | .suspended g _ => s.setTask t { x with wait := .blocked g .pending, code := inPut x.code }
  | .atHead _ => s.setTask t { x with wait := .ready, code := nextCode s0 x.code }
  | .returned v => driverRet s t x v
  | .raised e => finish s t x (outcomeOf x e)

/-- the run of the coroutine of task `t` in one step (`none`: the step runs no channel code) -/
def srcExec (fl : Nat → Flavour) (s : Sys) (t : Nat) (x : Task) : Option (Sys × Stop) :=
  match x.wait with
  | .done => none
  | .blocked _ .pending => none
  | .blocked g .cancelled => some (throwIn t s g .cancelled (frame fl t x))
  | .blocked g .woken =>
    if x.mustCancel then some (throwIn t s g .woken (frame fl t x)) else some (exec1 t s (frame fl t x))
  | .ready =>
    if x.mustCancel then none else
    match x.code with
    | .canceller _ => none
    | .sender .fromStart _ _ _ => some (exec2 t s (frame fl t x))
    | _ => some (exec1 t s (frame fl t x))

/-- the steps that are asyncio's alone: a task that is not runnable; CancelledError thrown into a coroutine that has
    not started; a canceller -/
def asyncioOnly (s : Sys) (t : Nat) (x : Task) : Sys :=
  match x.wait with
  | .ready =>
    if x.mustCancel then finish s t x (cancelOutcome x) else
    (match x.code with
     | .canceller tg => cancelTask (finish s t x .ok) tg false
     | _ => s)
  | _ => s

/-- one atomic action of task `t`, by the translated source -/
def srcMicro (fl : Nat → Flavour) (s : Sys) (t : Nat) : Sys :=
  match s.tasks[t]? with
  | none => s
  | some x =>
    match srcExec fl s t x with
    | some r => commit s r.1 t x r.2
    | none => asyncioOnly s t x

/-- coherence of a task record: only a receiver is inside `Queue.get()`, only a sender / flusher with something left
    to put is inside `Queue.put()` (`SInv.getRecv`, `PutOk`: invariants of the reachable states) -/
def Coh (x : Task) : Prop :=
  (x.wait.inGet = true → x.code.isReceiver = true) ∧ (x.wait.inPut = true → canPut x.code = true)

/-- the new state after the run `r` of the coroutine of `t` -/
abbrev Cm (s : Sys) (t : Nat) (x : Task) (r : Sys × Stop) : Sys := commit s r.1 t x r.2

/-- `_wakeup_next` does not look at a task that is not a pending waiter -/
theorem wakeNext_set (g : Bool) (d : List Nat) (ts : List Task) (t : Nat) (x y : Task)
    (hx : ts[t]? = some x) (h1 : x.wait ≠ .blocked g .pending) (h2 : y.wait ≠ .blocked g .pending) :
    wakeNext g d (ts.set t y) = ((wakeNext g d ts).1, (wakeNext g d ts).2.set t y) := by
  have hl := getElem?_lt hx
  induction d with
  | nil => rfl
  | cons u rest ih =>
    by_cases hut : u = t
    · subst hut
      simp only [wakeNext, List.getElem?_set_self hl, hx, if_neg h1, if_neg h2]
      exact ih
    · have hu : (ts.set t y)[u]? = ts[u]? := List.getElem?_set_ne (fun e => hut e.symm)
      simp only [wakeNext, hu]
      cases hz : ts[u]? with
      | none => exact ih
      | some z =>
        simp only []
        split
        · simp only []
          rw [List.set_comm _ _ (fun e => hut e.symm)]
        · exact ih

theorem wake_setTask {g : Bool} {s : Sys} {t : Nat} {x y : Task} (hx : s.tasks[t]? = some x)
    (h1 : x.wait ≠ .blocked g .pending) (h2 : y.wait ≠ .blocked g .pending) :
    wake g (s.setTask t y) = (wake g s).setTask t y := by
  unfold wake Sys.setTask Sys.setDq Sys.dq
  cases g <;> simp [wakeNext_set _ _ _ _ _ _ hx h1 h2]

section proj
variable (g : Bool) (s : Sys)
theorem wake_maxsize : (wake g s).maxsize = s.maxsize := Chan.wake_maxsize g s
theorem wake_queue : (wake g s).queue = s.queue := Chan.wake_queue g s
theorem wake_unfinished : (wake g s).unfinished = s.unfinished := Chan.wake_unfinished g s
theorem wake_closed : (wake g s).closed = s.closed := Chan.wake_closed g s
theorem wake_flushed : (wake g s).flushed = s.flushed := Chan.wake_flushed g s
theorem wake_waiting : (wake g s).waiting = s.waiting := Chan.wake_waiting g s
theorem wake_putLog : (wake g s).putLog = s.putLog := Chan.wake_putLog g s
theorem wake_recvLog : (wake g s).recvLog = s.recvLog := Chan.wake_recvLog g s
theorem wake_preClose : (wake g s).preClose = s.preClose := Chan.wake_preClose g s
theorem wake_cancels : (wake g s).cancels = s.cancels := Chan.wake_cancels g s
theorem wake_getters_t : (wake true s).getters = (wakeNext true s.getters s.tasks).1 := rfl
theorem wake_getters_f : (wake false s).getters = s.getters := rfl
theorem wake_putters_f : (wake false s).putters = (wakeNext false s.putters s.tasks).1 := rfl
theorem wake_putters_t : (wake true s).putters = s.putters := rfl
theorem wake_tasks_t : (wake true s).tasks = (wakeNext true s.getters s.tasks).2 := rfl
theorem wake_tasks_f : (wake false s).tasks = (wakeNext false s.putters s.tasks).2 := rfl
end proj

theorem toNat_pred (w : Nat) : ((w : Int) - 1).toNat = w - 1 := by omega
theorem toNat_succ_pred (w : Nat) : ((((w : Int) + 1).toNat : Int) - 1).toNat = w := by omega

/-- the tail of `receive` / `__anext__` once `get()` has returned `it`: `task_done()`, the sentinel test, `finally` -/
theorem run_getK (f : Flavour) (S : Sys) (it : Item) :
    runSync S (getK f it) =
      if S.unfinished = 0 then ({ S with waiting := S.waiting - 1 }, .raise .valueError)
      else ({ S with waiting := S.waiting - 1, unfinished := S.unfinished - 1 },
        match it, f with
        | .flush, .receive => .ret .none
        | .flush, .anext => .raise .stopAsyncIteration
        | .data a b, _ => .ret (.item (.data a b))) := by
  cases f <;> cases it <;> by_cases hu : S.unfinished = 0 <;>
    simp [getK, runSync, recvFin, isFlush, hu]

/-- the exception of a receive on a channel that is done -/
def doneExc : Flavour → Exc
  | .receive => .channelDone
  | .anext => .stopAsyncIteration

theorem run_done (s : Sys) (k : Val → Co) :
    runSync s (SrcChan.done k) = runSync s (k (.bool (s.closed && decide (s.queue.length ≤ s.waiting)))) := by
  cases hc : s.closed <;> simp [SrcChan.done, runSync, hc]

theorem run_close (s : Sys) (k : Val → Co) : runSync s (SrcChan.close k) = runSync (doClose s) (k .none) := by
  cases hp : s.preClose <;> simp only [SrcChan.close, runSync, storeClosed, doClose, if_true, hp]

theorem run_recv (f : Flavour) (s : Sys) :
    runSync s (recvCo f) =
      if (s.closed && decide (s.queue.length ≤ s.waiting)) = true then (s, .raise (doneExc f))
      else ({ s with waiting := s.waiting + 1 }, atGet f) := by
  cases f <;> cases hd : (s.closed && decide (s.queue.length ≤ s.waiting)) <;>
    simp [recvCo, SrcChan.receive, SrcChan.anext, run_done, hd, truthy, runSync, doneExc, atGet, getK, recvFin]
  all_goals (funext e; rfl)

theorem run_send (s : Sys) (it : Item) :
    runSync s (SrcChan.send it) =
      if s.closed = true then (s, .raise .channelClosed) else (s, .awaitPut it (.ret .self) Co.raise) := by
  cases hc : s.closed <;> simp [SrcChan.send, runSync, hc]

theorem run_for1 (s : Sys) (k : Co) (xs : List Item) :
    runSync s (SrcChan.send_from_for1 k xs) = (s, SrcChan.send_from_for1 k xs) := by
  cases xs <;> simp [SrcChan.send_from_for1, runSync]

theorem run_flush_for1 (s : Sys) (k : Co) (n : Nat) :
    runSync s (SrcChan._flush_queue_for1 k n) = (s, SrcChan._flush_queue_for1 k n) := by
  cases n <;> simp [SrcChan._flush_queue_for1, runSync]

theorem run_send_from (s : Sys) (xs : List Item) (cl : Bool) :
    runSync s (SrcChan.send_from xs cl) =
      if s.closed = true then (s, .raise .channelClosed) else (s, SrcChan.send_from_for1 (sendFromTail cl) xs) := by
  cases hc : s.closed <;> simp [SrcChan.send_from, runSync, hc, run_for1, sendFromTail]

theorem run_flush (s : Sys) :
    runSync s SrcChan._flush_queue =
      if s.flushed = true then (s, .ret .none)
      else ({ s with flushed := true }, SrcChan._flush_queue_for1 (.ret .none) (s.waiting - s.queue.length)) := by
  cases hf : s.flushed <;> simp [SrcChan._flush_queue, runSync, hf, run_flush_for1, rangeCount, PyChan.max]
  -- what is left: `max(0, _waiting_receivers - qsize())` over `Int`, as a range count, is the truncated difference over `Nat`
  all_goals (congr 1; first | omega | (split <;> omega))

theorem stop_for1 (s : Sys) (k : Co) (xs : List Item) :
    stopOf (s, SrcChan.send_from_for1 k xs) = (s, .atHead (SrcChan.send_from_for1 k xs)) := by
  cases xs <;> rfl

theorem stop_flush_for1 (s : Sys) (k : Co) (n : Nat) :
    stopOf (s, SrcChan._flush_queue_for1 k n) = (s, .atHead (SrcChan._flush_queue_for1 k n)) := by
  cases n <;> rfl

/-- a segment step that starts with `receive()` / `__anext__()`: the channel is done, or the receiver is counted and
    goes on at `await self._queue.get()` -/
theorem exec1_recv (f : Flavour) (t : Nat) (s : Sys) :
    exec1 t s (recvCo f) =
      if (s.closed && decide (s.queue.length ≤ s.waiting)) = true then (s, .raised (doneExc f))
      else exec1 t { s with waiting := s.waiting + 1 } (atGet f) := by
  have hu : unIter (recvCo f) = recvCo f := by cases f <;> rfl
  cases hd : (s.closed && decide (s.queue.length ≤ s.waiting)) <;> rw [exec1, hu, run_recv, hd] <;> rfl

theorem exec1_send (t : Nat) (s : Sys) (it : Item) :
    exec1 t s (SrcChan.send it) =
      if s.closed = true then (s, .raised .channelClosed) else exec1 t s (.awaitPut it (.ret .self) Co.raise) := by
  cases hc : s.closed <;> rw [exec1, show unIter _ = SrcChan.send it from rfl, run_send, hc] <;> rfl

/-- the two segment steps of a task that enters `send_from`: the `_closed` check up to the loop head, then the first
    iteration of the loop -/
theorem exec2_send_from (t : Nat) (s : Sys) (xs : List Item) (cl : Bool) :
    exec2 t s (SrcChan.send_from xs cl) =
      if s.closed = true then (s, .raised .channelClosed)
      else exec1 t s (SrcChan.send_from_for1 (sendFromTail cl) xs) := by
  cases hc : s.closed <;> rw [exec2, exec1, show unIter _ = SrcChan.send_from xs cl from rfl, run_send_from, hc]
  · cases xs <;> rfl
  · rfl

theorem exec1_flush (t : Nat) (s : Sys) :
    exec1 t s SrcChan._flush_queue =
      if s.flushed = true then (s, .returned .none)
      else ({ s with flushed := true },
        .atHead (SrcChan._flush_queue_for1 (.ret .none) (s.waiting - s.queue.length))) := by
  cases hf : s.flushed <;> rw [exec1, show unIter _ = SrcChan._flush_queue from rfl, run_flush, hf]
  · cases (s.waiting - s.queue.length) <;> rfl
  · rfl

theorem exec1_iter_tail (t : Nat) (s : Sys) (cl : Bool) :
    exec1 t s (.iter (sendFromTail cl)) =
      exec1 t s (if cl = true then SrcChan.close (fun _ => .ret .self) else .ret .self) := by
  cases cl <;> rfl

/-- the end of a sender's program / of `send_from`: `if close: self.close()`, then the method returns -/
theorem exec1_tail (t : Nat) (s : Sys) (cl : Bool) (v : Val) :
    exec1 t s (if cl = true then SrcChan.close (fun _ => .ret v) else .ret v) =
      (if cl = true then doClose s else s, .returned v) := by
  cases cl
  · rfl
  · rw [if_pos rfl, exec1, show unIter _ = SrcChan.close fun _ => .ret v from rfl, run_close]; rfl

theorem popQ_setTask {s : Sys} {t : Nat} {x y : Task} (rest : List Item) (hx : s.tasks[t]? = some x)
    (h1 : x.wait ≠ .blocked false .pending) (h2 : y.wait ≠ .blocked false .pending) :
    popQ (s.setTask t y) rest = (popQ s rest).setTask t y :=
  wake_setTask (s := { s with queue := rest }) hx h1 h2

section step
variable (fl : Nat → Flavour) (s : Sys) (t : Nat) (x : Task)

/-- `await self._queue.get()`, entered or resumed, of a receiver counted in `_waiting_receivers`: it suspends on a new
    getter, or takes the head of the queue: `get_nowait` (whose wake-up of a putter does not touch the receiver's
    record), then `run_getK` -/
theorem get_eq (f : Flavour) (s' : Sys) (tm : Bool)
    (hx : s'.tasks[t]? = some x) (hc : x.code = .receiver tm) (hw : ∀ g, x.wait ≠ .blocked g .pending) :
    (match s'.queue with
     | [] => { s'.setTask t { x with wait := .blocked true .pending } with getters := s'.getters ++ [t] }
     | it :: rest => takeItem s' t x it rest true) = Cm s t x (exec1 t s' (atGet f)) := by
  obtain ⟨_, _, _, _, _, _⟩ := x
  cases hc
  simp only [Cm, exec1, atGet, unIter, runSync, tryGet]
  cases hq : s'.queue with
  | nil => rfl
  | cons it rest =>
    simp only [run_getK]
    unfold takeItem
    by_cases hu : s'.unfinished = 0
    · rw [if_pos hu, if_pos (show (popQ s' rest).unfinished = 0 from hu)]
      exact popQ_setTask (s := { s' with waiting := s'.waiting - 1 }) rest hx (hw _) (by simp)
    · rw [if_neg hu, if_neg (show ¬(popQ s' rest).unfinished = 0 from hu)]
      cases it with
      | flush =>
        cases f <;>
          exact popQ_setTask (s := { s' with waiting := s'.waiting - 1, unfinished := s'.unfinished - 1 })
            rest hx (hw _) (by simp)
      | data a b =>
        exact popQ_setTask (s := { s' with waiting := s'.waiting - 1, unfinished := s'.unfinished - 1,
                                           recvLog := s'.recvLog ++ [(t, .data a b)] }) rest hx (hw _) (by simp)

/-- `await self._queue.put(it)` followed by `k`, for a task whose record becomes `cB` when it has to wait and whose
    program, once the item is in and `k` has run, continues at `cD` -/
theorem putOrBlock_eq (cB cD : Code) (it : Item) (k : Co)
    (hx : s.tasks[t]? = some x) (hw : ∀ g, x.wait ≠ .blocked g .pending) (hB : inPut x.code = cB)
    (hk : ∀ S : Sys, Cm s t x (stopOf (runSync S k)) = S.setTask t { x with wait := .ready, code := cD }) :
    putOrBlock s t x cB cD it = Cm s t x (exec1 t s (.awaitPut it k Co.raise)) := by
  simp only [putOrBlock, exec1, unIter, runSync, tryPut]
  by_cases hf : s.full = true
  · simp only [hf, if_true, Cm, commit, hB]; rfl
  · simp only [hf, Bool.false_eq_true, if_false, hk]
    exact wake_setTask (s := { s with queue := s.queue ++ [it], unfinished := s.unfinished + 1,
                                      putLog := (if it.isData then s.putLog ++ [it] else s.putLog) }) hx (hw _) (by simp)

theorem finish_doClose (o : Outcome) (hx : s.tasks[t]? = some x) :
    finish (doClose s) t x o = doClose (finish s t x o) := by
  have hl := getElem?_lt hx
  simp only [finish, doClose, Sys.setTask, List.set_append_left _ _ hl]

/-- CancelledError thrown into a receiver suspended in `get()` -/
theorem cancel_get_eq (f : Flavour) (f' : Fut)
    (hx : s.tasks[t]? = some x) (hw : ∀ g, x.wait ≠ .blocked g .pending) :
    cancelBranch s t x true f' = Cm s t x (throwIn t s true f' (atGet f)) := by
  have hr : ∀ S : Sys, Cm s t x (stopOf (runSync S (getH .cancelledError))) =
      finish { S with waiting := S.waiting - 1 } t x (cancelOutcome x) := by
    intro S; simp only [Cm, getH, recvFin, runSync, stopOf, commit, outcomeOf, toNat_pred]
  simp only [throwIn, atGet, hr, cancelWaiter, cancelBranch, if_true, Sys.setDq, Sys.dq]
  by_cases hcond : f' ≠ .cancelled ∧ (!s.queue.isEmpty) = true
  · rw [if_pos hcond, if_pos hcond]
    exact wake_setTask (s := { s with getters := s.getters.erase t, waiting := s.waiting - 1 })
      (y := { x with wait := .done, out := cancelOutcome x }) hx (hw _) (by simp)
  · rw [if_neg hcond, if_neg hcond]; rfl

/-- CancelledError thrown into a sender / flusher suspended in `put()` -/
theorem cancel_put_eq (f' : Fut) (it : Item) (k : Co)
    (hx : s.tasks[t]? = some x) (hw : ∀ g, x.wait ≠ .blocked g .pending) :
    cancelBranch s t x false f' = Cm s t x (throwIn t s false f' (.awaitPut it k Co.raise)) := by
  simp only [throwIn, Cm, runSync, stopOf, commit, outcomeOf, cancelWaiter, cancelBranch, Bool.false_eq_true, if_false,
    Sys.setDq, Sys.dq]
  by_cases hcond : f' ≠ .cancelled ∧ (!s.full) = true
  · rw [if_pos hcond, if_pos hcond]
    exact wake_setTask (s := { s with putters := s.putters.erase t })
      (y := { x with wait := .done, out := cancelOutcome x }) hx (hw _) (by simp)
  · rw [if_neg hcond, if_neg hcond]; rfl

theorem frameBlocked_put {c : Code} (h : canPut c = true) :
    ∃ it k, frameBlocked fl t c = .awaitPut it k Co.raise := by
  rcases canPut_cases h with ⟨m, nx, r, cl, rfl⟩ | ⟨r, rfl⟩
  · cases m <;> exact ⟨_, _, rfl⟩
  · exact ⟨_, _, rfl⟩

/-- a task resumed inside `put()` (or at the loop head before it) makes its `put`: that of `send`, of one iteration of
    the loop of `send_from`, of one iteration of the loop of `_flush_queue` -/
theorem put_eq (hx : s.tasks[t]? = some x)
    (hp : canPut x.code = true) (hw : ∀ g, x.wait ≠ .blocked g .pending) :
    putStep s t x = Cm s t x (exec1 t s (frameBlocked fl t x.code)) := by
  rcases canPut_cases hp with ⟨m, nx, r, cl, hc⟩ | ⟨r, hc⟩ <;> simp only [putStep, hc]
  · cases m <;> refine putOrBlock_eq s t x _ _ _ _ hx hw (by simp only [inPut, hc]) fun S => ?_
    · simp only [Cm, runSync, stopOf, commit, driverRet, hc, SMode.running]
    all_goals simp only [Cm, run_for1, stop_for1, commit, nextCode, hc]
  · exact putOrBlock_eq s t x _ _ _ _ hx hw (by simp only [inPut, hc])
      fun S => by simp only [Cm, run_flush_for1, stop_flush_for1, commit, nextCode, hc]

theorem tail_exec_eq (cl : Bool) (v : Val) (hx : s.tasks[t]? = some x)
    (hd : ∀ S : Sys, driverRet S t x v = finish S t x .ok) :
    (if cl = true then doClose (finish s t x .ok) else finish s t x .ok) =
      Cm s t x (exec1 t s (if cl = true then SrcChan.close (fun _ => .ret v) else .ret v)) := by
  rw [exec1_tail]
  cases cl
  · exact (hd s).symm
  · exact ((hd _).trans (finish_doClose s t x .ok hx)).symm

/-- the `Co` at which the run `r` of the coroutine of `t` (record `x`, state `s` before) stopped is the `frame` of
    the record `commit` writes: `frameBlocked` of the new program counter when it suspended, `frameReady` when it
    stopped at a loop head -/
def StopOk (r : Sys × Stop) : Prop :=
  match r.2 with
  | .suspended _ c => c = frameBlocked fl t (inPut x.code)
  | .atHead c => c = frameReady fl t (nextCode s x.code)
  | _ => True

theorem stopOk_put (hp : canPut x.code = true) :
    StopOk fl s t x (exec1 t s (frameBlocked fl t x.code)) := by
  unfold StopOk
  rcases canPut_cases hp with ⟨m, nx, r, cl, hc⟩ | ⟨r, hc⟩ <;> rw [hc]
  · cases m <;> simp only [frameBlocked, exec1, unIter, runSync, tryPut] <;> by_cases hf : s.full = true <;>
      simp only [hf, if_true, if_false, Bool.false_eq_true, inPut, SMode.running,
        run_for1, stop_for1, nextCode, frameReady]
    -- left: `send` (mode `each`) with room in the queue, where the step ends with the method's return
    simp only [stopOf]
  · simp only [frameBlocked, exec1, unIter, runSync, tryPut]
    by_cases hf : s.full = true <;>
      simp only [hf, if_true, if_false, Bool.false_eq_true, inPut, run_flush_for1, stop_flush_for1,
        nextCode, frameReady]

theorem stopOk_get (s' : Sys) (tm : Bool) (hc : x.code = .receiver tm) :
    StopOk fl s t x (exec1 t s' (atGet (fl t))) := by
  unfold StopOk
  simp only [exec1, atGet, unIter, runSync, tryGet]
  cases hq : s'.queue with
  | nil => simp only [hc, inPut, frameBlocked, atGet]
  | cons it rest =>
    simp only []
    rw [run_getK]
    by_cases hu : (popQ s' rest).unfinished = 0
    · rw [if_pos hu]; trivial
    · rw [if_neg hu]; cases it <;> cases fl t <;> trivial

theorem stopOk_tail (cl : Bool) (v : Val) :
    StopOk fl s t x (exec1 t s (if cl = true then SrcChan.close (fun _ => .ret v) else .ret v)) := by
  rw [exec1_tail]; trivial

/-- a ready task with no cancellation pending that is not a canceller: its program makes its next call, or goes on
    from the loop head it is at -/
theorem ready_step (hw : x.wait = .ready) (hm : x.mustCancel = false) (hnc : ∀ tg, x.code ≠ .canceller tg) :
    ∃ r, srcExec fl s t x = some r ∧ (s.tasks[t]? = some x → micro s t = Cm s t x r) ∧ StopOk fl s t x r := by
  obtain ⟨code, wait, mc, cr, tout, out⟩ := x
  simp only at hw hm
  subst hw hm
  have hne : ∀ g, (Task.mk code .ready false cr tout out).wait ≠ .blocked g .pending := by intro g; simp
  -- what `micro` does once the record has been looked up: the hole is its `.ready` branch after the `_must_cancel` test
  -- (BpModel/Chan.lean, `match x.code with …`) at this record.  Written out here it would be a `match` of this theorem's
  -- own, which `rfl` does not identify with the model's as long as `code` is a variable
  have hmic : s.tasks[t]? = some ⟨code, .ready, false, cr, tout, out⟩ → micro s t = _ := fun hx => by
    unfold micro; simp only [hx, Bool.false_eq_true, if_false]; rfl
  cases code with
  | canceller tg => exact absurd rfl (hnc tg)
  | closer =>
    exact ⟨_, rfl, fun hx => by
      rw [hmic hx]
      exact tail_exec_eq s t _ true .none hx (fun _ => rfl), stopOk_tail fl s t _ true .none⟩
  | receiver tm =>
    refine ⟨exec1 t s (recvCo (fl t)), rfl, ?_⟩
    rw [exec1_recv]
    by_cases hd : (s.closed && decide (s.queue.length ≤ s.waiting)) = true
    · rw [if_pos hd]
      exact ⟨fun hx => by rw [hmic hx]; simp only [hd, if_true]; cases fl t <;> rfl, trivial⟩
    · rw [if_neg hd]
      exact ⟨fun hx => by
        rw [hmic hx]; simp only [hd, Bool.false_eq_true, if_false]
        -- `waiting` was raised on entry and is lowered again by `finally`
        exact get_eq s t _ (fl t) { s with waiting := s.waiting + 1 } tm hx rfl hne,
        stopOk_get fl s t _ _ tm rfl⟩
  | flusher o =>
    cases o with
    | none =>
      refine ⟨exec1 t s SrcChan._flush_queue, rfl, ?_⟩
      rw [exec1_flush]
      by_cases hf : s.flushed = true
      · rw [if_pos hf]
        exact ⟨fun hx => by rw [hmic hx]; simp only [hf, if_true]; rfl, trivial⟩
      · rw [if_neg hf]
        exact ⟨fun hx => by rw [hmic hx]; simp only [hf]; rfl, rfl⟩
    | some r =>
      cases r with
      | zero => exact ⟨_, rfl, hmic, trivial⟩
      | succ r =>
        exact ⟨exec1 t s (frameBlocked fl t (.flusher (some (r + 1)))), rfl, fun hx => by
          rw [hmic hx]
          exact put_eq fl s t _ hx rfl hne, stopOk_put fl s t _ rfl⟩
  | sender m nx r cl =>
    cases m with
    | each =>
      cases r with
      | zero =>
        exact ⟨_, rfl, fun hx => by
          rw [hmic hx]
          simp only [Nat.lt_irrefl, decide_false, Bool.false_and, Bool.false_eq_true, if_false, if_true]
          exact tail_exec_eq s t _ cl .none hx (fun _ => rfl), stopOk_tail fl s t _ cl .none⟩
      | succ r =>
        refine ⟨exec1 t s (SrcChan.send (.data t nx)), rfl, ?_⟩
        rw [exec1_send]
        by_cases hcl : s.closed = true
        · rw [if_pos hcl]
          exact ⟨fun hx => by
            rw [hmic hx]
            simp only [Nat.zero_lt_succ, decide_true, Bool.true_and, hcl, if_true]
            rfl, trivial⟩
        · rw [if_neg hcl]
          exact ⟨fun hx => by
            rw [hmic hx]
            simp only [Nat.zero_lt_succ, decide_true, Bool.true_and, hcl, Nat.succ_ne_zero, Bool.false_eq_true, if_false]
            exact put_eq fl s t _ hx rfl hne,
            stopOk_put fl s t _ rfl⟩
    | fromStart =>
      refine ⟨exec2 t s (SrcChan.send_from (items t nx r) cl), rfl, ?_⟩
      rw [exec2_send_from]
      by_cases hcl : s.closed = true
      · rw [if_pos hcl]
        exact ⟨fun hx => by
          rw [hmic hx]; simp only [Bool.true_and, hcl, if_true]; rfl, trivial⟩
      · rw [if_neg hcl]
        cases r with
        | zero =>
          rw [items, SrcChan.send_from_for1, exec1_iter_tail]
          exact ⟨fun hx => by
            rw [hmic hx]; simp only [Bool.true_and, hcl, Bool.false_eq_true, if_false, if_true]
            exact tail_exec_eq s t _ cl .self hx (fun _ => rfl), stopOk_tail fl s t _ cl .self⟩
        | succ r =>
          exact ⟨fun hx => by
            rw [hmic hx]; simp only [Bool.true_and, hcl, Nat.succ_ne_zero, Bool.false_eq_true, if_false]
            exact put_eq fl s t _ hx rfl hne,
            stopOk_put fl s t _ rfl⟩
    | fromRunning =>
      cases r with
      | zero =>
        refine ⟨exec1 t s (.iter (sendFromTail cl)), rfl, ?_⟩
        rw [exec1_iter_tail]
        exact ⟨fun hx => by
          rw [hmic hx]; simp only [Bool.false_and, Bool.false_eq_true, if_false, if_true]
          exact tail_exec_eq s t _ cl .self hx (fun _ => rfl), stopOk_tail fl s t _ cl .self⟩
      | succ r =>
        exact ⟨exec1 t s (frameBlocked fl t (.sender .fromRunning nx (r + 1) cl)), rfl, fun hx => by
          rw [hmic hx]; simp only [Bool.false_and, Nat.succ_ne_zero, Bool.false_eq_true, if_false]
          exact put_eq fl s t _ hx rfl hne,
          stopOk_put fl s t _ rfl⟩

/-- the step of a task whose waiter future is done: CancelledError is delivered, or the `await` is resumed -/
theorem blocked_step (g : Bool) (f : Fut) (hC : Coh x)
    (hw : x.wait = .blocked g f) (hf : f ≠ .pending) :
    ∃ r, srcExec fl s t x = some r ∧ (s.tasks[t]? = some x → micro s t = Cm s t x r) ∧ StopOk fl s t x r := by
  have hfr : frame fl t x = frameBlocked fl t x.code := by simp only [frame, hw]
  have hne : ∀ g', x.wait ≠ .blocked g' .pending := by rw [hw]; intro g' h; cases h; exact hf rfl
  by_cases hthrow : f = .cancelled ∨ x.mustCancel = true
  · refine ⟨throwIn t s g f (frameBlocked fl t x.code), by cases f <;> simp_all [srcExec], ?_⟩
    have hmic : s.tasks[t]? = some x → micro s t = cancelBranch s t x g f := fun hx => by
      unfold micro; cases f <;> simp_all
    -- the exception leaves the method: B asks nothing
    cases g with
    | true =>
      obtain ⟨tm, hc⟩ := receiver_of (hC.1 (by simp [hw]))
      rw [hc]
      exact ⟨fun hx => (hmic hx).trans (cancel_get_eq s t x (fl t) f hx hne), trivial⟩
    | false =>
      obtain ⟨it, k, hk⟩ := frameBlocked_put fl t (hC.2 (by simp [hw]))
      rw [hk]
      exact ⟨fun hx => (hmic hx).trans (cancel_put_eq s t x f it k hx hne), trivial⟩
  · have hfw : f = .woken := by cases f <;> simp_all
    have hm : x.mustCancel = false := by simpa using fun h => hthrow (Or.inr h)
    subst hfw
    refine ⟨exec1 t s (frameBlocked fl t x.code), by simp only [srcExec, hw, hm, hfr, Bool.false_eq_true, if_false], ?_⟩
    cases g with
    | false =>
      have hp := hC.2 (by simp [hw])
      exact ⟨fun hx => by
        unfold micro; simp only [hx, hw]; rw [if_neg (by simp [hm]), if_neg (by simp)]
        exact put_eq fl s t x hx hp hne, stopOk_put fl s t x hp⟩
    | true =>
      obtain ⟨tm, hc⟩ := receiver_of (hC.1 (by simp [hw]))
      have hfb : frameBlocked fl t x.code = atGet (fl t) := by simp only [hc, frameBlocked]
      rw [hfb]
      refine ⟨fun hx => ?_, stopOk_get fl s t x s tm hc⟩
      unfold micro; simp only [hx, hw]; rw [if_neg (by simp [hm]), if_pos trivial]
      exact get_eq s t x (fl t) s tm hx hc hne

/-- when the step runs channel code: its run `r` is what `micro` does (A) and stops at the frame of the new record (B);
    `none`: the steps that are asyncio's alone -/
theorem src_step (hC : Coh x) :
    match srcExec fl s t x with
    | some r => (s.tasks[t]? = some x → micro s t = Cm s t x r) ∧ StopOk fl s t x r
    | none => s.tasks[t]? = some x → micro s t = asyncioOnly s t x := by
  cases hw : x.wait with
  | done => simp only [srcExec, hw]; intro hx; simp [micro, asyncioOnly, hw, hx]
  | blocked g f =>
    by_cases hf : f = .pending
    · subst hf; simp only [srcExec, hw]; intro hx; simp [micro, asyncioOnly, hw, hx]
    · obtain ⟨r, h1, h2⟩ := blocked_step fl s t x g f hC hw hf
      rw [h1]; exact h2
  | ready =>
    by_cases hnc : x.mustCancel = false ∧ ∀ tg, x.code ≠ .canceller tg
    · obtain ⟨r, h1, h2⟩ := ready_step fl s t x hw hnc.1 hnc.2
      rw [h1]; exact h2
    · have : srcExec fl s t x = none := by
        cases hm : x.mustCancel <;> cases hc : x.code <;> simp_all [srcExec]
      rw [this]
      intro hx
      cases hm : x.mustCancel <;> cases hc : x.code <;> simp_all [micro, asyncioOnly]

/-- **A**: one atomic action of the model is one segment step of the translated source (two for a task that enters
    `send_from`), for every state, every task with a coherent record and every assignment of `receive` / `__anext__`
    to the receivers -/
theorem micro_eq_srcMicro (hcoh : ∀ x, s.tasks[t]? = some x → Coh x) : micro s t = srcMicro fl s t := by
  cases hx : s.tasks[t]? with
  | none => simp only [micro, srcMicro, hx]
  | some x =>
    have := src_step fl s t x (hcoh x hx)
    simp only [srcMicro, hx]
    cases h : srcExec fl s t x <;> rw [h] at this
    · exact this hx
    · exact this.1 hx

theorem ready_eq (hx : s.tasks[t]? = some x) (hw : x.wait = .ready) : micro s t = srcMicro fl s t :=
  micro_eq_srcMicro fl s t fun y hy => by
    rw [hx] at hy; cases hy; constructor <;> intro h <;> rw [hw] at h <;> cases h

theorem coherent_eq (hx : s.tasks[t]? = some x) (hC : Coh x) : micro s t = srcMicro fl s t :=
  micro_eq_srcMicro fl s t fun y hy => by rw [hx] at hy; cases hy; exact hC

end step

/-- `runTask` with the translated source -/
def srcRunTask (fl : Nat → Flavour) : Nat → Sys → Nat → Sys
  | 0, s, _ => s
  | fuel + 1, s, t =>
    let s' := srcMicro fl s t
    if waitOf s' t = some .ready then srcRunTask fl fuel s' t else s'

/-- `step` with the translated source: the chosen handle runs the coroutine until it is suspended or finished -/
def srcStep (fl : Nat → Flavour) (s : Sys) (c : Choice) : Sys :=
  if enabled s c then
    match c with
    | .run t => srcRunTask fl (fuelFor s t) s t
    | .fire t => cancelTask s t true
  else s

def srcRun (fl : Nat → Flavour) (s : Sys) (cs : List Choice) : Sys := cs.foldl (srcStep fl) s

theorem coh_of_tinv {s : Sys} (h : TInv s) {t : Nat} {x : Task} (hx : s.tasks[t]? = some x) : Coh x :=
  ⟨h.inv.st.getRecv t x hx, h.put t x hx⟩

theorem runTask_eq (fl : Nat → Flavour) (fuel : Nat) {s : Sys} (h : TInv s) (t : Nat) :
    runTask fuel s t = srcRunTask fl fuel s t := by
  induction fuel generalizing s with
  | zero => rfl
  | succ n ih =>
    simp only [runTask, srcRunTask, ← micro_eq_srcMicro fl s t fun _ hx => coh_of_tinv h hx]
    split
    · exact ih (micro_tinv h t)
    · rfl

theorem step_eq (fl : Nat → Flavour) {s : Sys} (h : TInv s) (c : Choice) : step s c = srcStep fl s c := by
  unfold step srcStep
  split
  · cases c with
    | run t => exact runTask_eq fl _ h t
    | fire t => rfl
  · rfl

theorem run_eq (fl : Nat → Flavour) {s : Sys} (h : TInv s) (cs : List Choice) : run s cs = srcRun fl s cs := by
  induction cs generalizing s with
  | nil => rfl
  | cons c cs ih =>
    show run (step s c) cs = srcRun fl (srcStep fl s c) cs
    rw [← step_eq fl h c]
    exact ih (step_tinv h c)

end Bp.SrcTieChan
