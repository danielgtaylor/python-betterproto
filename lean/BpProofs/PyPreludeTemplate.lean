import BpProofs.PyPreludeNaming
import BpModel.Casing
/-
  Semantic prelude of the SOURCE TRANSLATOR for the two Jinja templates of the plugin
  (harness/extract_srctemplate.py → BpProofs/Gen/SrcTemplate.lean):
      src/betterproto/templates/header.py.j2, src/betterproto/templates/template.py.j2
  rendered by `outputfile_compiler` (plugin/compiler.py) as  header.render(output_file=…) + template.render(…).

  What is ASSUMED here (trusted, not proved) — the meaning of the Jinja constructs the templates use:

    * The translation is made from the node tree `jinja2.Environment(trim_blocks=True, lstrip_blocks=True, …)
      .parse(source)` returns: Jinja's own lexer has already applied `trim_blocks`, `lstrip_blocks`, the `{%- … -%}`
      whitespace control, dropped the comments `{# … #}` and the single trailing newline of the file
      (`keep_trailing_newline=False`).  That lexer is trusted.
    * RENDERING = the concatenation, in document order, of the text of the pieces produced:
        - template data is emitted verbatim                              (`Piece.lit`)
        - `{{ e }}` emits `str(value of e)` — the environment has no `finalize` and no autoescape;
          the value of a `str` attribute is itself, of an `int` attribute its decimal `str()` (`jstrInt`)
                                                                         (`Piece.expr "<source of e>" value`)
          The source text kept in the piece is canonical (loop variables are written `<iterable>[]`:
          `output_file.imports_end[]`, `output_file.services[].methods[].route`); it is a LABEL that says which
          expression of the template produced the piece — it plays no part in `text`.
    * `{% for x in it %} body {% endfor %}` (no `else`, no filter, not recursive): the bodies for the elements of
      `it` in iteration order, concatenated (`List.flatMap`).  `loop.last` inside the body is true exactly in the
      last iteration (`forLast`).  A Python `set` is iterated in ITS iteration order, which the context fixes:
      a `set` attribute is represented by the list of its elements in that order (duplicate-free: `PySet`'s
      invariant is a hypothesis (`Nodup`) of the theorems that need it, it is what `set` means).
    * `{% if t %} A {% elif u %} B {% else %} C {% endif %}`: first branch whose test is truthy.  Truthiness:
      `bool` itself, `str` / `list` / `set` / `dict` non-empty.  `not` / `and` / `or` in a test position act on
      the truth values.
    * `{% set x = e %}` at the top level of a template: `x` is `e` in what follows.
    * `x|sort` (no arguments): Jinja's `do_sort(value, reverse=False, case_sensitive=False)` =
      `sorted(value, key=ignore_case)`: STABLE sort by `str.lower()` of the elements (`jsort`; `str.lower()` is
      modelled on ASCII by `Casing.lowerW`, as everywhere in this framework; non-ASCII import names do not occur:
      they are Python identifiers made by casing.py).  What `|sort` does NOT do: it removes nothing — two
      elements that differ only in case are both kept (that would be `|unique`, which IS case-insensitive:
      `from .. import Money as _Money__` / `from .. import money as _money__` collapse under it).  `jsort_perm`
      below: the result is a permutation of the argument.
    * `sep.join(xs)` (`jjoin`), `x.strip(chars)` (`Py.strStrip` of PyPreludeNaming.lean).
    * attribute access / method calls on the context (`output_file.imports_end`, `field.get_field_string()`,
      `output_file.typing_compiler.optional("float")` …) are the fields of the records below: the context is
      ABSTRACT — any values whatsoever; the theorems quantify over all of them.  The methods of the typing
      compiler are arbitrary functions on strings here (their three implementations are tied in
      Gen/SrcTyping.lean / SrcTieTyping.lean); that their calls mutate the compiler's `_imports` (which is why
      compiler.py renders the body BEFORE the header) is outside this model: `imports()` / `import_lines()` are
      two more abstract fields, read by the header.
    * `undefined=StrictUndefined`: an attribute that does not exist raises; the translator refuses every
      attribute that is not in its schema of the context, so this cannot happen for a context of the schema.
-/
namespace Bp.Tpl
abbrev Str := Bp.Importing.Str

/-- one piece of rendered output: template data, or the string of an expression (with its source text) -/
inductive Piece where
  | lit (s : String)
  | expr (src : String) (v : Str)
  deriving DecidableEq, Repr

def Piece.text : Piece → Str
  | .lit s => s.toList
  | .expr _ v => v

/-- what `Template.render` returns -/
def text (ps : List Piece) : Str := ps.flatMap Piece.text

/-- a Python `set` of `str`: its elements in iteration order -/
abbrev PySet := List Str
/-- a `dict` read only for its truth value: its items -/
abbrev PyDict := List (Str × List Str)

/-! ### the context: exactly the attributes the templates read -/

structure EnumEntry where
  name : Str
  value : Int
  comment : Str

structure EnumDef where
  py_name : Str
  comment : Str
  entries : List EnumEntry

structure Field where
  get_field_string : Str
  comment : Str

structure Message where
  py_name : Str
  comment : Str
  fields : List Field
  deprecated : Bool
  has_deprecated_fields : Bool
  deprecated_fields : List Str
  has_oneof_fields : Bool

structure MethodOptions where
  deprecated : Bool
structure MethodProto where
  options : MethodOptions

structure Method where
  py_name : Str
  comment : Str
  route : Str
  client_streaming : Bool
  server_streaming : Bool
  py_input_message_param : Str
  py_input_message_type : Str
  py_output_message_type : Str
  proto_obj : MethodProto

structure Service where
  py_name : Str
  comment : Str
  methods : List Method

/-- `output_file.typing_compiler`: its methods as functions -/
structure TypingCompiler where
  optional : Str → Str
  dict : Str → Str → Str
  union : Str → Str → Str
  iterable : Str → Str
  async_iterable : Str → Str
  async_iterator : Str → Str
  imports : PyDict
  import_lines : List Str

/-- `output_file`: an `OutputTemplate` -/
structure OutputFile where
  input_filenames : List Str
  enums : List EnumDef
  messages : List Message
  services : List Service
  python_module_imports : PySet
  datetime_imports : PySet
  pydantic_imports : PySet
  imports_type_checking_only : PySet
  imports_end : PySet
  pydantic_dataclasses : Bool
  typing_compiler : TypingCompiler

/-! ### the constructs -/

/-- `str(i)` of an `int` -/
def jstrInt : Int → Str
  | .ofNat n => (Nat.repr n).toList
  | .negSucc n => '-' :: (Nat.repr (n + 1)).toList

/-- `sep.join(xs)` -/
def jjoin (sep : Str) : List Str → Str
  | [] => []
  | [x] => x
  | x :: y :: r => x ++ sep ++ jjoin sep (y :: r)

/-- `{% for x in xs %}` whose body reads `loop.last` -/
def forLast {α β : Type} : List α → (α → Bool → List β) → List β
  | [], _ => []
  | [x], f => f x true
  | x :: y :: r, f => f x false ++ forLast (y :: r) f

/-- lexicographic `<=` on strings by code point (Python's `str` order) -/
def strLe : Str → Str → Bool
  | [], _ => true
  | _ :: _, [] => false
  | a :: as, b :: bs => if a.toNat < b.toNat then true else if b.toNat < a.toNat then false else strLe as bs

/-- Jinja's `ignore_case` sort key -/
def sortKey (s : Str) : Str := Bp.Casing.lowerW s

/-- insertion into a list sorted by key: before the first element whose key is not smaller (stable) -/
def jinsert (x : Str) : List Str → List Str
  | [] => [x]
  | y :: r => if strLe (sortKey x) (sortKey y) then x :: y :: r else y :: jinsert x r

/-- `xs|sort`: stable, by lower-cased value; NOTHING is removed -/
def jsort : List Str → List Str
  | [] => []
  | x :: r => jinsert x (jsort r)

theorem jinsert_perm (x : Str) (l : List Str) : (jinsert x l).Perm (x :: l) := by
  induction l with
  | nil => exact List.Perm.refl _
  | cons y r ih =>
    unfold jinsert
    split
    · exact List.Perm.refl _
    · exact (List.Perm.cons y ih).trans (List.Perm.swap x y r)

theorem jsort_perm (xs : List Str) : (jsort xs).Perm xs := by
  induction xs with
  | nil => exact List.Perm.refl _
  | cons x r ih => exact (jinsert_perm x _).trans (List.Perm.cons x ih)

/-- `|sort` keeps two names that differ only in case (it is `|unique` that would drop one) -/
example : jsort ["from .. import money as _money__".toList, "from .. import Money as _Money__".toList]
    = ["from .. import money as _money__".toList, "from .. import Money as _Money__".toList] := by decide +kernel

end Bp.Tpl
