import BpProofs.HeapBasic
/-
  `copyVal` (the model of `copy.deepcopy` under `Message.__copy_state_to`): it only allocates,
  keeps the heap closed, returns a value with the same abstraction, and everything mutable it
  returns lives in cells allocated since the copy began (`b0 ≤ id`).
-/
namespace Bp.Hp

/-- `_unknown_fields` of every message is a `bytes` object -/
def UnkBytes (h : Heap) : Prop :=
  ∀ (k : Nat) (sl : List HVal) (ow : Bool) (u g : Nat), h[k]? = some (.msg sl ow u g) → isBytes h u = true

def HVal.inRange (v : HVal) (h : Heap) : Prop := ∀ r ∈ v.refs, r < h.length

/-- invariant of a running deep copy that started when the heap had `b0` cells -/
structure Inv (b0 : Nat) (h : Heap) (m : Memo) : Prop where
  closed : Closed h
  le : b0 ≤ h.length
  fresh : ∀ (k : Nat) (c : Cell), b0 ≤ k → h[k]? = some c → ∀ r ∈ c.refs, b0 ≤ r ∨ isBytes h r = true
  memo : ∀ (i j : Nat), (i, j) ∈ m → b0 ≤ j ∧ j < h.length ∧ i < h.length ∧
    ∀ n, absV n h (.ref j) = absV n h (.ref i)
  unk : UnkBytes h

section
variable {b0 : Nat} {h h' h1 h2 : Heap} {m m' m1 m2 : Memo} {rs rs1 rs2 : List Nat} {i j r : Nat}
  {f : Heap → Memo → HVal → Option (Heap × Memo × HVal)}

def Fresh (b0 : Nat) (h : Heap) (r : Nat) : Prop := r < h.length ∧ (b0 ≤ r ∨ isBytes h r = true)

theorem Fresh.mono (hf : Fresh b0 h r) (hp : h <+: h') : Fresh b0 h' r :=
  ⟨Nat.lt_of_lt_of_le hf.1 hp.length_le, hf.2.imp_right (isBytes_prefix hp)⟩

structure Copied (b0 : Nat) (h h' : Heap) (m' : Memo) (rs : List Nat) : Prop where
  ext : h <+: h'
  inv : Inv b0 h' m'
  fresh : ∀ r ∈ rs, Fresh b0 h' r

theorem Copied.range (c : Copied b0 h h' m' rs) : ∀ r ∈ rs, r < h'.length := fun r hr => (c.fresh r hr).1

def Spec (b0 : Nat) (f : Heap → Memo → HVal → Option (Heap × Memo × HVal)) : Prop :=
  ∀ h m v h' m' v',
    Inv b0 h m → v.inRange h → f h m v = some (h', m', v') →
    Copied b0 h h' m' v'.refs ∧ ∀ n, absV n h' v' = absV n h v

def ListInRange (vs : List HVal) (h : Heap) : Prop := ∀ r ∈ itemRefs vs, r < h.length

def SpecL (b0 : Nat) (f : Heap → Memo → List HVal → Option (Heap × Memo × List HVal)) : Prop :=
  ∀ h m vs h' m' vs',
    Inv b0 h m → ListInRange vs h → f h m vs = some (h', m', vs') →
    Copied b0 h h' m' (itemRefs vs') ∧ ∀ n, vs'.map (absV n h') = vs.map (absV n h)

theorem Inv.memo_mono (hi : Inv b0 h m) (hp : h <+: h') (i j : Nat)
    (hij : (i, j) ∈ m) : b0 ≤ j ∧ j < h'.length ∧ i < h'.length ∧
      ∀ n, absV n h' (.ref j) = absV n h' (.ref i) := by
  obtain ⟨k1, k2, k3, k4⟩ := hi.memo i j hij
  refine ⟨k1, Nat.lt_of_lt_of_le k2 hp.length_le, Nat.lt_of_lt_of_le k3 hp.length_le, fun n => ?_⟩
  rw [absV_prefix_ref hi.closed hp k2, absV_prefix_ref hi.closed hp k3]
  exact k4 n

theorem spec_freshMemo (hf : Spec b0 f) : Spec b0 (freshMemo f) := by
  intro h m v h' m' v' hinv hv hcall
  unfold freshMemo at hcall
  split at hcall
  · cases hcall
  · rename_i hfc
    cases hcall
    -- the memo is dropped for the call and taken up again on the grown heap
    obtain ⟨c, hval⟩ := hf h [] v _ _ _ ⟨hinv.closed, hinv.le, hinv.fresh, nofun, hinv.unk⟩ hv hfc
    exact ⟨⟨c.ext, ⟨c.inv.closed, c.inv.le, c.inv.fresh, hinv.memo_mono c.ext, c.inv.unk⟩, c.fresh⟩, hval⟩

theorem Copied.append (c1 : Copied b0 h h1 m1 rs1) (c2 : Copied b0 h1 h2 m2 rs2) : Copied b0 h h2 m2 (rs1 ++ rs2) :=
  ⟨c1.ext.trans c2.ext, c2.inv, fun r hr =>
    (List.mem_append.mp hr).elim (fun hr => (c1.fresh r hr).mono c2.ext) (c2.fresh r)⟩

theorem spec_copyItems (hf : Spec b0 f) : SpecL b0 (copyItems f) := by
  intro h m vs
  induction vs generalizing h m with
  | nil =>
    intro h' m' vs' hinv _ hcall
    cases hcall
    exact ⟨⟨List.prefix_refl _, hinv, nofun⟩, fun _ => rfl⟩
  | cons v vs ih =>
    intro h' m' vs' hinv hrange hcall
    simp only [copyItems] at hcall
    split at hcall
    · cases hcall
    · rename_i h1 m1 v1 hfc
      split at hcall
      · cases hcall
      · rename_i h2 m2 vs2 hrc
        cases hcall
        have hvs : ListInRange vs h := fun r hr => hrange r (List.mem_append_right _ hr)
        obtain ⟨c1, hval1⟩ := hf h m v _ _ _ hinv (fun r hr => hrange r (List.mem_append_left _ hr)) hfc
        obtain ⟨c2, hval2⟩ := ih h1 m1 _ _ _ c1.inv
          (fun r hr => Nat.lt_of_lt_of_le (hvs r hr) c1.ext.length_le) hrc
        refine ⟨c1.append c2, fun n => ?_⟩
        rw [List.map_cons, hval2 n, absV_prefix c1.inv.closed c2.ext c1.range n, hval1 n,
          map_absV_prefix hinv.closed c1.ext hvs n]
        rfl

theorem Inv.alloc (hi : Inv b0 h m) (c : Cell)
    (hfresh : ∀ r ∈ c.refs, Fresh b0 h r)
    (hunk : ∀ sl ow u g, c = .msg sl ow u g → isBytes h u = true) :
    Inv b0 (h ++ [c]) m := by
  have hp := List.prefix_append h [c]
  have hle := hp.length_le
  refine ⟨?_, Nat.le_trans hi.le hle, ?_, hi.memo_mono hp, ?_⟩
  · intro k c' hk r hr
    rcases getElem?_snoc hk with hk | ⟨_, rfl⟩
    · exact Nat.lt_of_lt_of_le (hi.closed k c' hk r hr) hle
    · exact Nat.lt_of_lt_of_le (hfresh r hr).1 hle
  · intro k c' hb hk r hr
    rcases getElem?_snoc hk with hk | ⟨_, rfl⟩
    · exact (hi.fresh k c' hb hk r hr).imp_right (isBytes_prefix hp)
    · exact (hfresh r hr).2.imp_right (isBytes_prefix hp)
  · intro k sl ow u g hk
    rcases getElem?_snoc hk with hk | ⟨_, hc⟩
    · exact isBytes_prefix hp (hi.unk k sl ow u g hk)
    · exact isBytes_prefix hp (hunk sl ow u g hc.symm)

theorem Inv.remember (cfg : Cfg) (hi : Inv b0 h m) (i j : Nat)
    (hj : b0 ≤ j) (hjl : j < h.length) (hil : i < h.length)
    (hval : ∀ n, absV n h (.ref j) = absV n h (.ref i)) : Inv b0 h (remember cfg i j m) := by
  unfold Hp.remember
  split
  · refine ⟨hi.closed, hi.le, hi.fresh, fun a b hab => ?_, hi.unk⟩
    rcases List.mem_cons.mp hab with hab | hab
    · cases hab; exact ⟨hj, hjl, hil, hval⟩
    · exact hi.memo a b hab
  · exact hi

theorem Copied.same (hinv : Inv b0 h m) (hj : Fresh b0 h j) :
    Copied b0 h h m [j] :=
  ⟨List.prefix_refl h, hinv, fun _ hr => List.mem_singleton.mp hr ▸ hj⟩

theorem Copied.alloc (cfg : Cfg) {c : Cell}
    (hcl : Closed h) (hil : i < h.length) (hp : h <+: h1) (hinv1 : Inv b0 h1 m1)
    (hfresh : ∀ r ∈ c.refs, Fresh b0 h1 r)
    (hunk : ∀ sl ow u g, c = .msg sl ow u g → isBytes h1 u = true)
    (hval : ∀ n, absV (n + 1) (h1 ++ [c]) (.ref h1.length) = absV (n + 1) h (.ref i)) :
    Copied b0 h (h1 ++ [c]) (remember cfg i h1.length m1) [h1.length] ∧
      ∀ n, absV n (h1 ++ [c]) (.ref h1.length) = absV n h (.ref i) := by
  have hval : ∀ n, absV n (h1 ++ [c]) (.ref h1.length) = absV n h (.ref i)
    | 0 => rfl
    | n + 1 => hval n
  have hp' : h <+: h1 ++ [c] := hp.trans (List.prefix_append h1 [c])
  have hlt : h1.length < (h1 ++ [c]).length := by
    rw [List.length_append]; exact Nat.lt_succ_self _
  refine ⟨⟨hp', ?_, fun _ hr => List.mem_singleton.mp hr ▸ ⟨hlt, Or.inl hinv1.le⟩⟩, hval⟩
  exact (hinv1.alloc c hfresh hunk).remember cfg i _ hinv1.le hlt (Nat.lt_of_lt_of_le hil hp'.length_le)
    fun n => (hval n).trans (absV_prefix_ref hcl hp' hil n).symm

theorem spec_scalar {cfg : Cfg} {fuel : Nat} {v v' : HVal}
    (hv : v.refs = []) (hinv : Inv b0 h m) (hcall : copyVal cfg fuel h m v = some (h', m', v')) :
    Copied b0 h h' m' v'.refs ∧ ∀ n, absV n h' v' = absV n h v := by
  have : copyVal cfg fuel h m v = some (h, m, v) := by
    cases v with
    | ref i => cases hv
    | _ => cases fuel <;> rfl
  cases this.symm.trans hcall
  exact ⟨⟨List.prefix_refl _, hinv, by simp [hv]⟩, fun _ => rfl⟩

/-- **the deep copy function meets its specification**, for every amount of fuel (with the code's
    configuration: `_group_current` is copied) -/
theorem spec_copyVal (b0 : Nat) (cfg : Cfg) (hcfg : cfg.shareGc = false) (fuel : Nat) : Spec b0 (copyVal cfg fuel) := by
  induction fuel with
  | zero =>
    intro h m v h' m' v' hinv hv hcall
    cases v with
    | ref i => cases hcall
    | _ => exact spec_scalar rfl hinv hcall
  | succ fuel ih =>
    intro h m v h' m' v' hinv hv hcall
    cases v with
    | ref i =>
      have hil : i < h.length := hv i (List.mem_singleton_self i)
      unfold copyVal at hcall
      cases hl : m.lookup i with
      | some j =>
        simp only [hl] at hcall
        cases hcall
        obtain ⟨l1, l2, rfl, _⟩ := List.lookup_eq_some_iff.mp hl
        obtain ⟨h1, h2, _, h4⟩ := hinv.memo i j (List.mem_append_right _ List.mem_cons_self)
        exact ⟨.same hinv ⟨h2, Or.inl h1⟩, h4⟩
      | none =>
        simp only [hl] at hcall
        cases hc : h[i]? with
        | none => simp [hc] at hcall
        | some c =>
          have hrefs := hinv.closed i c hc
          cases c with
          | bytes bs =>
            simp only [hc] at hcall
            cases hcall
            exact ⟨.same hinv ⟨hil, Or.inr (by unfold isBytes; rw [hc])⟩, fun _ => rfl⟩
          | gcur sel =>
            simp only [hc] at hcall
            cases hcall
            exact Copied.alloc (c := .gcur sel) cfg hinv.closed hil (List.prefix_refl _) hinv nofun nofun fun n => by
              simp only [absV, List.getElem?_concat_length, hc]
          | list it =>
            simp only [hc] at hcall
            split at hcall
            · cases hcall
            · rename_i h1 m1 it' hci
              cases hcall
              obtain ⟨c1, hval1⟩ := spec_copyItems ih h m it _ _ _ hinv hrefs hci
              exact Copied.alloc (c := .list it') cfg hinv.closed hil c1.ext c1.inv c1.fresh nofun fun n => by
                simp only [absV, List.getElem?_concat_length, hc]
                rw [map_absV_prefix c1.inv.closed (List.prefix_append _ _) c1.range n, hval1 n]
          | dict ks vs =>
            simp only [hc] at hcall
            split at hcall
            · cases hcall
            · rename_i h1 m1 vs' hci
              cases hcall
              obtain ⟨c1, hval1⟩ := spec_copyItems ih h m vs _ _ _ hinv hrefs hci
              exact Copied.alloc (c := .dict ks vs') cfg hinv.closed hil c1.ext c1.inv c1.fresh nofun fun n => by
                simp only [absV, List.getElem?_concat_length, hc]
                rw [map_absV_prefix c1.inv.closed (List.prefix_append _ _) c1.range n, hval1 n]
          | msg sl ow u g =>
            simp only [hc] at hcall
            split at hcall
            · cases hcall
            · rename_i h1 m1 sl' hci
              simp only [hcfg, Bool.false_eq_true, if_false] at hcall
              cases hcall
              obtain ⟨hul, hrefs⟩ := List.forall_mem_cons.mp hrefs
              obtain ⟨_, hrefs⟩ := List.forall_mem_cons.mp hrefs
              obtain ⟨c1, hval1⟩ := spec_copyItems (spec_freshMemo ih) h m sl _ _ _ hinv hrefs hci
              -- the copy's own `_group_current`, then the copy, which shares the `bytes` object `u`
              have hlen : (h1 ++ [Cell.gcur (selAt h g)]).length = h1.length + 1 := List.length_append
              have hlt : h1.length < (h1 ++ [Cell.gcur (selAt h g)]).length := hlen ▸ Nat.lt_succ_self _
              have hu : (h1 ++ [Cell.gcur (selAt h g)])[u]? = h[u]? :=
                getElem?_prefix (c1.ext.trans (List.prefix_append _ _)) hul
              have hub : isBytes (h1 ++ [Cell.gcur (selAt h g)]) u = true :=
                (isBytes_congr hu).trans (hinv.unk i sl ow u g hc)
              rw [List.append_cons, ← hlen]
              refine Copied.alloc cfg hinv.closed hil (c1.ext.trans (List.prefix_append _ _)) (c1.inv.alloc _ nofun nofun)
                (List.forall_mem_cons.mpr ⟨⟨isBytes_lt hub, Or.inr hub⟩, List.forall_mem_cons.mpr
                  ⟨⟨hlt, Or.inl c1.inv.le⟩, fun r hr => (c1.fresh r hr).mono (List.prefix_append _ _)⟩⟩)
                (by rintro _ _ _ _ ⟨⟩; exact hub) fun n =>
                absV_msg_congr List.getElem?_concat_length hc (fun n => ?_)
                  (bytesAt_congr ((List.getElem?_append_left (isBytes_lt hub)).trans hu))
                  (selAt_eq ((List.getElem?_append_left hlt).trans List.getElem?_concat_length)) (n + 1)
              rw [map_absV_prefix c1.inv.closed ((List.prefix_append _ _).trans (List.prefix_append _ _)) c1.range n, hval1 n]
    | _ => exact spec_scalar rfl hinv hcall

end

/-- well-formed heap: references in range, `_unknown_fields` is a bytes object (decidable: `wfB`) -/
def WF (h : Heap) : Prop := Closed h ∧ UnkBytes h

def unkBytesB (h : Heap) : Bool :=
  h.all fun c => match c with
    | .msg _ _ u _ => isBytes h u
    | _ => true

def wfB (h : Heap) : Bool := closedB h && unkBytesB h

theorem wfB_sound {h : Heap} (hw : wfB h = true) : WF h := by
  unfold wfB at hw
  simp only [Bool.and_eq_true] at hw
  refine ⟨(closedB_iff h).mp hw.1, ?_⟩
  intro k sl ow u g hk
  have := (List.all_eq_true.mp hw.2) _ (List.mem_of_getElem? hk)
  simpa using this

theorem Inv.init {h : Heap} (hw : WF h) : Inv h.length h [] := by
  refine ⟨hw.1, Nat.le_refl _, ?_, (by intro i j hij; cases hij), hw.2⟩
  intro k c hk hc
  rw [List.getElem?_eq_none hk] at hc; cases hc

theorem Inv.reach_fresh {b0 : Nat} {h : Heap} {m : Memo} (hi : Inv b0 h m) {a x : Nat}
    (ha : b0 ≤ a ∨ isBytes h a = true) (hr : Reach h a x) : b0 ≤ x ∨ isBytes h x = true := by
  induction hr with
  | refl => exact ha
  | @step a b x c hc hb _ ih =>
    rcases ha with ha | ha
    · exact ih (hi.fresh a c ha hc b hb)
    · exact ih (Reach.of_bytes ha (Reach.edge hc hb) ▸ Or.inr ha)

theorem copyWith_spec {cfg : Cfg} (hcfg : cfg.shareGc = false) {fuel : Nat} {h h' : Heap} {o c : Nat}
    (hw : WF h) (ho : o < h.length) (hcp : copyWith cfg fuel h o = some (h', c)) :
    (∃ ext, h' = h ++ ext) ∧ WF h' ∧ c < h'.length ∧ (h.length ≤ c ∨ isBytes h' c = true) ∧
    (∀ x, Reach h' c x → h.length ≤ x ∨ isBytes h' x = true) ∧
    ∀ n, absVal n h' c = absVal n h o := by
  unfold copyWith at hcp
  split at hcp
  · rename_i h1 m1 c' hcv
    cases hcp
    obtain ⟨cp, hval⟩ := spec_copyVal h.length cfg hcfg fuel h [] (.ref o) _ _ _
      (Inv.init hw) (fun r hr => by cases List.mem_singleton.mp hr; exact ho) hcv
    obtain ⟨hcl, hc0⟩ := cp.fresh _ (List.mem_singleton_self _)
    obtain ⟨ext, hext⟩ := cp.ext
    exact ⟨⟨ext, hext.symm⟩, ⟨cp.inv.closed, cp.inv.unk⟩, hcl, hc0, fun x hx => cp.inv.reach_fresh hc0 hx, hval⟩
  · cases hcp

end Bp.Hp
