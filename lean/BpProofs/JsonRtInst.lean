import BpProofs.JsonRtMain
/-
  C04, instance form: `Cls().from_dict(d)` — `_serialized_on_wire = True`, then one `setattr`
  per written key — ends in the same state as the class form `Cls.from_dict(d)` when `d` is
  `m.to_dict()` of a message in the guarded domain (`roundtrip_instance`).
-/
namespace Bp
open Gen

/-- the state of the instance after the `setattr`s for the fields below `idx` -/
structure InstInv (S : Schema) (E : Enums) (cs : KeyCase) (fs : List FieldD) (n : Nat) (sl : List Val)
    (cur : List (Option Nat)) (idx : Nat) (st : MState) : Prop where
  len : st.slots.length = fs.length
  lo : ∀ i v f, i < idx → sl[i]? = some v → fs[i]? = some f →
    st.slots.getD i .ph = jrtSlot S E cs f (hidden f i cur) (selectedInGroup f i cur) v
  hi : ∀ i f, idx ≤ i → fs[i]? = some f → st.slots.getD i .ph = freshVal f
  curlen : st.cur.length = n
  curv : ∀ g, st.cur.getD g Option.none =
    (match cur.getD g Option.none with
     | some j => if j < idx then some j else Option.none
     | Option.none => Option.none)
  ow : st.onWire = true
  unk : st.unknown = []

theorem InstInv.next {S : Schema} {E : Enums} {cs : KeyCase} {fs : List FieldD} {n : Nat} {sl : List Val}
    {cur : List (Option Nat)} {idx : Nat} {st : MState} (hinv : InstInv S E cs fs n sl cur idx st) (st' : MState)
    (f : FieldD) (v : Val) (hf : fs[idx]? = some f) (hv : sl[idx]? = some v)
    (hlen : st'.slots.length = fs.length)
    (hother : ∀ i, i ≠ idx → st'.slots.getD i .ph = st.slots.getD i .ph)
    (hself : st'.slots.getD idx .ph = jrtSlot S E cs f (hidden f idx cur) (selectedInGroup f idx cur) v)
    (hcurlen : st'.cur.length = n)
    (hcur : ∀ g, st'.cur.getD g Option.none =
      if cur.getD g Option.none = some idx then some idx else st.cur.getD g Option.none)
    (how : st'.onWire = true) (hunk : st'.unknown = []) : InstInv S E cs fs n sl cur (idx + 1) st' := by
  refine ⟨hlen, ?_, ?_, hcurlen, ?_, how, hunk⟩
  · intro i v' f' hi hv' hfi
    by_cases hlt : i < idx
    · rw [hother i (by omega)]; exact hinv.lo i v' f' hlt hv' hfi
    · have e : i = idx := by omega
      subst e
      rw [hv] at hv'; injection hv' with hv'; subst hv'
      rw [hf] at hfi; injection hfi with hfi; subst hfi
      exact hself
  · intro i f' hi hfi
    rw [hother i (by omega)]; exact hinv.hi i f' (by omega) hfi
  · intro g
    rw [hcur g, hinv.curv g]
    cases hc : cur.getD g Option.none with
    | none => simp
    | some j =>
      by_cases e : j = idx
      · simp [e]
      · have h1 : (j < idx + 1) = (j < idx) := by simp; omega
        simp [e, h1]

section Inv
-- `fs` / `n`: the fields and the group count of the class; `sl` / `cur`: the slots and the selection of the message
-- whose `to_dict` is read back
variable (S : Schema) (E : Enums) (cs : KeyCase) (fs : List FieldD) (n : Nat) (sl : List Val) (cur : List (Option Nat))

theorem instInv_step (hw : WfGroups fs n)
    (hopt : ∀ f ∈ fs, f.group.isSome = true → f.optional = false)
    (hsl : sl.length = fs.length) (hcp : curPoints fs cur = true)
    (hrt : ∀ k v f, sl[k]? = some v → fs[k]? = some f →
      SlotRT2 S E cs f (hidden f k cur) (selectedInGroup f k cur) v) :
    ∀ (vs : List Val) (idx : Nat) (st : MState), InstInv S E cs fs n sl cur idx st →
      (∀ k v, vs[k]? = some v → sl[idx + k]? = some v) → idx + vs.length = fs.length →
      InstInv S E cs fs n sl cur fs.length (applyKw S fs st (emitted2 S E cs fs cur idx vs)) := by
  intro vs
  induction vs with
  | nil =>
    intro idx st hinv _ hlen
    rw [emitted2, applyKw]
    simp at hlen
    rw [← hlen]; exact hinv
  | cons v vs ih =>
    intro idx st hinv hvs hlen
    have hidx : idx < fs.length := by simp at hlen; omega
    have hf : fs[idx]? = some fs[idx] := List.getElem?_eq_getElem hidx
    have hv : sl[idx]? = some v := by simpa using hvs 0 v (by simp)
    have hr := hrt idx v fs[idx] hv hf
    have hvs' : ∀ k v', vs[k]? = some v' → sl[idx + 1 + k]? = some v' := by
      intro k v' hk
      have := hvs (k + 1) v' (by simpa using hk)
      have e : idx + (k + 1) = idx + 1 + k := by omega
      rw [← e]; exact this
    have hlen' : idx + 1 + vs.length = fs.length := by simp at hlen; omega
    rw [emitted2]
    simp only [hf]
    have hselg : ∀ g, cur.getD g Option.none = some idx → fs[idx].group = some g := by
      intro g hc
      obtain ⟨f', hf', hg'⟩ := curPoints_spec fs cur hcp g idx hc
      rw [hf] at hf'; injection hf' with hf'; rw [hf']; exact hg'
    cases hs : toDictSlot S E cs false fs[idx] (hidden fs[idx] idx cur) (selectedInGroup fs[idx] idx cur) v with
    | none =>
      -- the field is not written: it is not selected, and its slot stays the dataclass default
      obtain ⟨hsel, _⟩ := hr.2 hs
      refine ih (idx + 1) st (hinv.next st _ v hf hv hinv.len (fun _ _ => rfl) ?_ hinv.curlen ?_ hinv.ow hinv.unk)
        hvs' hlen'
      · rw [hinv.hi idx _ (Nat.le_refl _) hf]; unfold jrtSlot; rw [hs]
      · intro g
        rw [if_neg]
        intro hc
        rw [selectedInGroup_of_cur _ idx g cur (hselg g hc) hc] at hsel; cases hsel
    | some j =>
      simp only
      rw [applyKw]
      obtain ⟨_, _, _, _, hsent, hhid⟩ := hr.1 j hs
      apply ih (idx + 1) _ _ hvs' hlen'
      have hjs : jrtSlot S E cs fs[idx] (hidden fs[idx] idx cur) (selectedInGroup fs[idx] idx cur) v = jrt S E cs v := by
        unfold jrtSlot; rw [hs]
      unfold setAttr
      simp only [markEmpty_jrt, hf]
      cases hg : fs[idx].group with
      | none =>
        refine hinv.next _ _ v hf hv (by rw [setAt_length]; exact hinv.len) (fun i hi => getD_setAt_ne _ _ _ _ hi.symm)
          (by rw [getD_setAt_self _ _ _ (by rw [hinv.len]; exact hidx), hjs]) hinv.curlen ?_ rfl hinv.unk
        intro g
        rw [if_neg]
        intro hc
        rw [hg] at hselg; cases hselg g hc
      | some g =>
        simp only
        have hcg : cur.getD g Option.none = some idx := by
          have := hhid
          unfold hidden at this
          rw [hg] at this
          simpa using this
        have hgn : g < n := hw fs[idx] (List.mem_of_getElem? hf) g hg
        -- the other members of the group are unset already, so `__setattr__` resets nothing
        have hreset : resetGroup g idx fs st.slots 0 = st.slots := by
          apply resetGroup_id
          intro i fi s hfi hsi hgi hne
          have hne' : i ≠ idx := by omega
          have hs' : st.slots.getD i .ph = s := by rw [List.getD_eq_getElem?_getD, hsi]; rfl
          have hoi : fi.optional = false := hopt fi (List.mem_of_getElem? hfi) (by simp [hgi])
          have hph : freshVal fi = Val.ph := by simp [freshVal, hoi]
          rw [← hs']
          by_cases hlt : i < idx
          · have hil : i < sl.length := by omega
            have hvi : sl[i]? = some sl[i] := List.getElem?_eq_getElem hil
            rw [hinv.lo i sl[i] fi hlt hvi hfi]
            have hhi : hidden fi i cur = true := hidden_of_cur_ne fi i g cur hgi (by
              rw [hcg]; intro e; injection e with e; exact hne' e.symm)
            have hri := hrt i sl[i] fi hvi hfi
            unfold jrtSlot
            cases hsi' : toDictSlot S E cs false fi (hidden fi i cur) (selectedInGroup fi i cur) sl[i] with
            | none => simp only; exact hph
            | some j' =>
              have := (hri.1 j' hsi').2.2.2.2.2
              rw [hhi] at this; cases this
          · rw [hinv.hi i fi (by omega) hfi]; exact hph
        rw [hreset]
        refine hinv.next _ _ v hf hv (by rw [setAt_length]; exact hinv.len) (fun i hi => getD_setAt_ne _ _ _ _ hi.symm)
          (by rw [getD_setAt_self _ _ _ (by rw [hinv.len]; exact hidx), hjs]) (by simp [hinv.curlen]) ?_ rfl hinv.unk
        intro g'
        rw [getD_set]
        by_cases e : g = g'
        · subst e; rw [if_pos ⟨rfl, by rw [hinv.curlen]; exact hgn⟩, if_pos hcg]
        · rw [if_neg (fun h => e h.1.symm), if_neg]
          intro hc
          have := hselg g' hc
          rw [hg] at this; injection this with this; exact e this

theorem instInv_fresh :
    InstInv S E cs fs n sl cur 0
      { slots := fs.map fun f => if f.optional then Val.none else Val.ph, onWire := true, unknown := [],
        cur := List.replicate n Option.none } := by
  refine ⟨by simp, fun i v f hi => absurd hi (by omega), ?_, by simp, ?_, rfl, rfl⟩
  · intro i f _ hf
    simp only [List.getD_eq_getElem?_getD, List.getElem?_map, hf, Option.map_some, Option.getD_some, freshVal]
  · intro g
    have : (List.replicate n (Option.none : Option Nat)).getD g Option.none = Option.none := by
      simp only [List.getD_eq_getElem?_getD, List.getElem?_replicate]
      split <;> rfl
    rw [this]
    split
    · simp
    · rfl

theorem instInv_final (st : MState) (hsl : sl.length = fs.length) (hcl : cur.length = n)
    (hcp : curPoints fs cur = true) (h : InstInv S E cs fs n sl cur fs.length st) :
    st.slots = jrtSlots S E cs fs cur 0 sl ∧ st.cur = cur ∧ st.onWire = true ∧ st.unknown = [] := by
  refine ⟨?_, ?_, h.ow, h.unk⟩
  · apply List.ext_getElem (by rw [h.len, jrtSlots_length, hsl])
    intro i h1 h2
    have hi : i < fs.length := by rw [← h.len]; exact h1
    have hil : i < sl.length := by omega
    have hf : fs[i]? = some fs[i] := List.getElem?_eq_getElem hi
    have hv : sl[i]? = some sl[i] := List.getElem?_eq_getElem hil
    have a := h.lo i sl[i] fs[i] hi hv hf
    have b := jrtSlots_get S E cs fs cur sl 0 i sl[i] fs[i] hv (by simp)
    simp only [Nat.zero_add] at b
    rw [List.getD_eq_getElem?_getD, List.getElem?_eq_getElem h1] at a
    rw [List.getElem?_eq_getElem h2] at b
    injection b with b
    rw [b]; simpa using a
  · apply list_ext_getD Option.none _ _ (by rw [h.curlen, hcl])
    intro g
    rw [h.curv g]
    cases hc : cur.getD g Option.none with
    | none => rfl
    | some j =>
      obtain ⟨f, hf, _⟩ := curPoints_spec fs cur hcp g j hc
      have : j < fs.length := by
        by_contra hn
        rw [List.getElem?_eq_none (by omega)] at hf; cases hf
      simp [this]

end Inv

/-- the `setattr` sequence of the written fields on a fresh instance marked `_serialized_on_wire` ends in the rebuilt
    message -/
theorem applyKw_fresh_jrt (S : Schema) (E : Enums) (cs : KeyCase) (hS : SchemaOk S E cs) (c : Nat) (sl : List Val)
    (unk : Bytes) (cur : List (Option Nat)) (hbody : bodyOk S c sl unk cur = true)
    (hcp : curPoints (fieldsOf S c) cur = true) (hsel : selOkList S sl = true) :
    applyKw S (fieldsOf S c)
        { slots := (fieldsOf S c).map fun f => if f.optional then Val.none else Val.ph, onWire := true, unknown := [],
          cur := List.replicate (groupsOf S c) Option.none }
        (emitted2 S E cs (fieldsOf S c) cur 0 sl)
      = { slots := jrtSlots S E cs (fieldsOf S c) cur 0 sl, onWire := true, unknown := [], cur := cur } := by
  obtain ⟨_, hlen, hcl, hsl⟩ := bodyOk_spec S c sl unk cur hbody
  have hrt : ∀ k v f, sl[k]? = some v → (fieldsOf S c)[k]? = some f →
      SlotRT2 S E cs f (hidden f k cur) (selectedInGroup f k cur) v := fun k v f hv hf => by
    have := rt_slots S E cs hS (fieldsOf S c) cur (schema_field S E cs hS c) sl 0 hsl hsel k v f hv (by simpa using hf)
    simpa using this
  have hfin := instInv_step S E cs (fieldsOf S c) (groupsOf S c) sl cur (schema_groups S E cs hS c)
    (fun f hf hg => fieldJsonOk_group_nonopt f (schema_field S E cs hS c f hf) hg) hlen hcp hrt
    sl 0 _ (instInv_fresh S E cs (fieldsOf S c) (groupsOf S c) sl cur)
    (fun k v hk => by simpa using hk) (by simpa using hlen)
  obtain ⟨e1, e2, e3, e4⟩ := instInv_final S E cs (fieldsOf S c) (groupsOf S c) sl cur _ hlen hcl hcp hfin
  cases hq : applyKw S (fieldsOf S c) _ (emitted2 S E cs (fieldsOf S c) cur 0 sl) with
  | mk a b c' d =>
    rw [hq] at e1 e2 e3 e4
    simp only at e1 e2 e3 e4
    rw [e1, e2, e3, e4]

/-- **instance form on a fresh instance**: `Cls().from_dict(m.to_dict(casing))` ends in the
    same message as the class form -/
theorem roundtrip_instance (S : Schema) (E : Enums) (cs : KeyCase) (hS : SchemaOk S E cs) (c : Nat) (sl : List Val)
    (ow : Bool) (unk : Bytes) (cur : List (Option Nat))
    (hwt : wellTyped' S (.msg c sl ow unk cur) = true) (hsel : selOk S (.msg c sl ow unk cur) = true) :
    fromDictI S E (fresh S c) (toDict S E cs false (.msg c sl ow unk cur))
      = .ok (jrt S E cs (.msg c sl ow unk cur)) := by
  obtain ⟨hunk, a1, _, _⟩ := msgRT_of_wellTyped S E cs hS c sl ow unk cur hwt hsel
  subst hunk
  rw [wellTyped_msg] at hwt
  rw [selOk_msg] at hsel
  simp only [Bool.and_eq_true] at hsel
  rw [toDict]
  simp only [mkObj, fromDictI, fresh, stateOf, fromDictInit, a1, bind_ok, MState.toVal, jrt_msg]
  rw [applyKw_fresh_jrt S E cs hS c sl [] cur hwt hsel.1 hsel.2]

end Bp

#print axioms Bp.roundtrip_instance
