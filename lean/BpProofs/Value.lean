import BpModel.Value
/-
  What the definitions of BpModel/Value.lean do on each form of input: the five branches of
  `FieldD.defKind` (`_get_field_default_gen`), the default values, and `hidden` / `selectedInGroup`
  in terms of the oneof selection.
-/
namespace Bp
open Gen

theorem defKind_rep (f : FieldD) (h : f.repeated = true) : f.defKind = .list := by
  unfold FieldD.defKind; simp [h]

theorem defKind_map (f : FieldD) (hr : f.repeated = false) (h : (f.ty == PType.map) = true) : f.defKind = .dict := by
  unfold FieldD.defKind; simp only [hr, h]; simp

theorem defKind_none (f : FieldD) (hr : f.repeated = false) (hm : (f.ty == PType.map) = false)
    (h : (f.optional || f.wraps.isSome) = true) : f.defKind = .none := by
  unfold FieldD.defKind; simp only [hr, hm, h]; simp

theorem defKind_msg (f : FieldD) (hr : f.repeated = false) (hm : (f.ty == PType.map) = false)
    (h : (f.optional || f.wraps.isSome) = false) (hmsg : (f.ty == PType.message) = true) :
    f.defKind = msgKindDef f.kind := by
  unfold FieldD.defKind; simp only [hr, hm, h, hmsg]; simp

theorem defKind_scalar (f : FieldD) (hr : f.repeated = false) (hm : (f.ty == PType.map) = false)
    (h : (f.optional || f.wraps.isSome) = false) (hmsg : (f.ty == PType.message) = false) :
    f.defKind = scalarDef f.ty := by
  unfold FieldD.defKind; simp only [hr, hm, h, hmsg]; simp

theorem defKind_none_of (f : FieldD) (hr : f.repeated = false) (hm : f.ty ≠ .map)
    (h : f.optional = true ∨ f.wraps.isSome = true) : f.defKind = .none :=
  defKind_none f hr (by simpa using hm) (by rcases h with h | h <;> simp [h])

theorem defKind_cases (f : FieldD) :
    (f.repeated = true ∧ f.defKind = .list) ∨
    (f.repeated = false ∧ f.ty = .map ∧ f.defKind = .dict) ∨
    (f.repeated = false ∧ f.ty ≠ .map ∧ (f.optional || f.wraps.isSome) = true ∧ f.defKind = .none) ∨
    (f.repeated = false ∧ f.ty = .message ∧ f.optional = false ∧ f.wraps = Option.none ∧ f.defKind = msgKindDef f.kind) ∨
    (f.repeated = false ∧ f.ty ≠ .map ∧ f.ty ≠ .message ∧ f.optional = false ∧ f.wraps = Option.none
      ∧ f.defKind = scalarDef f.ty) := by
  cases hr : f.repeated with
  | true => exact .inl ⟨rfl, defKind_rep f hr⟩
  | false =>
    right
    by_cases hm : (f.ty == PType.map) = true
    · exact .inl ⟨rfl, by simpa using hm, defKind_map f hr hm⟩
    right
    have hm' : (f.ty == PType.map) = false := by simpa using hm
    have hmn : f.ty ≠ .map := by simpa using hm
    by_cases ho : (f.optional || f.wraps.isSome) = true
    · exact .inl ⟨rfl, hmn, ho, defKind_none f hr hm' ho⟩
    right
    have ho' : (f.optional || f.wraps.isSome) = false := by simpa using ho
    have ho1 : f.optional = false := by cases h : f.optional <;> simp_all
    have hw1 : f.wraps = Option.none := by cases h : f.wraps <;> simp_all
    by_cases hg : (f.ty == PType.message) = true
    · exact .inl ⟨rfl, by simpa using hg, ho1, hw1, defKind_msg f hr hm' ho' hg⟩
    · exact .inr ⟨rfl, hmn, by simpa using hg, ho1, hw1, defKind_scalar f hr hm' ho' (by simpa using hg)⟩

theorem scalarDef_cases (t : PType) : scalarDef t = .bool ∨ scalarDef t = .f32 ∨ scalarDef t = .f64
    ∨ scalarDef t = .str ∨ scalarDef t = .byt ∨ scalarDef t = .int := by
  cases t <;> simp [scalarDef]

theorem scalarDef_ne_none (t : PType) : scalarDef t ≠ .none := by cases t <;> decide
theorem scalarDef_ne_list (t : PType) : scalarDef t ≠ .list := by cases t <;> simp [scalarDef]
theorem msgKindDef_ne_none (k : MsgKind) : msgKindDef k ≠ .none := by cases k <;> simp [msgKindDef]
theorem msgKindDef_ne_list (k : MsgKind) : msgKindDef k ≠ .list := by cases k <;> simp [msgKindDef]

theorem defKind_ne_none (f : FieldD) (hr : f.repeated = false) (ho : f.optional = false) (hw : f.wraps = Option.none)
    (hm : f.ty ≠ .map) : f.defKind ≠ .none := by
  rcases defKind_cases f with ⟨e, _⟩ | ⟨_, e, _⟩ | ⟨_, _, e, _⟩ | ⟨_, _, _, _, e⟩ | ⟨_, _, _, _, _, e⟩
  · rw [hr] at e; cases e
  · exact absurd e hm
  · simp [ho, hw] at e
  · rw [e]; exact msgKindDef_ne_none _
  · rw [e]; exact scalarDef_ne_none _

theorem defKind_eq_msg (f : FieldD) (c : Nat) (h : f.defKind = .msg c) :
    f.ty = .message ∧ f.optional = false ∧ f.wraps = Option.none ∧ f.kind = .user c := by
  rcases defKind_cases f with ⟨_, e⟩ | ⟨_, _, e⟩ | ⟨_, _, _, e⟩ | ⟨_, ht, ho, hw, e⟩ | ⟨_, _, _, _, _, e⟩
  · rw [h] at e; cases e
  · rw [h] at e; cases e
  · rw [h] at e; cases e
  · refine ⟨ht, ho, hw, ?_⟩
    rw [h] at e; revert e; cases f.kind <;> (intro e; cases e)
    rfl
  · rw [h] at e; revert e; cases f.ty <;> (intro e; cases e)

theorem defaultOf_repeated (S : Schema) (f : FieldD) (h : f.repeated = true) : defaultOf S f = .list [] := by
  rw [defaultOf, defKind_rep f h]; rfl

theorem default_notlist (S : Schema) (f : FieldD) (hr : f.repeated = false) (xs : List Val) :
    defaultOf S f ≠ Val.list xs := by
  unfold defaultOf
  rcases defKind_cases f with ⟨e, _⟩ | ⟨_, _, e⟩ | ⟨_, _, _, e⟩ | ⟨_, _, _, _, e⟩ | ⟨_, _, _, _, _, e⟩
  · rw [hr] at e; cases e
  · rw [e]; nofun
  · rw [e]; nofun
  · rw [e]; cases f.kind <;> nofun
  · rw [e]; cases f.ty <;> nofun

theorem defaultOf_ne_ph (S : Schema) (f : FieldD) : defaultOf S f ≠ .ph := by
  unfold defaultOf
  cases f.defKind <;> simp [defaultOfKind, fresh]

theorem eqDefault_list (S : Schema) (xs : List Val) : eqDefault S .list (.list xs) = xs.isEmpty := by
  rw [eqDefault]; simp

theorem eqDefault_dict (S : Schema) (ks vs : List Val) : eqDefault S .dict (.dict ks vs) = ks.isEmpty := by
  rw [eqDefault]; simp

theorem eqDefault_defaultOfKind (S : Schema) (k : DefKind) (h : ∀ c, k ≠ .msg c) :
    eqDefault S k (defaultOfKind S k) = true := by
  cases k with
  | msg c => exact absurd rfl (h c)
  | _ => rw [defaultOfKind, eqDefault]; rfl

theorem hidden_iff (f : FieldD) (k : Nat) (cur : List (Option Nat)) :
    hidden f k cur = true ↔ ∃ g, f.group = some g ∧ cur.getD g Option.none ≠ some k := by
  unfold hidden; cases f.group <;> simp

theorem selectedInGroup_iff (f : FieldD) (k : Nat) (cur : List (Option Nat)) :
    selectedInGroup f k cur = true ↔ ∃ g, f.group = some g ∧ cur.getD g Option.none = some k := by
  unfold selectedInGroup; cases f.group <;> simp

/-- the two oneof flags of a slot are one fact: selected = a member that `getattr` does not refuse -/
theorem selectedInGroup_eq (f : FieldD) (k : Nat) (cur : List (Option Nat)) :
    selectedInGroup f k cur = (f.group.isSome && !hidden f k cur) := by
  unfold selectedInGroup hidden; cases f.group <;> simp [bne]

theorem hidden_nogroup (f : FieldD) (k : Nat) (cur : List (Option Nat)) (hg : f.group = Option.none) :
    hidden f k cur = false := by
  unfold hidden; rw [hg]

theorem selected_nogroup (f : FieldD) (k : Nat) (cur : List (Option Nat)) (hg : f.group = Option.none) :
    selectedInGroup f k cur = false := by
  unfold selectedInGroup; rw [hg]

theorem hidden_of_cur_ne (f : FieldD) (j g : Nat) (cur : List (Option Nat)) (hg : f.group = some g)
    (h : cur.getD g Option.none ≠ some j) : hidden f j cur = true :=
  (hidden_iff f j cur).mpr ⟨g, hg, h⟩

theorem selectedInGroup_of_cur (f : FieldD) (k g : Nat) (cur : List (Option Nat)) (hg : f.group = some g)
    (h : cur.getD g Option.none = some k) : selectedInGroup f k cur = true :=
  (selectedInGroup_iff f k cur).mpr ⟨g, hg, h⟩

theorem selected_of_not_hidden (f : FieldD) (k g : Nat) (cur : List (Option Nat)) (hg : f.group = some g)
    (h : hidden f k cur = false) : cur.getD g Option.none = some k := by
  unfold hidden at h; rw [hg] at h; simpa using h

theorem selected_member (f : FieldD) (i : Nat) (cur : List (Option Nat)) (hs : selectedInGroup f i cur = true) :
    ∃ g, f.group = some g ∧ cur.getD g Option.none = some i ∧ hidden f i cur = false := by
  obtain ⟨g, hg, hc⟩ := (selectedInGroup_iff f i cur).mp hs
  rw [selectedInGroup_eq, Bool.and_eq_true, Bool.not_eq_true'] at hs
  exact ⟨g, hg, hc, hs.2⟩

theorem hidden_group (f : FieldD) (i : Nat) (cur : List (Option Nat)) (h : hidden f i cur = true) :
    ∃ g, f.group = some g ∧ cur.getD g Option.none ≠ some i :=
  (hidden_iff f i cur).mp h

theorem selected_group (f : FieldD) (k : Nat) (cur : List (Option Nat)) (h : selectedInGroup f k cur = true) :
    f.group.isSome = true := by
  rw [selectedInGroup_eq, Bool.and_eq_true] at h
  exact h.1

theorem replicate_none_getD (n g : Nat) :
    (List.replicate n (Option.none : Option Nat)).getD g Option.none = Option.none := by
  simp only [List.getD_eq_getElem?_getD, List.getElem?_replicate]; split <;> rfl

/-- nothing is selected yet: exactly the oneof members are hidden -/
theorem hidden_replicate (f : FieldD) (i n : Nat) : hidden f i (List.replicate n Option.none) = f.group.isSome := by
  unfold hidden
  cases f.group with
  | none => rfl
  | some g => simp only [replicate_none_getD]; rfl

theorem selected_none (f : FieldD) (idx n : Nat) : selectedInGroup f idx (List.replicate n Option.none) = false := by
  unfold selectedInGroup
  cases f.group with
  | none => rfl
  | some g => simp only [replicate_none_getD]; rfl

end Bp
