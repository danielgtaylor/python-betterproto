import BpProofs.ChanLeaf
/- the composite actions of `micro` (the cancellation branch of `Queue.get` / `Queue.put`, `putStep`, `takeItem`,
   finishing) preserve the invariant, and the initial state has it; the walk over `micro` itself is
   `micro_step` in ChanTerm.lean, which treats the invariant and the termination measure together -/
namespace Bp.Chan

attribute [local simp] mPend mWok mInGet mOwed mRecvDone mCanc Wait.inGet Wait.isCancelled

theorem full_true (s : Sys) (hf : s.full = true) : 0 < s.maxsize ∧ s.maxsize ≤ s.queue.length := by
  simpa [Sys.full] using hf

/-- CancelledError thrown into a task suspended in `get()` / `put()` -/
theorem inv_cancel_branch {s : Sys} {t : Nat} {x : Task} (g : Bool) (f : Fut) (h : Inv s) (hx : s.tasks[t]? = some x)
    (hwx : (f = .cancelled ∧ x.wait = .blocked g .cancelled) ∨
           (f = .woken ∧ x.wait = .blocked g .woken ∧ x.mustCancel = true)) :
    Inv (cancelBranch s t x g f) := by
  obtain ⟨hnfl, howed, hcpos⟩ := canc_facts h hx (by rcases hwx with ⟨_, hw⟩ | ⟨_, hw, hm⟩ <;> simp [*])
  generalize hx' : ({ x with wait := .done, out := cancelOutcome x } : Task) = x'
  have hw' : x'.wait = .done := by rw [← hx']
  have hc' : x'.code = x.code := by rw [← hx']
  have hgeWt := tsum_ge (f := mWok true) hx
  have hgeWf := tsum_ge (f := mWok false) hx
  -- the state after the bookkeeping, before the possible wake-up, keeps the structural invariants
  have sinv_erase : ∀ (s' : Sys) (g0 : Bool), s'.tasks = s.tasks.set t x' → s'.queue = s.queue → s'.putLog = s.putLog →
      s'.recvLog = s.recvLog → s'.closed = s.closed → s'.preClose = s.preClose →
      s'.dq g0 = (s.dq g0).erase t → s'.dq (!g0) = s.dq (!g0) → SInv s' :=
    fun s' g0 e1 e2 e3 e4 e5 e6 e7 e8 =>
      sinv_frame h.st hx e1 e2 e3 e4 e5 e6 (Nat.le_of_eq (congrArg _ hc'.symm)) (by simp [hw'])
        (by intro hf; rw [hc', hnfl] at hf; cases hf) (mem_dq_at s s' g0 t (fun _ hu hm => e7 ▸ (List.mem_erase_of_ne hu).mpr hm) e8)
        (by intro g' hg; rw [hw'] at hg; cases hg)
  unfold cancelBranch finish
  rw [hx']
  cases g
  · have hs2 : SInv { s.setTask t x' with putters := s.putters.erase t } := sinv_erase _ false rfl rfl rfl rfl rfl rfl rfl rfl
    simp only [Bool.false_eq_true, if_false]
    split
    · -- a woken putter passes its wake-up on
      rename_i hcond
      rcases hwx with ⟨hf, _⟩ | ⟨_, hw, hm⟩
      · exact absurd hf hcond.1
      refine ⟨sinv_wake false hs2, ?_⟩
      rw [abs_wake false _ (by exact hs2.g1)]
      simp only [abs, Sys.setTask, tsum_set_eq _ hx]
      simp [mFresh, hw, hw', hc', howed] at hgeWf ⊢
      exact (h.nm.passOnP hgeWf).cancelled hcpos _ _
    · rename_i hcond
      refine ⟨hs2, ?_⟩
      simp only [abs, Sys.setTask, tsum_set_eq _ hx]
      rcases hwx with ⟨hf, hw⟩ | ⟨hf, hw, hm⟩
      · simp [mFresh, hw, hw', hc', howed]
        exact h.nm.cancelled hcpos _ _
      · -- the wake-up is not passed on: the queue is full again
        have hr := full_true s (by simpa [hf] using hcond)
        simp [mFresh, hw, hw', hc', howed]
        exact (h.nm.putters hr.1 hr.2 _ _).cancelled hcpos _ _
  · have hs2 : SInv { s.setTask t x' with getters := s.getters.erase t, waiting := s.waiting - 1 } :=
      sinv_erase _ true rfl rfl rfl rfl rfl rfl rfl rfl
    simp only [if_true]
    split
    · -- a woken getter passes its wake-up on
      rename_i hcond
      rcases hwx with ⟨hf, _⟩ | ⟨_, hw, hm⟩
      · exact absurd hf hcond.1
      refine ⟨sinv_wake true hs2, ?_⟩
      rw [abs_wake true _ (by exact hs2.g1)]
      simp only [abs, Sys.setTask, tsum_set_eq _ hx]
      simp [mFresh, hw, hw', hc', howed] at hgeWt ⊢
      exact ((h.nm.passOnG hgeWt).leaveGet hcpos).cancelled hcpos _ _
    · rename_i hcond
      refine ⟨hs2, ?_⟩
      simp only [abs, Sys.setTask, tsum_set_eq _ hx]
      rcases hwx with ⟨hf, hw⟩ | ⟨hf, hw, hm⟩
      · simp [mFresh, hw, hw', hc', howed]
        exact (h.nm.leaveGet hcpos).cancelled hcpos _ _
      · -- the queue is empty again
        have hr : s.queue.length = 0 := by simpa [hf] using hcond
        simp [mFresh, hw, hw', hc', howed]
        exact ((h.nm.getters hr _ _).leaveGet hcpos).cancelled hcpos _ _

/-- `putOrBlock`: `cB` is the program counter of the task while it waits for room, `cD` once its item is in -/
theorem inv_putOrBlock {s : Sys} {t : Nat} {x : Task} (cB cD : Code) (it : Item) (h : Inv s) (hx : s.tasks[t]? = some x)
    (hwx : x.wait = .ready ∨ x.wait = .blocked false .woken) (hfr : mFresh x = 0)
    (hB : cB.nextSeq = x.code.nextSeq ∧ owedOf cB = owedOf x.code ∧ cB.isFlusher = x.code.isFlusher)
    (hD : cD ≠ .flusher none ∧ cD.isFlusher = x.code.isFlusher ∧ x.code.nextSeq ≤ cD.nextSeq)
    (hdata : ∀ a b, it = .data a b → a = t ∧ b = x.code.nextSeq ∧ cD.nextSeq = b + 1 ∧
      owedOf x.code = 0 ∧ owedOf cD = 0)
    (hflush : it = .flush → owedOf x.code = owedOf cD + 1) : Inv (putOrBlock s t x cB cD it) := by
  unfold putOrBlock
  cases hfull : s.full
  · simp only [Bool.false_eq_true, if_false]
    exact inv_put h hx hwx rfl rfl hfr hD.1 hD.2.1 hD.2.2 hdata hflush
  · simp only [if_true]
    exact inv_wait_put h hx hwx rfl hB.1 hB.2.1 hB.2.2 rfl hfr (full_true s hfull)

/-- a sender / flusher about to put (ready after its closed check, or woken from a putter) -/
theorem inv_putStep {s : Sys} {t : Nat} {x : Task} (h : Inv s) (hx : s.tasks[t]? = some x)
    (hwx : x.wait = .ready ∨ x.wait = .blocked false .woken) : Inv (putStep s t x) := by
  unfold putStep
  split
  · rename_i m nx r cl hcode
    exact inv_putOrBlock _ _ _ h hx hwx (by simp [mFresh, hcode])
      (by simp [hcode, Code.nextSeq, owedOf, Code.isFlusher])
      (by simp [hcode, Code.nextSeq, Code.isFlusher])
      (by intro a b e; cases e; simp [hcode, Code.nextSeq, owedOf]) (by intro e; cases e)
  · rename_i r hcode
    exact inv_putOrBlock _ _ _ h hx hwx (by simp [mFresh, hcode])
      (by simp [hcode, Code.nextSeq, owedOf, Code.isFlusher])
      (by simp [hcode, Code.nextSeq, Code.isFlusher])
      (by intro a b e; cases e) (by intro _; simp [hcode, owedOf])
  · exact h

theorem inv_takeItem {s : Sys} {t : Nat} {x : Task} {it : Item} {rest : List Item} (counted : Bool) (h : Inv s)
    (hx : s.tasks[t]? = some x) (hwx : x.wait = if counted then .blocked true .woken else .ready)
    (hq : s.queue = it :: rest) (hrc : x.code.isReceiver = true)
    (hnd : counted = false → ind s.closed = 1 → s.waiting < s.queue.length) :
    Inv (takeItem s t x it rest counted) := by
  have hun : s.unfinished ≠ 0 := by
    have := h.nm.unfin; simp only [abs] at this; rw [this, hq]; simp
  unfold takeItem
  simp only [hun, if_false]
  cases it with
  -- `inv_take` is elaborated on its own before it meets the goal: unifying its general `x'`, `rl'` against the
  -- unfolded `takeItem` takes the unifier very long
  | flush =>
    have := inv_take (x' := { x with wait := .done, out := .ok }) (rl' := s.recvLog) counted h hx hwx hq rfl rfl hrc
      (fun _ => ⟨rfl, rfl⟩) (fun a b e => by cases e) hnd
    exact this
  | data a b =>
    have := inv_take (x' := { x with wait := .ready }) (rl' := s.recvLog ++ [(t, .data a b)]) counted h hx hwx hq rfl rfl hrc
      (fun e => by cases e) (fun _ _ _ => ⟨rfl, rfl⟩) hnd
    exact this

theorem inv_finish_plain {s : Sys} {t : Nat} {x : Task} (h : Inv s) (hx : s.tasks[t]? = some x) (hw : x.wait = .ready)
    (hp : x.code ≠ .flusher none ∧ owedOf x.code = 0 ∧ x.code.isReceiver = false) (o : Outcome) :
    Inv (finish s t x o) :=
  inv_finish' h hx hw o (Or.inl (by simp [mFresh, hp.1])) hp.2.1 (fun hr => by rw [hp.2.2] at hr; cases hr)

theorem tsum_eq_zero_of_forall {f : Task → Nat} {ts : List Task} (h : ∀ x ∈ ts, f x = 0) : tsum f ts = 0 := by
  induction ts with
  | nil => rfl
  | cons y ys ih =>
    simp only [tsum]
    rw [h y List.mem_cons_self, ih (fun x hx => h x (List.mem_cons_of_mem _ hx))]

theorem toTask_wait (p : Prog) : p.toTask.wait = .ready ∧ p.toTask.mustCancel = false ∧ p.toTask.code.isFlusher = false := by
  cases p <;> simp [Prog.toTask, Code.isFlusher]

theorem init_inv (maxsize : Nat) (progs : List Prog) : Inv (init maxsize progs) := by
  have hall : ∀ x ∈ (progs.map Prog.toTask), x.wait = .ready ∧ x.mustCancel = false ∧ x.code.isFlusher = false := by
    intro x hx
    obtain ⟨p, _, rfl⟩ := List.mem_map.mp hx
    exact toTask_wait p
  have z : ∀ f : Task → Nat, (∀ x : Task, x.wait = .ready → x.mustCancel = false → x.code.isFlusher = false → f x = 0) →
      tsum f (progs.map Prog.toTask) = 0 := by
    intro f hf
    exact tsum_eq_zero_of_forall (fun x hx => hf x (hall x hx).1 (hall x hx).2.1 (hall x hx).2.2)
  have hget : ∀ (t : Nat) (x : Task), (progs.map Prog.toTask)[t]? = some x → x ∈ progs.map Prog.toTask :=
    fun t x hx => List.mem_of_getElem? hx
  constructor
  · refine ⟨rfl, ?_, List.Pairwise.nil, ?_, by simp [init], ?_, ?_⟩
    · intro a b hab; simp [init] at hab
    · intro g t x hx hw
      have := (hall x (hget t x hx)).1
      rw [this] at hw; cases hw
    · intro t x hx hi
      have := (hall x (hget t x hx)).1
      rw [this] at hi; simp at hi
    · intro t x hx hf
      have := (hall x (hget t x hx)).2.2
      rw [this] at hf; cases hf
  · -- every count is 0: no task of `init` is suspended, finished, cancelled or a flusher
    have zPend : ∀ g, tsum (mPend g) (progs.map Prog.toTask) = 0 := fun g => z _ (by intro x hw _ _; simp [hw])
    have zWok : ∀ g, tsum (mWok g) (progs.map Prog.toTask) = 0 := fun g => z _ (by intro x hw _ _; simp [hw])
    have zInGet := z mInGet (by intro x hw _ _; simp [hw])
    have zOwed := z mOwed (by intro x hw _ hf; cases hc : x.code <;> simp [hw, owedOf, hc, Code.isFlusher] at hf ⊢)
    have zFresh := z mFresh (by intro x hw _ hf; cases hc : x.code <;> simp [mFresh, hc, Code.isFlusher] at hf ⊢)
    have zRecvDone := z mRecvDone (by intro x hw _ _; simp [hw])
    have zCanc := z mCanc (by intro x hw hm _; simp [hw, hm])
    constructor <;> simp [abs, init, zPend, zWok, zInGet, zOwed, zFresh, zRecvDone, zCanc]

end Bp.Chan
