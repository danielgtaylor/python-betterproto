import BpProofs.Gen.SrcNaming
import BpProofs.SrcTieCasing
/-
  The translation of src/betterproto/compile/naming.py (BpProofs/Gen/SrcNaming.lean) equals the model of
  BpModel/Naming.lean, for all strings: `x.find(sub)` followed by the slice `x[find + len(sub):]` is the model's
  `afterFirst`, `x.strip("_")` is the model's `stripU`, `.upper()` is `upperW` by definition of the prelude, and the
  `casing.X` calls are the model's by BpProofs/SrcTieCasing.lean.
-/
namespace Bp.SrcTieNaming
open Bp Bp.Casing Bp.Naming Bp.Py Bp.SrcTieCasing
open Bp.Importing (Str)

/-- `find` and the model's `afterFirst`: no occurrence ↔ `-1`; otherwise the index `k` found is such that the
    model's rest is `hay[k + len(sub):]`, and that slice is inside `hay` -/
theorem strFindFrom_spec (sub : Str) : ∀ (hay : Str) (i : Nat),
    match afterFirst sub hay with
    | none => strFindFrom sub i hay = -1
    | some r => ∃ k : Nat, strFindFrom sub i hay = ((i + k : Nat) : Int) ∧ k + sub.length ≤ hay.length
        ∧ r = hay.drop (k + sub.length) := by
  intro hay
  induction hay with
  | nil =>
    intro i
    cases sub with
    | nil => exact ⟨0, by simp [strFindFrom], by simp, by simp⟩
    | cons a t => simp [afterFirst, strFindFrom]
  | cons c t ih =>
    intro i
    by_cases hp : sub.isPrefixOf (c :: t) = true
    · simp only [afterFirst, strFindFrom, hp, if_true]
      have hle : sub.length ≤ (c :: t).length := (List.isPrefixOf_iff_prefix.mp hp).length_le
      exact ⟨0, by simp, by simpa using hle, by simp⟩
    · simp only [afterFirst, strFindFrom, hp]
      have h := ih (i + 1)
      cases hr : afterFirst sub t with
      | none => rw [hr] at h; simpa using h
      | some r =>
        rw [hr] at h
        obtain ⟨k, h1, h2, h3⟩ := h
        refine ⟨k + 1, ?_, ?_, ?_⟩
        · simp only [Bool.false_eq_true, if_false]; rw [h1]; congr 1; omega
        · simp only [List.length_cons]; omega
        · rw [h3, show k + 1 + sub.length = (k + sub.length) + 1 by omega, List.drop_succ_cons]

theorem clamp_nat (n m : Nat) : clamp n (m : Int) = min m n := by
  have : ¬ ((m : Int) < 0) := by omega
  simp [clamp, this]

theorem strStrip_underscore (x : Str) : strStrip x "_".toList = stripU x := by
  have hf : (fun c : Char => ("_".toList).contains c) = fun c => decide (c = '_') := by
    funext c
    show (['_'] : List Char).contains c = decide (c = '_')
    simp
  simp only [strStrip, stripU, rstripU, lstripU, hf]

/-- `name[name.find(e) + len(e):]` when `find` is not `-1`, the unchanged name otherwise: the model's `afterFirst` -/
theorem find_slice (name e : Str) :
    (match afterFirst e name with
     | none => strFind name e = -1
     | some r => strFind name e ≠ -1 ∧ sliceFrom name (strFind name e + llen e) = r) := by
  have h := strFindFrom_spec e name 0
  cases hr : afterFirst e name with
  | none => rw [hr] at h; exact h
  | some r =>
    rw [hr] at h
    obtain ⟨k, h1, h2, h3⟩ := h
    simp only [Nat.zero_add] at h1
    refine ⟨?_, ?_⟩
    · show strFindFrom e 0 name ≠ -1
      rw [h1]; omega
    · show sliceFrom name (strFindFrom e 0 name + llen e) = r
      rw [h1, h3, show (k : Int) + llen e = ((k + e.length : Nat) : Int) by simp [llen], sliceFrom, clamp_nat]
      congr 1
      omega

end Bp.SrcTieNaming
