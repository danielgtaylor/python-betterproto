import BpProofs.Gen.SrcParser
import BpProofs.SrcTiePlugin
import BpProofs.PluginTraverse
/-
  THE TIE BETWEEN THE TRANSLATED SOURCE OF plugin/parser.py AND THE HAND-WRITTEN MODEL (C03), part 1:
  `traverse` / `_traverse`, `read_protobuf_type` (+ `_make_one_of_field_compiler`), `read_protobuf_service`.

  `Bp.Src.Parser.*` (BpProofs/Gen/SrcParser.lean) is regenerated from the Python AST of
  src/betterproto/plugin/parser.py on every run.  The theorems below say that

    * the generator `traverse` as written yields, for every file whose nesting depth is below the fuel, exactly
      the list `pFile` — the model's `Plugin.traverse` (same items, same order, same flattened names), each item as
      the object it is at the moment of the `yield` (`toD`: own name replaced by the flattened name, nested
      names untouched) and with the source-code-info path descriptor.proto prescribes for it;
    * `read_protobuf_type` as written appends to the OutputTemplate exactly `readLog`: nothing for a map-entry
      message, one `MessageCompiler` + one field compiler per field — of the class the MODEL's classification
      (`isMap`, `isOneof`, the pydantic flag) picks — for any other message, one `EnumDefinitionCompiler` for an enum;
    * `read_protobuf_service` as written appends one `ServiceCompiler` and one `ServiceMethodCompiler` per method.

  What is trusted is the meaning of the Python primitives fixed in BpProofs/PyPrelude*.lean (PyPreludeParser.lean for
  generators, descriptor objects and compiler-object constructions).
-/
set_option linter.unusedSimpArgs false
set_option linter.unusedVariables false
namespace Bp.SrcTieParser
open Bp Bp.Py Bp.Py.Prs Bp.Importing Bp.Plugin Bp.Src.Parser

/-- a model item as the object the generator yields: its `name` is the flattened name -/
def toD : Item → DItem
  | .enum flat e => .enum { e with name := flat }
  | .msg flat m => .msg (setMsgName m flat)

/-- `_traverse(path, <enums>, pre)` counting from `i`: every enum renamed `pre_<name>`, at `path + [index]` -/
def pEnums (path : List Int) (pre : Name) : Int → List EnumP → List (DItem × List Int)
  | _, [] => []
  | i, e :: es => (.enum { e with name := pre ++ '_' :: e.name }, path ++ [i]) :: pEnums path pre (i + 1) es

mutual
/-- `_traverse(path, <messages>, pre)` counting from `i` -/
def pMsgs (path : List Int) (pre : Name) : Int → List MsgP → List (DItem × List Int)
  | _, [] => []
  | i, m :: ms => pMsg path pre i m ++ pMsgs path pre (i + 1) ms
/-- one message: itself (renamed) at `path + [i]`, then its enums under `path + [i, 4]` (DescriptorProto.enum_type = 4),
    then its nested messages under `path + [i, 3]` (DescriptorProto.nested_type = 3), both with the new prefix -/
def pMsg (path : List Int) (pre : Name) (i : Int) : MsgP → List (DItem × List Int)
  | .mk n fs ns es os me =>
    (.msg (.mk (pre ++ '_' :: n) fs ns es os me), path ++ [i])
      :: (pEnums (path ++ [i, 4]) (pre ++ '_' :: n) 0 es ++ pMsgs (path ++ [i, 3]) (pre ++ '_' :: n) 0 ns)
end

/-- `traverse(file)`: enums under `[5]` (FileDescriptorProto.enum_type = 5), then messages under `[4]`
    (FileDescriptorProto.message_type = 4) -/
def pFile (fd : FileD) : List (DItem × List Int) := pEnums [5] [] 0 fd.enums ++ pMsgs [4] [] 0 fd.messages

/-- the model's view of a FileDescriptorProto -/
def toFileP (fd : FileD) : FileP := ⟨fd.package, fd.messages, fd.enums⟩

mutual
/-- nesting depth of a list of messages (0 for none) -/
def depthMsgs : List MsgP → Nat
  | [] => 0
  | m :: ms => max (depthMsg m) (depthMsgs ms)
def depthMsg : MsgP → Nat
  | .mk _ _ ns _ _ _ => depthMsgs ns + 1
end

theorem loop_enums (fuel : Nat) (rec_ : List Int → List DItem → Str → Res (List (DItem × List Int)))
    (path : List Int) (pre : Str) : ∀ (es : List EnumP) (i : Int) (acc : List (DItem × List Int)),
    traverse._traverse.loop1 fuel rec_ path pre i (es.map .enum) acc = .ok (acc ++ pEnums path pre i es)
  | [], i, acc => by simp [traverse._traverse.loop1, pEnums]
  | e :: es, i, acc => by
    simp only [List.map_cons, traverse._traverse.loop1, setItemName, itemName, Res.bind]
    rw [loop_enums fuel rec_ path pre es (i + 1)]
    simp [pEnums]

/-- the fuel a list of messages needs: more than its nesting depth -/
theorem traverse_aux : ∀ (fuel : Nat),
    (∀ (path : List Int) (pre : Str) (es : List EnumP), 0 < fuel →
      traverse._traverse fuel path (es.map .enum) pre = .ok (pEnums path pre 0 es))
    ∧ (∀ (path : List Int) (pre : Str) (ms : List MsgP), depthMsgs ms < fuel →
      traverse._traverse fuel path (ms.map .msg) pre = .ok (pMsgs path pre 0 ms))
  | 0 => ⟨fun _ _ _ h => absurd h (Nat.lt_irrefl 0), fun _ _ _ h => absurd h (Nat.not_lt_zero _)⟩
  | fuel + 1 => by
    obtain ⟨ihE, ihM⟩ := traverse_aux fuel
    refine ⟨?_, ?_⟩
    · intro path pre es _
      simp only [traverse._traverse]
      rw [loop_enums]; rfl
    · intro path pre ms hd
      have key : ∀ (ms : List MsgP) (i : Int) (acc : List (DItem × List Int)), depthMsgs ms < fuel + 1 →
          traverse._traverse.loop1 fuel (traverse._traverse fuel) path pre i (ms.map .msg) acc
            = .ok (acc ++ pMsgs path pre i ms) := by
        intro ms
        induction ms with
        | nil => intro i acc _; simp [traverse._traverse.loop1, pMsgs]
        | cons m r ih =>
          intro i acc hd
          cases m with
          | mk n fs ns es os me =>
            have h1 : depthMsgs ns < fuel := by
              have : depthMsg (.mk n fs ns es os me) < fuel + 1 := by
                unfold depthMsgs at hd; omega
              unfold depthMsg at this; omega
            have h0 : 0 < fuel := by omega
            have h2 : depthMsgs r < fuel + 1 := by unfold depthMsgs at hd; omega
            simp only [List.map_cons, traverse._traverse.loop1, setItemName, setMsgName, itemName, MsgP.name,
              enumType, nestedType, MsgP.enums, MsgP.nested, Res.bind]
            rw [ihE _ _ es h0, ihM _ _ ns h1]
            simp only [Res.bind]
            rw [ih (i + 1) _ h2]
            simp [pMsgs, pMsg]
      simp only [traverse._traverse]
      rw [key ms 0 [] hd]; rfl

theorem traverse_eq (fuel : Nat) (fd : FileD) (h : depthMsgs fd.messages < fuel) :
    Src.Parser.traverse fuel fd = .ok (pFile fd) := by
  have h0 : 0 < fuel := by omega
  unfold Src.Parser.traverse pFile fileEnumType fileMessageType
  rw [(traverse_aux fuel).1 _ _ _ h0, (traverse_aux fuel).2 _ _ _ h]
  simp [Res.bind]

/-- without fuel it reports `.diverge`, not a wrong list (proved at fuel 0 only; Props/C03SrcParser.lean runs an
    instance with fuel equal to the depth) -/
theorem traverse_zero (fd : FileD) : Src.Parser.traverse 0 fd = .diverge := by
  simp [Src.Parser.traverse, traverse._traverse, Res.bind]

theorem pEnums_fst (path : List Int) (pre : Name) : ∀ (es : List EnumP) (i : Int),
    (pEnums path pre i es).map Prod.fst = (travEnums pre es).map toD
  | [], _ => rfl
  | e :: es, i => by simp [pEnums, travEnums, toD, pEnums_fst path pre es (i + 1)]

mutual
theorem pMsgs_fst (path : List Int) (pre : Name) : ∀ (ms : List MsgP) (i : Int),
    (pMsgs path pre i ms).map Prod.fst = (travMsgs pre ms).map toD
  | [], _ => rfl
  | m :: ms, i => by
    simp only [pMsgs, travMsgs, List.map_append]
    rw [pMsg_fst path pre i m, pMsgs_fst path pre ms (i + 1)]
theorem pMsg_fst (path : List Int) (pre : Name) (i : Int) : ∀ (m : MsgP),
    (pMsg path pre i m).map Prod.fst = (travMsg pre m).map toD
  | .mk n fs ns es os me => by
    simp only [pMsg, travMsg, List.map_cons, List.map_append]
    rw [pEnums_fst, pMsgs_fst (path ++ [i, 3]) (pre ++ '_' :: n) ns 0]
    simp [toD, setMsgName]
end

theorem pFile_fst (fd : FileD) : (pFile fd).map Prod.fst = (Plugin.traverse (toFileP fd)).map toD := by
  unfold pFile Plugin.traverse toFileP
  simp only [List.map_append, pEnums_fst, pMsgs_fst]

/-- flattened name and kind of a yielded object (map entries: nothing) -/
def dKey : DItem → Option (Name × TypeKind)
  | .enum e => some (e.name, .enum)
  | .msg m => if m.mapEntry then none else some (m.name, .message)

theorem dKey_toD (it : Item) : dKey (toD it) = itemKey it := by
  cases it with
  | enum flat e => rfl
  | msg flat m => cases m; rfl

/-- the model's `readItem` on the object as yielded -/
def readD (nm : Naming) : DItem → Option (Option Class)
  | .enum e => some (some (compileEnum nm e.name e))
  | .msg m => if m.mapEntry then some none
              else (compileFields nm m m.fields).map fun cs => some (.message (nm.cls m.name) cs)

theorem getMapEntry_setName (f : FieldP) (m : MsgP) (v : Name) :
    getMapEntry f (setMsgName m v) = getMapEntry f m := by cases m; rfl

theorem compileField_setName (nm : Naming) (m : MsgP) (v : Name) (f : FieldP) :
    compileField nm (setMsgName m v) f = compileField nm m f := by
  cases m; rfl

theorem compileFields_setName (nm : Naming) (m : MsgP) (v : Name) : ∀ fs : List FieldP,
    compileFields nm (setMsgName m v) fs = compileFields nm m fs
  | [] => rfl
  | f :: fs => by simp only [compileFields, compileField_setName, compileFields_setName nm m v fs]

/-- `compileEnum` reads the enum's values only -/
theorem compileEnum_setName (nm : Naming) (flat : Name) (e : EnumP) :
    compileEnum nm flat { e with name := flat } = compileEnum nm flat e := rfl

theorem readD_toD (nm : Naming) (it : Item) : readD nm (toD it) = readItem nm it := by
  cases it with
  | enum flat e => rfl
  | msg flat m =>
    cases m with
    | mk n fs ns es os me =>
      have h := compileFields_setName nm (.mk n fs ns es os me) flat fs
      simp only [setMsgName] at h
      cases me <;> simp [toD, readD, readItem, setMsgName, MsgP.mapEntry, MsgP.fields, MsgP.name, h]

/-- the class the parser constructs for field `f` of message `m`, by the MODEL's classification -/
def clsOf (pyd : Bool) (m : MsgP) (f : FieldP) : FieldCls :=
  if isMap f m then .MapEntryCompiler
  else if isOneof f then (if pyd then .PydanticOneOfFieldCompiler else .OneOfFieldCompiler)
  else .FieldCompiler

theorem clsOf_iff (pyd : Bool) (m : MsgP) (f : FieldP) :
    (clsOf pyd m f = .MapEntryCompiler ↔ isMap f m = true)
    ∧ (clsOf pyd m f = .OneOfFieldCompiler ↔ isMap f m = false ∧ isOneof f = true ∧ pyd = false)
    ∧ (clsOf pyd m f = .PydanticOneOfFieldCompiler ↔ isMap f m = false ∧ isOneof f = true ∧ pyd = true)
    ∧ (clsOf pyd m f = .FieldCompiler ↔ isMap f m = false ∧ isOneof f = false) := by
  unfold clsOf
  cases isMap f m <;> cases isOneof f <;> cases pyd <;> simp

/-- one field compiler per field, at `path + [2, index]` (DescriptorProto.field = 2) -/
def fieldsLog (pyd : Bool) (c : MsgC) : Int → List FieldP → List Built
  | _, [] => []
  | i, f :: fs => .field (clsOf pyd c.proto_obj f) c f (c.path ++ [2, i]) :: fieldsLog pyd c (i + 1) fs

/-- what `read_protobuf_type(item, path)` constructs -/
def readLog (pyd : Bool) : DItem × List Int → List Built
  | (.enum e, p) => [.enum e p]
  | (.msg m, p) => if m.mapEntry then [] else .message ⟨m, p⟩ :: fieldsLog pyd ⟨m, p⟩ 0 m.fields

/-- the OutputTemplate with more constructed objects -/
def addBuilt (t : OutTpl) (bs : List Built) : OutTpl := { t with built := t.built ++ bs }

theorem addBuilt_nil (t : OutTpl) : addBuilt t [] = t := by simp [addBuilt]
theorem addBuilt_addBuilt (t : OutTpl) (a b : List Built) : addBuilt (addBuilt t a) b = addBuilt t (a ++ b) := by
  simp [addBuilt, List.append_assoc]

theorem make_one_of_eq (fuel : Nat) (t : OutTpl) (src : FileD) (c : MsgC) (f : FieldP) (p : List Int) :
    _make_one_of_field_compiler fuel t src c f p
      = .ok (addBuilt t [.field (if t.pydantic_dataclasses then .PydanticOneOfFieldCompiler else .OneOfFieldCompiler) c f p]) := rfl

theorem read_fields_loop (fuel : Nat) (m : MsgP) (path : List Int) (src : FileD) :
    ∀ (fs : List FieldP) (i : Int) (t : OutTpl),
    read_protobuf_type.loop1 fuel m path src ⟨m, path⟩ i fs t
      = .ok (addBuilt t (fieldsLog t.pydantic_dataclasses ⟨m, path⟩ i fs))
  | [], i, t => by simp [read_protobuf_type.loop1, fieldsLog, addBuilt_nil]
  | f :: fs, i, t => by
    simp only [read_protobuf_type.loop1, SrcTiePlugin.is_map_desc, SrcTiePlugin.is_oneof_eq, Res.bind, make_one_of_eq]
    by_cases h1 : isMap f m = true
    · simp only [h1, if_true, Res.bind]
      rw [show newFieldCompiler .MapEntryCompiler t ⟨m, path⟩ f (path ++ [2, i])
          = addBuilt t [.field .MapEntryCompiler ⟨m, path⟩ f (path ++ [2, i])] from rfl,
        read_fields_loop fuel m path src fs (i + 1), addBuilt_addBuilt]
      simp [fieldsLog, clsOf, h1, addBuilt]
    · simp only [h1, Bool.false_eq_true, if_false, Res.bind]
      by_cases h2 : isOneof f = true
      · simp only [h2, if_true, Res.bind]
        rw [read_fields_loop fuel m path src fs (i + 1), addBuilt_addBuilt]
        simp [fieldsLog, clsOf, h1, h2, addBuilt]
      · simp only [h2, Bool.false_eq_true, if_false, Res.bind]
        rw [show newFieldCompiler .FieldCompiler t ⟨m, path⟩ f (path ++ [2, i])
            = addBuilt t [.field .FieldCompiler ⟨m, path⟩ f (path ++ [2, i])] from rfl,
          read_fields_loop fuel m path src fs (i + 1), addBuilt_addBuilt]
        simp [fieldsLog, clsOf, h1, h2, addBuilt]

theorem read_protobuf_type_eq (fuel : Nat) (item : DItem) (path : List Int) (src : FileD) (t : OutTpl) :
    read_protobuf_type fuel item path src t = .ok (addBuilt t (readLog t.pydantic_dataclasses (item, path))) := by
  cases item with
  | enum e =>
    simp only [read_protobuf_type, Res.bind, readLog]
    rfl
  | msg m =>
    simp only [read_protobuf_type, Py.Plg.optionsMapEntry, readLog]
    by_cases hme : m.mapEntry = true
    · simp [hme, addBuilt_nil]
    · simp only [hme, Bool.false_eq_true, if_false, newMessageCompiler, dFields]
      rw [read_fields_loop]
      simp only [Res.bind]
      rw [show ({ t with built := t.built ++ [Built.message ⟨m, path⟩] } : OutTpl)
          = addBuilt t [.message ⟨m, path⟩] from rfl, addBuilt_addBuilt]
      rfl

/-- one method compiler per method, at `[6, index, 2, j]` (ServiceDescriptorProto.method = 2) -/
def methodsLog (c : SvcC) (index : Int) : Int → List MethodD → List Built
  | _, [] => []
  | j, m :: ms => .method c m [6, index, 2, j] :: methodsLog c index (j + 1) ms

/-- what `read_protobuf_service(service, index)` constructs (FileDescriptorProto.service = 6) -/
def svcLog (s : SvcD) (index : Int) : List Built :=
  .service ⟨s, [6, index]⟩ :: methodsLog ⟨s, [6, index]⟩ index 0 s.method

theorem read_methods_loop (fuel : Nat) (src : FileD) (index : Int) (c : SvcC) :
    ∀ (ms : List MethodD) (j : Int) (t : OutTpl),
    read_protobuf_service.loop1 fuel src index c j ms t = .ok (addBuilt t (methodsLog c index j ms))
  | [], j, t => by simp [read_protobuf_service.loop1, methodsLog, addBuilt_nil]
  | m :: ms, j, t => by
    simp only [read_protobuf_service.loop1]
    rw [show newServiceMethodCompiler t c m [6, index, 2, j] = addBuilt t [.method c m [6, index, 2, j]] from rfl,
      read_methods_loop fuel src index c ms (j + 1), addBuilt_addBuilt]
    rfl

theorem read_protobuf_service_eq (fuel : Nat) (src : FileD) (s : SvcD) (index : Int) (t : OutTpl) :
    read_protobuf_service fuel src s index t = .ok (addBuilt t (svcLog s index)) := by
  simp only [read_protobuf_service, newServiceCompiler]
  rw [read_methods_loop]
  simp only [Res.bind]
  rw [show ({ t with built := t.built ++ [Built.service ⟨s, [6, index]⟩] } : OutTpl)
      = addBuilt t [.service ⟨s, [6, index]⟩] from rfl, addBuilt_addBuilt]
  rfl

/-- name and kind of the class a constructed object becomes (fields, services, methods: no class of the schema) -/
def builtKey : Built → Option (Name × TypeKind)
  | .message c => some (c.proto_obj.name, .message)
  | .enum e _ => some (e.name, .enum)
  | _ => none

theorem fieldsLog_keys (pyd : Bool) (c : MsgC) : ∀ (fs : List FieldP) (i : Int),
    (fieldsLog pyd c i fs).filterMap builtKey = []
  | [], _ => rfl
  | f :: fs, i => by
    simp only [fieldsLog, List.filterMap_cons, builtKey]
    exact fieldsLog_keys pyd c fs (i + 1)

theorem readLog_keys (pyd : Bool) (it : DItem) (p : List Int) :
    (readLog pyd (it, p)).filterMap builtKey = (dKey it).toList := by
  cases it with
  | enum e => rfl
  | msg m =>
    by_cases h : m.mapEntry = true
    · simp [readLog, dKey, h]
    · simp [readLog, dKey, h, builtKey, fieldsLog_keys]

end Bp.SrcTieParser
