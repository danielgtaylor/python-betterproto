import BpModel.All
import BpProofs.EvoKeep
import BpProofs.EvoProj
import BpProofs.EvoAgree
import BpProofs.SpecPerm3
import BpProofs.Props.C01
import BpProofs.DumpNarrow
/-
  C08, schema evolution: the projection of a well-typed message of the newer class onto the
  older class is a well-typed message of the older schema, and encodes to the bytes of the
  kept slots; the bytes of a message are the records of its slots, block by block (`dump_blocks`).
-/
namespace Bp
open Gen

/-- **the setting**: schemas `Sn` (newer) and `So` (older) agree on every class except `c`; the
    older class `dold` keeps the sub-list `keep mask dn.fields` of the fields of the newer class
    `dn` (same `FieldD` records, same relative order) and declares the same number of oneof
    groups; no field of any class refers to class `c` as sub-message / map-value class -/
structure Evo (Sn So : Schema) (c : Nat) (dn dold : MsgD) (mask : List Bool) : Prop where
  hn : Sn[c]? = some dn
  ho : So[c]? = some dold
  agree : AgreeOff c Sn So
  free : SchemaFree c Sn
  mlen : mask.length = dn.fields.length
  fields : dold.fields = keep mask dn.fields
  groups : dold.nGroups = dn.nGroups

theorem Evo.fieldFree {Sn So : Schema} {c : Nat} {dn dold : MsgD} {mask : List Bool} (E : Evo Sn So c dn dold mask)
    (f : FieldD) (hf : f ∈ dn.fields) : FieldFree c f :=
  E.free dn (List.mem_of_getElem? E.hn) f hf

theorem numsDistinct_keep (m : List Bool) (fs : List FieldD) (h : NumsDistinct fs) : NumsDistinct (keep m fs) := by
  intro i j fi fj hi hj hn
  obtain ⟨k, hk, hrk, hfk⟩ := keep_getElem?_exists m fs i fi hi
  obtain ⟨k', hk', hrk', hfk'⟩ := keep_getElem?_exists m fs j fj hj
  have := h k k' fi fj hfk hfk' hn
  subst this
  rw [← hrk, ← hrk']

theorem slotsOk_keep (S : Schema) : ∀ (m : List Bool) (fs : List FieldD) (vs : List Val), SlotsOk S fs vs →
    SlotsOk S (keep m fs) (keep m vs)
  | [], _, _, _ => by simp; exact SlotsOk.nil
  | b :: m, _, _, h => by
    cases h with
    | nil => simp; exact SlotsOk.nil
    | cons f v fs vs h1 h2 =>
      cases b with
      | true => exact SlotsOk.cons f v _ _ h1 (slotsOk_keep S m fs vs h2)
      | false => exact slotsOk_keep S m fs vs h2

theorem isUnknown_older (dn dold : MsgD) (mask : List Bool) (hf : dold.fields = keep mask dn.fields)
    (hd : NumsDistinct dn.fields) (pf : PField) (h : isUnknownField dn pf = true) : isUnknownField dold pf = true := by
  unfold isUnknownField
  cases hj : findField dold.fields pf.num with
  | none => rfl
  | some j =>
    obtain ⟨f, hfj, hnum⟩ := findField_sound dold.fields pf.num j hj
    simp only [hfj]
    rw [hf] at hfj
    obtain ⟨k, _, _, hfk⟩ := keep_getElem?_exists mask dn.fields j f hfj
    have hfind := findField_distinct dn.fields k f hd hfk
    unfold isUnknownField at h
    rw [← hnum, hfind] at h
    simpa [hfk] using h

theorem dropped_unknown (dn dold : MsgD) (mask : List Bool) (hf : dold.fields = keep mask dn.fields)
    (hd : NumsDistinct dn.fields) (k : Nat) (f : FieldD) (hk : dn.fields[k]? = some f) (hm : mask[k]? = some false)
    (pf : PField) (hnum : pf.num = f.num) : isUnknownField dold pf = true := by
  unfold isUnknownField
  cases hj : findField dold.fields pf.num with
  | none => rfl
  | some j =>
    exfalso
    obtain ⟨f', hfj, hnum'⟩ := findField_sound dold.fields pf.num j hj
    rw [hf] at hfj
    obtain ⟨k', hk', _, hfk'⟩ := keep_getElem?_exists mask dn.fields j f' hfj
    have := hd k' k f' f hfk' hk (by rw [hnum', hnum])
    subst this
    rw [hm] at hk'; simp at hk'

theorem kept_targets (dn dold : MsgD) (mask : List Bool) (hf : dold.fields = keep mask dn.fields)
    (hd : NumsDistinct dn.fields) (k : Nat) (f : FieldD) (hk : dn.fields[k]? = some f) (hm : mask[k]? = some true)
    (pf : PField) (hnum : pf.num = f.num) (hfit : wireFits f pf.wt = true) : Targets dold pf (rank mask k) f := by
  have hfk : dold.fields[rank mask k]? = some f := by rw [hf, getElem?_keep_rank mask dn.fields k hm]; exact hk
  refine ⟨?_, hfk, hfit⟩
  rw [hnum]
  exact findField_distinct dold.fields _ f (by rw [hf]; exact numsDistinct_keep mask dn.fields hd) hfk

theorem newer_targets (dn : MsgD) (hd : NumsDistinct dn.fields) (k : Nat) (f : FieldD) (hk : dn.fields[k]? = some f)
    (pf : PField) (hnum : pf.num = f.num) (hfit : wireFits f pf.wt = true) : Targets dn pf k f :=
  ⟨by rw [hnum]; exact findField_distinct dn.fields k f hd hk, hk, hfit⟩

section proj
variable {Sn So : Schema} {c : Nat} {dn dold : MsgD} {mask : List Bool}

theorem msgOk_proj (E : Evo Sn So c dn dold mask) (sl : List Val) (ow : Bool) (unk : Bytes) (cur : List (Option Nat))
    (X : Bytes) (hm : MsgOk Sn (.msg c sl ow unk cur)) (hX : UnkOk dold X) :
    MsgOk So (.msg c (keep mask sl) ow X (projCur mask cur)) := by
  cases hm with
  | mk _ d' _ _ _ _ hd' hdist hwfg hgrpopt hcurlen hcurok hinv hselset hslots hunk =>
  rw [E.hn] at hd'; injection hd' with hd'; subst hd'
  refine MsgOk.mk c dold _ ow X _ E.ho ?_ ?_ ?_ ?_ ?_ ?_ ?_ ?_ hX
  · rw [E.fields]; exact numsDistinct_keep mask _ hdist
  · intro f hf g hg
    rw [E.groups]
    exact hwfg f (mem_keep mask _ f (E.fields ▸ hf)) g hg
  · intro f hf hg
    exact hgrpopt f (mem_keep mask _ f (E.fields ▸ hf)) hg
  · rw [projCur_length, hcurlen, E.groups]
  · intro g i hgi
    rw [projCur_getD] at hgi
    obtain ⟨i0, hc, hmi, rfl⟩ := projSel_eq_some hgi
    obtain ⟨f, hf, hg⟩ := hcurok g i0 hc
    exact ⟨f, by rw [E.fields, getElem?_keep_rank mask _ i0 hmi]; exact hf, hg⟩
  · intro i f g hf hg hne
    rw [E.fields] at hf
    obtain ⟨k, hk, hrk, hfk⟩ := keep_getElem?_exists mask _ i f hf
    subst hrk
    rw [getD_keep_rank mask sl k .ph hk]
    apply hinv k f g hfk hg
    intro hc
    apply hne
    rw [projCur_getD]
    exact (projSel_kept mask _ k hk).mpr hc
  · intro g i hgi
    rw [projCur_getD] at hgi
    obtain ⟨i0, hc, hmi, rfl⟩ := projSel_eq_some hgi
    rw [getD_keep_rank mask sl i0 .ph hmi]
    exact hselset g i0 hc
  · rw [E.fields]
    exact slotsOk_transfer c Sn So E.agree E.free _ _
      (fun f hf => E.fieldFree f (mem_keep mask _ f hf)) (slotsOk_keep Sn mask _ _ hslots)

/-- `bsl`: the encodings of the slots of the original message under the newer schema, in field order -/
theorem dumpSlots_proj (E : Evo Sn So c dn dold mask) (sl : List Val) (cur : List (Option Nat))
    (hslots : SlotsOk Sn dn.fields sl) (bsl : List Bytes) (hl : bsl.length = sl.length)
    (hb : ∀ (k : Nat) (f : FieldD), dn.fields[k]? = some f → k < sl.length →
      dumpSlot Sn f (hidden f k cur) (selectedInGroup f k cur) (sl.getD k .ph) = .ok (bsl.getD k [])) :
    dumpSlots So dold.fields (projCur mask cur) 0 (keep mask sl) = .ok (keep mask bsl).flatten := by
  have hlen : sl.length = dn.fields.length := slotsOk_len Sn _ _ hslots
  apply dumpSlots_join So dold.fields _ (keep mask sl) 0 (keep mask bsl) (keep_length_eq mask _ _ hl)
  · rw [E.fields, Nat.zero_add, keep_length_eq mask sl dn.fields hlen]
  · intro j f hf _
    simp only [Nat.zero_add] at hf ⊢
    rw [E.fields] at hf
    obtain ⟨k, hk, hrk, hfk⟩ := keep_getElem?_exists mask _ j f hf
    subst hrk
    have hkl : k < sl.length := hlen ▸ (List.getElem?_eq_some_iff.mp hfk).1
    have hv : sl[k]? = some (sl.getD k .ph) := by
      rw [List.getD_eq_getElem?_getD, List.getElem?_eq_getElem hkl]; rfl
    have hso : SlotOk Sn f (sl.getD k .ph) := slotsOk_get Sn _ _ hslots k f _ hfk hv
    rw [hidden_proj mask cur f k hk, selected_proj mask cur f k hk, getD_keep_rank mask sl k .ph hk,
      getD_keep_rank mask bsl k [] hk,
      (slotOk_transfer c Sn So E.agree E.free f _ (E.fieldFree f (List.mem_of_getElem? hfk)) hso).2]
    exact hb k f hfk hkl

end proj

def dropFields (mask : List Bool) (d : MsgD) : MsgD := { fields := keep mask d.fields, nGroups := d.nGroups }

def olderSchema (Sn : Schema) (c : Nat) (mask : List Bool) : Schema :=
  match Sn[c]? with
  | some d => Sn.set c (dropFields mask d)
  | Option.none => Sn

theorem evo_olderSchema (Sn : Schema) (c : Nat) (dn : MsgD) (mask : List Bool) (hn : Sn[c]? = some dn)
    (hfree : SchemaFree c Sn) (hm : mask.length = dn.fields.length) :
    Evo Sn (olderSchema Sn c mask) c dn (dropFields mask dn) mask := by
  have hcl : c < Sn.length := (List.getElem?_eq_some_iff.mp hn).1
  have e : olderSchema Sn c mask = Sn.set c (dropFields mask dn) := by simp [olderSchema, hn]
  exact { hn := hn
          ho := by rw [e]; simp [hcl]
          agree := fun c' hc => by rw [e, List.getElem?_set_ne (fun e => hc e.symm)]
          free := hfree
          mlen := hm
          fields := rfl
          groups := rfl }

theorem parseInto_unknown (S : Schema) (c : Nat) (d : MsgD) (sl : List Val) (ow : Bool) (unk : Bytes)
    (cur : List (Option Nat)) (bs : Bytes) (m' : Val) (hd : S[c]? = some d)
    (h : parseInto S (.msg c sl ow unk cur) bs = .ok m') :
    ∃ pfs sl' ow' cur', loadFields bs = .ok pfs
      ∧ m' = .msg c sl' ow' (unk ++ joinRaw (pfs.filter (isUnknownField d))) cur' := by
  rw [parseInto_eq S c d sl ow unk cur bs hd] at h
  obtain ⟨pfs, hp, h⟩ := bind_inv h
  obtain ⟨st, hf, h⟩ := bind_inv h
  cases h
  exact ⟨pfs, st.slots, st.onWire, st.cur, hp, by rw [MState.toVal, (foldFields_split S _ d pfs _ st hf).1]⟩

theorem joinRaw_nil_of_parsed (pfs : List PField) (hp : ∀ pf ∈ pfs, Parsed pf) (h : joinRaw pfs = []) : pfs = [] := by
  cases pfs with
  | nil => rfl
  | cons pf pfs =>
    have := (hp pf (by simp)).ok.raw_pos
    rw [joinRaw, List.append_eq_nil_iff] at h
    rw [h.1] at this; cases this

/-- **the bytes of a message are the records of its slots, slot by slot, then its unknown records**: block `k`
    of `L` is what slot `k` contributes (nothing if the slot is hidden), each of its records carrying the number of
    the slot's field and a wire type that fits it — what the walk over the encoder's output (`Link.recs_slot`) says
    of every record, without the guard on its varints. -/
theorem dump_blocks (Sn : Schema) (c : Nat) (dn : MsgD) (hn : Sn[c]? = some dn) (sl : List Val) (ow : Bool) (unk : Bytes)
    (cur : List (Option Nat)) (hm : MsgOk Sn (.msg c sl ow unk cur)) (bs : Bytes)
    (hdump : dumpVal Sn (.msg c sl ow unk cur) = .ok bs) (hbl : bs.length < 2 ^ 64) :
    ∃ (L : List (List PField)) (upfs : List PField), L.length = dn.fields.length
      ∧ loadFields bs = .ok (L.flatten ++ upfs) ∧ joinRaw upfs = unk
      ∧ (∀ pf ∈ upfs, Parsed pf ∧ isUnknownField dn pf = true) ∧ (∀ pf ∈ L.flatten, Parsed pf)
      ∧ ∀ k recs, L[k]? = some recs → ∃ f, dn.fields[k]? = some f
          ∧ dumpSlot Sn f (hidden f k cur) (selectedInGroup f k cur) (sl.getD k .ph) = .ok (joinRaw recs)
          ∧ (hidden f k cur = true → recs = [])
          ∧ ∀ pf ∈ recs, pf.num = f.num ∧ wireFits f pf.wt = true := by
  cases hm with
  | mk _ d' _ _ _ _ hd' hdist hwfg hgrpopt hcurlen hcurok hinv hselset hslots hunk =>
  rw [hn] at hd'; injection hd' with hd'; subst hd'
  have hlen : sl.length = dn.fields.length := slotsOk_len Sn _ _ hslots
  obtain ⟨body, hbody, rfl⟩ : ∃ body, dumpSlots Sn dn.fields cur 0 sl = .ok body ∧ bs = body ++ unk := by
    rw [dumpVal_msg, fieldsOf_some Sn c dn hn] at hdump
    obtain ⟨body, hb, h⟩ := bind_inv hdump
    exact ⟨body, hb, (Except.ok.inj h).symm⟩
  rw [List.length_append] at hbl
  obtain ⟨L, hL, hjoin, hblk⟩ := Link.dumpSlots_blocks Sn (fun _ f pf => pf.num = f.num ∧ wireFits f pf.wt = true)
    dn.fields cur sl 0 body (by omega) hbody fun j f b hf hj hb hle => by
      rw [Nat.zero_add] at hf hb
      exact Link.Recs.mono (fun _ h => ⟨h.num, h.fits⟩) (Link.recs_slot Sn j f cur _ b
        (slotsOk_getD Sn _ _ hslots j f hf) (fun hvp g _ hc => hselset g j hc hvp) hb (by omega))
  simp only [Nat.zero_add] at hblk
  have hblk' : ∀ k recs, L[k]? = some recs → ∃ f, dn.fields[k]? = some f
      ∧ dumpSlot Sn f (hidden f k cur) (selectedInGroup f k cur) (sl.getD k .ph) = .ok (joinRaw recs)
      ∧ ∀ pf ∈ recs, Parsed pf ∧ pf.num = f.num ∧ wireFits f pf.wt = true := fun k recs hk => by
    have hkl : k < dn.fields.length := by rw [← hlen, ← hL]; exact (List.getElem?_eq_some_iff.mp hk).1
    have := hblk k _ (List.getElem?_eq_getElem hkl) (hlen ▸ hkl)
    rw [show L.getD k [] = recs by rw [List.getD_eq_getElem?_getD, hk]; rfl] at this
    exact ⟨_, List.getElem?_eq_getElem hkl, this⟩
  have hpar : ∀ pf ∈ L.flatten, Parsed pf := fun pf hpf => by
    obtain ⟨recs, hr, hpr⟩ := List.mem_flatten.mp hpf
    obtain ⟨k, hk⟩ := List.getElem?_of_mem hr
    obtain ⟨_, _, _, hp⟩ := hblk' k recs hk
    exact (hp pf hpr).1
  obtain ⟨upfs, hup, hupj⟩ := hunk
  refine ⟨L, upfs, hL.trans hlen, ?_, hupj, hup, hpar, fun k recs hk => ?_⟩
  · rw [← hjoin, ← hupj, ← joinRaw_append]
    exact loadFields_join _ fun pf hpf => (List.mem_append.mp hpf).elim (hpar pf) fun h => (hup pf h).1
  · obtain ⟨f, hf, hd, hp⟩ := hblk' k recs hk
    refine ⟨f, hf, hd, fun hh => ?_, fun pf hpf => (hp pf hpf).2⟩
    rw [hh, hidden_empty] at hd
    exact joinRaw_nil_of_parsed _ (fun pf hpf => (hp pf hpf).1) (Except.ok.inj hd).symm

end Bp
