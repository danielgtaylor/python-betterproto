import BpModel.All
import BpProofs.SpecPerm
/-
  C02: from frame + locality to order insensitivity.
-/
namespace Bp
open Gen

def Sim (d : MsgD) (c : Cls) (a b : MState) : Prop := SameShape a b ∧ AgreeOn d c a b

section Steps
variable (S : Schema) (rec : Loader) (d : MsgD)

theorem sim_refl (c : Cls) (a : MState) : Sim d c a a := by
  refine ⟨⟨rfl, rfl⟩, ?_⟩
  cases c <;> simp [AgreeOn]

theorem sim_symm (c : Cls) (a b : MState) (h : Sim d c a b) : Sim d c b a := by
  obtain ⟨⟨s1, s2⟩, ag⟩ := h
  refine ⟨⟨s1.symm, s2.symm⟩, ?_⟩
  cases c with
  | unknown => trivial
  | field i => exact ag.symm
  | group g => exact ⟨ag.1.symm, fun k hk => (ag.2 k hk).symm⟩

theorem sim_trans (c : Cls) (a b e : MState) (h1 : Sim d c a b) (h2 : Sim d c b e) : Sim d c a e := by
  obtain ⟨⟨s1, s2⟩, ag⟩ := h1
  obtain ⟨⟨t1, t2⟩, ag'⟩ := h2
  refine ⟨⟨s1.trans t1, s2.trans t2⟩, ?_⟩
  cases c with
  | unknown => trivial
  | field i => exact ag.trans ag'
  | group g => exact ⟨ag.1.trans ag'.1, fun k hk => (ag.2 k hk).trans (ag'.2 k hk)⟩

theorem classOf_legit (pf : PField) : Legit d (classOf d pf) := by
  unfold classOf
  cases h1 : findField d.fields pf.num with
  | none => trivial
  | some idx =>
    simp only
    cases h2 : d.fields[idx]? with
    | none => simp [Legit, grp, h2]
    | some f =>
      simp only
      split
      · trivial
      · cases hg : f.group with
        | none => simp [Legit, grp, h2, hg]
        | some g => trivial

theorem isUnknown_of_classOf (pf : PField) (h : classOf d pf = .unknown) : isUnknownField d pf = true := by
  rcases record_cases d pf with hu | ⟨idx, f, ht⟩ | ⟨idx, h1, h2⟩
  · exact hu
  · rw [classOf_targets d pf idx f ht] at h
    cases hg : f.group <;> rw [hg] at h <;> simp at h
  · unfold classOf at h; simp [h1, h2] at h

theorem step_same (c : Cls) (a b a' : MState) (pf : PField)
    (hc : classOf d pf = c) (hs : Sim d c a b) (h : applyField S rec d a pf = .ok a') :
    ∃ b', applyField S rec d b pf = .ok b' ∧ Sim d c a' b' := by
  rcases record_cases d pf with hu | ⟨idx, f, ht⟩ | ⟨idx, h1, h2⟩
  · rw [applyField_unknown S rec d a pf hu] at h
    injection h with h; subst h
    refine ⟨_, applyField_unknown S rec d b pf hu, ⟨hs.1.1, hs.1.2⟩, ?_⟩
    rw [classOf_unknown d pf hu] at hc; subst hc; trivial
  · have hf := ht.2.1
    rw [classOf_targets d pf idx f ht] at hc
    subst hc
    have hag := (agreeOn_of_foot d f idx a b hf).mp hs.2
    obtain ⟨b', hb, hag'⟩ := applyField_local S rec d a b a' pf idx f ht hs.1 hag h
    refine ⟨b', hb, ?_, (agreeOn_of_foot d f idx a' b' hf).mpr hag'⟩
    have s1 := applyField_lengths S rec d a a' pf h
    have s2 := applyField_lengths S rec d b b' pf hb
    exact ⟨s1.1.trans (hs.1.1.trans s2.1.symm), s1.2.trans (hs.1.2.trans s2.2.symm)⟩
  · rw [applyField_badtable S rec d a pf idx h1 h2] at h; simp at h

theorem step_other (c : Cls) (a a' : MState) (pf : PField)
    (hl : Legit d c) (hc : classOf d pf ≠ c) (h : applyField S rec d a pf = .ok a') : Sim d c a' a :=
  ⟨applyField_lengths S rec d a a' pf h, applyField_other_class S rec d a a' pf c hl hc h⟩

end Steps

def ofClass (d : MsgD) (c : Cls) (pf : PField) : Bool := decide (classOf d pf = c)

section Projection
variable (S : Schema) (rec : Loader) (d : MsgD)

theorem proj_fold (c : Cls) (hl : Legit d c) (pfs : List PField)
    (a b a1 : MState) (hs : Sim d c a b) (h : foldFields S rec d a pfs = .ok a1) :
    ∃ b1, foldFields S rec d b (pfs.filter (ofClass d c)) = .ok b1 ∧ Sim d c a1 b1 := by
  induction pfs generalizing a b with
  | nil => cases h; exact ⟨b, rfl, hs⟩
  | cons pf pfs ih =>
    obtain ⟨a2, ha, h⟩ := bind_inv h
    by_cases hc : classOf d pf = c
    · obtain ⟨b2, hb, hs2⟩ := step_same S rec d c a b a2 pf hc hs ha
      obtain ⟨b1, hb1, hs1⟩ := ih a2 b2 hs2 h
      refine ⟨b1, ?_, hs1⟩
      have : ofClass d c pf = true := by simp [ofClass, hc]
      simp only [List.filter_cons, this, if_true, foldFields, hb, bind_ok]
      exact hb1
    · have hs2 := sim_trans d c a2 a b (step_other S rec d c a a2 pf hl hc ha) hs
      obtain ⟨b1, hb1, hs1⟩ := ih a2 b hs2 h
      refine ⟨b1, ?_, hs1⟩
      have : ofClass d c pf = false := by simp [ofClass, hc]
      simp only [List.filter_cons, this, Bool.false_eq_true, if_false]
      exact hb1

theorem fold_of_projs (pfs : List PField) (a : MState)
    (h : ∀ c, Legit d c → ∃ b b', Sim d c a b ∧ foldFields S rec d b (pfs.filter (ofClass d c)) = .ok b') :
    ∃ a', foldFields S rec d a pfs = .ok a' := by
  induction pfs generalizing a with
  | nil => exact ⟨a, rfl⟩
  | cons pf pfs ih =>
    have hl0 := classOf_legit d pf
    obtain ⟨b, b', hs, hb⟩ := h (classOf d pf) hl0
    have ht : ofClass d (classOf d pf) pf = true := by simp [ofClass]
    simp only [List.filter_cons, ht, if_true, foldFields] at hb
    cases hb2 : applyField S rec d b pf with
    | error e => rw [hb2] at hb; simp at hb
    | ok b2 =>
      rw [hb2] at hb; simp only [bind_ok] at hb
      obtain ⟨a2, ha2, hs2⟩ := step_same S rec d _ b a b2 pf rfl (sim_symm d _ a b hs) hb2
      have : ∃ a', foldFields S rec d a2 pfs = .ok a' := by
        apply ih a2
        intro c hlc
        by_cases hc : classOf d pf = c
        · subst hc
          exact ⟨b2, b', sim_symm d _ b2 a2 hs2, hb⟩
        · obtain ⟨bc, bc', hsc, hbc⟩ := h c hlc
          have hf : ofClass d c pf = false := by simp [ofClass, hc]
          simp only [List.filter_cons, hf, Bool.false_eq_true, if_false] at hbc
          exact ⟨bc, bc', sim_trans d c a2 a bc (step_other S rec d c a a2 pf hlc hc ha2) hsc, hbc⟩
      obtain ⟨a', ha'⟩ := this
      exact ⟨a', by simp only [foldFields, ha2, bind_ok]; exact ha'⟩

theorem fold_unknown_ok (pfs : List PField) (a : MState)
    (h : ∀ pf ∈ pfs, isUnknownField d pf = true) : ∃ a', foldFields S rec d a pfs = .ok a' := by
  induction pfs generalizing a with
  | nil => exact ⟨a, rfl⟩
  | cons pf pfs ih =>
    simp only [foldFields, applyField_unknown S rec d a pf (h pf (by simp)), bind_ok]
    exact ih _ (fun x hx => h x (by simp [hx]))

theorem applyField_onWire (a a' : MState) (pf : PField)
    (how : a.onWire = true) (h : applyField S rec d a pf = .ok a') : a'.onWire = true := by
  rcases applyField_commit_ok S rec d a a' pf h with ⟨_, rfl⟩ | ⟨idx, f, _, u, ht, _, _, rfl⟩
  · exact how
  · exact commit_onWire S d a idx f u ht.2.1 how

theorem foldFields_onWire (pfs : List PField) (a a' : MState)
    (how : a.onWire = true) (h : foldFields S rec d a pfs = .ok a') : a'.onWire = true :=
  foldFields_induct S rec d (fun s => s.onWire = true) pfs (fun s s' pf _ => applyField_onWire S rec d s s' pf)
    a a' how h

theorem foldFields_perm (pfs pfs' : List PField) (st st1 : MState)
    (how : st.onWire = true)
    (hsame : ∀ c, Legit d c → c ≠ Cls.unknown → pfs.filter (ofClass d c) = pfs'.filter (ofClass d c))
    (h : foldFields S rec d st pfs = .ok st1) :
    ∃ st2, foldFields S rec d st pfs' = .ok st2 ∧ core st2 = core st1 := by
  -- every class projection of `pfs` decodes
  have hproj : ∀ c, Legit d c → ∃ s, foldFields S rec d st (pfs.filter (ofClass d c)) = .ok s ∧ Sim d c st1 s :=
    fun c hl => proj_fold S rec d c hl pfs st st st1 (sim_refl d c st) h
  -- hence `pfs'` decodes
  have hex : ∃ st2, foldFields S rec d st pfs' = .ok st2 := by
    apply fold_of_projs S rec d pfs' st
    intro c hl
    by_cases hu : c = Cls.unknown
    · subst hu
      obtain ⟨s, hs⟩ := fold_unknown_ok S rec d (pfs'.filter (ofClass d Cls.unknown)) st (by
        intro pf hpf
        have := (List.mem_filter.mp hpf).2
        exact isUnknown_of_classOf d pf (by simpa [ofClass] using this))
      exact ⟨st, s, sim_refl d _ st, hs⟩
    · obtain ⟨s, hs, _⟩ := hproj c hl
      exact ⟨st, s, sim_refl d c st, by rw [← hsame c hl hu]; exact hs⟩
  obtain ⟨st2, h2⟩ := hex
  refine ⟨st2, h2, ?_⟩
  have hagree : ∀ c, Legit d c → c ≠ Cls.unknown → AgreeOn d c st2 st1 := by
    intro c hl hu
    obtain ⟨s, hs, hsim⟩ := hproj c hl
    obtain ⟨s', hs', hsim'⟩ := proj_fold S rec d c hl pfs' st st st2 (sim_refl d c st) h2
    rw [← hsame c hl hu, hs] at hs'
    injection hs' with hs'; subst hs'
    exact (sim_trans d c st2 s st1 hsim' (sim_symm d c st1 s hsim)).2
  have l1 := foldFields_lengths S rec d pfs st st1 h
  have l2 := foldFields_lengths S rec d pfs' st st2 h2
  rw [core_eq_iff]
  refine ⟨?_, ?_, ?_⟩
  · apply list_ext_getD Val.ph _ _ (l2.1.trans l1.1.symm)
    intro k
    cases hg : grp d.fields k with
    | none => exact hagree (.field k) hg (by simp)
    | some g => exact (hagree (.group g) trivial (by simp)).2 k hg
  · rw [foldFields_onWire S rec d pfs' st st2 how h2, foldFields_onWire S rec d pfs st st1 how h]
  · apply list_ext_getD Option.none _ _ (l2.2.trans l1.2.symm)
    intro g
    exact (hagree (.group g) trivial (by simp)).1

end Projection

end Bp
