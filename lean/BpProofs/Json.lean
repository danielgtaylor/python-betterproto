import BpModel.All
import BpModel.Json
import BpProofs.Presence
import BpProofs.Ops
import BpProofs.JsonOneof
import BpProofs.JsonGuardFast
/-
  The leaf codecs of `to_dict` and `_from_dict_init` invert each other on well-typed values; with
  key lookup (`namesOk`) this gives the round trip of one field, and of the loop of
  `_from_dict_init` over what `to_dict` wrote.
-/
namespace Bp
open Gen

section Fields
variable (S : Schema) (E : Enums) (cs : KeyCase) (f : FieldD) (hid sel : Bool)

theorem enumByNum_eq_find (e : EnumDef) (v : Int) : enumByNum e v = e.find? (·.num == v) := by
  induction e with
  | nil => rfl
  | cons a rest ih => rw [enumByNum, List.find?_cons, ih]; cases a.num == v <;> rfl

theorem enumByPy_eq_find (e : EnumDef) (n : Bytes) : enumByPy e n = e.find? (·.py == n) := by
  induction e with
  | nil => rfl
  | cons a rest ih => rw [enumByPy, List.find?_cons, ih]; cases a.py == n <;> rfl

theorem enumByNum_num (e : EnumDef) (v : Int) (m : EnumMem) (h : enumByNum e v = some m) :
    m.num = v ∧ m ∈ e := by
  rw [enumByNum_eq_find] at h
  exact ⟨beq_iff_eq.mp (List.find?_some (p := fun m : EnumMem => m.num == v) h), List.mem_of_find?_eq_some h⟩

/-- `_parse_enum(_dump_enum(v)) == v` for every int, defined or not -/
theorem parseEnum_dumpEnum (e : EnumDef) (he : enumOk e = true) (v : Int) :
    parseEnum e (dumpEnum e (.int v)) = .ok (.int v) := by
  simp only [dumpEnum]
  cases h : enumByNum e v with
  | none => rfl
  | some m =>
    obtain ⟨hn, hm⟩ := enumByNum_num e v m h
    simp only [parseEnum]
    unfold enumOk at he
    rw [List.all_eq_true] at he
    have := he m hm
    cases h2 : enumByPy e m.py with
    | none => rw [h2] at this; simp at this
    | some m' =>
      rw [h2] at this
      simp only [beq_iff_eq] at this
      simp only [this, hn]

/-- the float leaf through JSON, for every bit pattern: ±∞ go through the constants, every NaN comes back as the
    canonical quiet NaN, everything else unchanged -/
theorem parseFloat_dumpFloat32 (b : Nat) :
    parseFloat .float (dumpFloat (.f32 b)) = .ok (.f32 (if isNaN32 b then 0x7fc00000 else b)) := by
  simp only [dumpFloat]
  split
  · rename_i h; cases eq_of_beq h; rfl
  · split
    · rename_i h; cases eq_of_beq h; rfl
    · split <;> rfl

theorem parseFloat_dumpFloat64 (b : Nat) :
    parseFloat .double (dumpFloat (.f64 b)) = .ok (.f64 (if isNaN64 b then 0x7ff8000000000000 else b)) := by
  simp only [dumpFloat]
  split
  · rename_i h; cases eq_of_beq h; rfl
  · split
    · rename_i h; cases eq_of_beq h; rfl
    · split <;> rfl

/-- a typed float has no other NaN than the canonical one -/
theorem parseFloat_dumpFloat (t : PType) (v : Val) (hv : valOfType t v = true) (ht : t = .float ∨ t = .double) :
    parseFloat t (dumpFloat v) = .ok v := by
  rcases ht with rfl | rfl <;> cases v <;> simp [valOfType] at hv <;> rename_i b
  · rw [parseFloat_dumpFloat32]
    split
    · rename_i h; rw [h] at hv; simp at hv; rw [hv]
    · rfl
  · rw [parseFloat_dumpFloat64]
    split
    · rename_i h; rw [h] at hv; simp at hv; rw [hv]
    · rfl

def isLeafJ : JVal → Bool
  | .arr _ => false
  | .obj _ _ => false
  | .null => false
  | _ => true

/-- `_parse_float` rejects `None`, lists and dicts -/
theorem parseFloat_ok_leaf (t : PType) (j : JVal) (v : Val) (h : parseFloat t j = .ok v) : isLeafJ j = true := by
  cases j with
  | null | arr _ | obj _ _ => cases h
  | _ => rfl

theorem valOfType_cases (t : PType) (v : Val) (hv : valOfType t v = true) :
    (∃ i, v = .int i) ∨ (∃ b, v = .bool b ∧ t = .bool) ∨ (∃ b, v = .f32 b ∧ t = .float) ∨ (∃ b, v = .f64 b ∧ t = .double)
      ∨ (∃ s, v = .str s ∧ t = .string) ∨ (∃ s, v = .byt s ∧ t = .bytes) := by
  cases v <;> simp [valOfType] at hv <;> simp [hv]

theorem valOfType_int64 (t : PType) (v : Val) (h : isInt64 t = true) (hv : valOfType t v = true) : ∃ i, v = .int i := by
  rcases valOfType_cases t v hv with hi | ⟨_, _, rfl⟩ | ⟨_, _, rfl⟩ | ⟨_, _, rfl⟩ | ⟨_, _, rfl⟩ | ⟨_, _, rfl⟩
  · exact hi
  all_goals exact absurd h (by decide)

/-- values that `to_dict` leaves as they are and `from_dict` takes as they are -/
def rawOk : Val → Bool
  | .int _ | .bool _ | .f32 _ | .f64 _ | .str _ => true
  | _ => false

theorem unRaw_rawJ_leaf (v : Val) (h : isLeafVal v = true ∧ v ≠ .none) :
    unRaw (rawJ v) = .ok v ∧ isLeafJ (rawJ v) = true := by
  cases v with
  | ph | list _ | dict _ _ | msg _ _ _ _ _ => cases h.1
  | none => exact absurd rfl h.2
  | _ => simp [rawJ, unRaw, isLeafJ]

theorem mapMR_inv {α β : Type} (dec : β → R α) (enc : α → β) (xs : List α) (h : ∀ x ∈ xs, dec (enc x) = .ok x) :
    mapMR dec (xs.map enc) = .ok xs := by
  induction xs with
  | nil => rfl
  | cons x xs ih =>
    rw [List.map_cons, mapMR, h x (by simp), ih fun y hy => h y (by simp [hy])]
    rfl

theorem unRawList_eq_mapMR (js : List JVal) : unRawList js = mapMR unRaw js := by
  induction js with
  | nil => rw [unRawList, mapMR]
  | cons j js ih => rw [unRawList, mapMR, ih]

theorem unRawList_rawJList_leaf (xs : List Val) (h : ∀ x ∈ xs, isLeafVal x = true ∧ x ≠ .none) :
    unRawList (rawJList xs) = .ok xs := by
  rw [unRawList_eq_mapMR, rawJList_eq_map]
  exact mapMR_inv _ _ xs fun x hx => (unRaw_rawJ_leaf x (h x hx)).1

theorem rawOk_leaf (x : Val) (h : rawOk x = true) : (isLeafVal x = true ∧ x ≠ .none) ∧ isMsgVal x = false := by
  cases x <;> simp [rawOk] at h <;> exact ⟨⟨rfl, Val.noConfusion⟩, rfl⟩

theorem encItem_cases (v : Val) (hv : valOfType f.ty v = true) :
    (isInt64 f.ty = true ∧ ∃ i, v = .int i ∧ encItem E f v = .decStr i) ∨
    (f.ty = .enum ∧ ∃ i, v = .int i ∧ encItem E f v = dumpEnum (enumOf E f) (.int i)) ∨
    (f.ty = .bytes ∧ ∃ b, v = .byt b ∧ encItem E f v = .b64 b) ∨
    ((f.ty = .float ∨ f.ty = .double) ∧ encItem E f v = dumpFloat v) ∨
    ((isInt64 f.ty || f.ty == .bytes || f.ty == .enum || f.ty == .float || f.ty == .double) = false ∧
      rawOk v = true ∧ encItem E f v = rawJ v) := by
  unfold encItem
  by_cases h1 : isInt64 f.ty = true
  · obtain ⟨i, rfl⟩ := valOfType_int64 _ _ h1 hv
    exact Or.inl ⟨h1, i, rfl, by simp [h1, strJ]⟩
  · rcases valOfType_cases _ _ hv with ⟨i, rfl⟩ | ⟨b, rfl, ht⟩ | ⟨b, rfl, ht⟩ | ⟨b, rfl, ht⟩ | ⟨s, rfl, ht⟩ | ⟨s, rfl, ht⟩
    · by_cases h3 : f.ty = .enum
      · exact Or.inr (Or.inl ⟨h3, i, rfl, by simp [h3, isInt64, Gen.int64Types]⟩)
      · simp [valOfType] at hv
        exact Or.inr (Or.inr (Or.inr (Or.inr ⟨by simp [h1, h3, hv], rfl, by simp [h1, h3, hv]⟩)))
    · exact Or.inr (Or.inr (Or.inr (Or.inr ⟨by rw [ht]; rfl, rfl, by rw [ht]; rfl⟩)))
    · exact Or.inr (Or.inr (Or.inr (Or.inl ⟨Or.inl ht, by rw [ht]; rfl⟩)))
    · exact Or.inr (Or.inr (Or.inr (Or.inl ⟨Or.inr ht, by rw [ht]; rfl⟩)))
    · exact Or.inr (Or.inr (Or.inr (Or.inr ⟨by rw [ht]; rfl, rfl, by rw [ht]; rfl⟩)))
    · exact Or.inr (Or.inr (Or.inl ⟨ht, s, rfl, by rw [ht]; rfl⟩))

theorem decItem_encItem (he : enumOk (enumOf E f) = true) (v : Val)
    (hv : valOfType f.ty v = true) :
    decScalarItem E f (encItem E f v) = .ok v ∧ isLeafJ (encItem E f v) = true := by
  unfold decScalarItem
  rcases encItem_cases E f v hv with ⟨h, i, rfl, e⟩ | ⟨h, i, rfl, e⟩ | ⟨h, b, rfl, e⟩ | ⟨h, e⟩ | ⟨h, hr, e⟩ <;> rw [e]
  · simp [h, intOf, isLeafJ]
  · rw [h]
    exact ⟨parseEnum_dumpEnum _ he i, by simp only [dumpEnum]; split <;> rfl⟩
  · rw [h]; exact ⟨rfl, rfl⟩
  · have hp := parseFloat_dumpFloat _ _ hv h
    refine ⟨?_, parseFloat_ok_leaf _ _ _ hp⟩
    rw [← hp]
    rcases h with h | h <;> rw [h] <;> rfl
  · simp only [Bool.or_eq_false_iff] at h
    simp only [h.1.1.1.1, h.1.1.1.2, h.1.1.2, h.1.2, h.2, Bool.false_or, Bool.false_eq_true, if_false]
    exact unRaw_rawJ_leaf v (rawOk_leaf v hr).1

theorem valOfType_rawOk (t : PType) (v : Val) (h : valOfType t v = true) (hb : t ≠ .bytes) : rawOk v = true := by
  rcases valOfType_cases _ _ h with ⟨i, rfl⟩ | ⟨b, rfl, _⟩ | ⟨b, rfl, _⟩ | ⟨b, rfl, _⟩ | ⟨s, rfl, _⟩ | ⟨s, rfl, ht⟩
  · rfl
  · rfl
  · rfl
  · rfl
  · rfl
  · exact absurd ht hb


/-- the field-level round trip: if the field is written, the written value is not null
    (so `from_dict` does not skip it) and decodes to the original attribute value -/
def FieldRT (S : Schema) (E : Enums) (cs : KeyCase) (f : FieldD) (hid sel : Bool) (v : Val) : Prop :=
  ∀ j, toDictSlot S E cs false f hid sel v = some j → j ≠ .null ∧ decodeField S E f j = .ok v

theorem some_of_ite {α : Type} {c : Prop} [Decidable c] {a j : α} (h : (if c then some a else Option.none) = some j) :
    j = a := by
  split at h
  · exact (Option.some.inj h).symm
  · cases h

variable {S E cs f hid sel} in
/-- a `fieldRT_*` below is three facts: an equation of the writer (`J`, when it writes), `J` is not null, the reader
    takes `J` back -/
theorem FieldRT.intro {v : Val} {c : Prop} [Decidable c] {J : JVal}
    (hw : toDictSlot S E cs false f hid sel v = if c then some J else Option.none)
    (hn : J ≠ .null) (hd : decodeField S E f J = .ok v) : FieldRT S E cs f hid sel v := by
  intro j hj
  rw [hw] at hj
  cases some_of_ite hj
  exact ⟨hn, hd⟩

theorem isLeafJ_ne_null (j : JVal) (h : isLeafJ j = true) : j ≠ .null := by
  intro e; subst e; simp [isLeafJ] at h

/-- the reader on a value that is not None, a list or a dict -/
theorem decodeField_leaf (j : JVal) (h : isLeafJ j = true) :
    decodeField S E f j =
      if f.ty == .message then
        if f.wraps.isSome then unRaw j
        else match f.kind with
          | .timestamp => isoparse j
          | .duration => durParse j
          | .user _ => .error .attr
      else if f.ty == .map && f.mapV == .message then .error .attr
      else decScalarItem E f j := by
  cases j with
  | null | arr _ | obj _ _ => cases h
  | _ => rfl

/-- the reader on a list, for a field that is neither a message nor a map: item by item (`unRaw` is the item decoder of
    the types that have no other) -/
theorem decodeField_arr (js : List JVal) (hm : (f.ty == .message) = false) (hmap : (f.ty == .map) = false) :
    decodeField S E f (.arr js) = (mapMR (decScalarItem E f) js).bind fun vs => .ok (.list vs) := by
  rw [decodeField]
  simp only [hm, hmap, Bool.false_and, Bool.false_eq_true, if_false]
  split
  · rfl
  · rename_i hsp
    simp only [Bool.or_eq_true, not_or, Bool.not_eq_true] at hsp
    have : decScalarItem E f = unRaw := by funext j; simp [decScalarItem, hsp]
    rw [this, unRaw, unRawList_eq_mapMR]

theorem toDictSlot_scalar (v : Val)
    (hm : (f.ty == .message) = false) (hmap : (f.ty == .map) = false) (hr : f.repeated = false)
    (hv : valOfType f.ty v = true) :
    toDictSlot S E cs false f false sel v
      = if !eqDefault S f.defKind v || sel then some (encItem E f v) else Option.none := by
  obtain ⟨hl, hn⟩ := valOfType_leaf f.ty v hv
  rw [toDictSlot_leaf _ _ _ _ _ _ _ _ hl, if_neg (by simp), toDictPlain_scalar S E f sel false v hm hmap,
    encScalar_some E f false v hr hn, Bool.or_false]

theorem fieldRT_scalar (v : Val)
    (hm : (f.ty == .message) = false) (hmap : (f.ty == .map) = false) (hr : f.repeated = false)
    (he : enumOk (enumOf E f) = true) (hv : valOfType f.ty v = true) :
    FieldRT S E cs f false sel v := by
  obtain ⟨h1, h2⟩ := decItem_encItem E f he v hv
  refine .intro (toDictSlot_scalar S E cs f sel v hm hmap hr hv) (isLeafJ_ne_null _ h2) ?_
  rw [decodeField_leaf S E f _ h2, hm, hmap]
  exact h1

theorem fieldRT_repeated_scalar (xs : List Val)
    (hm : (f.ty == .message) = false) (hmap : (f.ty == .map) = false) (hr : f.repeated = true)
    (he : enumOk (enumOf E f) = true) (hx : ∀ x ∈ xs, valOfType f.ty x = true) :
    FieldRT S E cs f false sel (.list xs) :=
  .intro (toDictSlot_repeated_scalar S E cs false f sel xs hm hmap hr) nofun (by
    rw [decodeField_arr S E f _ hm hmap, mapMR_inv _ _ xs fun x h => (decItem_encItem E f he x (hx x h)).1]
    rfl)

theorem fieldRT_wkt (v : Val)
    (hm : (f.ty == .message) = true) (hw : f.wraps = Option.none)
    (hv : (f.kind = .timestamp ∧ ∃ us, v = .ts us) ∨ (f.kind = .duration ∧ ∃ us, v = .dur us)) :
    FieldRT S E cs f false sel v := by
  intro j hj
  rcases hv with ⟨hk, us, rfl⟩ | ⟨hk, us, rfl⟩ <;>
  · rw [toDictSlot_leaf _ _ _ _ _ _ _ _ rfl] at hj
    simp only [Bool.false_eq_true, if_false, toDictPlain, hm, if_true] at hj
    cases some_of_ite hj
    exact ⟨nofun, by simp [decodeField, hm, hw, hk, isoparse, durParse]⟩

theorem fieldRT_repeated_wkt (xs : List Val)
    (hm : (f.ty == .message) = true) (hw : f.wraps = Option.none) (hr : f.repeated = true)
    (hv : (f.kind = .timestamp ∧ ∀ x ∈ xs, ∃ us, x = .ts us) ∨ (f.kind = .duration ∧ ∀ x ∈ xs, ∃ us, x = .dur us)) :
    FieldRT S E cs f false sel (.list xs) := by
  rcases hv with ⟨hk, hx⟩ | ⟨hk, hx⟩ <;>
  · refine .intro (J := .arr _) (by rw [toDictSlot_repeated_msg S E cs false f sel xs hm hw hr, hk]) nofun ?_
    rw [decodeField]
    simp only [hm, if_true, hw, Option.isSome_none, Bool.false_eq_true, if_false, hk]
    rw [mapMR_inv _ _ xs fun x h => by obtain ⟨us, rfl⟩ := hx x h; rfl]
    rfl

theorem fieldRT_wrapper (v : Val) (w : PType)
    (hm : (f.ty == .message) = true) (hw : f.wraps = some w) (hv : valOfType w v = true) :
    FieldRT S E cs f false sel v := by
  obtain ⟨h1, h2⟩ := unRaw_rawJ_leaf v (valOfType_leaf w v hv)
  refine .intro (c := True) ?_ (isLeafJ_ne_null _ h2) ?_
  · rw [toDictSlot_wrapped S E cs false f sel v w hm hw hv, if_pos trivial]
  · rw [decodeField_leaf S E f _ h2, hm, hw]
    exact h1

theorem toDictMapVals_raw (incl : Bool) (vs : List Val)
    (h : ∀ x ∈ vs, rawOk x = true) : toDictMapVals S E cs incl vs = rawJList vs := by
  induction vs with
  | nil => rw [toDictMapVals, rawJList]
  | cons x xs ih =>
    have hx := h x (by simp)
    rw [rawJList, ← ih (fun y hy => h y (by simp [hy]))]
    cases x <;> simp [rawOk] at hx <;> (rw [toDictMapVals]; all_goals (intros; contradiction))

theorem keyV_keyJ (ks : List Val) (h : ∀ k ∈ ks, ∃ s, k = .str s) : (ks.map keyJ).map keyV = ks := by
  induction ks with
  | nil => rfl
  | cons k ks ih =>
    obtain ⟨s, rfl⟩ := h k (by simp)
    simp only [List.map_cons, keyJ, keyV]
    rw [ih (fun y hy => h y (by simp [hy]))]

theorem fieldRT_map_scalar (ks vs : List Val)
    (hmap : f.ty = .map) (hv : (f.mapV == .message) = false)
    (hk : ∀ k ∈ ks, ∃ s, k = .str s) (hx : ∀ x ∈ vs, rawOk x = true) :
    FieldRT S E cs f false sel (.dict ks vs) := by
  refine .intro (toDictSlot_map S E cs false f sel ks vs (by simp [hmap])) nofun ?_
  rw [decodeField]
  have h64 : isInt64 PType.map = false := by decide
  simp only [hmap, hv, h64, Bool.and_false, Bool.false_eq_true, if_false, Bool.or_self,
    show (PType.map == PType.message) = false from rfl, show (PType.map == PType.bytes) = false from rfl,
    show (PType.map == PType.enum) = false from rfl, show (PType.map == PType.float) = false from rfl,
    show (PType.map == PType.double) = false from rfl]
  rw [unRaw, toDictMapVals_raw S E cs false vs hx, unRawList_rawJList_leaf vs fun x h => (rawOk_leaf x (hx x h)).1]
  simp only [bind_ok, keyV_keyJ ks hk]


/-- (C19 proves the decidable guard `namesOk` for the names of its fragment) -/
theorem namesOk_lookup (fs : List FieldD) (h : namesOk cs fs = true) (i : Nat) (f : FieldD)
    (hf : fs[i]? = some f) : fieldOfJKey fs (jsonKey cs f.name) = .ok (some (i, f)) := by
  rw [namesOk_fast, Fast.namesOk, Bool.and_eq_true, decide_eq_true_eq, List.all_eq_true] at h
  rw [fieldOfJKey_jsonKey, beq_iff_eq.1 (h.2 f (List.mem_of_getElem? hf)), findName_nodup fs 0 i f h.1 hf, Nat.zero_add]

/-- the constructor arguments `to_dict`'s output turns into: the written fields, by index -/
def emitted (S : Schema) (E : Enums) (cs : KeyCase) (fs : List FieldD) (cur : List (Option Nat)) :
    Nat → List Val → List (Nat × Val)
  | _, [] => []
  | idx, v :: vs =>
    match fs[idx]? with
    | Option.none => []
    | some f =>
      match toDictSlot S E cs false f (hidden f idx cur) (selectedInGroup f idx cur) v with
      | some _ => (idx, v) :: emitted S E cs fs cur (idx + 1) vs
      | Option.none => emitted S E cs fs cur (idx + 1) vs

theorem fromDictKV_cons (c : Nat) (k : JKey) (ks : List JKey) (j : JVal) (js : List JVal)
    (i : Nat) (f : FieldD) (hk : fieldOfJKey (fieldsOf S c) k = .ok (some (i, f))) (hj : j ≠ .null) :
    fromDictKV S E c (k :: ks) (j :: js)
      = (decodeField S E f j).bind fun v => (fromDictKV S E c ks js).bind fun kw => .ok ((i, v) :: kw) := by
  rw [fromDictKV]
  simp only [hk]

theorem kv_roundtrip (c : Nat) (cur : List (Option Nat))
    (hn : namesOk cs (fieldsOf S c) = true) (d : Val → Val) (slots : List Val) (idx : Nat)
    (hrt : ∀ k v f, slots[k]? = some v → (fieldsOf S c)[idx + k]? = some f →
      ∀ j, toDictSlot S E cs false f (hidden f (idx + k) cur) (selectedInGroup f (idx + k) cur) v = some j →
        j ≠ .null ∧ decodeField S E f j = .ok (d v)) :
    fromDictKV S E c ((toDictKVs S E cs false (fieldsOf S c) cur idx slots).map (·.1))
        ((toDictKVs S E cs false (fieldsOf S c) cur idx slots).map (·.2))
      = .ok ((emitted S E cs (fieldsOf S c) cur idx slots).map fun p => (p.1, d p.2)) := by
  induction slots generalizing idx with
  | nil => rw [toDictKVs, emitted]; simp [fromDictKV]
  | cons v vs ih =>
    rw [toDictKVs, emitted]
    have ih' := ih (idx + 1) (by
      intro k v' f' hv hf'
      have := hrt (k + 1) v' f' (by simpa using hv) (by rw [← hf']; congr 1; omega)
      have e : idx + (k + 1) = idx + 1 + k := by omega
      rw [e] at this; exact this)
    cases hf : (fieldsOf S c)[idx]? with
    | none => simp [fromDictKV]
    | some f =>
      simp only []
      have h0 := hrt 0 v f (by simp) (by simpa using hf)
      simp only [Nat.add_zero] at h0
      cases hs : toDictSlot S E cs false f (hidden f idx cur) (selectedInGroup f idx cur) v with
      | none => simp only []; exact ih'
      | some j =>
        simp only [List.map_cons]
        obtain ⟨hnn, hdec⟩ := h0 j hs
        rw [fromDictKV_cons S E c _ _ j _ idx f (namesOk_lookup cs _ hn idx f hf) hnn, hdec, ih']
        rfl


def isTsV : Val → Bool
  | .ts _ => true
  | _ => false
def isDurV : Val → Bool
  | .dur _ => true
  | _ => false
def isStrV : Val → Bool
  | .str _ => true
  | _ => false

/-- the slot holds nothing (`to_dict` then writes nothing), or a well-typed scalar / list of
    scalars / Timestamp / Duration / wrapper value / `map<string, scalar>` of a field satisfying `fieldJsonOk` -/
def flatSlotOk (S : Schema) (E : Enums) (cs : KeyCase) (f : FieldD) (hid sel : Bool) : Val → Bool
  | .ph => (toDictSlot S E cs false f hid sel .ph).isNone
  | .none => (toDictSlot S E cs false f hid sel .none).isNone
  | .list xs =>
    !hid && f.repeated && f.ty != .map &&
      (if f.ty == .message then
         f.wraps.isNone && ((f.kind == .timestamp && xs.all isTsV) || (f.kind == .duration && xs.all isDurV))
       else xs.all (valOfType f.ty))
  | .dict ks vs => !hid && f.ty == .map && f.mapV != .message && ks.all isStrV && vs.all rawOk
  | .msg _ _ _ _ _ => false
  | v =>
    !hid && !f.repeated && f.ty != .map &&
      (if f.ty == .message then
         (match f.wraps with
          | some w => w != .bytes && valOfType w v
          | Option.none => (f.kind == .timestamp && isTsV v) || (f.kind == .duration && isDurV v))
       else valOfType f.ty v)

theorem isTsV_iff (v : Val) : isTsV v = true ↔ ∃ us, v = .ts us := by cases v <;> simp [isTsV]
theorem isDurV_iff (v : Val) : isDurV v = true ↔ ∃ us, v = .dur us := by cases v <;> simp [isDurV]
theorem isStrV_iff (v : Val) : isStrV v = true ↔ ∃ s, v = .str s := by cases v <;> simp [isStrV]

theorem fieldRT_of_flat (v : Val)
    (he : enumOk (enumOf E f) = true) (h : flatSlotOk S E cs f hid sel v = true) :
    FieldRT S E cs f hid sel v := by
  -- the alternatives of `flatSlotOk`, in its order; the last is the value that is none of the constructors before
  unfold flatSlotOk at h
  split at h
  · intro j hj; simp [hj] at h
  · intro j hj; simp [hj] at h
  · rename_i xs
    simp only [Bool.and_eq_true, Bool.not_eq_true', bne_iff_ne, ne_eq] at h
    obtain ⟨⟨⟨rfl, hr⟩, hmap⟩, hrest⟩ := h
    by_cases hm : (f.ty == PType.message) = true
    · rw [if_pos hm] at hrest
      simp only [Bool.and_eq_true, Bool.or_eq_true, beq_iff_eq, Option.isNone_iff_eq_none, List.all_eq_true, isTsV_iff,
        isDurV_iff] at hrest
      exact fieldRT_repeated_wkt S E cs f sel xs hm hrest.1 hr hrest.2
    · rw [if_neg hm] at hrest
      exact fieldRT_repeated_scalar S E cs f sel xs (by simpa using hm) (by simpa using hmap) hr he (by simpa using hrest)
  · rename_i ks vs
    simp only [Bool.and_eq_true, Bool.not_eq_true', bne_iff_ne, ne_eq, beq_iff_eq, List.all_eq_true, isStrV_iff] at h
    obtain ⟨⟨⟨⟨rfl, hmap⟩, hv⟩, hk⟩, hx⟩ := h
    exact fieldRT_map_scalar S E cs f sel ks vs hmap (by simpa using hv) hk hx
  · cases h
  · simp only [Bool.and_eq_true, Bool.not_eq_true', bne_iff_ne, ne_eq] at h
    obtain ⟨⟨⟨rfl, hr⟩, hmap⟩, hrest⟩ := h
    by_cases hm : (f.ty == PType.message) = true
    · rw [if_pos hm] at hrest
      cases hw : f.wraps with
      | some w =>
        rw [hw, Bool.and_eq_true] at hrest
        exact fieldRT_wrapper S E cs f sel v w hm hw hrest.2
      | none =>
        rw [hw] at hrest
        simp only [Bool.or_eq_true, Bool.and_eq_true, beq_iff_eq, isTsV_iff, isDurV_iff] at hrest
        exact fieldRT_wkt S E cs f sel v hm hw hrest
    · rw [if_neg hm] at hrest
      exact fieldRT_scalar S E cs f sel v (by simpa using hm) (by simpa using hmap) hr he hrest

def flatSlots (S : Schema) (E : Enums) (cs : KeyCase) (fs : List FieldD) (cur : List (Option Nat)) : Nat → List Val → Bool
  | _, [] => true
  | i, v :: vs =>
    (match fs[i]? with
     | some f => flatSlotOk S E cs f (hidden f i cur) (selectedInGroup f i cur) v
     | Option.none => true) && flatSlots S E cs fs cur (i + 1) vs

theorem flatSlots_get (fs : List FieldD) (cur : List (Option Nat)) :
    ∀ (slots : List Val) (idx : Nat), flatSlots S E cs fs cur idx slots = true → ∀ (k : Nat) (v : Val) (f : FieldD),
      slots[k]? = some v → fs[idx + k]? = some f →
      flatSlotOk S E cs f (hidden f (idx + k) cur) (selectedInGroup f (idx + k) cur) v = true
  | [], _, _, _, _, _, hv, _ => by cases hv
  | a :: as, idx, h, k, v, f, hv, hf => by
    rw [flatSlots, Bool.and_eq_true] at h
    cases k with
    | zero =>
      cases hv
      rw [Nat.add_zero] at hf ⊢
      rw [hf] at h
      exact h.1
    | succ k =>
      rw [show idx + (k + 1) = idx + 1 + k by omega] at hf ⊢
      exact flatSlots_get fs cur as (idx + 1) h.2 k v f (by simpa using hv) hf

end Fields

end Bp
