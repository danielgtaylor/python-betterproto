import BpModel.All
import BpProofs.SpecPerm2
/-
  C02: the class of a record in terms of its field number.
-/
namespace Bp
open Gen

/-- the records whose number is declared by a member of oneof group `g` of class `d` -/
def inGroup (d : MsgD) (g : Nat) (pf : PField) : Bool :=
  match findField d.fields pf.num with
  | some idx => grp d.fields idx == some g
  | Option.none => false

theorem ofClass_group_imp (d : MsgD) (g : Nat) (pf : PField) (h : ofClass d (.group g) pf = true) :
    inGroup d g pf = true := by
  simp only [ofClass, decide_eq_true_eq] at h
  unfold classOf at h
  unfold inGroup
  cases h1 : findField d.fields pf.num with
  | none => rw [h1] at h; simp at h
  | some idx =>
    rw [h1] at h
    simp only at h ⊢
    cases h2 : d.fields[idx]? with
    | none => rw [h2] at h; simp at h
    | some f =>
      rw [h2] at h
      simp only at h
      split at h
      · simp at h
      · cases hg : f.group with
        | none => rw [hg] at h; simp at h
        | some g' =>
          rw [hg] at h; simp only [Cls.group.injEq] at h; subst h
          simp [grp, h2, hg]

theorem ofClass_field_imp (d : MsgD) (i : Nat) (pf : PField) (h : ofClass d (.field i) pf = true) :
    ∃ f, d.fields[i]? = some f ∧ pf.num = f.num := by
  simp only [ofClass, decide_eq_true_eq] at h
  unfold classOf at h
  cases h1 : findField d.fields pf.num with
  | none => rw [h1] at h; simp at h
  | some idx =>
    obtain ⟨f, hf, hn⟩ := findField_sound d.fields pf.num idx h1
    rw [h1] at h
    simp only [hf] at h
    split at h
    · simp at h
    · cases hg : f.group with
      | some g' => rw [hg] at h; simp at h
      | none =>
        rw [hg] at h; simp only [Cls.field.injEq] at h; subst h
        exact ⟨f, hf, hn.symm⟩

theorem filter_of_imp {α : Type} (p q : α → Bool) (l : List α) (h : ∀ x, p x = true → q x = true) :
    l.filter p = (l.filter q).filter p := by
  rw [List.filter_filter]
  apply List.filter_congr
  intro x _
  cases hp : p x with
  | false => simp
  | true => simp [h x hp]

theorem classes_of_numbers (d : MsgD) (pfs pfs' : List PField)
    (hnum : ∀ n, pfs.filter (fun pf => pf.num == n) = pfs'.filter (fun pf => pf.num == n))
    (hgrp : ∀ g, pfs.filter (inGroup d g) = pfs'.filter (inGroup d g)) :
    ∀ c, Legit d c → c ≠ Cls.unknown → pfs.filter (ofClass d c) = pfs'.filter (ofClass d c) := by
  intro c _ hu
  cases c with
  | unknown => exact absurd rfl hu
  | group g =>
    rw [filter_of_imp (ofClass d (.group g)) (inGroup d g) pfs (ofClass_group_imp d g),
      filter_of_imp (ofClass d (.group g)) (inGroup d g) pfs' (ofClass_group_imp d g), hgrp g]
  | field i =>
    cases hf : d.fields[i]? with
    | none =>
      have hnone : ∀ l : List PField, l.filter (ofClass d (.field i)) = [] := by
        intro l
        apply List.filter_eq_nil_iff.mpr
        intro x _ hx
        obtain ⟨f, hf', _⟩ := ofClass_field_imp d i x hx
        rw [hf] at hf'; simp at hf'
      rw [hnone, hnone]
    | some f =>
      have himp : ∀ x, ofClass d (.field i) x = true → (x.num == f.num) = true := by
        intro x hx
        obtain ⟨f', hf', hn⟩ := ofClass_field_imp d i x hx
        rw [hf] at hf'; injection hf' with hf'; subst hf'
        simpa using hn
      rw [filter_of_imp _ (fun pf => pf.num == f.num) pfs himp,
        filter_of_imp _ (fun pf => pf.num == f.num) pfs' himp, hnum f.num]

end Bp
