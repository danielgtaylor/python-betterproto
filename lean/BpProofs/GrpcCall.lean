import BpModel.GrpcCall
/-
  C11, call protocol: what a handler does when it is fed a request list (`hFeed`, the specification side), and the
  lemmas that compute the canonical run (`canon`) of the four helper programs against the four adapters.
-/
namespace Bp.GrpcCall
open Bp.Grpc

variable {Req Resp : Type}

/-- how a handler body ended -/
inductive HFin (Resp : Type)
  | ret (r : Option Resp)
  | raise (e : GErr)
  deriving DecidableEq, Repr

/-- a handler body run on its own against a request list: what its pulls of the request iterator were answered
    (`given`), what it yielded, how it ended, which requests it left unread -/
structure HOut (Req Resp : Type) where
  given : List (Option Req)
  yields : List Resp
  fin : HFin Resp
  rest : List Req
  deriving DecidableEq, Repr

/-- the handler body fed from `rs` (`iter`: it has a request iterator; without one a pull reads `None` and is not
    recorded — no Python handler of a unary request does that) -/
def hFeed (iter : Bool) : HProg Req Resp → List Req → HOut Req Resp
  | .recv k, [] =>
    if iter then let o := hFeed iter (k none) []; { o with given := none :: o.given }
    else hFeed iter (k none) []
  | .recv k, r :: rs =>
    if iter then let o := hFeed iter (k (some r)) rs; { o with given := some r :: o.given }
    else hFeed iter (k none) (r :: rs)
  | .yield y k, rs => let o := hFeed iter k rs; { o with yields := y :: o.yields }
  | .ret r, rs => ⟨[], [], .ret r, rs⟩
  | .raise e, rs => ⟨[], [], .raise e, rs⟩

/-- the status the server answers with after a GENERATOR handler ended -/
def genFin : HFin Resp → Option GErr
  | .ret _ => none
  | .raise e => some e

/-- … after a COROUTINE handler ended (its one message is sent first when it returned one) -/
def coroFin : HFin Resp → Option GErr
  | .ret (some _) => none
  | .ret none => some internalErr
  | .raise e => some e

def coroMsgs : HFin Resp → List Resp
  | .ret (some r) => [r]
  | _ => []

theorem vRun_genProg (iter : Bool) (p : HProg Req Resp) :
    ∀ (cl : Client) (rs : List Req) (d : Down Resp) (s : List (SOp Req)) (m : MSt Req Resp) (v : VSt Req Resp),
      vRun (genProg iter p) ⟨cl, ⟨rs, true⟩, d, s, m, v⟩ =
        ⟨cl, ⟨(hFeed iter p rs).rest, true⟩,
          ⟨d.msgs ++ (hFeed iter p rs).yields, d.hdrs || !(hFeed iter p rs).yields.isEmpty,
            some (genFin (hFeed iter p rs).fin)⟩, s, m,
          ⟨.halt, v.calls, v.hIn ++ (hFeed iter p rs).given, v.sawEnd || (hFeed iter p rs).given.any Option.isNone⟩⟩ := by
  induction p with
  | recv k ih =>
    intro cl rs d s m v
    cases iter with
    | false =>
      cases rs <;> simp [genProg, hFeed, ih]
    | true =>
      cases rs with
      | nil => simp [genProg, hFeed, vRun, ih]
      | cons r rs => simp [genProg, hFeed, vRun, ih]
  | yield y k ih =>
    intro cl rs d s m v
    simp [genProg, hFeed, vRun, ih]
  | ret r => intro cl rs d s m v; simp [genProg, hFeed, vRun, genFin]
  | raise e => intro cl rs d s m v; simp [genProg, hFeed, vRun, genFin]

theorem vRun_coroProg (iter : Bool) (p : HProg Req Resp) :
    ∀ (cl : Client) (rs : List Req) (d : Down Resp) (s : List (SOp Req)) (m : MSt Req Resp) (v : VSt Req Resp),
      vRun (coroProg iter p) ⟨cl, ⟨rs, true⟩, d, s, m, v⟩ =
        ⟨cl, ⟨(hFeed iter p rs).rest, true⟩,
          ⟨d.msgs ++ coroMsgs (hFeed iter p rs).fin, d.hdrs || !(coroMsgs (hFeed iter p rs).fin).isEmpty,
            some (coroFin (hFeed iter p rs).fin)⟩, s, m,
          ⟨.halt, v.calls, v.hIn ++ (hFeed iter p rs).given, v.sawEnd || (hFeed iter p rs).given.any Option.isNone⟩⟩ := by
  induction p with
  | recv k ih =>
    intro cl rs d s m v
    cases iter with
    | false =>
      cases rs <;> simp [coroProg, hFeed, ih]
    | true =>
      cases rs with
      | nil => simp [coroProg, hFeed, vRun, ih]
      | cons r rs => simp [coroProg, hFeed, vRun, ih]
  | yield y k ih =>
    intro cl rs d s m v
    simp [coroProg, hFeed, ih]
  | ret r => intro cl rs d s m v; cases r <;> simp [coroProg, hFeed, vRun, coroFin, coroMsgs]
  | raise e => intro cl rs d s m v; simp [coroProg, hFeed, vRun, coroFin, coroMsgs]

theorem sendOp_message_cs (card : Card) (hc : csOf card = true) (md : Bool) (pre : List Req) (x : Req) :
    sendOp ⟨card, true, md, false⟩ ⟨pre, false⟩ (.message x false) = .ok (⟨card, true, true, false⟩, ⟨pre ++ [x], false⟩) := by
  simp [sendOp, sendEff, hc]

theorem sendOp_end_cs (card : Card) (hc : csOf card = true) (md : Bool) (pre : List Req) :
    sendOp ⟨card, true, md, false⟩ ⟨pre, false⟩ (.endStream : SOp Req) = .ok (⟨card, true, md, true⟩, ⟨pre, true⟩) := by
  simp [sendOp, sendEff, hc]

theorem sRunL_messages (card : Card) (hc : csOf card = true) (ms : List Req) :
    ∀ (md : Bool) (pre : List Req) (tail : List (SOp Req)),
      sRunL (ms.map (fun m => SOp.message m false) ++ tail) ⟨card, true, md, false⟩ ⟨pre, false⟩ =
        sRunL tail ⟨card, true, md || !ms.isEmpty, false⟩ ⟨pre ++ ms, false⟩ := by
  induction ms with
  | nil => intro md pre tail; simp
  | cons x xs ih =>
    intro md pre tail
    simp [sRunL, sendOp_message_cs card hc, ih]

theorem sRunL_sendMessages (card : Card) (hc : csOf card = true) (ms : List Req) (md : Bool) (pre : List Req) :
    sRunL (sendMessages ms) ⟨card, true, md, false⟩ ⟨pre, false⟩ =
      (⟨card, true, md || !ms.isEmpty, true⟩, ⟨pre ++ ms, true⟩) := by
  simp [sendMessages, sRunL_messages card hc, sRunL, sendOp_end_cs card hc]

theorem mRun_messages (strict : Bool) (card : Card) (hc : csOf card = true) (ms : List Req) :
    ∀ (md : Bool) (pre : List Req) (tail : List (COp Req)) (d : Down Resp) (s : List (SOp Req)) (m : MSt Req Resp)
      (v : VSt Req Resp),
      mRun strict (ms.map (fun m => COp.send (SOp.message m false)) ++ tail)
          ⟨⟨card, true, md, false⟩, ⟨pre, false⟩, d, s, m, v⟩ =
        mRun strict tail ⟨⟨card, true, md || !ms.isEmpty, false⟩, ⟨pre ++ ms, false⟩, d, s, m, v⟩ := by
  induction ms with
  | nil => intro md pre tail d s m v; simp
  | cons x xs ih =>
    intro md pre tail d s m v
    simp [mRun, sendOp_message_cs card hc, ih]

theorem sendMessages_map (ms : List Req) :
    (sendMessages ms).map COp.send = ms.map (fun m => COp.send (SOp.message m false)) ++ [COp.send SOp.endStream] := by
  simp [sendMessages, Function.comp_def]

@[simp] theorem recv_beq_aiter : (RecvShape.recvMessage == RecvShape.aiter) = false := by decide
@[simp] theorem aiter_beq_aiter : (RecvShape.aiter == RecvShape.aiter) = true := by decide

theorem hFeed_false (p : HProg Req Resp) : ∀ rs : List Req, (hFeed false p rs).given = [] ∧ (hFeed false p rs).rest = rs := by
  induction p with
  | recv k ih => intro rs; cases rs <;> simp [hFeed, ih]
  | yield y k ih => intro rs; simp [hFeed, ih]
  | ret r => intro rs; simp [hFeed]
  | raise e => intro rs; simp [hFeed]

/-- what the caller of a unary-response RPC gets, from how the (coroutine) handler ended -/
def coroResult : HFin Resp → CResult Resp
  | .ret (some x) => .returned (some x)
  | .ret none => .grpcError internalErr
  | .raise e => .grpcError e

/-- how the caller's `async for` over a server-streaming RPC ends, from how the (generator) handler ended -/
def genResult : HFin Resp → CResult Resp
  | .ret _ => .returned none
  | .raise e => .grpcError e

theorem outcome_unaryTail (f : HFin Resp) (cl : Client) (hr : cl.reqDone = true) (he : endedOk cl = true) (up : Up Req)
    (s : List (SOp Req)) (v : VSt Req Resp) :
    outcome (mRunC true ⟨cl, up, ⟨coroMsgs f, !(coroMsgs f).isEmpty, some (coroFin f)⟩, s,
        ⟨[.recvMessage, .exitCtx, .assertResponse, .returnResponse], none, [], none⟩, v⟩)
      = ⟨v.calls, v.hIn, v.prog.isHalt, [], coroResult f⟩ := by
  cases f with
  | ret x =>
    cases x <;> simp [mRunC, mRun, hr, he, coroMsgs, coroFin, downRecv, failM, outcome, coroResult, exitCheck]
  | raise e => simp [mRunC, mRun, hr, coroMsgs, coroFin, downRecv, failM, outcome, coroResult]

theorem outcome_streamTail (ys : List Resp) (f : HFin Resp) (cl : Client) (hr : cl.reqDone = true)
    (he : endedOk cl = true) (up : Up Req) (s : List (SOp Req)) (v : VSt Req Resp) :
    outcome (mRunC true ⟨cl, up, ⟨ys, !ys.isEmpty, some (genFin f)⟩, s, ⟨[.iterYield, .exitCtx], none, [], none⟩, v⟩)
      = ⟨v.calls, v.hIn, v.prog.isHalt, ys, genResult f⟩ := by
  cases f with
  | ret x => simp [mRunC, mRun, hr, he, genFin, downRecv, outcome, genResult, exitCheck]
  | raise e => cases ys <;> simp [mRunC, mRun, hr, he, genFin, downRecv, failM, outcome, genResult, exitCheck]

theorem call_unaryUnary (h : Handler Req Resp) (hg : h.isGen = false) (r : Req) :
    call .unaryUnary h [r] =
      ⟨1, [some r], true, [], coroResult (hFeed false (h.body (some r)) []).fin⟩ := by
  simp only [call, callWith, callProg, canon, helperProg]
  -- the configuration when the server has finished
  conv in vRunG _ =>
    simp [initV, unaryUnary, mRunC, rpcShape, csOf, ssOf, serverProg, mRun, sendOp, sendEff, downRecv, sRun, sRunL, vRunG,
      vRun, afterRecv, callUnaryResp, hg, callArg, vRun_coroProg, hFeed_false]
  exact outcome_unaryTail _ _ rfl rfl _ _ _

theorem call_unaryStream (h : Handler Req Resp) (hg : h.isGen = true) (r : Req) :
    call .unaryStream h [r] =
      ⟨1, [some r], true, (hFeed false (h.body (some r)) []).yields,
        genResult (hFeed false (h.body (some r)) []).fin⟩ := by
  simp only [call, callWith, callProg, canon, helperProg]
  conv in vRunG _ =>
    simp [initV, unaryStream, mRunC, rpcShape, csOf, ssOf, serverProg, mRun, sendOp, sendEff, downRecv, sRun, sRunL, vRunG,
      vRun, afterRecv, callServerStream, hg, callArg, vRun_genProg, hFeed_false]
  exact outcome_streamTail _ _ _ rfl rfl _ _ _

theorem call_streamUnary (h : Handler Req Resp) (hg : h.isGen = false) (reqs : List Req) :
    call .streamUnary h reqs =
      ⟨1, (hFeed true (h.body none) reqs).given, true, [], coroResult (hFeed true (h.body none) reqs).fin⟩ := by
  simp only [call, callWith, callProg, canon, helperProg]
  conv in vRunG _ =>
    simp [initV, streamUnary, mRunC, rpcShape, csOf, ssOf, serverProg, sendMessages_map, mRun, sendRequest,
      mRun_messages (Resp := Resp) true .streamUnary rfl, sendOp_end_cs .streamUnary rfl, downRecv, sRun, sRunL, vRunG,
      afterRecv, callUnaryResp, hg, callArg, vRun, vRun_coroProg]
  exact outcome_unaryTail _ _ rfl rfl _ _ _

theorem served_streamStream (strict : Bool) (h : Handler Req Resp) (hg : h.isGen = true) (reqs : List Req) :
    vRunG (sRun (mRunC strict (initV (streamStream (α := Unit) [] ⟨none, none, none⟩ reqs) (serverProg (rpcShape .streamStream) h))))
      = ⟨⟨.streamStream, true, !reqs.isEmpty, true⟩, ⟨(hFeed true (h.body none) reqs).rest, true⟩,
          ⟨(hFeed true (h.body none) reqs).yields, !(hFeed true (h.body none) reqs).yields.isEmpty,
            some (genFin (hFeed true (h.body none) reqs).fin)⟩, [],
          ⟨[.iterYield, .exitCtx], none, [], none⟩,
          ⟨.halt, 1, (hFeed true (h.body none) reqs).given, (hFeed true (h.body none) reqs).given.any Option.isNone⟩⟩ := by
  simp [initV, streamStream, mRunC, rpcShape, csOf, ssOf, serverProg, mRun, sendRequest, downRecv, sRun,
    sRunL_sendMessages .streamStream rfl, vRunG, afterRecv, callServerStream, hg, callArg, vRun, vRun_genProg]

theorem call_streamStream (h : Handler Req Resp) (hg : h.isGen = true) (reqs : List Req) :
    call .streamStream h reqs =
      ⟨1, (hFeed true (h.body none) reqs).given, true, (hFeed true (h.body none) reqs).yields,
        genResult (hFeed true (h.body none) reqs).fin⟩ := by
  simp only [call, callWith, callProg, canon, helperProg, served_streamStream true h hg]
  exact outcome_streamTail _ _ _ rfl rfl _ _ _

/-- fed from `rs` through an iterator the handler is given a prefix of `rs` in order, then — only when that prefix
    is all of `rs` — the end of the stream (once per further pull); what it did not read is `rest` -/
theorem hFeed_given (p : HProg Req Resp) :
    ∀ rs : List Req,
      (hFeed true p rs).given.filterMap id ++ (hFeed true p rs).rest = rs
      ∧ (hFeed true p rs).given =
          ((hFeed true p rs).given.filterMap id).map some
            ++ List.replicate ((hFeed true p rs).given.countP Option.isNone) none
      ∧ ((hFeed true p rs).given.any Option.isNone = true → (hFeed true p rs).rest = []) := by
  induction p with
  | recv k ih =>
    intro rs
    cases rs with
    | nil =>
      obtain ⟨h1, h2, _⟩ := ih none []
      obtain ⟨hg, hr⟩ := List.append_eq_nil_iff.mp h1
      simp only [hFeed, if_true]
      refine ⟨by simp [hg, hr], ?_, fun _ => hr⟩
      rw [hg] at h2
      simp only [List.filterMap_cons, id, hg, List.map_nil, List.nil_append, List.countP_cons, Option.isNone_none,
        if_true, List.replicate_succ, List.cons.injEq, true_and]
      simpa using h2
    | cons r rs =>
      obtain ⟨h1, h2, h3⟩ := ih (some r) rs
      simp only [hFeed, if_true]
      refine ⟨by simp [h1], ?_, by simpa using h3⟩
      simp only [List.filterMap_cons, id, List.map_cons, List.cons_append, List.countP_cons,
        Option.isNone_some, Bool.false_eq_true, if_false, Nat.add_zero, List.cons.injEq, true_and]
      exact h2
  | yield y k ih => intro rs; simpa [hFeed] using ih rs
  | ret r => intro rs; simp [hFeed]
  | raise e => intro rs; simp [hFeed]

end Bp.GrpcCall
