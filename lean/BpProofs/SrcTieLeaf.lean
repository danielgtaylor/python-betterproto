import BpProofs.Gen.SrcLeaf
import BpProofs.SrcTieTime
import BpProofs.SrcTieJson
import BpProofs.SrcTieEnum
/-
  THE TIE BETWEEN THE TRANSLATED JSON LEAF CODECS AND THE MODEL.

  `Bp.Src.parse_float`, `dump_enum`, `parse_enum`, `duration_delta_from_json`,
  `timestamp_to_json` (BpProofs/Gen/SrcLeaf.lean) are regenerated from the Python AST of
  src/betterproto/__init__.py on every run.  The theorems of Props/C05SrcLeaf.lean, C04SrcLeaf.lean and
  C15SrcJson.lean, which the lemmas here serve, say that each computes what the model function computes
  (BpModel/Json.lean `parseFloat`, BpModel/EnumM.lean `dumpEnum` / `parseEnum`, BpModel/Time.lean `durFromJson` /
  `tsFrac`), up to the semantics of the Python primitives fixed in BpProofs/PyPreludeLeaf.lean
  (+ PyPreludeTime.lean).
-/
namespace Bp.SrcTieLeaf
open Bp Bp.Py Bp.EnumM Bp.PyEnum Bp.PyLeaf

/-- the JSON leaf value is not a general `str` spelling one of the three spec strings (those
    texts are represented by `.fstr k`) -/
def canonFloatJ : JVal → Bool
  | .str u => !(u == "Infinity".toList.map Char.toNat || u == "-Infinity".toList.map Char.toNat
                || u == "NaN".toList.map Char.toNat)
  | _ => true

theorem floatOf_eq (t : PType) (j : JVal) : floatOf t j = ofR (parseFloat t j) := by
  cases j with
  | fstr k =>
    unfold floatOf parseFloat floatLit floatNeg
    match k with
    | 0 | 1 | _ + 2 => cases t == PType.float <;> rfl
  | _ => rfl

/-- the fraction of the model (`tsFrac`, BpModel/Time.lean) as the f-string parameters -/
def fracJ (u : Nat) : Option (Int × Int) := (tsFrac u).map fun p => ((p.1 : Int), (p.2 : Int))

/-- what `timestamp_to_json` as written returns, for EVERY datetime: the calendar text of the
    whole second of the UTC-normalised reading (`instant / 10^6`) and the fraction `tsFrac` of THAT reading
    (since the repair D52 `dt.microsecond` is read after `astimezone`; before it, the fraction was the one of
    the original wall clock, which differs for a utcoffset that is not a whole number of seconds) -/
def tsJsonOf (d : DT) : TsText := ⟨⟨d.instant / 1000000⟩, fracJ (d.instant % 1000000).toNat⟩

/-- the model text of an instant (microseconds since the epoch): RFC 3339 in UTC with 0 / 3 / 6
    fractional digits and the suffix "Z" — what `JVal.tsStr us` stands for -/
def tsJsonText (us : Int) : TsText := ⟨⟨us / 1000000⟩, fracJ (us % 1000000).toNat⟩

/-- the fraction of a second the f-string parameters spell, in microseconds: `digits / 10^W` s -/
def fracUsOf : Option (Int × Int) → Int
  | none => 0
  | some (w, dg) => dg * 10 ^ (6 - w).toNat

/-- the instant a `TsText` spells, in microseconds -/
def tsTextUs (t : TsText) : Int := t.iso.secs * 1000000 + fracUsOf t.frac

/-- what `timestamp_to_json` does with the datetime `d` once it is on the UTC clock (both branches of the
    method): the float arithmetic `dt.microsecond * 1e3`, `nanos % 1e9`, `int(nanos // 1e6)` stays exact, the
    last branch is not reached -/
theorem ts_body (d : DT) :
    ((Py.fmul (PyLeaf.dtMicrosecond d) 1000).bind fun nanos =>
      (PyLeaf.isoformat (PyLeaf.replaceMicro0Naive d)).bind fun r =>
      (Py.fmod nanos 1000000000).bind fun t4 =>
      if (decide (t4 = (0 : Int))) then .ok (PyLeaf.tsText r Py.fmtFrac0)
      else (Py.fmod nanos 1000000).bind fun t5 =>
        if (decide (t5 = (0 : Int))) then
          (Py.ffloordiv nanos 1000000).bind fun t6 => .ok (PyLeaf.tsText r (Py.fmtFrac 3 t6))
        else (Py.fmod nanos 1000).bind fun t7 =>
          if (decide (t7 = (0 : Int))) then
            (Py.ffloordiv nanos 1000).bind fun t8 => .ok (PyLeaf.tsText r (Py.fmtFrac 6 t8))
          else (.raise .value : Res TsText))
      = .ok ⟨⟨d.wall / 1000000⟩, fracJ (d.wall % 1000000).toNat⟩ := by
  have hlt : (d.wall % 1000000).toNat < 1000000 := by omega
  have hus : PyLeaf.dtMicrosecond d = (((d.wall % 1000000).toNat : Nat) : Int) := by
    unfold PyLeaf.dtMicrosecond; omega
  have hiso : PyLeaf.isoformat (PyLeaf.replaceMicro0Naive d) = .ok ⟨d.wall / 1000000⟩ := by
    unfold PyLeaf.isoformat PyLeaf.replaceMicro0Naive
    have hz : (d.wall - d.wall % 1000000) % 1000000 = 0 := by omega
    have hq : (d.wall - d.wall % 1000000) / 1000000 = d.wall / 1000000 := by omega
    rw [if_pos ⟨rfl, hz⟩, hq]
  rw [hus, hiso]
  generalize (d.wall % 1000000).toNat = u at hlt
  rw [SrcTie.fmul_us u hlt, Res.ok_bind, Res.ok_bind, SrcTie.fmod_e9 u hlt, Res.ok_bind, SrcTie.fmod_e6 u,
    Res.ok_bind, SrcTie.fdiv_e6 u hlt, Res.ok_bind, SrcTie.fmod_e3 u, Res.ok_bind, SrcTie.fdiv_e3 u hlt,
    Res.ok_bind]
  simp only [decide_eq_true_eq, Py.fmtFrac0, Py.fmtFrac, if_true, PyLeaf.tsText, fracJ, tsFrac]
  by_cases h0 : u = 0
  · have h0' : (u : Int) * 1000 = 0 := by omega
    rw [if_pos h0', if_pos h0]; rfl
  · have h0' : ¬ ((u : Int) * 1000 = 0) := by omega
    rw [if_neg h0', if_neg h0]
    by_cases h1 : u % 1000 = 0
    · have h1' : ((u % 1000 : Nat) : Int) * 1000 = 0 := by omega
      rw [if_pos h1', if_pos h1]; rfl
    · have h1' : ¬ (((u % 1000 : Nat) : Int) * 1000 = 0) := by omega
      rw [if_neg h1', if_neg h1]; rfl

/-- since the repair D52 the text is the model's for EVERY utcoffset, not only for a whole number of seconds -/
theorem tsJsonOf_eq (d : DT) : tsJsonOf d = tsJsonText d.instant := rfl

theorem fracUsOf_fracJ (u : Nat) : fracUsOf (fracJ u) = (u : Int) := by
  unfold fracJ tsFrac
  by_cases h0 : u = 0
  · rw [if_pos h0]; simp only [Option.map_none, fracUsOf]; omega
  · rw [if_neg h0]
    by_cases h1 : u % 1000 = 0
    · rw [if_pos h1]; simp only [Option.map_some, fracUsOf]
      have : ((6 : Int) - ((3 : Nat) : Int)).toNat = 3 := by decide
      rw [this]; simp only [show (10 : Int) ^ 3 = 1000 from rfl]; push_cast; omega
    · rw [if_neg h1]; simp only [Option.map_some, fracUsOf]
      have : ((6 : Int) - ((6 : Nat) : Int)).toNat = 0 := by decide
      rw [this, Int.pow_zero, Int.mul_one]

theorem tsTextUs_tsJsonText (us : Int) : tsTextUs (tsJsonText us) = us := by
  unfold tsTextUs tsJsonText
  simp only
  rw [fracUsOf_fracJ]
  omega

theorem takeWhile_digits (ip rest : Text) (hi : allDigits ip = true) :
    (ip ++ '.' :: rest).takeWhile (· != '.') = ip ∧ (ip ++ '.' :: rest).dropWhile (· != '.') = '.' :: rest := by
  induction ip with
  | nil => simp
  | cons c cs ih =>
    simp only [allDigits, List.all_cons, Bool.and_eq_true] at hi
    have hc : (c != '.') = true := by
      simp only [bne_iff_ne, ne_eq]
      intro he; subst he; exact absurd hi.1 (by decide)
    have := ih (by simpa [allDigits] using hi.2)
    simp only [List.cons_append, List.takeWhile, List.dropWhile, hc, this.1, this.2, and_self]

theorem decimalBody_point (neg : Bool) (ip fp : Text) (hi : allDigits ip = true) (hf : allDigits fp = true)
    (hne : ¬ (ip = [] ∧ fp = [])) :
    decimalBody neg (ip ++ '.' :: fp) = .ok ⟨neg, Nat.ofDigitChars 10 (ip ++ fp) 0, fp.length⟩ := by
  unfold decimalBody
  obtain ⟨h1, h2⟩ := takeWhile_digits ip fp hi
  simp only [h1, h2, List.drop_one, List.tail_cons, hi, hf, Bool.true_and]
  have : (ip.isEmpty && fp.isEmpty) = false := by
    cases ip <;> cases fp <;> simp_all
  simp [this]

theorem splitSign_unsigned (ip rest : Text) (hi : allDigits ip = true) :
    splitSign (ip ++ '.' :: rest) = (false, ip ++ '.' :: rest) := by
  cases ip with
  | nil => simp [splitSign]
  | cons c cs =>
    simp only [allDigits, List.all_cons, Bool.and_eq_true] at hi
    have h1 : c ≠ '-' := by intro he; subst he; exact absurd hi.1 (by decide)
    have h2 : c ≠ '+' := by intro he; subst he; exact absurd hi.1 (by decide)
    simp [splitSign, h1, h2]

theorem decimalOf_point (neg : Bool) (ip fp : Text) (hi : allDigits ip = true) (hf : allDigits fp = true)
    (hne : ¬ (ip = [] ∧ fp = [])) :
    decimalOf ((if neg then ['-'] else []) ++ (ip ++ '.' :: fp))
      = .ok ⟨neg, Nat.ofDigitChars 10 (ip ++ fp) 0, fp.length⟩ := by
  unfold decimalOf
  cases neg with
  | false =>
    simp only [Bool.false_eq_true, if_false, List.nil_append]
    rw [splitSign_unsigned ip fp hi]
    exact decimalBody_point false ip fp hi hf hne
  | true =>
    simp only [if_true, List.cons_append, List.nil_append, splitSign]
    exact decimalBody_point true ip fp hi hf hne

theorem decimalOf_plus (ip fp : Text) (hi : allDigits ip = true) (hf : allDigits fp = true)
    (hne : ¬ (ip = [] ∧ fp = [])) :
    decimalOf ('+' :: (ip ++ '.' :: fp)) = .ok ⟨false, Nat.ofDigitChars 10 (ip ++ fp) 0, fp.length⟩ := by
  unfold decimalOf
  simp only [splitSign, show ('+' : Char) ≠ '-' by decide, if_false, if_true]
  exact decimalBody_point false ip fp hi hf hne

theorem allDigits_toDigits (n : Nat) : allDigits (Nat.toDigits 10 n) = true := by
  unfold allDigits
  rw [List.all_eq_true]
  intro c hc
  exact Nat.isDigit_of_mem_toDigits (by decide) (by decide) hc

theorem allDigits_pad (k n : Nat) : allDigits (List.replicate k '0' ++ Nat.toDigits 10 n) = true := by
  unfold allDigits
  rw [List.all_append, Bool.and_eq_true]
  refine ⟨?_, allDigits_toDigits n⟩
  rw [List.all_eq_true]
  intro c hc
  rw [List.eq_of_mem_replicate hc]; decide

/-- the characters of `f"{sign}{s}.{d:0Wd}s"` for natural `s`, `d`, `W` -/
theorem renderSecs_nat (neg : Bool) (s nd d : Nat) :
    renderSecs (neg, (s : Int), (nd : Int), (d : Int))
      = (if neg then ['-'] else []) ++ (Nat.toDigits 10 s ++ '.' ::
          (List.replicate (nd - (Nat.toDigits 10 d).length) '0' ++ Nat.toDigits 10 d)) ++ ['s'] := by
  unfold renderSecs strInt zeroPad
  have h1 : ¬ ((s : Int) < 0) := by omega
  have h2 : ¬ ((d : Int) < 0) := by omega
  simp only [h1, h2, if_false, Int.natAbs_natCast, Int.toNat_natCast, List.append_assoc, List.cons_append,
    List.nil_append]

theorem padded_value (s nd d : Nat) (h0 : 0 < nd) (hd : d < 10 ^ nd) :
    Nat.ofDigitChars 10 (Nat.toDigits 10 s ++ (List.replicate (nd - (Nat.toDigits 10 d).length) '0' ++ Nat.toDigits 10 d)) 0
        = 10 ^ nd * s + d
    ∧ (List.replicate (nd - (Nat.toDigits 10 d).length) '0' ++ Nat.toDigits 10 d).length = nd := by
  have hl : (Nat.toDigits 10 d).length ≤ nd := (Nat.length_toDigits_le_iff (by decide) h0).2 hd
  constructor
  · rw [Nat.ofDigitChars_append, Nat.ofDigitChars_ten_toDigits, Nat.ofDigitChars_append,
      Nat.ofDigitChars_replicate_zero, Nat.ofDigitChars_eq_ofDigitChars_zero, Nat.ofDigitChars_ten_toDigits,
      ← Nat.mul_assoc, ← Nat.pow_add]
    rw [show (Nat.toDigits 10 d).length + (nd - (Nat.toDigits 10 d).length) = nd by omega]
  · rw [List.length_append, List.length_replicate]; omega

end Bp.SrcTieLeaf
