import BpProofs.SrcTieFromPyDict
import BpProofs.PyDictRt
/-
  The round trip with BOTH top-level loops as written: the field loop of `to_pydict` (`srcLoopP`, body
  `Src.to_pydict_field`) produces the dict, the key loop of `from_pydict` (`srcKeysLoop`, body
  `Src.from_pydict_key`) reads it on a fresh instance.  The run-time guards of the `from_pydict` tie
  (`KeysTieOk`: a dict under a key has as many keys as values; the attribute of a `map<K, Message>` field
  is a dict) are DISCHARGED along this run: the dicts are the ones `to_pydict` wrote (`objLen`), and the
  slot of every field not yet processed still holds its dataclass default (`FreshAbove`), so `getattr`
  returns the default `{}`.
-/
namespace Bp.SrcTieFromPyDict
open Bp Bp.Py Gen Bp.SrcTieJson Bp.SrcTiePyDict

theorem src_loops_roundtrip (S : Schema) (cs : KeyCase) (hok : pyDictOk S cs = true) (hgroups : groupsOk S = true)
    (c : Nat) (sl : List Val) (ow : Bool) (unk : Bytes) (cur : List (Option Nat))
    (hwt : wellTyped' S (.msg c sl ow unk cur) = true) (hsel : selOk S (.msg c sl ow unk cur) = true)
    (hkeys : dictKeysOk (.msg c sl ow unk cur) = true) (hkd : ∀ v ∈ sl, keysDistinct v = true) :
    ∃ kvs, srcLoopP S cs false (fieldsOf S c) cur 0 sl [] = .ok kvs ∧
      (srcKeysLoop S c (freshOn S c) (kvs.map (·.1)) (kvs.map (·.2))).bind (fun st => .ok (st.toVal c))
        = .ok (jrt S [] cs (.msg c sl ow unk cur)) := by
  obtain ⟨rfl, kvs, a1, a2, b2⟩ := msgRTP_of_wellTyped S cs hok hgroups c sl ow unk cur hwt hsel hkeys
  have hjson := (pyDictOk_schema S cs hok).1
  rw [wellTyped_msg] at hwt
  have hloop := srcLoopP_eq S cs false (fieldsOf S c) cur
    (keysInj_of_namesOk cs _ (schema_names S [] cs ⟨hjson, hgroups⟩ c)) sl 0 []
    (slotsTieOkP_of_typed S cs (fieldJsonOk_of_jsonOk S [] cs hjson) _ cur sl 0 (bodyOk_spec S c sl [] cur hwt).2.2.2 hkd)
    (by simp)
  rw [a1] at hloop
  refine ⟨kvs, by simpa [Res.ok_bind] using hloop, ?_⟩
  rw [srcKeysLoop_eq S c _ _ _ b2, a2]
  simp [jrt_msg, MState.toVal, Res.ok_bind]

end Bp.SrcTieFromPyDict
