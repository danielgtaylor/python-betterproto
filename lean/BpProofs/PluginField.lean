import BpProofs.Plugin
/-
  The map-entry classification of the code (`getMapEntry`: match on the simple name) against the schema's
  (`specMapEntry`: match on the full name).
-/
namespace Bp.Plugin
open Bp Bp.Gen.Plugin

theorem lastSeg_append (p n : Name) (h : '.' ∉ n) : lastSeg (p ++ '.' :: n) = n := by
  unfold lastSeg
  have : (p ++ '.' :: n).reverse = n.reverse ++ '.' :: p.reverse := by simp
  have hn : ∀ y ∈ n.reverse, (decide (y ≠ '.')) = true := fun y hy => by
    have : y ≠ '.' := fun e => h (by simpa [e] using hy)
    simp [this]
  rw [this, List.takeWhile_append_of_pos hn, List.takeWhile_cons_of_neg (by simp), List.append_nil, List.reverse_reverse]

theorem find?_congr' {α} {p q : α → Bool} : ∀ {l : List α}, (∀ x ∈ l, p x = q x) → l.find? p = l.find? q
  | [], _ => rfl
  | a :: r, h => by
    simp only [List.find?, h a List.mem_cons_self]
    rw [find?_congr' (fun x hx => h x (List.mem_cons_of_mem _ hx))]

theorem find?_some_mem {α} {p : α → Bool} {a : α} {l : List α} (h : l.find? p = some a) : a ∈ l ∧ p a = true :=
  ⟨List.mem_of_find?_eq_some h, List.find?_some h⟩

/-- the two ways `compileField` yields a line: the map branch (the entry found, its first two fields, their Python
    types and type constants) and the plain branch (constructor name, Python type, group) -/
theorem compileField_cases {nm : Naming} {m : MsgP} {f : FieldP} {c : CField} (h : compileField nm m f = some c) :
    (∃ e k v r pk pv tk tv, getMapEntry f m = some e ∧ e.fields = k :: v :: r
        ∧ pyTypeOf k = some pk ∧ pyTypeOf v = some pv
        ∧ lookupN? k.type descTypeName = some tk ∧ lookupN? v.type descTypeName = some tv
        ∧ c = { pyName := nm.fld f.name, ctor := "map".toList, number := f.number, mapTypes := some (tk, tv),
                ann := .dict pk pv })
    ∨ (∃ ctor py g, getMapEntry f m = none ∧ lookupN? f.type fieldTypeStr = some ctor ∧ pyTypeOf f = some py
        ∧ groupOf m f = some g
        ∧ c = { pyName := nm.fld f.name, ctor := ctor, number := f.number, wraps := wrapsOf f.typeName,
                optional := f.proto3Optional, group := g, ann := annOf f py }) := by
  unfold compileField at h
  split at h
  · rename_i e he
    split at h
    · rename_i k v r hkv
      split at h
      · rename_i pk pv tk tv hpk hpv htk htv
        exact .inl ⟨e, k, v, r, pk, pv, tk, tv, he, hkv, hpk, hpv, htk, htv, (Option.some.inj h).symm⟩
      · cases h
    · cases h
  · rename_i he
    split at h
    · rename_i ctor py g hc hpy hg
      exact .inr ⟨ctor, py, g, he, hc, hpy, hg, (Option.some.inj h).symm⟩
    · cases h

structure ValidMsgFacts (full : Name) (m : MsgP) : Prop where
  nodup : (m.nested.map MsgP.name).Nodup
  nodot : ∀ n ∈ m.nested, '.' ∉ n.name
  entry : ∀ n ∈ m.nested, n.mapEntry = true → validEntry n = true
  field : ∀ f ∈ m.fields, validField full m f = true

theorem validMsg_facts {full : Name} {m : MsgP} (h : validMsg full m = true) : ValidMsgFacts full m := by
  unfold validMsg at h
  simp only [Bool.and_eq_true, decide_eq_true_eq, List.all_eq_true, Bool.or_eq_true, Bool.not_eq_true'] at h
  obtain ⟨⟨h1, h2⟩, h3⟩ := h
  refine ⟨h1, ?_, ?_, h3⟩
  · intro n hn hdot
    have := (h2 n hn).1
    simp [hdot] at this
  · intro n hn hme
    rcases (h2 n hn).2 with h | h
    · rw [hme] at h; cases h
    · exact h

/-- under protoc validity and the residual guard, the code's classification of a field as a
    map (exact simple-name match, D08 fix) is the schema's (the entry type is nested in the
    field's own message) -/
theorem getMapEntry_eq_spec {full : Name} {m : MsgP} {f : FieldP}
    (hv : validMsg full m = true) (hl : mapRefsLocal full m = true) (hf : f ∈ m.fields) :
    getMapEntry f m = specMapEntry full m f := by
  have V := validMsg_facts hv
  unfold getMapEntry specMapEntry
  by_cases ht : f.type = typeMessage
  · have hs : specType f.type = some .message := (specType_message_iff _).2 ht
    have hcongr : m.nested.find? (fun n => n.mapEntry && decide (n.name = lastSeg f.typeName))
        = m.nested.find? (fun n => n.mapEntry && decide (f.typeName = full ++ '.' :: n.name)) := by
      apply find?_congr'
      intro n hn
      cases hme : n.mapEntry with
      | false => rfl
      | true =>
        simp only [Bool.true_and]
        by_cases h1 : n.name = lastSeg f.typeName
        · unfold mapRefsLocal at hl
          simp only [List.all_eq_true, Bool.or_eq_true, Bool.not_eq_true', Bool.and_eq_false_iff,
            decide_eq_true_eq, decide_eq_false_iff_not] at hl
          have := hl f hf n hn
          have h2 : f.typeName = full ++ '.' :: n.name := by
            rcases this with ((h | h) | h) | h
            · rw [hme] at h; cases h
            · exact absurd ht h
            · exact absurd h1 h
            · exact h
          rw [decide_eq_true h1, decide_eq_true h2]
        · have : ¬ f.typeName = full ++ '.' :: n.name := by
            intro e; apply h1; rw [e, lastSeg_append _ _ (V.nodot n hn)]
          rw [decide_eq_false h1, decide_eq_false this]
    rw [if_pos hs]
    simp only [ht, true_and]
    rw [hcongr]
    by_cases hlab : f.label = .repeated
    · simp [hlab]
    · simp only [hlab, if_false]
      have hvf := V.field f hf
      unfold validField specMapEntry at hvf
      simp only [hs, if_true] at hvf
      cases hfind : m.nested.find? (fun n => n.mapEntry && decide (f.typeName = full ++ '.' :: n.name)) with
      | none => rfl
      | some e =>
        rw [hfind] at hvf
        simp only [Bool.and_eq_true, beq_iff_eq] at hvf
        exact absurd hvf.2 hlab
  · have hs : specType f.type ≠ some .message := fun h => ht ((specType_message_iff _).1 h)
    simp [ht, hs]

theorem validEntry_facts {e : MsgP} (h : validEntry e = true) :
    ∃ k v tk tv pk, e.fields = [k, v] ∧ k.number = 1 ∧ v.number = 2
      ∧ specType k.type = some tk ∧ specType v.type = some tv ∧ specPy tk = some pk
      ∧ (tv = .message ∨ (lookup? v.typeName specWrappers = none ∧ v.typeName ≠ tsName ∧ v.typeName ≠ durName)) := by
  unfold validEntry at h
  split at h
  · rename_i k v hkv
    simp only [Bool.and_eq_true, decide_eq_true_eq, validType, Bool.or_eq_true, beq_iff_eq, bne_iff_ne, ne_eq,
      Option.isNone_iff_eq_none] at h
    obtain ⟨⟨⟨⟨⟨h1, h2⟩, h3⟩, h4⟩, h5⟩, h6⟩ := h
    cases hk : specType k.type with
    | none => rw [hk] at h3; cases h3
    | some tk =>
      cases hv : specType v.type with
      | none => rw [hv] at h4; cases h4
      | some tv =>
        rw [hk] at h5
        simp only [Option.any_some] at h5
        cases hp : specPy tk with
        | none => rw [hp] at h5; cases h5
        | some pk =>
          refine ⟨k, v, tk, tv, pk, hkv, h1, h2, hk, hv, hp, ?_⟩
          rw [hv] at h6
          rcases h6 with h6 | h6
          · left; simpa using h6
          · right; exact ⟨h6.1.1, h6.1.2, h6.2⟩
  · cases h

end Bp.Plugin
