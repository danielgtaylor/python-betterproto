import BpProofs.Gen.SrcObj
import BpProofs.ResCalc
import BpProofs.Ops
/-
  THE TIE BETWEEN THE TRANSLATED OBJECT METHODS AND THE HAND-WRITTEN MODEL, first group:
  `Message.__setattr__`, `Message.__getattribute__`, `which_one_of`,
  `Message._include_default_value_for_oneof` (BpProofs/Gen/SrcObj.lean, regenerated from the
  Python AST on every run) against `setAttr`, `getAttr`, `selectedInGroup` of
  BpModel/Load.lean / Ops.lean / Value.lean.

  Guards (all decidable):
    * `idx < fs.length`: the name is a field of the class (for any other name the source goes
      through `object.__setattr__` / `object.__getattribute__` with that name, which the
      name-as-index representation cannot express; the model leaves the state alone);
    * `st.slots.length = fs.length` (`__setattr__` only): one raw slot per field — `FullVal` of
      Props/C07.lean, kept by every operation (`C07.full_step`);
    * `g < st.cur.length` for the group of the field: `_group_current` has an entry for every
      group of the class (first conjunct of the oneof invariant `Inv` + `WfGroups`).
-/
namespace Bp.SrcTieObj
open Bp Bp.Py

section Tie
-- every lemma below whose statement mentions `S` takes it first; a theorem that binds `S` itself is as it reads
variable (S : Schema)

@[simp] theorem res_bind_ok {α β} (a : α) (f : α → Res β) : (Res.ok a).bind f = f a := rfl
@[simp] theorem res_bind_raise {α β} (e : PyErr) (f : α → Res β) : (Res.raise e : Res α).bind f = .raise e := rfl
@[simp] theorem ofR_ok {α} (a : α) : ofR (Except.ok a : R α) = .ok a := rfl
@[simp] theorem ofR_error {α} (e : PyErr) : ofR (Except.error e : R α) = .raise e := rfl

/-- one iteration of the loop over the members of the group -/
def stepM (attr g : Nat) (st : MState) (m : Nat × FieldD) : MState :=
  if m.1 == attr then groupCurrentSet st g m.1 else rawSet st m.1 .ph

theorem setattr_loop (fs : List FieldD) (attr g : Nat) (ms : List (Nat × FieldD)) (st : MState) :
    Src.setattr.loop1 S fs attr g ms st = .ok (ms.foldl (stepM attr g) st) :=
  Res.loop_foldl (fun _ => True) (fun _ => rfl) (fun m ms st _ => by
    rw [Src.setattr.loop1, stepM]
    cases fieldName m == attr <;> simp) ms st fun _ _ => trivial

/-- **the loop of `__setattr__` does not depend on the iteration order of the set
    `oneof_field_by_group[group]`**: any two orders of the same members give the same state -/
theorem setattr_loop_perm (fs : List FieldD) (attr g : Nat) (ms ms' : List (Nat × FieldD))
    (hp : ms.Perm ms') (st : MState) :
    Src.setattr.loop1 S fs attr g ms st = Src.setattr.loop1 S fs attr g ms' st := by
  rw [setattr_loop, setattr_loop]
  congr 1
  apply List.Perm.foldl_eq' hp
  intro x _ y _ z
  unfold stepM groupCurrentSet rawSet setAt
  by_cases hx : (x.1 == attr) = true <;> by_cases hy : (y.1 == attr) = true
  · have ex : x.1 = attr := by simpa using hx
    have ey : y.1 = attr := by simpa using hy
    simp [ex, ey]
  · simp [hx, hy]
  · simp [hx, hy]
  · have hx' : (x.1 == attr) = false := by simpa using hx
    have hy' : (y.1 == attr) = false := by simpa using hy
    simp only [hx', hy', Bool.false_eq_true, if_false]
    by_cases e : x.1 = y.1
    · rw [e]
    · congr 1
      exact List.set_comm _ _ e

theorem any_members (g : Nat) : ∀ (fs : List FieldD) (j k : Nat) (f : FieldD), fs[k]? = some f → f.group = some g →
    (membersFrom g fs j).any (fun m => m.1 == j + k) = true
  | [], _, _, _, h, _ => by simp at h
  | f0 :: fs, j, 0, f, h, hg => by
    simp at h; subst h
    simp [membersFrom, hg]
  | f0 :: fs, j, k + 1, f, h, hg => by
    simp at h
    have ih := any_members g fs (j + 1) k f h hg
    have e : j + 1 + k = j + (k + 1) := by omega
    rw [e] at ih
    rw [membersFrom]
    split
    · simp only [List.any_cons, ih, Bool.or_true]
    · exact ih

theorem set_idem (cur : List (Option Nat)) (g : Nat) (x : Option Nat) : (cur.set g x).set g x = cur.set g x := by
  simp [List.set_set]

/-- the loop over the members in declaration order is the model's `resetGroup` on the slots
    and (when the assigned name is among the members) the selection of the group -/
theorem foldl_members (g idx : Nat) : ∀ (fs : List FieldD) (j : Nat) (pre ss : List Val) (st : MState),
    st.slots = pre ++ ss → pre.length = j → ss.length = fs.length →
    (membersFrom g fs j).foldl (stepM idx g) st =
      { st with slots := pre ++ resetGroup g idx fs ss j,
                cur := if (membersFrom g fs j).any (fun m => m.1 == idx) then st.cur.set g (some idx) else st.cur }
  | [], j, pre, ss, st, hs, _, _ => by
    cases st
    simp only [membersFrom, List.foldl_nil, List.any_nil, Bool.false_eq_true, if_false, resetGroup] at hs ⊢
    rw [hs]
  | f :: fs, j, pre, [], st, _, _, hl => by simp at hl
  | f :: fs, j, pre, s :: ss, st, hs, hp, hl => by
    have hl' : ss.length = fs.length := by simpa using hl
    rw [membersFrom, resetGroup]
    by_cases hm : (f.group == some g) = true
    · simp only [hm, if_true, List.foldl_cons, Bool.true_and]
      by_cases hj : (j == idx) = true
      · have ej : j = idx := by simpa using hj
        subst ej
        have hne : (j != j) = false := by simp
        have hst : (stepM j g st (j, f)) = groupCurrentSet st g j := by simp [stepM]
        rw [hst, foldl_members g j fs (j + 1) (pre ++ [s]) ss (groupCurrentSet st g j)
          (by simp [groupCurrentSet, hs]) (by simp [hp]) hl']
        simp only [hne, Bool.false_eq_true, if_false, List.any_cons, hj, Bool.true_or, if_true, groupCurrentSet]
        cases st
        simp only [MState.mk.injEq, List.append_assoc, List.singleton_append, true_and]
        split <;> simp
      · have hj' : (j == idx) = false := by simpa using hj
        have hne : (j != idx) = true := by simp [bne, hj']
        have hst : (stepM idx g st (j, f)) = rawSet st j .ph := by simp [stepM, hj']
        have hsl : (rawSet st j .ph).slots = (pre ++ [Val.ph]) ++ ss := by
          simp only [rawSet, setAt, hs]
          rw [← hp]
          simp
        rw [hst, foldl_members g idx fs (j + 1) (pre ++ [Val.ph]) ss (rawSet st j .ph) hsl (by simp [hp]) hl']
        simp only [hne, if_true, List.any_cons, hj', Bool.false_or, rawSet]
        cases st
        simp
    · have hm' : (f.group == some g) = false := by simpa using hm
      simp only [hm', Bool.false_eq_true, if_false, Bool.false_and]
      rw [foldl_members g idx fs (j + 1) (pre ++ [s]) ss st (by simp [hs]) (by simp [hp]) hl']
      cases st
      simp

theorem markEmpty_eq (v : Val) :
    (if (isMessage v && (hasBetterproto v && !(!(valFields S v).isEmpty))) = true then valSetOnWire v true else v) = markEmpty S v := by
  cases v <;> simp [markEmpty, isMessage, isMsgVal, hasBetterproto, valFields, valSetOnWire]

theorem setattr_eq (fs : List FieldD) (st : MState) (idx : Nat) (v : Val)
    (hi : idx < fs.length) (hl : st.slots.length = fs.length) :
    Src.setattr S fs st idx v = .ok (setAttr S fs st idx v) := by
  have hf : fs[idx]? = some fs[idx] := List.getElem?_eq_getElem hi
  unfold Src.setattr setAttr
  simp only [hf]
  have hv : ∀ (k : Val → Res MState),
      (((if (isMessage v && (hasBetterproto v && !(!(valFields S v).isEmpty))) = true then
          (let value := valSetOnWire v true; Res.ok value) else Res.ok v) : Res Val).bind k) = k (markEmpty S v) := by
    intro k
    rw [← markEmpty_eq S v]
    split <;> rfl
  rw [hv]
  simp only [nameIsStr, Bool.not_false, if_true, res_bind_ok, hasGroupCurrent, oneofGroupByField, hf, Option.bind_some]
  cases hg : (fs[idx]).group with
  | none =>
    rfl
  | some g =>
    simp only [Option.isSome_some, if_true, lookup, res_bind_ok, oneofFieldByGroup]
    rw [setattr_loop]
    simp only [res_bind_ok]
    rw [foldl_members g idx fs 0 [] st.slots (setOnWire st true) (by simp [setOnWire]) rfl hl]
    have ha := any_members g fs 0 idx fs[idx] hf hg
    simp only [Nat.zero_add] at ha
    simp [ha, setOnWire, rawSet]

theorem setAt_getD_self (xs : List Val) (i : Nat) : setAt xs i (xs.getD i .ph) = xs := by
  unfold setAt
  by_cases h : i < xs.length
  · simp [List.getD_eq_getElem?_getD, List.getElem?_eq_getElem h]
  · rw [List.set_eq_of_length_le (by omega)]

theorem isPlaceholder_true (v : Val) (h : isPlaceholder v = true) : v = .ph := by
  cases v with
  | ph => rfl
  | _ => simp [isPlaceholder] at h

/-- the part of `__getattribute__` after the oneof test: raw read, lazy default stored on first read -/
theorem getattr_tail (fs : List FieldD) (st : MState) (idx : Nat) (f : FieldD) (hf : fs[idx]? = some f) :
    (let value := rawGet st idx
     if (!isPlaceholder value) = true then Res.ok (value, st)
     else (getFieldDefault S fs idx).bind fun t => (let value := t; let self := rawSet st idx value; Res.ok (value, self)))
      = .ok (materialize S f (st.slots.getD idx .ph), { st with slots := setAt st.slots idx (materialize S f (st.slots.getD idx .ph)) }) := by
  simp only [rawGet]
  cases hp : isPlaceholder (st.slots.getD idx .ph) with
  | false =>
    simp only [Bool.not_false, if_true]
    rw [materialize_of_ne_ph S f (fun e => by rw [e] at hp; cases hp), setAt_getD_self]
  | true =>
    simp only [Bool.not_true, Bool.false_eq_true, if_false, getFieldDefault, hf, res_bind_ok, rawSet]
    rw [isPlaceholder_true _ hp]
    rfl

theorem getattribute_eq (fs : List FieldD) (st : MState) (idx : Nat)
    (hi : idx < fs.length) (hgl : ∀ g, (fs[idx]).group = some g → g < st.cur.length) :
    Src.getattribute S fs st idx = ofR (getAttr S fs st idx) := by
  have hf : fs[idx]? = some fs[idx] := List.getElem?_eq_getElem hi
  unfold Src.getattribute getAttr
  simp only [superGetGroupCurrent, nameIsStr, Bool.or_self, Bool.not_false, if_true, hf, oneofGroupByField, Option.bind_some]
  have ht := getattr_tail S fs st idx fs[idx] hf
  simp only at ht
  cases hg : (fs[idx]).group with
  | none =>
    simp only [Bool.false_eq_true, if_false, hidden, hg]
    rw [ht]; rfl
  | some g =>
    have hlt := hgl g hg
    simp only [groupCurrentIndex, hlt, if_true, res_bind_ok, hidden, hg]
    cases hc : (st.cur.getD g Option.none == some idx) with
    | true =>
      simp only [Bool.not_true, Bool.false_eq_true, if_false, bne, hc]
      rw [ht]; rfl
    | false =>
      simp only [Bool.not_false, if_true, bne, hc]
      split <;> rfl

/-- `betterproto.which_one_of(m, group)` in full: the selected member and its value (read
    through `getattr`, so a lazy default is stored), `("", None)` when nothing is selected.
    The model has the name half only (`C07.whichOneOf`); this is the obvious completion. -/
def whichOneOfM (S : Schema) (fs : List FieldD) (st : MState) (g : Nat) : R ((Option Nat × Val) × MState) :=
  match st.cur.getD g Option.none with
  | Option.none => .ok ((Option.none, Val.none), st)
  | some i => (getAttr S fs st i).bind fun r => .ok ((some i, r.1), r.2)

theorem which_one_of_eq (fs : List FieldD) (st : MState) (g : Nat)
    (hsel : ∀ i, st.cur.getD g Option.none = some i → i < fs.length ∧ ∀ f g', fs[i]? = some f → f.group = some g' → g' < st.cur.length) :
    Src.which_one_of S fs st g = ofR (whichOneOfM S fs st g) := by
  unfold Src.which_one_of whichOneOfM
  simp only [groupCurrentGet, getGroupCurrent]
  cases hc : st.cur.getD g Option.none with
  | none => rfl
  | some i =>
    obtain ⟨hi, hg⟩ := hsel i hc
    simp only
    rw [getattribute_eq S fs st i hi (fun g' e => hg _ g' (List.getElem?_eq_getElem hi) e)]
    cases getAttr S fs st i with
    | error e => rfl
    | ok r => rfl

theorem include_default_eq (fs : List FieldD) (st : MState) (idx : Nat) (f : FieldD) :
    Src.include_default_value_for_oneof S fs st idx f = .ok (selectedInGroup f idx st.cur) := by
  unfold Src.include_default_value_for_oneof selectedInGroup
  simp only [metaGroup, groupCurrentGet, getGroupCurrent]
  cases f.group <;> rfl

end Tie

end Bp.SrcTieObj
