import BpModel.All
import BpModel.Spec
import BpProofs.SpecLinkFrame
import BpProofs.Typed
import BpProofs.SpecState
/-
  C02, link between the model of betterproto and the spec-level decoder: VALUES.

  * the abstraction `nv` under which the two decoders are compared;
  * scalar interpretation: `_postprocess_single` (model) against the document's table of
    types (spec): varints, fixed-width values, packed payloads;
  * the tables: `WIRE_TYPE_BY_PROTO_TYPE` / `PACKED_TYPES` against `wireTypeOf` / `packable`;
  * field lookup: `field_name_by_number` (last declaration wins) against the first declared
    field with the number — the same under distinct field numbers.
-/
namespace Bp.Link
open Bp Gen

mutual
/-- what a Python-side value *means* on the wire level, applied to BOTH decoders' values:
    * `None` (the dataclass default of a proto3-optional field) and PLACEHOLDER both mean
      "nothing on the wire": the spec decoder has one such value, `ph`;
    * a float32 pattern is taken up to NaN quieting (`struct.unpack('<f')` returns a Python
      float: a signalling NaN comes back quiet; the spec keeps the 32 bits of the wire);
    * the raw bytes retained for unknown fields are not part of the meaning;
    * recursively through lists, dicts and nested messages. -/
def nv : Val → Val
  | .ph => .ph
  | .none => .ph
  | .int v => .int v
  | .bool b => .bool b
  | .f32 b => .f32 (quiet32 b)
  | .f64 b => .f64 b
  | .str s => .str s
  | .byt s => .byt s
  | .ts u => .ts u
  | .dur u => .dur u
  | .list xs => .list (nvs xs)
  | .dict ks vs => .dict (nvs ks) (nvs vs)
  | .msg c sl ow _ cur => .msg c (nvs sl) ow [] cur
def nvs : List Val → List Val
  | [] => []
  | x :: xs => nv x :: nvs xs
end

theorem nvs_eq_map (xs : List Val) : nvs xs = xs.map nv := by
  induction xs with
  | nil => rfl
  | cons x xs ih => rw [nvs, ih]; rfl

theorem nvs_append (xs ys : List Val) : nvs (xs ++ ys) = nvs xs ++ nvs ys := by
  simp [nvs_eq_map]

theorem nvs_length (xs : List Val) : (nvs xs).length = xs.length := by simp [nvs_eq_map]

theorem nvs_getD (xs : List Val) (i : Nat) : (nvs xs).getD i .ph = nv (xs.getD i .ph) := by
  rw [nvs_eq_map]
  simp only [List.getD_eq_getElem?_getD, List.getElem?_map]
  cases xs[i]? <;> simp [nv]

theorem nvs_set (xs : List Val) (i : Nat) (v : Val) : nvs (xs.set i v) = (nvs xs).set i (nv v) := by
  simp [nvs_eq_map, List.map_set]

theorem nv_eq_ph (v : Val) : nv v = .ph ↔ (v = .ph ∨ v = .none) := by
  cases v <;> simp [nv]

theorem nv_list_inv (v : Val) (ys : List Val) (h : nv v = .list ys) : ∃ xs, v = .list xs ∧ nvs xs = ys := by
  cases v <;> simp [nv] at h
  exact ⟨_, rfl, h⟩

theorem nv_dict_inv (v : Val) (ks vs : List Val) (h : nv v = .dict ks vs) :
    ∃ ks' vs', v = .dict ks' vs' ∧ nvs ks' = ks ∧ nvs vs' = vs := by
  cases v <;> simp [nv] at h
  exact ⟨_, _, rfl, h.1, h.2⟩

deriving instance DecidableEq for Spec.AbsMsg

/-- the abstract message of a model-side message value -/
def absOf : Val → Spec.AbsMsg
  | .msg c sl _ _ cur => { cls := c, fields := nvs sl, sel := cur }
  | _ => { cls := 0, fields := [], sel := [] }

/-- the abstract message of a decoder state of class `c` -/
def absState (c : Nat) (st : MState) : Spec.AbsMsg := { cls := c, fields := nvs st.slots, sel := st.cur }

/-- the same abstraction on the spec side (identity on everything the spec decoder builds
    from wire bytes except float32 signalling NaNs; it matters for the `Cls()` default of a
    message-typed map value, whose optional slots are `None`) -/
def _root_.Bp.Spec.AbsMsg.nrm (m : Spec.AbsMsg) : Spec.AbsMsg := { m with fields := nvs m.fields }

theorem quiet32_idem (b : Nat) : quiet32 (quiet32 b) = quiet32 b := by
  unfold quiet32
  by_cases h : (isNaN32 b && (b / 0x400000) % 2 == 0) = true
  · rw [if_pos h]
    have h2 : (b / 0x400000) % 2 = 0 := by
      simp only [Bool.and_eq_true, beq_iff_eq] at h; exact h.2
    have : ((b + 0x400000) / 0x400000) % 2 = 1 := by omega
    have hf : (isNaN32 (b + 0x400000) && (b + 0x400000) / 0x400000 % 2 == 0) = false := by
      rw [this]; simp
    rw [hf]; rfl
  · rw [if_neg h, if_neg h]

theorem nv_idem_f32 (b : Nat) : nv (.f32 (quiet32 b)) = nv (.f32 b) := by
  simp [nv, quiet32_idem]

/-- the two 32-bit varint types whose over-wide encodings (value ≥ 2^32, never produced by
    an encoder) the two decoders read differently: the spec — like the reference — keeps the
    low 32 bits, betterproto keeps all 64 -/
def isNarrowTy (t : PType) : Bool := t == .uint32 || t == .sint32

theorem unzig_eq (n : Nat) : unzig n = Spec.zigzagDecode n := by
  unfold unzig Spec.zigzagDecode
  split <;> (simp; try omega)

theorem postVarint_eq (t : PType) (n : Nat) (h64 : n < 2 ^ 64) (hn : isNarrowTy t = true → n < 2 ^ 32) :
    postVarint t n = Spec.varintVal t n := by
  have e64 : n % 2 ^ 64 = n := Nat.mod_eq_of_lt h64
  cases t with
  | bool =>
    show Val.bool (decide (n > 0)) = Val.bool (n != 0)
    cases n <;> simp
  | uint32 =>
    show Val.int (n : Int) = Val.int ((n % 2 ^ 32 : Nat) : Int)
    rw [Nat.mod_eq_of_lt (hn rfl)]
  | uint64 =>
    show Val.int (n : Int) = Val.int ((n % 2 ^ 64 : Nat) : Int)
    rw [e64]
  | sint32 =>
    show Val.int (unzig n) = Val.int (Spec.zigzagDecode (n % 2 ^ 32))
    rw [Nat.mod_eq_of_lt (hn rfl), unzig_eq]
  | sint64 =>
    show Val.int (unzig n) = Val.int (Spec.zigzagDecode (n % 2 ^ 64))
    rw [e64, unzig_eq]
  | _ => rfl

/-- the model's table of wire types is the spec's -/
theorem wireOf_spec (t : PType) : wireOf t = some (Spec.wireTypeOf t) := by cases t <;> rfl

theorem isPacked_packable (t : PType) : isPacked t = Spec.packable t := by cases t <;> rfl

theorem wireFits_spec (f : FieldD) (wt : Nat) :
    wireFits f wt = (wt == Spec.wireTypeOf f.ty || (wt == 2 && Spec.packable f.ty && f.repeated)) := by
  have e : (wt == Spec.wireTypeOf f.ty) = (some (Spec.wireTypeOf f.ty) == some wt) := by simp [eq_comm]
  rw [Bp.wireFits_eq, wireOf_spec, isPacked_packable, e]
  rfl

theorem wireFits_iff (f : FieldD) (wt : Nat) :
    wireFits f wt = true ↔
      (wt = Spec.wireTypeOf f.ty ∨ (wt = 2 ∧ Spec.packable f.ty = true ∧ f.repeated = true)) := by
  simp [wireFits_spec, and_assoc]

theorem packable_wt (t : PType) (h : Spec.packable t = true) : Spec.wireTypeOf t ≠ 2 := by
  simpa [Spec.packable] using h

theorem wt_cases (t : PType) :
    (Spec.wireTypeOf t = 0 ∧ isPacked t = true) ∨ (Spec.wireTypeOf t = 5 ∧ isPacked t = true)
    ∨ (Spec.wireTypeOf t = 1 ∧ isPacked t = true)
    ∨ (Spec.wireTypeOf t = 2 ∧ isPacked t = false ∧ (t = .string ∨ t = .bytes ∨ t = .message ∨ t = .map)) := by
  have inj : ∀ w, wireOf t = some w → Spec.wireTypeOf t = w := fun w h =>
    Option.some.inj ((wireOf_spec t).symm.trans h)
  rcases wireOf_cases t with ⟨h, _, hp⟩ | ⟨h | h, _, hp⟩ | ⟨h, hp⟩
  · exact Or.inl ⟨inj _ h, hp⟩
  · exact Or.inr (Or.inl ⟨inj _ h, hp⟩)
  · exact Or.inr (Or.inr (Or.inl ⟨inj _ h, hp⟩))
  · exact Or.inr (Or.inr (Or.inr ⟨inj _ h, hp⟩))

theorem narrow_varint (t : PType) (h : isNarrowTy t = true) : Spec.wireTypeOf t = 0 := by
  simp only [isNarrowTy, Bool.or_eq_true, beq_iff_eq] at h
  rcases h with rfl | rfl <;> rfl

theorem postFixed_eq (t : PType) (p : Bytes) (v : Val) (h : postFixed t p = .ok v) :
    ∃ v', Spec.fixedVal t p = some v' ∧ nv v = nv v' := by
  obtain ⟨w, sg, fl, hfmt, hl, rfl⟩ := postFixed_ok t p v h
  cases t <;> cases hfmt <;> simp [Spec.fixedVal, hl, nv, quiet32_idem]

theorem postFixed_len (t : PType) (p : Bytes) (v : Val) (h : postFixed t p = .ok v) :
    p.length = if Spec.wireTypeOf t = 1 then 8 else 4 := by
  obtain ⟨w, sg, fl, hfmt, hl, _⟩ := postFixed_ok t p v h
  cases t <;> cases hfmt <;> exact hl

/-- every varint element of a packed payload is < 2^32 -/
def narrowElems : Nat → Bytes → Bool
  | 0, _ => true
  | fuel + 1, p =>
    match p with
    | [] => true
    | _ =>
      match loadVarint p with
      | .ok (v, k) => decide (v < 2 ^ 32) && narrowElems fuel (p.drop k)
      | .error _ => true

theorem loadVarint_lt64 (bs : Bytes) (v k : Nat) (h : loadVarint bs = .ok (v, k)) : v < 2 ^ 64 :=
  loadVarint_lt bs v k h

/-- one step of the model's packed decoder, with the spec's case distinction: the types the
    model lists as 4- and 8-byte ones are those of wire type 5 and 1 -/
theorem decodePackedFuel_cons (t : PType) (hp : isPacked t = true) (fuel b : Nat) (bs : Bytes) :
    decodePackedFuel t (fuel + 1) (b :: bs) =
      if Spec.wireTypeOf t = 0 then
        match loadVarint (b :: bs) with
        | .error e => .error e
        | .ok (n, k) => (decodePackedFuel t fuel ((b :: bs).drop k)).bind fun vs => .ok (postVarint t n :: vs)
      else
        (postFixed t ((b :: bs).take (if Spec.wireTypeOf t = 1 then 8 else 4))).bind fun v =>
          (decodePackedFuel t fuel ((b :: bs).drop (if Spec.wireTypeOf t = 1 then 8 else 4))).bind fun vs =>
            .ok (v :: vs) := by
  rw [decodePackedFuel_ne t fuel _ (List.cons_ne_nil b bs)]
  cases t with
  | string | bytes | message | map => cases hp
  | _ => rfl

theorem decodePacked_eq (t : PType) (hp : isPacked t = true) (fuel : Nat) (p : Bytes) (vs : List Val)
    (hn : isNarrowTy t = true → narrowElems fuel p = true)
    (h : decodePackedFuel t fuel p = .ok vs) :
    ∃ vs', Spec.unpackElems t fuel p = some vs' ∧ nvs vs = nvs vs' := by
  induction fuel generalizing p vs with
  | zero => cases h
  | succ fuel ih =>
    cases p with
    | nil => cases h; exact ⟨[], rfl, rfl⟩
    | cons b bs =>
      rw [decodePackedFuel_cons t hp] at h
      simp only [Spec.unpackElems]
      by_cases hw : Spec.wireTypeOf t = 0
      · rw [if_pos hw] at h ⊢
        cases h1 : loadVarint (b :: bs) with
        | error e => rw [h1] at h; cases h
        | ok nk =>
          obtain ⟨n, k⟩ := nk
          rw [h1] at h
          obtain ⟨ws, h2, h⟩ := bind_inv h
          cases h
          have hnar : isNarrowTy t = true → n < 2 ^ 32 ∧ narrowElems fuel ((b :: bs).drop k) = true := by
            intro hc
            have := hn hc
            simp only [narrowElems, h1, Bool.and_eq_true, decide_eq_true_eq] at this
            exact this
          obtain ⟨ws', hw1, hw2⟩ := ih _ ws (fun hc => (hnar hc).2) h2
          rw [readVarint_ok _ n k h1]
          simp only [hw1]
          refine ⟨_, rfl, ?_⟩
          rw [postVarint_eq t n (loadVarint_lt64 _ n k h1) (fun hc => (hnar hc).1)]
          simp only [nvs, hw2]
      · rw [if_neg hw] at h ⊢
        obtain ⟨v, h1, h⟩ := bind_inv h
        obtain ⟨ws, h2, h⟩ := bind_inv h
        cases h
        obtain ⟨v', hv1, hv2⟩ := postFixed_eq t _ v h1
        obtain ⟨ws', hw1, hw2⟩ := ih _ ws (fun hc => absurd (narrow_varint t hc) hw) h2
        have hlen : ¬ (b :: bs).length < if Spec.wireTypeOf t = 1 then 8 else 4 := by
          have := postFixed_len t _ v h1
          rw [List.length_take] at this
          omega
        simp only [if_neg hlen, hv1, hw1]
        exact ⟨_, rfl, by simp only [nvs, hv2, hw2]⟩

/-- pairwise distinct field numbers: the same predicate as `NumsDistinct` of `BpProofs/Rt.lean`, which this
    file does not import (`SpecLinkSim` does, for `distinctB_sound`) -/
def DistinctNums (fs : List FieldD) : Prop :=
  ∀ (i j : Nat) (fi fj : FieldD), fs[i]? = some fi → fs[j]? = some fj → fi.num = fj.num → i = j

theorem lookupNum_none (fs : List FieldD) (i num : Nat) (h : ∀ f ∈ fs, f.num ≠ num) :
    Spec.lookupNum fs i num = none := by
  induction fs generalizing i with
  | nil => rfl
  | cons f fs ih =>
    rw [Spec.lookupNum, if_neg (h f (by simp))]
    exact ih _ (fun x hx => h x (by simp [hx]))

theorem lookupNum_first (fs : List FieldD) (i num k : Nat) (f : FieldD) (hk : fs[k]? = some f) (hnum : f.num = num)
    (hfirst : ∀ j fj, j < k → fs[j]? = some fj → fj.num ≠ num) :
    Spec.lookupNum fs i num = some (i + k, f) := by
  induction fs generalizing i k with
  | nil => cases hk
  | cons f0 fs ih =>
    rw [Spec.lookupNum]
    cases k with
    | zero =>
      cases hk
      rw [if_pos hnum]; rfl
    | succ k =>
      rw [if_neg (hfirst 0 f0 (Nat.succ_pos k) rfl),
        ih (i + 1) k hk (fun j fj hj hfj => hfirst (j + 1) fj (Nat.succ_lt_succ hj) hfj),
        Nat.add_assoc, Nat.add_comm 1 k]

theorem lookupNum_eq (fs : List FieldD) (hd : DistinctNums fs) (num : Nat) :
    Spec.lookupNum fs 0 num =
      match findField fs num with
      | Option.none => none
      | some idx => (fs[idx]?).map fun f => (idx, f) := by
  cases hf : findField fs num with
  | none =>
    exact lookupNum_none fs 0 num (findField_none fs num hf)
  | some idx =>
    obtain ⟨f, h1, h2⟩ := findField_sound fs num idx hf
    simp only [h1, Option.map_some]
    have := lookupNum_first fs 0 num idx f h1 h2 (fun j fj hj hfj hc => by
      have := hd j idx fj f hfj h1 (hc.trans h2.symm)
      omega)
    simpa using this

end Bp.Link
