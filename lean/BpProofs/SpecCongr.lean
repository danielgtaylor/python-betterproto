import BpModel.All
import BpProofs.SpecPacked
/-
  C02: records that mean the same (same number, same wire type, same
  decoded value for the field they target) are interchangeable; concrete packed / unpacked
  records of a repeated scalar field and the elements they carry.
-/
namespace Bp
open Gen Spec

/-- `pf` and `pf'` mean the same to class `d` under the nested loader `rec` -/
def SameMeaning (S : Schema) (rec : Loader) (d : MsgD) (pf pf' : PField) : Prop :=
  pf.num = pf'.num ∧ pf.wt = pf'.wt ∧
    ∀ idx f, Targets d pf idx f → decodeValue S rec f pf = decodeValue S rec f pf'

section Congr
variable (S : Schema) (rec : Loader) (d : MsgD)

theorem sameMeaning_of_eq (pf pf' : PField)
    (h0 : pf.num = pf'.num) (h1 : pf.wt = pf'.wt) (h2 : pf.vint = pf'.vint) (h3 : pf.payload = pf'.payload) :
    SameMeaning S rec d pf pf' :=
  ⟨h0, h1, fun _ f _ => by unfold decodeValue; rw [h1, h2, h3]⟩

theorem applyField_core_irrel (a b : MState) (pf : PField)
    (h : core a = core b) : (applyField S rec d a pf).map core = (applyField S rec d b pf).map core := by
  have e : a = { b with unknown := a.unknown } := by
    cases a; cases b
    simp only [core, MState.mk.injEq] at h ⊢
    exact ⟨h.1, h.2.1, h.2.2⟩
  rw [e]
  rcases record_cases d pf with hu | ⟨idx, f, ht⟩ | ⟨idx, h1, h2⟩
  · rw [applyField_unknown S rec d _ pf hu, applyField_unknown S rec d b pf hu]; rfl
  · rw [applyField_with_unknown S rec d b pf (targets_known d pf idx f ht)]
    cases applyField S rec d b pf <;> rfl
  · rw [applyField_badtable S rec d _ pf idx h1 h2, applyField_badtable S rec d b pf idx h1 h2]

theorem applyField_sameMeaning (a b : MState) (pf pf' : PField)
    (hs : SameMeaning S rec d pf pf') (h : core a = core b) :
    (applyField S rec d a pf).map core = (applyField S rec d b pf').map core := by
  rw [applyField_core_irrel S rec d a b pf h]
  obtain ⟨h0, h1, h2⟩ := hs
  rcases record_cases d pf with hu | ⟨idx, f, ht⟩ | ⟨idx, e1, e2⟩
  · have hu' : isUnknownField d pf' = true := by unfold isUnknownField at hu ⊢; rw [← h0, ← h1]; exact hu
    rw [applyField_unknown S rec d b pf hu, applyField_unknown S rec d b pf' hu']; rfl
  · rw [applyField_targets S rec d b pf idx f ht,
      applyField_targets S rec d b pf' idx f (by unfold Targets at ht ⊢; rw [← h0, ← h1]; exact ht), h2 idx f ht]
  · rw [applyField_badtable S rec d b pf idx e1 e2, applyField_badtable S rec d b pf' idx (by rw [← h0]; exact e1) e2]

theorem foldFields_sameMeaning (pfs pfs' : List PField)
    (hs : List.Forall₂ (SameMeaning S rec d) pfs pfs') (a b : MState) (h : core a = core b) :
    (foldFields S rec d a pfs).map core = (foldFields S rec d b pfs').map core := by
  induction hs generalizing a b with
  | nil => simp only [foldFields, map_ok]; rw [h]
  | @cons pf pf' ps ps' hm _ ih =>
    simp only [foldFields]
    have := applyField_sameMeaning S rec d a b pf pf' hm h
    -- the two steps fail together, or give states with the same core
    cases ha : applyField S rec d a pf with
    | error e =>
      cases hb : applyField S rec d b pf' with
      | error e' => rw [ha, hb] at this; cases this; rfl
      | ok s => rw [ha, hb] at this; cases this
    | ok s1 =>
      cases hb : applyField S rec d b pf' with
      | error e' => rw [ha, hb] at this; cases this
      | ok s2 => rw [ha, hb] at this; exact ih s1 s2 (Except.ok.inj this)

end Congr

/-- one packed chunk -/
def packedRec (num : Nat) (payload raw : Bytes) : PField :=
  { num := num, wt := wireLenDelim, vint := 0, payload := payload, raw := raw }

/-- one unpacked element (written `e`) -/
def unpackedRec (num : Nat) (t : PType) (e raw : Bytes) : PField :=
  match elemWidth t with
  | some w => { num := num, wt := if w = 4 then wireFixed32 else wireFixed64, vint := 0, payload := e, raw := raw }
  | Option.none => { num := num, wt := wireVarint, vint := varintValue e % 2 ^ 64, payload := [], raw := raw }

section Elems
variable (S : Schema) (rec : Loader)

theorem decodeValue_packedRec (f : FieldD) (num : Nat) (p raw : Bytes)
    (hp : isPacked f.ty = true) :
    decodeValue S rec f (packedRec num p raw) = (decodePacked f.ty p).bind fun vs => .ok (Val.list vs) :=
  decodeValue_eq_packed S rec f _ rfl hp

theorem decodeValue_unpackedRec (f : FieldD) (num : Nat) (e raw : Bytes) :
    decodeValue S rec f (unpackedRec num f.ty e raw) = decodeElem f.ty e := by
  unfold unpackedRec decodeElem
  cases elemWidth f.ty with
  | none => exact decodeValue_eq_varint S rec f _ rfl
  | some w =>
    apply decodeValue_eq_fixed
    by_cases h4 : w = 4
    · left; exact if_pos h4
    · right; exact if_neg h4

theorem elemsOfRecs_unpacked (f : FieldD) (num : Nat) (es : List Bytes)
    (raws : Bytes → Bytes) (vs : List Val) (h : decodeElems f.ty es = .ok vs)
    (hnl : ∀ v ∈ vs, isListVal v = false) :
    elemsOfRecs S rec f (es.map fun e => unpackedRec num f.ty e (raws e)) = .ok vs := by
  induction es generalizing vs with
  | nil => simp only [decodeElems] at h; injection h with h; subst h; rfl
  | cons e es ih =>
    obtain ⟨v, hv, h⟩ := bind_inv h
    obtain ⟨vs', hr, h⟩ := bind_inv h
    cases h
    have e1 : elemsOf v = [v] := by
      have : isListVal v = false := hnl v (by simp)
      cases v with
      | list _ => cases this
      | _ => rfl
    simp only [List.map_cons, elemsOfRecs, decodeValue_unpackedRec, hv, bind_ok, e1,
      ih vs' hr (fun x hx => hnl x (by simp [hx]))]
    rfl

theorem elemsOfRecs_chunks (f : FieldD) (hp : isPacked f.ty = true) (num : Nat)
    (chunks : List (List Bytes)) (raws : List Bytes → Bytes) (hv : ∀ c ∈ chunks, ∀ e ∈ c, ValidElem f.ty e)
    (vs : List Val) (h : decodeElems f.ty chunks.flatten = .ok vs) :
    elemsOfRecs S rec f (chunks.map fun c => packedRec num c.flatten (raws c)) = .ok vs := by
  induction chunks generalizing vs with
  | nil => simp only [List.flatten_nil, decodeElems] at h; injection h with h; subst h; rfl
  | cons c cs ih =>
    simp only [List.flatten_cons, decodeElems_append] at h
    obtain ⟨xs, hc, h⟩ := bind_inv h
    obtain ⟨ys, hr, h⟩ := bind_inv h
    cases h
    simp only [List.map_cons, elemsOfRecs, decodeValue_packedRec S rec f num _ _ hp,
      decodePacked_elems f.ty c (hv c (by simp)), hc, bind_ok, ih (fun c' hc' => hv c' (by simp [hc'])) ys hr]
    rfl

end Elems

end Bp
