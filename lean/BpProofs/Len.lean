import BpModel.All
import BpProofs.Varint
import BpProofs.ValDec
import BpProofs.Value
import BpProofs.WireRows
import BpProofs.Props.C16
/-
  First the calculus of `R` used everywhere (`bind_ok`, `bind_inv`, `bind_total`, `ite_map`, …) and
  two list facts.  Then C09: every piece of `__len__` computes the length of what the corresponding
  piece of `dump` writes.  The two walks branch on the same conditions, so they are compared branch
  by branch (`ite_map`) under `Except.map List.length`.
-/
namespace Bp
open Gen

@[simp] theorem bind_ok {α β} (a : α) (f : α → R β) : Except.bind (Except.ok a : R α) f = f a := rfl
@[simp] theorem bind_error {α β} (e : PyErr) (f : α → R β) : Except.bind (Except.error e : R α) f = .error e := rfl
@[simp] theorem map_ok {α β} (a : α) (f : α → β) : Except.map f (Except.ok a : R α) = .ok (f a) := rfl
@[simp] theorem map_error {α β} (e : PyErr) (f : α → β) : Except.map f (Except.error e : R α) = .error e := rfl

theorem bind_inv {α β : Type} {x : R α} {f : α → R β} {b : β} (h : x.bind f = .ok b) :
    ∃ a, x = .ok a ∧ f a = .ok b := by
  cases x with
  | error e => cases h
  | ok a => exact ⟨a, rfl, h⟩

theorem bind_total {α β : Type} {x : R α} {f : α → R β} (hx : ∃ a, x = .ok a) (hf : ∀ a, ∃ b, f a = .ok b) :
    ∃ b, x.bind f = .ok b := by
  obtain ⟨a, rfl⟩ := hx
  exact hf a

theorem list_ext_getD {α : Type} (dflt : α) (l1 l2 : List α) (hl : l1.length = l2.length)
    (h : ∀ k, l1.getD k dflt = l2.getD k dflt) : l1 = l2 := by
  apply List.ext_getElem hl
  intro i h1 h2
  have := h i
  simp only [List.getD_eq_getElem?_getD, List.getElem?_eq_getElem h1, List.getElem?_eq_getElem h2,
    Option.getD_some] at this
  exact this

theorem drop_cons {α : Type} (l : List α) (i : Nat) (a : α) (t : List α) (h : l.drop i = a :: t) :
    l[i]? = some a ∧ l.drop (i + 1) = t := by
  constructor
  · rw [← Nat.add_zero i, ← List.getElem?_drop, h]; rfl
  · rw [← List.drop_drop, h]; rfl

theorem map_bind {α β γ} (x : R α) (f : α → R β) (g : β → γ) :
    Except.map g (x.bind f) = x.bind (fun a => Except.map g (f a)) := by
  cases x <;> rfl

theorem dumpVarint_nat (n : Nat) : dumpVarint (n : Int) = .ok (encNat n) := by
  rw [C16.dumpVarint_eq n (by unfold two63; omega), asU64_nonneg n (by omega), Int.toNat_natCast]

theorem dumpVarint_total (v : Int) (h : -9223372036854775808 ≤ v) : ∃ b, dumpVarint v = .ok b :=
  ⟨_, C16.dumpVarint_eq v h⟩

theorem sizeVarint_eq (v : Int) : sizeVarint v = Except.map List.length (dumpVarint v) := C16.size_eq v

theorem sizeVarint_nat (n : Nat) : sizeVarint (n : Int) = .ok (encNat n).length := by
  rw [sizeVarint_eq, dumpVarint_nat]; rfl

theorem ite_map {α β : Type} (F : α → β) (c : Prop) [Decidable c] {a b : β} {a' b' : α}
    (ha : c → a = F a') (hb : ¬ c → b = F b') : (if c then a else b) = F (if c then a' else b') := by
  split
  · exact ha ‹_›
  · exact hb ‹_›

theorem map_length_bind {α : Type} (x : R α) (g : α → R Nat) (f : α → R Bytes)
    (h : ∀ a, g a = Except.map List.length (f a)) : x.bind g = Except.map List.length (x.bind f) := by
  cases x with
  | error e => rfl
  | ok a => exact h a

theorem bind_length (x : R Bytes) : (x.bind fun b => (.ok b.length : R Nat)) = Except.map List.length x := by
  cases x <;> rfl

theorem map_length_append (a b : R Bytes) :
    ((Except.map List.length a).bind fun n => (Except.map List.length b).bind fun m => (.ok (n + m) : R Nat))
      = Except.map List.length (a.bind fun x => b.bind fun y => .ok (x ++ y)) := by
  cases a with
  | error e => rfl
  | ok x =>
    cases b with
    | error e => rfl
    | ok y => simp only [map_ok, bind_ok, List.length_append]

theorem lenTag_eq (n : Nat) (pre : Bytes) :
    ((sizeVarint (n : Int)).bind fun k => (.ok (pre.length + k) : R Nat))
      = Except.map List.length ((dumpVarint (n : Int)).bind fun k => .ok (k ++ pre)) := by
  rw [sizeVarint_nat, dumpVarint_nat, bind_ok, bind_ok, map_ok, List.length_append, Nat.add_comm]

/-- framing: `_len_single` vs `_serialize_single` on a preprocessed value of known length -/
theorem lenFrame_eq (num : Nat) (t : PType) (pre : Bytes) (se w : Bool) :
    lenFrame num t pre.length se w = Except.map List.length (frame num t pre se w) := by
  unfold lenFrame frame
  refine ite_map _ _ (fun _ => lenTag_eq _ pre) fun _ => ?_
  refine ite_map _ _ (fun _ => lenTag_eq _ pre) fun _ => ?_
  refine ite_map _ _ (fun _ => lenTag_eq _ pre) fun _ => ?_
  refine ite_map _ _ (fun _ => ?_) fun _ => rfl
  refine ite_map _ _ (fun _ => ?_) fun h => ?_
  · simp only [sizeVarint_nat, dumpVarint_nat, bind_ok, map_ok, List.length_append]
    congr 1; omega
  · -- nothing is emitted: the payload is empty
    cases pre with
    | nil => rfl
    | cons a as => exact absurd rfl h

theorem sizePlain_eq (t : PType) (v : Val) :
    sizePlain t v = Except.map List.length (prepPlain t v) := by
  unfold sizePlain prepPlain
  refine ite_map _ _ (fun _ => map_length_bind _ _ _ sizeVarint_eq) fun _ => ?_
  refine ite_map _ _ (fun _ => map_length_bind _ _ _ fun i => sizeVarint_eq (zig i)) fun _ => ?_
  refine ite_map _ _ (fun _ => bind_length _) fun _ => ?_
  refine ite_map _ _ (fun _ => ?_) fun _ => ?_ <;> cases v <;> rfl

theorem sizeScalar_eq (S : Schema) (t : PType) (w : Option PType) (v : Val) :
    sizeScalar S t w v = Except.map List.length (prepScalar S t w v) := by
  unfold sizeScalar prepScalar
  refine ite_map _ _ (fun _ => ?_) fun _ => sizePlain_eq t v
  cases v with
  | ts us => exact bind_length _
  | dur us => exact bind_length _
  | none => cases w <;> rfl
  | _ =>
    cases w with
    | none => rfl
    | some w => exact bind_length _

theorem lenScalar_eq (S : Schema) (num : Nat) (t : PType) (v : Val) (se : Bool) (w : Option PType) :
    lenScalar S num t v se w = Except.map List.length (serializeScalar S num t v se w) := by
  unfold lenScalar serializeScalar
  rw [sizeScalar_eq]
  cases prepScalar S t w v with
  | error e => rfl
  | ok pre => exact lenFrame_eq num t pre se _

theorem lenDefault_eq (S : Schema) (f : FieldD) (sel : Bool) :
    lenDefault S f sel = Except.map List.length (dumpDefault S f sel) := by
  unfold lenDefault dumpDefault
  cases f.defKind with
  | none => rfl
  | list => exact ite_map _ _ (fun _ => rfl) fun _ =>
      ite_map _ _ (fun _ => lenFrame_eq f.num .bytes [] false false) fun _ => rfl
  | dict => exact ite_map _ _ (fun _ => rfl) fun _ => rfl
  | msg c => exact ite_map _ _ (fun _ => rfl) fun _ =>
      ite_map _ _ (fun _ => lenFrame_eq f.num f.ty [] _ _) fun _ => rfl
  | _ => exact ite_map _ _ (fun _ => rfl) fun _ => lenScalar_eq _ _ _ _ _ _

theorem dumpVal_msg (S : Schema) (c : Nat) (sl : List Val) (ow : Bool) (unk : Bytes) (cur : List (Option Nat)) :
    dumpVal S (.msg c sl ow unk cur)
      = (dumpSlots S (fieldsOf S c) cur 0 sl).bind fun body => .ok (body ++ unk) := by
  rw [dumpVal]

theorem dumpVal_nonmsg (S : Schema) (v : Val) (h : isMsgVal v = false) : dumpVal S v = .error .type := by
  cases v with
  | msg => cases h
  | _ => rfl

/-- a message value: `len` really serialises it, `dump` writes its fields and its unknown
    bytes, and both go on with the result -/
theorem lenMsg_eq (S : Schema) (c : Nat) (sl : List Val) (ow : Bool) (unk : Bytes) (cur : List (Option Nat))
    (G : Bytes → R Nat) (H : Bytes → R Bytes)
    (h : ∀ body, G (body ++ unk) = Except.map List.length (H body)) :
    (dumpVal S (.msg c sl ow unk cur)).bind G
      = Except.map List.length ((dumpSlots S (fieldsOf S c) cur 0 sl).bind H) := by
  rw [dumpVal_msg]
  cases dumpSlots S (fieldsOf S c) cur 0 sl with
  | error e => rfl
  | ok body => exact h body

/-- one item of a repeated field (`or 2` against `or b"\n\x00"`) followed by the others -/
theorem items_tail (A : R Nat) (A' : R Bytes) (B : R Nat) (B' : R Bytes)
    (hA : A = Except.map List.length A') (hB : B = Except.map List.length B') :
    (A.bind fun a => B.bind fun b => (.ok ((if a == 0 then 2 else a) + b) : R Nat))
      = Except.map List.length
          (A'.bind fun a => B'.bind fun b => .ok ((if a.isEmpty then [10, 0] else a) ++ b)) := by
  subst hA hB
  cases A' with
  | error e => rfl
  | ok a =>
    cases B' with
    | error e => rfl
    | ok b =>
      have : (if a.isEmpty then [10, 0] else a).length = if a.length == 0 then 2 else a.length := by
        cases a <;> rfl
      simp only [map_ok, bind_ok, List.length_append, this]

theorem lenItems_eq (S : Schema) (f : FieldD) (xs : List Val) :
    lenItems S f xs = Except.map List.length (dumpItems S f xs) := by
  induction xs with
  | nil => rw [lenItems, dumpItems]; rfl
  | cons x xs ih =>
    rw [dumpItems.eq_def, lenItems.eq_def]
    refine items_tail _ _ _ _ ?_ ih
    cases x with
    | msg c slots ow unknown cur =>
      exact lenMsg_eq S c slots ow unknown cur _ _ fun body =>
        ite_map _ _ (fun _ => lenFrame_eq _ _ _ _ _) fun _ => rfl
    | _ => exact lenScalar_eq _ _ _ _ _ _

theorem lenEntries_eq (S : Schema) (f : FieldD) (ks vs : List Val) :
    lenEntries S f ks vs = Except.map List.length (dumpEntries S f ks vs) := by
  induction ks generalizing vs with
  | nil => rw [lenEntries.eq_def, dumpEntries.eq_def]; rfl
  | cons k ks ih =>
    cases vs with
    | nil => rw [lenEntries.eq_def, dumpEntries.eq_def]; rfl
    | cons v vs =>
      rw [lenEntries.eq_def, dumpEntries.eq_def]
      -- key and value are really serialised by both; only the entry's frame and the tail differ
      refine map_length_bind _ _ _ fun sk => ?_
      have tail : ∀ sv,
          ((lenFrame f.num f.ty (sk ++ sv).length true false).bind fun e =>
            (lenEntries S f ks vs).bind fun rest => (.ok (e + rest) : R Nat))
          = Except.map List.length ((frame f.num f.ty (sk ++ sv) true false).bind fun e =>
              (dumpEntries S f ks vs).bind fun rest => .ok (e ++ rest)) := by
        intro sv
        rw [lenFrame_eq, ih]
        exact map_length_append _ _
      cases v with
      | msg c slots ow unknown cur =>
        simp only [dumpVal_msg]
        cases dumpSlots S (fieldsOf S c) cur 0 slots with
        | error e => rfl
        | ok body => simp only [bind_ok]; exact map_length_bind _ _ _ tail
      | _ => exact map_length_bind _ _ _ tail

theorem lenSlot_eq (S : Schema) (f : FieldD) (hid sel : Bool) (v : Val) :
    lenSlot S f hid sel v = Except.map List.length (dumpSlot S f hid sel v) := by
  rw [dumpSlot.eq_def, lenSlot.eq_def]
  cases v
  case ph => exact ite_map _ _ (fun _ => rfl) fun _ => lenDefault_eq _ _ _
  case none => rfl
  case list xs =>
    exact ite_map _ _ (fun _ => rfl) fun _ => ite_map _ _ (fun _ => rfl) fun _ =>
      ite_map _ _ (fun _ => map_length_bind _ _ _ fun buf => lenFrame_eq _ _ buf _ _) fun _ => lenItems_eq _ _ _
  case dict ks vs =>
    exact ite_map _ _ (fun _ => rfl) fun _ => ite_map _ _ (fun _ => rfl) fun _ => lenEntries_eq _ _ _ _
  case msg c slots ow unknown cur =>
    exact ite_map _ _ (fun _ => rfl) fun _ => ite_map _ _ (fun _ => rfl) fun _ =>
      lenMsg_eq S c slots ow unknown cur _ _ fun body =>
        ite_map _ _ (fun _ => lenFrame_eq _ _ _ _ _) fun _ => rfl
  all_goals
    exact ite_map _ _ (fun _ => rfl) fun _ => ite_map _ _ (fun _ => rfl) fun _ => lenScalar_eq _ _ _ _ _ _

theorem lenSlots_eq (S : Schema) (fs : List FieldD) (cur : List (Option Nat)) (idx : Nat) (vs : List Val) :
    lenSlots S fs cur idx vs = Except.map List.length (dumpSlots S fs cur idx vs) := by
  induction vs generalizing idx with
  | nil => rw [lenSlots, dumpSlots]; rfl
  | cons v vs ih =>
    rw [lenSlots, dumpSlots]
    cases fs[idx]? with
    | none => rfl
    | some f =>
      simp only []
      rw [ih, lenSlot_eq]
      exact map_length_append _ _

theorem lenVal_eq (S : Schema) (v : Val) : lenVal S v = Except.map List.length (dumpVal S v) := by
  cases v with
  | msg c slots ow unknown cur =>
    rw [lenVal, dumpVal, lenSlots_eq]
    exact map_length_append _ (.ok unknown)
  | _ => rfl

end Bp
