import BpProofs.Gen.SrcTemplate
import BpProofs.TemplateModel
import BpModel.Typing
/-
  SOURCE TIE of the plugin's Jinja templates: the functions translated from header.py.j2 / template.py.j2 of the
  working tree (Gen/SrcTemplate.lean, regenerated on every check) EQUAL the named model of TemplateModel.lean, for
  every context.  The proofs are `rfl`: the model is the translation cut into named parts, nothing else; any change
  of a template that changes a piece, a loop, a guard or the ORDER of two blocks makes them fail.
  Then lemmas about the model used by Props/C13SrcTemplate.lean … (membership / counting over the pieces).
-/
namespace Bp.Tpl
theorem header_eq (c : OutputFile) : Src.render_header c = header c := rfl

theorem template_eq (c : OutputFile) : Src.render_template c = template c := rfl

theorem module_eq (c : OutputFile) : Src.render_module c = module c := rfl

theorem text_append (a b : List Piece) : text (a ++ b) = text a ++ text b := List.flatMap_append
theorem text_append' (a b : List Piece) : text (List.append a b) = text a ++ text b := List.flatMap_append
theorem text_cons (p : Piece) (b : List Piece) : text (p :: b) = p.text ++ text b := by
  simp [text, List.flatMap_cons]
theorem text_nil : text [] = [] := rfl
theorem text_flatMap {α : Type} (f : α → List Piece) (l : List α) : text (l.flatMap f) = l.flatMap fun x => text (f x) :=
  List.flatMap_assoc

/-- the comma-separated list the header writes after `from datetime import ` / `from pydantic import ` -/
theorem text_commaAux (src : String) : ∀ l : List Str,
    text (forLast l (fun (i : Str) (last : Bool) =>
      List.append [Piece.expr src i] (if (!last) then [Piece.lit ", "] else []))) = jjoin ", ".toList l
  | [] => rfl
  | [x] => by simp [forLast, jjoin, text, Piece.text]
  | x :: y :: r => by
    have ih := text_commaAux src (y :: r)
    rw [forLast, text_append, ih]
    simp [jjoin, text, Piece.text]

theorem text_commaList (src : String) (s : PySet) : text (commaList src s) = jjoin ", ".toList (jsort s) :=
  text_commaAux src _

theorem count_importsEndLines (s : PySet) (i : Str) :
    (importsEndLines s).count (Piece.expr "output_file.imports_end[]" i) = s.count i := by
  induction s with
  | nil => rfl
  | cons x r ih =>
    simp only [importsEndLines, List.flatMap_cons] at ih ⊢
    rw [List.count_append, ih, List.count_cons]
    by_cases h : x = i
    · subst h; simp; omega
    · have : (Piece.expr "output_file.imports_end[]" x == Piece.expr "output_file.imports_end[]" i) = false := by simp [h]
      simp [h, this]

theorem text_moduleImportLines (s : PySet) :
    text (moduleImportLines s) = (jsort s).flatMap (fun m => "import ".toList ++ m ++ ['\n']) := by
  rw [moduleImportLines, text_flatMap]
  simp [text, Piece.text]

/-- `x.strip('"')` of the prelude is the model's `stripQ` -/
theorem strip_eq (s : Str) : Py.strStrip s qt = Typing.stripQ s := by
  have : (fun c : Char => qt.contains c) = (fun c => c == Typing.dq) := by
    funext c
    simp [qt, Typing.dq, List.contains, List.elem]
    cases (c == '"') <;> rfl
  simp only [Py.strStrip, Typing.stripQ, this]

end Bp.Tpl
