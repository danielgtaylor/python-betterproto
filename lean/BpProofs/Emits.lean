import BpProofs.Presence
import BpProofs.TimeArith
/-
  When the pieces of the encoder write nothing: a varint, a fixed-width value and the payload of a packable type
  never; `secNanosBytes` only for zero seconds and zero nanoseconds, hence a Timestamp / Duration only for the epoch /
  the zero timedelta; a whole record (`serializeScalar_nil`) only for the empty string, empty bytes and those two,
  and only when nothing forces it.  No typing hypothesis: these are facts about the functions.
-/
namespace Bp
open Gen

theorem dumpVarint_ne_nil (v : Int) (b : Bytes) (h : dumpVarint v = .ok b) : b ≠ [] := by
  by_cases hlo : -two63 ≤ v
  · rw [C16.dumpVarint_eq v hlo] at h; cases h; exact encNat_ne_nil _
  · rw [(C16.reject_below v (by omega)).1] at h; cases h

theorem secNanosBytes_ne_nil (s n : Int) (a : Bytes) (h : secNanosBytes s n = .ok a) (hne : s ≠ 0 ∨ n ≠ 0) : a ≠ [] := by
  unfold secNanosBytes at h
  obtain ⟨x, hx, h⟩ := bind_inv h
  obtain ⟨y, hy, h⟩ := bind_inv h
  injection h with h; rw [← h]
  by_cases hs : s = 0
  · have hn : n ≠ 0 := by
      rcases hne with h1 | h1
      · exact absurd hs h1
      · exact h1
    apply List.append_ne_nil_of_right_ne_nil
    have : (n == 0) = false := by simpa using hn
    rw [this] at hy
    simp only [Bool.false_eq_true, if_false] at hy
    obtain ⟨b, _, hb⟩ := bind_inv hy
    exact frame_ne_nil hb nofun
  · apply List.append_ne_nil_of_left_ne_nil
    have : (s == 0) = false := by simpa using hs
    rw [this] at hx
    simp only [Bool.false_eq_true, if_false] at hx
    obtain ⟨b, _, hb⟩ := bind_inv hx
    exact frame_ne_nil hb nofun

/-- only the zero count splits into zero seconds and zero nanoseconds: quotient and remainder recombine -/
theorem tsBytes_ne_nil (us : Int) (a : Bytes) (h : tsBytes us = .ok a) (hne : us ≠ 0) : a ≠ [] := by
  unfold tsBytes at h
  refine secNanosBytes_ne_nil _ _ _ h (Classical.byContradiction fun hc => hne ?_)
  rw [TimeArith.tsSplit_eq] at hc
  have hs : us * 1000 / 1000000000 = 0 := Decidable.not_not.1 fun e => hc (.inl e)
  have hn : us * 1000 % 1000000000 = 0 := Decidable.not_not.1 fun e => hc (.inr e)
  have := Int.ediv_mul_add_emod (us * 1000) 1000000000
  rw [hs, hn] at this
  exact (Int.mul_eq_zero.1 this.symm).resolve_right (by decide)

theorem durBytes_ne_nil (us : Int) (a : Bytes) (h : durBytes us = .ok a) (hne : us ≠ 0) : a ≠ [] := by
  unfold durBytes at h
  refine secNanosBytes_ne_nil _ _ _ h (Classical.byContradiction fun hc => hne ?_)
  rw [TimeArith.durSplit_eq] at hc
  have hs : (us * 1000).tdiv 1000000000 = 0 := Decidable.not_not.1 fun e => hc (.inl e)
  have hn : (us * 1000).tmod 1000000000 = 0 := Decidable.not_not.1 fun e => hc (.inr e)
  have := Int.tdiv_mul_add_tmod (us * 1000) 1000000000
  rw [hs, hn] at this
  exact (Int.mul_eq_zero.1 this.symm).resolve_right (by decide)

/-- no row of `_pack_fmt` has width 0 (the widths are 4 and 8): a packed fixed-width value has bytes -/
theorem fmtOf_width (t : PType) (w : Nat) (s fl : Bool) (h : fmtOf t = some (w, s, fl)) : w ≠ 0 := by
  obtain ⟨e, he, hw⟩ := Option.map_eq_some_iff.1 h
  have : ∀ e ∈ packFmt, e.2.1 ≠ 0 := by decide
  have := this e (List.mem_of_find?_eq_some he)
  rwa [hw] at this

theorem packFixed_ne_nil (t : PType) (v : Val) (a : Bytes) (h : packFixed t v = .ok a) : a ≠ [] := by
  unfold packFixed at h
  cases hf : fmtOf t with
  | none => rw [hf] at h; cases h
  | some r =>
    obtain ⟨w, s, fl⟩ := r
    rw [hf] at h
    have hw : ∀ x, packLE w x ≠ [] := fun x e => fmtOf_width t w s fl hf (by rw [← packLE_length w x, e]; rfl)
    -- a float pattern is packed in 4 or 8 bytes, an integer in the `w` bytes of the row; anything else is a TypeError
    cases fl with
    | true =>
      cases v with
      | f32 b =>
        simp only at h
        split at h
        · split at h
          · cases h; exact List.cons_ne_nil _ _
          · cases h
        · cases h
      | f64 b =>
        simp only at h
        split at h
        · split at h
          · cases h; exact List.cons_ne_nil _ _
          · cases h
        · cases h
      | _ => cases h
    | false =>
      cases v with
      | int i =>
        simp only at h
        split at h
        · split at h
          · cases h; exact hw _
          · cases h
        · split at h
          · cases h; exact hw _
          · cases h
      | _ => cases h

theorem isPacked_cases (t : PType) (h : isPacked t = true) :
    (t == .enum || t == .bool || t == .int32 || t == .int64 || t == .uint32 || t == .uint64) = true ∨
      (t == .sint32 || t == .sint64) = true ∨ isFixed t = true := by
  cases t with
  | string | bytes | message | map => exact absurd h (by decide)
  | _ => decide

theorem prepPlain_packed_ne_nil (t : PType) (v : Val) (a : Bytes) (ht : isPacked t = true)
    (h : prepPlain t v = .ok a) : a ≠ [] := by
  unfold prepPlain at h
  split at h
  · obtain ⟨i, _, hi⟩ := bind_inv h; exact dumpVarint_ne_nil _ _ hi
  · split at h
    · obtain ⟨i, _, hi⟩ := bind_inv h; exact dumpVarint_ne_nil _ _ hi
    · split at h
      · exact packFixed_ne_nil _ _ _ h
      · rename_i h1 h2 h3
        rcases isPacked_cases t ht with c | c | c
        · exact absurd c h1
        · exact absurd c h2
        · exact absurd c h3

theorem prepScalar_packed (S : Schema) (t : PType) (ht : isPacked t = true) (x : Val) :
    prepScalar S t Option.none x = prepPlain t x := by
  unfold prepScalar
  rw [beq_false_of_ne (packed_ne_message ht)]
  rfl

/-- A value whose record has no byte: the type is length-delimited, the payload empty, neither `serialize_empty`
    nor a wrapper forces the record — the empty string, empty bytes, the epoch, the zero timedelta. -/
theorem serializeScalar_nil (S : Schema) (num : Nat) (t : PType) (v : Val) (se : Bool) (w : Option PType)
    (h : serializeScalar S num t v se w = .ok []) :
    se = false ∧ w = Option.none ∧
      ((t = .string ∧ v = .str []) ∨ ((t = .bytes ∨ t = .map) ∧ v = .byt [])
        ∨ (t = .message ∧ (v = .ts 0 ∨ v = .dur 0))) := by
  rw [serializeScalar] at h
  obtain ⟨pre, hpre, h⟩ := bind_inv h
  obtain ⟨hl, rfl, hse, hw⟩ := (frame_nil_iff _ _ _ _ _).mp h
  obtain rfl : w = Option.none := by
    cases w with
    | none => rfl
    | some _ => cases hw
  refine ⟨hse, rfl, ?_⟩
  have hty := wireOf_len t hl
  -- for a closed type and a value of a given form `prepScalar` evaluates
  rcases hty with rfl | rfl | rfl | rfl
  · cases v with
    | str s => cases hpre; exact .inl ⟨rfl, rfl⟩
    | _ => cases hpre
  · cases v with
    | byt s => cases hpre; exact .inr (.inl ⟨.inl rfl, rfl⟩)
    | _ => cases hpre
  · refine .inr (.inr ⟨rfl, ?_⟩)
    cases v with
    | ts us => exact .inl (by rw [Decidable.not_not.1 fun hne => tsBytes_ne_nil us [] hpre hne rfl])
    | dur us => exact .inr (by rw [Decidable.not_not.1 fun hne => durBytes_ne_nil us [] hpre hne rfl])
    | _ => cases hpre
  · cases v with
    | byt s => cases hpre; exact .inr (.inl ⟨.inr rfl, rfl⟩)
    | _ => cases hpre

end Bp
