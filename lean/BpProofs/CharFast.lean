import BpModel.Casing
/-
  A second way to EVALUATE the character tables of the casing model.  The model gives the classes and the two case maps by
  string tables (`uppers`, `lowers`, `digits`), which the kernel decodes and searches anew in every declaration that
  evaluates a casing function.  `Fast.cls`, `Fast.lowerC`, `Fast.upperC` are arithmetic on the code point and agree with
  the model on every character (`char_forms`).  A closed call of the model is rewritten into a call of these and handed
  to the kernel.  The only lemmas proved ABOUT these forms are the character facts of BpProofs/CasingChar.lean
  (`char_facts`, `cls_iff`), which are stated of the model's `cls` / `lowerC` / `upperC` and read off the arithmetic.
-/
namespace Bp.Casing

namespace Fast

def cls (c : Char) : Cls :=
  let n := c.toNat
  if 65 ≤ n ∧ n ≤ 90 then .up else if 97 ≤ n ∧ n ≤ 122 then .lo else if 48 ≤ n ∧ n ≤ 57 then .dg else .sym
def lowerC (c : Char) : Char := if 65 ≤ c.toNat ∧ c.toNat ≤ 90 then Char.ofNat (c.toNat + 32) else c
def upperC (c : Char) : Char := if 97 ≤ c.toNat ∧ c.toNat ≤ 122 then Char.ofNat (c.toNat - 32) else c

end Fast

/-- the one sweep over the tables.  The second half (a code point of an interval is in its table) is what `char_forms`
    needs for a character OUTSIDE the tables: it lies in no interval. -/
theorem table_rows :
    (∀ c ∈ uppers ++ lowers ++ digits, cls c = Fast.cls c ∧ lowerC c = Fast.lowerC c ∧ upperC c = Fast.upperC c) ∧
    ∀ n < 123, (65 ≤ n ∧ n ≤ 90 → Char.ofNat n ∈ uppers) ∧ (97 ≤ n ∧ n ≤ 122 → Char.ofNat n ∈ lowers) ∧
      (48 ≤ n ∧ n ≤ 57 → Char.ofNat n ∈ digits) := by decide +kernel

theorem lookupC_not_fst (c : Char) : ∀ tbl : List (Char × Char), (∀ p ∈ tbl, p.1 ≠ c) → lookupC c tbl = c
  | [], _ => rfl
  | (a, b) :: t, h => by
    have := h (a, b) (List.mem_cons_self ..)
    simp only [lookupC, if_neg fun e : c = a => this e.symm]
    exact lookupC_not_fst c t fun p hp => h p (List.mem_cons_of_mem _ hp)

theorem char_forms (c : Char) : cls c = Fast.cls c ∧ lowerC c = Fast.lowerC c ∧ upperC c = Fast.upperC c := by
  by_cases h : c ∈ uppers ++ lowers ++ digits
  · exact table_rows.1 c h
  · -- outside the tables: outside the intervals, so in no class and no key of a case map, in either form
    simp only [List.mem_append, not_or] at h
    obtain ⟨⟨hu, hl⟩, hd⟩ := h
    have hr := fun hlt : c.toNat < 123 => by simpa only [Char.ofNat_toNat] using table_rows.2 c.toNat hlt
    have h1 : ¬(65 ≤ c.toNat ∧ c.toNat ≤ 90) := fun hi => hu ((hr (by omega)).1 hi)
    have h2 : ¬(97 ≤ c.toNat ∧ c.toNat ≤ 122) := fun hi => hl ((hr (by omega)).2.1 hi)
    have h3 : ¬(48 ≤ c.toNat ∧ c.toNat ≤ 57) := fun hi => hd ((hr (by omega)).2.2 hi)
    refine ⟨?_, ?_, ?_⟩
    · simp only [cls, Fast.cls, hu, hl, hd, if_false, if_neg h1, if_neg h2, if_neg h3]
    · rw [Fast.lowerC, if_neg h1]
      exact lookupC_not_fst c _ fun p hp e => hu (e ▸ (List.of_mem_zip hp).1)
    · rw [Fast.upperC, if_neg h2]
      exact lookupC_not_fst c _ fun p hp e => hl (e ▸ (List.of_mem_zip hp).1)

theorem cls_fast : cls = Fast.cls := funext fun c => (char_forms c).1
theorem lowerC_fast : lowerC = Fast.lowerC := funext fun c => (char_forms c).2.1
theorem upperC_fast : upperC = Fast.upperC := funext fun c => (char_forms c).2.2

end Bp.Casing
