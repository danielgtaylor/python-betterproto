import BpProofs.SrcTieLeaf
import BpProofs.EnumM
/- The enum classes of the JSON model (`EnumDef`, BpModel/Json.lean) seen as classes `EnumType.__new__` builds
   (BpModel/EnumM.lean), and what the two lookups of an `EnumDef` find in such a class.  On these rest
   `C05.src_dump_enum_bridge` / `C05.src_parse_enum_bridge` (Props/C05SrcLeaf.lean): the intrinsics `Py.dumpEnumOf` /
   `Py.parseEnum` of the to_dict / from_dict preludes ARE `_dump_enum` / `_parse_enum` as written (Gen/SrcLeaf.lean). -/
namespace Bp.SrcTieLeaf
open Bp Bp.Py Bp.EnumM Bp.PyEnum Bp.PyLeaf Bp.SrcTieEnum

/-- the `members` dict of the class statement an `EnumDef` stands for: Python member name ↦ number -/
def declOf (e : EnumDef) : Decl Bytes := e.map fun m => (m.py, m.num)

/-- the class object `EnumType.__new__` builds for it (Props/C20Src.lean `src_new`) -/
def clsOf (e : EnumDef) : ClsObj Bytes := obj (mk (declOf e))

def jOfEnum : JEnum Bytes → JVal
  | .name n => .str n
  | .num v => .num v

theorem find_declOf (e : EnumDef) (v : Int) :
    (declOf e).find? (·.2 == v) = (enumByNum e v).map fun m => (m.py, m.num) := by
  rw [enumByNum_eq_find]; exact List.find?_map

theorem assoc_declOf (e : EnumDef) (n : Bytes) : assoc n (declOf e) = (enumByPy e n).map (·.num) := by
  induction e with
  | nil => rfl
  | cons a rest ih =>
    show (if n = a.py then some a.num else assoc n (declOf rest))
      = Option.map _ (if a.py == n then some a else enumByPy rest n)
    rw [ih]
    by_cases h : n = a.py
    · rw [if_pos h, if_pos (beq_iff_eq.mpr h.symm)]; rfl
    · rw [if_neg h, if_neg fun e => h (beq_iff_eq.mp e).symm]

/-- `_value_map_` of the class of an `EnumDef`, by the lookup of the JSON model -/
theorem valueMap_clsOf (e : EnumDef) (v : Int) :
    ∃ oid, assoc v (mk (declOf e)).valueMap
      = (enumByNum e v).map fun m => { name := some m.py, number := v, oid := oid } := by
  obtain ⟨oid, h⟩ := mk_valueMap (declOf e) v
  rw [find_declOf, Option.map_map] at h
  exact ⟨oid, h⟩

/-- `_member_map_` of the class of an `EnumDef`, by the lookups of the JSON model: both sides take the FIRST
    declaration of the name, so the names need not be distinct -/
theorem memberMap_clsOf (e : EnumDef) (n : Bytes) :
    (assoc n (mk (declOf e)).memberMap).map (·.number) = (enumByPy e n).map (·.num) := by
  rw [mk_memberMap, assoc_declOf]
  cases h : enumByPy e n with
  | none => rfl
  | some m =>
    obtain ⟨oid, hv⟩ := valueMap_clsOf e m.num
    show (assoc m.num (mk (declOf e)).valueMap).map _ = some m.num
    rw [hv, Option.map_map]
    -- a member with the number `m.num` exists (`m` is one), so the lookup by number finds one
    rw [enumByPy_eq_find] at h
    obtain ⟨m', hm'⟩ := Option.isSome_iff_exists.mp
      ((enumByNum_eq_find e m.num ▸ List.find?_isSome).mpr ⟨m, List.mem_of_find?_eq_some h, beq_self_eq_true m.num⟩)
    rw [hm']; rfl

end Bp.SrcTieLeaf
