import BpProofs.PluginField
import BpModel.PluginSchema
/-
  Field faithfulness in two halves: a field that code and schema both take for a map (`map_compiled`), and any other
  field (`plain_compiled`).  Each half exhibits the compiled line, the record the runtime reads back from it and the
  schema's field (`Compiled`), and compares them component by component (element, group, `wraps=`).
-/
namespace Bp.Plugin
open Bp Bp.Gen.Plugin

theorem specPy_scalar {t : PType} {n : Name} (h : specPy t = some n) : t ≠ .message ∧ t ≠ .enum := by
  constructor <;> (intro e; subst e; simp [specPy] at h)

/-- element of a plain field (`inMap = false`) or of a map value: code and schema agree, for a map value unless it is
    a wrapper message -/
theorem field_elem {f : FieldP} {t : PType} (inMap : Bool) (hft : specType f.type = some t)
    (hn : t = .message ∨ (lookup? f.typeName specWrappers = none ∧ f.typeName ≠ tsName ∧ f.typeName ≠ durName))
    (hw : inMap = true → t = .message → lookup? f.typeName specWrappers = none) :
    ∃ py, pyTypeOf f = some py ∧ specElem f inMap = some (elemOf py) := by
  by_cases hm : t = .message
  · subst hm
    refine ⟨typeRef f.typeName, (pyType_ref hft (Or.inl rfl)).1, ?_⟩
    unfold specElem; rw [hft]
    cases inMap
    · exact (elem_ref _).symm
    · simp only [if_true]; rw [elem_mapValue _ (hw rfl rfl)]
  · have hn' := hn.resolve_left hm
    by_cases he : t = .enum
    · subst he
      refine ⟨typeRef f.typeName, (pyType_ref hft (Or.inr rfl)).1, ?_⟩
      unfold specElem; rw [hft]
      rw [typeRef_plain hn'.1 hn'.2.1 hn'.2.2]; rfl
    · obtain ⟨n, h1, h2⟩ := pyType_scalar hft hm he
      refine ⟨.prim n, h1, ?_⟩
      unfold specElem; rw [hft]
      cases t <;> simp_all [elemOf]

theorem mapCtor : lookup? "map".toList fieldCtors = some PType.map
    ∧ ctorsWithGroup.contains "map".toList = true := by decide +kernel

/-- what `observe` loses is not there to lose: a map / list field is not `optional`, a map's hint
    is not a list -/
def coherent (mt : Meta) : Bool :=
  (!(mt.mapTypes.isSome || hintIsList mt.hint) || !mt.optional) && (!mt.mapTypes.isSome || !hintIsList mt.hint)

/-- What the plugin and the schema make of one field: the line `c` the plugin writes, the record `mt` the runtime
    reads back from it, the schema's `s`; `observe` takes the one to the other and loses nothing on the way. -/
structure Compiled (nm : Naming) (full : Name) (m : MsgP) (f : FieldP) (c : CField) (mt : Meta) (s : FieldSpec) : Prop where
  compile : compileField nm m f = some c
  name : c.pyName = nm.fld f.name
  back : readBack c = some mt
  spec : specOf full m f = some s
  obs : observe mt = s
  coh : coherent mt = true
  group : c.group = s.group

theorem map_compiled (nm : Naming) {full : Name} {m e : MsgP} {f : FieldP}
    (hg : getMapEntry f m = some e) (hs : specMapEntry full m f = some e)
    (he : validEntry e = true)
    (hw : ∀ v ∈ e.fields, ¬ (v.number = 2 ∧ specType v.type = some .message ∧ (lookup? v.typeName specWrappers).isSome = true)) :
    ∃ c mt s, Compiled nm full m f c mt s := by
  obtain ⟨k, v, tk, tv, pk, hkv, hk1, hv2, hkt, hvt, hpk, hvn⟩ := validEntry_facts he
  obtain ⟨nk, hnk, hck⟩ := const_facts hkt
  obtain ⟨nv, hnv, hcv⟩ := const_facts hvt
  obtain ⟨hkm, hke⟩ := specPy_scalar hpk
  obtain ⟨n, hpyk, hn⟩ := pyType_scalar hkt hkm hke
  have hnpk : n = pk := by rw [hpk] at hn; exact (Option.some.inj hn).symm
  subst hnpk
  have hwv : tv = .message → lookup? v.typeName specWrappers = none := by
    intro htv
    have := hw v (by rw [hkv]; simp)
    rw [htv] at hvt
    cases hl : lookup? v.typeName specWrappers with
    | none => rfl
    | some x => exact absurd ⟨hv2, hvt, by rw [hl]; rfl⟩ this
  obtain ⟨pv, hpv, hev⟩ := field_elem true hvt hvn (fun _ => hwv)
  have hf1 : fieldNo 1 e = some k := by unfold fieldNo; rw [hkv]; simp [List.find?, hk1]
  have hf2 : fieldNo 2 e = some v := by unfold fieldNo; rw [hkv]; simp [List.find?, hk1, hv2]
  refine ⟨{ pyName := nm.fld f.name, ctor := "map".toList, number := f.number, mapTypes := some (nk, nv),
             ann := .dict (.prim n) pv },
          { number := f.number, protoType := .map, mapTypes := some (tk, tv), group := none, wraps := none,
            optional := false, hint := .dict (.prim n) pv },
          { number := f.number, ty := .map, card := .map tk tv, group := none, wraps := none,
            elem := elemOf pv, keyPy := some n }, ?_, rfl, ?_, ?_, rfl, rfl, rfl⟩
  · unfold compileField
    rw [hg]
    simp only [hkv, hpyk, hpv, hnk, hnv]
  · unfold readBack
    simp only [mapCtor.1, mapCtor.2, hck, hcv, Option.isSome_none, Bool.false_and, Bool.false_eq_true, if_false,
      if_true, wrapsBack]
  · unfold specOf
    rw [hs]
    simp only [hf1, hf2, hkt, hvt, hpk, hev]

structure ValidFieldFacts (m : MsgP) (f : FieldP) : Prop where
  ty : ∃ t, specType f.type = some t
  names : specType f.type = some .message
            ∨ (lookup? f.typeName specWrappers = none ∧ f.typeName ≠ tsName ∧ f.typeName ≠ durName)
  oneof : ∀ i, f.oneofIndex = some i → i < m.oneofs.length
  opt : f.proto3Optional = true → f.label ≠ .repeated

theorem validField_facts {full : Name} {m : MsgP} {f : FieldP} (h : validField full m f = true) :
    ValidFieldFacts m f := by
  unfold validField at h
  simp only [Bool.and_eq_true, Bool.or_eq_true, beq_iff_eq, bne_iff_ne, ne_eq, Option.isNone_iff_eq_none,
    Bool.not_eq_true', validType] at h
  obtain ⟨⟨⟨⟨h1, h2⟩, h3⟩, h4⟩, _⟩ := h
  refine ⟨?_, ?_, ?_, ?_⟩
  · cases hs : specType f.type with
    | none => rw [hs] at h1; cases h1
    | some t => exact ⟨t, rfl⟩
  · rcases h2 with h2 | h2
    · exact Or.inl h2
    · exact Or.inr ⟨h2.1.1, h2.1.2, h2.2⟩
  · intro i hi; rw [hi] at h3; simpa using h3
  · intro hp; rcases h4 with h4 | h4
    · rw [hp] at h4; cases h4
    · exact h4

/-- the oneof group: code (`is_oneof` + `oneof_decl[i].name`) and schema agree -/
theorem group_agree {m : MsgP} {f : FieldP} (ho : ∀ i, f.oneofIndex = some i → i < m.oneofs.length) :
    ∃ g, groupOf m f = some g
      ∧ specGroup m f = some g := by
  unfold groupOf isOneof specGroup
  cases hi : f.oneofIndex with
  | none => exact ⟨none, by simp, rfl⟩
  | some i =>
    have hlt := ho i hi
    cases hp : f.proto3Optional with
    | true => exact ⟨none, by simp, by simp⟩
    | false =>
      refine ⟨some m.oneofs[i], ?_, ?_⟩ <;> simp [List.getElem?_eq_getElem hlt]

/-- `wraps=`: code (table of the nine wrapper names, D24 fix) and schema agree -/
theorem wraps_agree {f : FieldP} {t : PType} {c : Name}
    (hwr : ctorsWithWraps.contains c = decide (t = .message))
    (hn : t = .message ∨ lookup? f.typeName specWrappers = none) :
    ((wrapsOf f.typeName).isSome && !ctorsWithWraps.contains c) = false
    ∧ wrapsBack (wrapsOf f.typeName)
      = some (if t = .message then lookup? f.typeName specWrappers else none) := by
  have hrow := wrapsRow_all f.typeName
  unfold wrapsRow at hrow
  unfold wrapsBack
  cases hw : wrapsOf f.typeName with
  | none =>
    rw [hw] at hrow
    simp only [decide_eq_true_eq] at hrow
    simp [hrow]
  | some n =>
    rw [hw] at hrow
    simp only [Bool.and_eq_true, decide_eq_true_eq] at hrow
    have htm : t = .message := by
      rcases hn with h | h
      · exact h
      · rw [h] at hrow; exact absurd hrow.1 (by simp)
    subst htm
    rw [hwr]
    cases hl : lookup? f.typeName specWrappers with
    | none => rw [hl] at hrow; exact absurd hrow.1 (by simp)
    | some p => rw [hl] at hrow; simp [hrow.2]

theorem plain_compiled (nm : Naming) {full : Name} {m : MsgP} {f : FieldP}
    (hg : getMapEntry f m = none) (hs : specMapEntry full m f = none) (hvf : validField full m f = true) :
    ∃ c mt s, Compiled nm full m f c mt s := by
  have V := validField_facts hvf
  obtain ⟨t, hft⟩ := V.ty
  obtain ⟨c, hc, hcp, hopt, hgrp, hwr, hnm⟩ := ctor_facts hft
  have hn : t = .message ∨ (lookup? f.typeName specWrappers = none ∧ f.typeName ≠ tsName ∧ f.typeName ≠ durName) := by
    rcases V.names with h | h
    · left; rw [hft] at h; exact Option.some.inj h
    · right; exact h
  obtain ⟨py, hpy, hel⟩ := field_elem false hft hn (fun h => nomatch h)
  obtain ⟨g, hg1, hg2⟩ := group_agree V.oneof
  obtain ⟨hw1, hw2⟩ := wraps_agree (f := f) hwr (hn.imp id (·.1))
  refine ⟨{ pyName := nm.fld f.name, ctor := c, number := f.number, wraps := wrapsOf f.typeName,
             optional := f.proto3Optional, group := g, ann := annOf f py },
          { number := f.number, protoType := t, mapTypes := none, group := g,
            wraps := if t = .message then lookup? f.typeName specWrappers else none,
            optional := f.proto3Optional, hint := annOf f py },
          { number := f.number, ty := t,
            card := if f.label = .repeated then .repeated else if f.proto3Optional then .optional else .singular,
            group := g, wraps := if t = .message then lookup? f.typeName specWrappers else none,
            elem := elemOf py, keyPy := none }, ?_, rfl, ?_, ?_, ?_, ?_, rfl⟩
  · unfold compileField
    rw [hg]
    simp only [hc, hpy, hg1]
  · unfold readBack
    simp only [hcp, hw1, hopt, hgrp, hw2, Bool.not_true, Bool.and_false, Bool.false_eq_true, if_false, hnm]
  · unfold specOf
    rw [hs]
    simp only [hft, hel, hg2]
  -- left: `obs` and `coh`.  The annotation is a list, an `Optional` or plain as the label and the flag say; the flag
  -- is not set on a list
  all_goals
    have ho := V.opt
    unfold annOf
    by_cases hl : f.label = .repeated
    · simp_all [observe, coherent, hintIsList]
    · cases hp : f.proto3Optional <;> simp [observe, coherent, hintIsList, hl]

/-- the three guards of a message, read for one of its fields -/
theorem field_compiled (nm : Naming) {full : Name} {m : MsgP} {f : FieldP}
    (hv : validMsg full m = true) (hl : mapRefsLocal full m = true) (hw : noWrapperMapValue m = true)
    (hf : f ∈ m.fields) : ∃ c mt s, Compiled nm full m f c mt s := by
  have hge := getMapEntry_eq_spec hv hl hf
  have V := validMsg_facts hv
  cases hs : specMapEntry full m f with
  | none => exact plain_compiled nm (hge.trans hs) hs (V.field f hf)
  | some e =>
    have hmem : e ∈ m.nested ∧ (e.mapEntry && decide (f.typeName = full ++ '.' :: e.name)) = true := by
      unfold specMapEntry at hs
      split at hs
      · exact find?_some_mem hs
      · cases hs
    have hme : e.mapEntry = true := by
      have := hmem.2; simp only [Bool.and_eq_true] at this; exact this.1
    refine map_compiled nm (hge.trans hs) hs (V.entry e hmem.1 hme) ?_
    intro v hvm hbad
    unfold noWrapperMapValue at hw
    simp only [List.all_eq_true, Bool.or_eq_true, Bool.not_eq_true', Bool.and_eq_false_iff,
      decide_eq_false_iff_not] at hw
    rcases hw e hmem.1 with h | h
    · rw [hme] at h; cases h
    · rcases h v hvm with (h | h) | h
      · exact h hbad.1
      · exact h hbad.2.1
      · rw [hbad.2.2] at h; cases h

end Bp.Plugin
