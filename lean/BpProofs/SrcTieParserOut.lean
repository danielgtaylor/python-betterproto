import BpProofs.SrcTieParserGen
/-
  THE TIE BETWEEN THE TRANSLATED SOURCE OF plugin/parser.py AND CLOSED FORMS, part 3: the loops of `generate_code`
  that read the types and the services of every input file into the OutputTemplate of its package, the loop that
  names the output files, the `__init__.py` files; `generate_code` as a whole is put together from them in
  Props/C03SrcParserGen.lean (`src_generate_code`).
-/
set_option linter.unusedSimpArgs false
set_option linter.unusedVariables false
namespace Bp.SrcTieParser
open Bp Bp.Py Bp.Py.Prs Bp.Importing Bp.Plugin Bp.Src.Parser
open Bp.Py.Res (ok_bind)

/-- the compiler objects constructed for the types of one file: every yielded item through `read_protobuf_type` -/
def typesLog (pyd : Bool) (fd : FileD) : List Built := (pFile fd).flatMap (readLog pyd)

/-- the second loop on one OutputTemplate -/
def addTypes (t : OutTpl) : OutTpl := addBuilt t (t.input_files.flatMap (typesLog t.pydantic_dataclasses))

/-- the compiler objects constructed for a list of services, counting from `i` -/
def svcsLog : Int → List SvcD → List Built
  | _, [] => []
  | i, s :: r => svcLog s i ++ svcsLog (i + 1) r

def servicesLog (fd : FileD) : List Built := svcsLog 0 fd.services

/-- the third loop on one OutputTemplate -/
def addServices (t : OutTpl) : OutTpl := addBuilt t (t.input_files.flatMap servicesLog)

theorem loop4_eq (fuel : Nat) (ex : PyPath → Bool) (src : FileD) : ∀ (items : List (DItem × List Int)) (t : OutTpl),
    generate_code.loop4 fuel ex src items t = .ok (addBuilt t (items.flatMap (readLog t.pydantic_dataclasses)))
  | [], t => by simp [generate_code.loop4, addBuilt_nil]
  | (item, path) :: r, t => by
    simp only [generate_code.loop4, read_protobuf_type_eq, ok_bind]
    rw [loop4_eq fuel ex src r, addBuilt_addBuilt]
    rfl

theorem loop3_eq (fuel : Nat) (ex : PyPath → Bool) : ∀ (files : List FileD) (t : OutTpl),
    (∀ f ∈ files, depthMsgs f.messages < fuel) →
    generate_code.loop3 fuel ex files t = .ok (addBuilt t (files.flatMap (typesLog t.pydantic_dataclasses)))
  | [], t, _ => by simp [generate_code.loop3, addBuilt_nil]
  | f :: r, t, h => by
    simp only [generate_code.loop3, traverse_eq fuel f (h f List.mem_cons_self), ok_bind, loop4_eq]
    rw [loop3_eq fuel ex r _ (fun g hg => h g (List.mem_cons_of_mem _ hg)), addBuilt_addBuilt]
    rfl

theorem loop7_eq (fuel : Nat) (ex : PyPath → Bool) (src : FileD) : ∀ (svcs : List SvcD) (i : Int) (t : OutTpl),
    generate_code.loop7 fuel ex src i svcs t = .ok (addBuilt t (svcsLog i svcs))
  | [], i, t => by simp [generate_code.loop7, svcsLog, addBuilt_nil]
  | s :: r, i, t => by
    simp only [generate_code.loop7, read_protobuf_service_eq, ok_bind]
    rw [loop7_eq fuel ex src r (i + 1), addBuilt_addBuilt]
    rfl

theorem loop6_eq (fuel : Nat) (ex : PyPath → Bool) : ∀ (files : List FileD) (t : OutTpl),
    generate_code.loop6 fuel ex files t = .ok (addBuilt t (files.flatMap servicesLog))
  | [], t => by simp [generate_code.loop6, addBuilt_nil]
  | f :: r, t => by
    simp only [generate_code.loop6, loop7_eq, ok_bind]
    rw [loop6_eq fuel ex r, addBuilt_addBuilt]
    rfl

/-- a loop over the items of a dict that changes the value object and stores it back: the values mapped -/
theorem writeback_loop (loop : List (Str × OutTpl) → Dict OutTpl → Res (Dict OutTpl)) (inner : OutTpl → Res OutTpl)
    (g : OutTpl → OutTpl) (hnil : ∀ D, loop [] D = .ok D)
    (hcons : ∀ k t r D, loop ((k, t) :: r) D = (inner t).bind fun t' => loop r (dictSet D k t')) :
    ∀ (todo done : Dict OutTpl), ((done ++ todo).map Prod.fst).Nodup → (∀ p ∈ todo, inner p.2 = .ok (g p.2)) →
      loop todo (done ++ todo) = .ok (done ++ todo.map fun p => (p.1, g p.2))
  | [], done, _, _ => by simp [hnil]
  | (k, t) :: r, done, hn, hi => by
    have hk : k ∉ done.map Prod.fst := by
      intro e
      rw [List.map_append, List.nodup_append] at hn
      exact hn.2.2 k e k (by simp) rfl
    rw [hcons, hi (k, t) List.mem_cons_self, ok_bind, dictSet_mid done k t (g t) r hk]
    have := writeback_loop loop inner g hnil hcons r (done ++ [(k, g t)])
      (by simpa [List.map_append] using hn) (fun p hp => hi p (List.mem_cons_of_mem _ hp))
    simpa [List.append_assoc] using this

theorem loop2_eq (fuel : Nat) (ex : PyPath → Bool) (D : Dict OutTpl) (hn : (D.map Prod.fst).Nodup)
    (hd : ∀ p ∈ D, ∀ f ∈ p.2.input_files, depthMsgs f.messages < fuel) :
    generate_code.loop2 fuel ex D D = .ok (D.map fun p => (p.1, addTypes p.2)) := by
  have := writeback_loop (generate_code.loop2 fuel ex) (fun t => generate_code.loop3 fuel ex t.input_files t) addTypes
    (fun D => rfl) (fun k t r D => rfl) D [] (by simpa using hn)
    (fun p hp => loop3_eq fuel ex _ _ (hd p hp))
  simpa using this

theorem loop5_eq (fuel : Nat) (ex : PyPath → Bool) (D : Dict OutTpl) (hn : (D.map Prod.fst).Nodup) :
    generate_code.loop5 fuel ex D D = .ok (D.map fun p => (p.1, addServices p.2)) := by
  have := writeback_loop (generate_code.loop5 fuel ex) (fun t => generate_code.loop6 fuel ex t.input_files t) addServices
    (fun D => rfl) (fun k t r D => rfl) D [] (by simpa using hn)
    (fun p hp => loop6_eq fuel ex _ _)
  simpa using this

/-- `pathlib.Path(*package.split("."), "__init__.py")` -/
def pkgPath (k : Str) : PyPath := pathNew (splitOn '.' k ++ ["__init__.py".toList])

/-- the response file of one output package -/
def moduleFile (p : Str × OutTpl) : RFile := { name := pathStr (pkgPath p.1), content := some p.2 }

theorem loop8_eq (fuel : Nat) (ex : PyPath → Bool) : ∀ (D : List (Str × OutTpl)) (resp : Response) (paths : List PyPath),
    generate_code.loop8 fuel ex D (resp, paths)
      = .ok ({ resp with file := resp.file ++ (D.filter (·.2.output)).map moduleFile },
             ((D.filter (·.2.output)).map (pkgPath ·.1)).foldl setAdd paths)
  | [], resp, paths => by simp [generate_code.loop8]
  | (k, t) :: r, resp, paths => by
    simp only [generate_code.loop8]
    cases h : t.output
    · simp only [Bool.not_false, if_true, loop8_eq fuel ex r, List.filter_cons, h, Bool.false_eq_true, if_false]
    · simp only [Bool.not_true, Bool.false_eq_true, if_false, loop8_eq fuel ex r, List.filter_cons, h, if_true,
        List.map_cons, List.foldl_cons, List.append_assoc, List.singleton_append]
      rfl

/-- the response file of one `__init__.py` -/
def initFile (p : PyPath) : RFile := { name := pathStr p, content := none }

theorem loop9_eq (fuel : Nat) (ex : PyPath → Bool) : ∀ (ps : List PyPath) (resp : Response),
    generate_code.loop9 fuel ex ps resp = .ok { resp with file := resp.file ++ ps.map initFile }
  | [], resp => by simp [generate_code.loop9]
  | p :: r, resp => by
    simp only [generate_code.loop9, loop9_eq fuel ex r, List.map_cons, List.append_assoc, List.singleton_append]
    rfl

/-- the `__init__.py` files of the directories above the output files that do not exist yet and are no output file -/
def initFiles (ex : PyPath → Bool) (paths : List PyPath) : List PyPath :=
  setDiff (setOfList (paths.flatMap fun path =>
    ((pathParents path).filter (fun directory => !(ex (pathJoin directory "__init__.py".toList)))).map
      (fun directory => pathJoin directory "__init__.py".toList))) paths

/-- the dict of output packages after the three loops -/
def genModules (opts : List Str) (files : List FileD) : Dict OutTpl :=
  ((gather opts files).map fun p => (p.1, addTypes p.2)).map fun p => (p.1, addServices p.2)

/-- the output packages that are written (`output` is False for google.protobuf without INCLUDE_GOOGLE) -/
def genOutputs (opts : List Str) (files : List FileD) : Dict OutTpl := (genModules opts files).filter (·.2.output)

/-- the set of the paths of the output files -/
def genPaths (opts : List Str) (files : List FileD) : List PyPath :=
  ((genOutputs opts files).map (pkgPath ·.1)).foldl setAdd []

/-- the CodeGeneratorResponse -/
def genResponse (ex : PyPath → Bool) (req : Request) : Response :=
  { supported_features := some "FEATURE_PROTO3_OPTIONAL".toList
    file := (genOutputs (optsOf req.parameter) req.proto_file).map moduleFile
              ++ (initFiles ex (genPaths (optsOf req.parameter) req.proto_file)).map initFile }

theorem gather_keys (opts : List Str) (files : List FileD) :
    (gather opts files).map Prod.fst = firstOcc (files.map (·.package)) := by
  simp [gather, List.map_map, Function.comp_def]

theorem gather_input_files (opts : List Str) (files : List FileD) :
    ∀ p ∈ gather opts files, p.2.input_files = filesOf files p.1 := by
  intro p hp
  obtain ⟨k, _, rfl⟩ := List.mem_map.1 hp
  rfl

/-- the message / enum compiler objects constructed for one file are, in order, exactly the types of the file
    (`allTypes`: every message — synthetic map entries excepted — and enum at every nesting depth), each once,
    under its flattened name -/
theorem typesLog_keys (pyd : Bool) (fd : FileD) :
    (typesLog pyd fd).filterMap builtKey = (allTypes (toFileP fd)).map typeKey := by
  have h1 : ∀ ys : List (DItem × List Int),
      (ys.flatMap (readLog pyd)).filterMap builtKey = (ys.map Prod.fst).filterMap dKey := by
    intro ys
    induction ys with
    | nil => rfl
    | cons y r ih =>
      obtain ⟨it, p⟩ := y
      simp only [List.flatMap_cons, List.filterMap_append, readLog_keys, ih, List.map_cons, List.filterMap_cons]
      cases dKey it <;> simp
  unfold typesLog
  rw [h1, pFile_fst, ← traverse_key, List.filterMap_map]
  congr 1
  funext it
  exact dKey_toD it

theorem svcsLog_keys : ∀ (svcs : List SvcD) (i : Int), (svcsLog i svcs).filterMap builtKey = []
  | [], _ => rfl
  | s :: r, i => by
    have hm : ∀ (c : SvcC) (ms : List MethodD) (j : Int), (methodsLog c i j ms).filterMap builtKey = [] := by
      intro c ms
      induction ms with
      | nil => intro j; rfl
      | cons m r ih => intro j; simp only [methodsLog, List.filterMap_cons, builtKey]; exact ih (j + 1)
    simp only [svcsLog, svcLog, List.filterMap_append, List.filterMap_cons, builtKey, hm, svcsLog_keys r (i + 1)]
    rfl

theorem compilePackage_keys (nm : Naming) (fls : List FileP) (cs : List Class) (h : compilePackage nm fls = some cs) :
    cs.map (fun c => (c.pyName, c.kind)) = fls.flatMap fun fl => (allTypes fl).map fun t => (nm.cls (flatName t.1), t.2) := by
  obtain ⟨css, hm, rfl⟩ := compilePackage_iff.1 h
  rw [← List.flatMap_id, List.map_flatMap]
  refine (flatMap_transport hm fun fl a _ h1 => ?_).symm
  unfold compileFile at h1
  rw [id, readItems_keys nm _ a h1, traverse_key, List.map_map]
  rfl

/-- the OutputTemplate of package `k` when `generate_code` renders it -/
def moduleOf (opts : List Str) (files : List FileD) (k : Str) : OutTpl :=
  addServices (addTypes (tplOf opts k (filesOf files k)))

theorem genModules_eq (opts : List Str) (files : List FileD) :
    genModules opts files = (firstOcc (files.map (·.package))).map fun k => (k, moduleOf opts files k) := by
  simp [genModules, gather, List.map_map, Function.comp_def, moduleOf]

theorem moduleOf_built (opts : List Str) (files : List FileD) (k : Str) :
    (moduleOf opts files k).built
      = (filesOf files k).flatMap (typesLog (decide ("pydantic_dataclasses".toList ∈ opts)))
        ++ (filesOf files k).flatMap servicesLog := by
  simp [moduleOf, addServices, addTypes, addBuilt, tplOf]

theorem splitOn_mem_no_sep (c : Char) : ∀ (s : Str) (w : Str), w ∈ splitOn c s → c ∉ w
  | [], w, h => by
    simp only [splitOn, List.mem_singleton] at h
    subst h; simp
  | a :: s, w, h => by
    unfold splitOn at h
    by_cases hc : a = c
    · simp only [hc, if_true, List.mem_cons] at h
      rcases h with h | h
      · subst h; simp
      · exact splitOn_mem_no_sep c s w h
    · simp only [hc, if_false] at h
      cases hs : splitOn c s with
      | nil => exact absurd hs (SrcTiePlugin.splitOn_ne_nil c s)
      | cons w' ws =>
        rw [hs] at h
        simp only [List.mem_cons] at h
        rcases h with h | h
        · subst h
          have := splitOn_mem_no_sep c s w' (by rw [hs]; simp)
          intro hm
          rcases List.mem_cons.1 hm with e | e
          · exact hc e.symm
          · exact this e
        · exact splitOn_mem_no_sep c s w (by rw [hs]; simp [h])

theorem joinWith_splitOn (c : Char) : ∀ s : Str, joinWith c (splitOn c s) = s
  | [] => rfl
  | a :: s => by
    have ih := joinWith_splitOn c s
    unfold splitOn
    cases hs : splitOn c s with
    | nil => exact absurd hs (SrcTiePlugin.splitOn_ne_nil c s)
    | cons w ws =>
      rw [hs] at ih
      by_cases hc : a = c
      · simp only [hc, if_true]
        show joinWith c ([] :: w :: ws) = c :: s
        simp only [joinWith, List.nil_append, ih]
      · simp only [hc, if_false]
        cases ws with
        | nil => simp only [joinWith] at ih ⊢; rw [ih]
        | cons w2 r => simp only [joinWith, List.cons_append] at ih ⊢; rw [ih]

/-- what protoc guarantees of a package name: empty, or dot-separated non-empty segments -/
def validPkg (k : Str) : Bool := k.isEmpty || (splitOn '.' k).all (fun s => !s.isEmpty)

/-- the path of the module of a package protoc accepts: its segments, then `__init__.py` -/
theorem pkgPath_valid (k : Str) (h : validPkg k = true) :
    pkgPath k = (if k.isEmpty then [] else splitOn '.' k) ++ ["__init__.py".toList] := by
  unfold pkgPath pathNew
  by_cases he : k.isEmpty = true
  · have : k = [] := List.isEmpty_iff.1 he
    subst this
    decide
  · simp only [he, Bool.false_eq_true, if_false]
    have hv : ∀ s ∈ splitOn '.' k, s.isEmpty = false := by
      intro s hs
      have := h
      simp only [validPkg, he, Bool.false_or, List.all_eq_true, Bool.not_eq_true'] at this
      exact this s hs
    rw [List.filter_append]
    congr 1
    apply List.filter_eq_self.2
    intro s hs
    have h1 := hv s hs
    have h2 : ¬ s = ['.'] := by
      intro e
      exact splitOn_mem_no_sep '.' k s hs (by rw [e]; decide)
    simp [h1, h2]

theorem mem_foldl_setAdd {α : Type} [DecidableEq α] (x : α) : ∀ (xs acc : List α),
    x ∈ xs.foldl setAdd acc ↔ x ∈ acc ∨ x ∈ xs
  | [], acc => by simp
  | a :: r, acc => by
    rw [List.foldl_cons, mem_foldl_setAdd x r]
    unfold setAdd
    by_cases h : a ∈ acc
    · simp only [h, if_true, List.mem_cons]
      constructor
      · rintro (h1 | h1)
        · exact Or.inl h1
        · exact Or.inr (Or.inr h1)
      · rintro (h1 | h1 | h1)
        · exact Or.inl h1
        · exact Or.inl (h1 ▸ h)
        · exact Or.inr h1
    · simp only [h, if_false, List.mem_append, List.mem_singleton, List.mem_cons]
      tauto

theorem mem_setOfList {α : Type} [DecidableEq α] (x : α) (xs : List α) : x ∈ setOfList xs ↔ x ∈ xs := by
  simp [setOfList, mem_foldl_setAdd]

theorem mem_setDiff {α : Type} [DecidableEq α] (x : α) (a b : List α) : x ∈ setDiff a b ↔ x ∈ a ∧ x ∉ b := by
  simp [setDiff]

/-- which `__init__.py` files are added: those of the directories above an output file that do not exist under
    the plugin's working directory and are not output files themselves -/
theorem mem_initFiles (ex : PyPath → Bool) (paths : List PyPath) (p : PyPath) :
    p ∈ initFiles ex paths ↔
      (∃ path ∈ paths, ∃ d ∈ pathParents path, p = pathJoin d "__init__.py".toList ∧ ex p = false) ∧ p ∉ paths := by
  unfold initFiles
  rw [mem_setDiff, mem_setOfList]
  simp only [List.mem_flatMap, List.mem_map, List.mem_filter, Bool.not_eq_true']
  constructor
  · rintro ⟨⟨path, hp, d, ⟨hd, he⟩, rfl⟩, hn⟩
    exact ⟨⟨path, hp, d, hd, rfl, he⟩, hn⟩
  · rintro ⟨⟨path, hp, d, hd, rfl, he⟩, hn⟩
    exact ⟨⟨path, hp, d, ⟨hd, he⟩, rfl⟩, hn⟩

end Bp.SrcTieParser
