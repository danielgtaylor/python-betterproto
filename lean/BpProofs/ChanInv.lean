import BpProofs.Chan
/-
  The invariant of the AsyncChannel model: structural facts about queue, logs and task table (`SInv`),
  and linear arithmetic between a handful of counts read off the state (`NumInv (abs s)`).
-/
namespace Bp.Chan

/-- per-sender send order on the put log -/
def SendOrd : Item → Item → Prop
  | .data a b, .data c d => a = c → b < d
  | _, _ => True

/-- the numbers the arithmetic invariants talk about -/
structure Abs where
  ql : Nat      -- qsize
  tw : Nat      -- number of data items in front of the first sentinel
  dq : Nat      -- number of data items in the queue
  pl : Nat      -- data items put so far
  rl : Nat      -- data items received so far
  unf : Nat
  waiting : Nat
  maxsize : Nat
  cancels : Nat
  pcN : Nat     -- data items put before the first close()
  closed : Nat
  flushed : Nat
  pG : Nat
  wG : Nat
  pP : Nat
  wP : Nat
  inGet : Nat
  owed : Nat
  fresh : Nat
  rDone : Nat
  canc : Nat

def abs (s : Sys) : Abs :=
  { ql := s.queue.length, tw := (s.queue.takeWhile Item.isData).length, dq := (s.queue.filter Item.isData).length,
    pl := s.putLog.length, rl := s.recvLog.length, unf := s.unfinished, waiting := s.waiting,
    maxsize := s.maxsize, cancels := s.cancels, pcN := s.preClose.getD 0,
    closed := ind s.closed, flushed := ind s.flushed,
    pG := tsum (mPend true) s.tasks, wG := tsum (mWok true) s.tasks,
    pP := tsum (mPend false) s.tasks, wP := tsum (mWok false) s.tasks,
    inGet := tsum mInGet s.tasks, owed := tsum mOwed s.tasks, fresh := tsum mFresh s.tasks,
    rDone := tsum mRecvDone s.tasks, canc := tsum mCanc s.tasks }

structure NumInv (a : Abs) : Prop where
  /-- `_unfinished_tasks` = qsize: `task_done()` never raises -/
  unfin : a.unf = a.ql
  /-- `_waiting_receivers` = number of receivers inside `get()` -/
  waitingEq : a.waiting = a.inGet
  /-- earmark: while a getter is pending, every queued item is earmarked for a woken getter -/
  earG : 0 < a.pG → a.ql ≤ a.wG
  /-- the same for putters: while a putter is pending, every free slot is earmarked -/
  earP : 0 < a.pP → 0 < a.maxsize ∧ a.maxsize ≤ a.ql + a.wP
  /-- closed but not yet flushed: a `_flush_queue` task is waiting to start -/
  fresh : a.closed = 1 → a.flushed = 0 → 0 < a.fresh
  /-- `_flushed` is set only by `_flush_queue`, which `close()` starts -/
  flClosed : a.flushed = 1 → a.closed = 1
  /-- before the flush there is no sentinel, queued or owed -/
  noSent : a.flushed = 0 → a.owed = 0 ∧ a.tw = a.ql
  /-- flush arithmetic: after the flush every receiver inside `get()` is covered by a queued
      item or a sentinel still to be put -/
  cover : a.flushed = 1 → a.waiting ≤ a.ql + a.owed
  /-- the put count recorded at the first `close()` is a count of puts that happened -/
  preLe : a.closed = 1 → a.pcN ≤ a.pl
  /-- the items put before close that are still queued sit in front of every sentinel -/
  d1 : a.closed = 1 → a.pcN - a.rl ≤ a.tw
  /-- without cancellation: once a receiver has finished, every pre-close item still queued is
      matched by a receiver inside `get()` -/
  d2 : a.cancels = 0 → 0 < a.rDone → a.closed = 1 → a.pcN - a.rl ≤ a.waiting
  /-- without cancellation a receiver finishes only after `close()` -/
  d3 : a.cancels = 0 → a.closed = 0 → a.rDone = 0
  /-- a task has a cancellation in flight only if some `cancel()` / timer hit -/
  noCanc : a.cancels = 0 → a.canc = 0
  /-- `closed`, `flushed` are the flags `_closed`, `_flushed` as 0 / 1 -/
  b1 : a.closed ≤ 1
  b2 : a.flushed ≤ 1

structure SInv (s : Sys) : Prop where
  /-- global FIFO: what was put = what was received, then what is still queued -/
  fifo : s.putLog = s.recvLog.map Prod.snd ++ s.queue.filter Item.isData
  /-- ids in the put log are below the sender's next sequence number -/
  uniq : ∀ a b, Item.data a b ∈ s.putLog → b < nextAt s.tasks a
  ord : s.putLog.Pairwise SendOrd
  g1 : G1 s
  preCl : s.closed = true ↔ s.preClose.isSome = true
  /-- only receivers are ever inside `get()` -/
  getRecv : ∀ (t : Nat) (x : Task), s.tasks[t]? = some x → x.wait.inGet = true → x.code.isReceiver = true
  /-- `_flush_queue` tasks are never cancelled and exist only after `close()` -/
  fl : ∀ (t : Nat) (x : Task), s.tasks[t]? = some x → x.code.isFlusher = true → mCanc x = 0 ∧ s.closed = true

structure Inv (s : Sys) : Prop where
  st : SInv s
  nm : NumInv (abs s)

theorem abs_facts (s : Sys) : (abs s).tw ≤ (abs s).ql ∧ (abs s).dq ≤ (abs s).ql := by
  refine ⟨?_, List.length_filter_le _ _⟩
  simp only [abs]
  exact (List.takeWhile_sublist _).length_le

theorem fifo_len {s : Sys} (h : SInv s) : (abs s).pl = (abs s).rl + (abs s).dq := by
  have := congrArg List.length h.fifo
  simpa [abs] using this

/-! How the arithmetic invariants survive a change of the numbers.  Each lemma names the numbers an
action moves, as an update of `a`; the fields of `NumInv` that mention none of them are carried over
unchanged by `{ h with .. }`. -/
namespace NumInv
section
-- every lemma of this section takes `h : NumInv a` first (`h.getters …`)
variable {a : Abs} (h : NumInv a)
include h

theorem getters (hq : a.ql = 0) (p w : Nat) : NumInv { a with pG := p, wG := w } :=
  { h with earG := fun _ => hq ▸ Nat.zero_le w }

theorem putters (hm : 0 < a.maxsize) (hq : a.maxsize ≤ a.ql) (p w : Nat) : NumInv { a with pP := p, wP := w } :=
  { h with earP := fun _ => ⟨hm, Nat.le_trans hq (Nat.le_add_right _ _)⟩ }

theorem lessPending {p q : Nat} (hp : p ≤ a.pG) (hq : q ≤ a.pP) : NumInv { a with pG := p, pP := q } :=
  { h with earG := fun h0 => h.earG (Nat.lt_of_lt_of_le h0 hp), earP := fun h0 => h.earP (Nat.lt_of_lt_of_le h0 hq) }

theorem cancelled {n : Nat} (hn : n ≠ 0) (c r : Nat) : NumInv { a with cancels := n, canc := c, rDone := r } :=
  { h with d2 := fun h0 => absurd h0 hn, d3 := fun h0 => absurd h0 hn, noCanc := fun h0 => absurd h0 hn }

theorem leaveGet (hn : a.cancels ≠ 0) : NumInv { a with waiting := a.waiting - 1, inGet := a.inGet - 1 } :=
  { h with
    waitingEq := congrArg (· - 1) h.waitingEq
    cover := fun hf => Nat.le_trans (Nat.sub_le _ _) (h.cover hf)
    d2 := fun h0 => absurd h0 hn }

theorem enterGet (hq : a.ql = 0) (hnd : a.closed = 1 → a.waiting < a.ql) (w : Nat) :
    NumInv { a with pG := a.pG + 1, wG := w, inGet := a.inGet + 1, waiting := a.waiting + 1 } :=
  have hc : a.closed ≠ 1 := fun e => by have := hnd e; omega
  { h.getters hq (a.pG + 1) w with
    waitingEq := congrArg (· + 1) h.waitingEq
    cover := fun hf => absurd (h.flClosed hf) hc
    d2 := fun _ _ e => absurd e hc }

/-- a task finishes: an unstarted flusher may do so only after the flush, a receiver (absent
    cancellation) only when `done()` holds -/
theorem finish (htw : a.tw ≤ a.ql) {f r : Nat} (hf : f = a.fresh ∨ a.flushed = 1)
    (hr : r = a.rDone ∨ (a.cancels = 0 → a.closed = 1 ∧ a.ql ≤ a.waiting)) :
    NumInv { a with fresh := f, rDone := r } :=
  { h with
    fresh := by have := h.fresh; dsimp only; omega
    d2 := by have := h.d2; have := h.d1; dsimp only; omega
    d3 := by have := h.d3; dsimp only; omega }

/-- `close()`; `n` is the new `preClose` count: the put count at the first close, kept afterwards -/
theorem close (hdq : a.pl ≤ a.rl + a.ql) {n : Nat} (h0 : a.closed = 0 → n = a.pl)
    (h1 : a.closed = 1 → n = a.pcN) : NumInv { a with closed := 1, fresh := a.fresh + 1, pcN := n } :=
  have hb := h.b1
  { h with
    fresh := fun _ _ => Nat.succ_pos _
    flClosed := fun _ => rfl
    preLe := by have := h.preLe; dsimp only; omega
    d1 := by have := h.d1; have := h.noSent; have := h.flClosed; have := h.b2; dsimp only; omega
    d2 := by have := h.d2; have := h.d3; dsimp only; omega
    d3 := fun _ e => by cases e
    b1 := Nat.le_refl 1 }

theorem flush (hc : a.closed = 1) (f : Nat) :
    NumInv { a with flushed := 1, fresh := f, owed := a.owed + (a.waiting - a.ql) } :=
  { h with
    fresh := fun _ e => by cases e
    flClosed := fun _ => hc
    noSent := fun e => by cases e
    cover := fun _ => by dsimp only; omega
    b2 := Nat.le_refl 1 }

/-- a woken getter (`passOnP`: putter) leaves without taking an item (making its put) and passes its wake-up on -/
theorem passOnG (hw : 0 < a.wG) : NumInv { a with pG := a.pG - 1, wG := a.wG - 1 + min 1 a.pG } :=
  { h with earG := by have := h.earG; dsimp only; omega }

theorem passOnP (hw : 0 < a.wP) : NumInv { a with pP := a.pP - 1, wP := a.wP - 1 + min 1 a.pP } :=
  { h with earP := by have := h.earP; dsimp only; omega }

/-- `put_nowait`, then a getter is woken.  `hw`: the task was ready or a woken putter; `hs`: a data
    item keeps the queue free of sentinels, and a sentinel is put only after the flush -/
theorem put {tw' pl' o' w' : Nat} (d' : Nat) (hw : a.wP ≤ w' + 1) (htw : a.tw ≤ tw') (hpl : a.pl ≤ pl')
    (hs : a.flushed = 0 → o' = 0 ∧ tw' = a.ql + 1) (ho : a.owed ≤ o' + 1) :
    NumInv { a with ql := a.ql + 1, unf := a.unf + 1, tw := tw', dq := d', pl := pl', owed := o', wP := w',
                    pG := a.pG - 1, wG := a.wG + min 1 a.pG } :=
  { h with
    unfin := congrArg (· + 1) h.unfin
    earG := by have := h.earG; dsimp only; omega
    earP := by have := h.earP; dsimp only; omega
    noSent := hs
    cover := by have := h.cover; dsimp only; omega
    preLe := fun e => Nat.le_trans (h.preLe e) hpl
    d1 := fun e => Nat.le_trans (h.d1 e) htw }

/-- a receiver that was ready (`c = 0`) or a woken getter (`c = 1`) takes the head of the queue, a
    data item (`k = 1`) or a sentinel (`k = 0`, after which it finishes), then a putter is woken -/
theorem take {q tw' : Nat} (hq : a.ql = q + 1) (htw' : tw' ≤ q) (d' : Nat) {c k : Nat} (hc : c ≤ 1) (hk : k ≤ 1)
    (hd : k = 1 → a.tw = tw' + 1) (hf : k = 0 → a.tw = 0)
    (hnd : c = 0 → a.closed = 1 → a.waiting < a.ql) :
    NumInv { a with ql := q, unf := a.unf - 1, tw := tw', dq := d', rl := a.rl + k, rDone := a.rDone + (1 - k),
                    waiting := a.waiting - c, inGet := a.inGet - c, wG := a.wG - c,
                    pP := a.pP - 1, wP := a.wP + min 1 a.pP } :=
  { h with
    unfin := by have := h.unfin; dsimp only; omega
    waitingEq := congrArg (· - c) h.waitingEq
    earG := by have := h.earG; dsimp only; omega
    earP := by have := h.earP; dsimp only; omega
    noSent := by have := h.noSent; dsimp only; omega
    cover := by have := h.cover; have := h.flClosed; dsimp only; omega
    d1 := by have := h.d1; dsimp only; omega
    d2 := by have := h.d2; have := h.d1; dsimp only; omega
    d3 := by have := h.d3; have := h.noSent; have := h.flClosed; have := h.b2; dsimp only; omega }

end
end NumInv

theorem takeWhile_append_len (p : Item → Bool) (q : List Item) (it : Item) :
    (q.takeWhile p).length ≤ ((q ++ [it]).takeWhile p).length ∧
    ((q.takeWhile p).length = q.length → p it = true → ((q ++ [it]).takeWhile p).length = q.length + 1) ∧
    (p it = false → ((q ++ [it]).takeWhile p).length = (q.takeWhile p).length) := by
  induction q with
  | nil => cases h : p it <;> simp [List.takeWhile, h]
  | cons y ys ih =>
    cases hy : p y
    · simp [List.takeWhile, hy]
    · simp [List.takeWhile, hy]
      exact ih

end Bp.Chan
