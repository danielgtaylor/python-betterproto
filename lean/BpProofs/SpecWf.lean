import BpModel.All
import BpProofs.SpecState
/-
  C02: a decode step keeps the number of slots and of oneof groups (and so does every operation of
  `stepOp`: `stepOp_full`, for C07); a singular scalar field
  decodes to a scalar Python value (never a list), which is what the decoder's
  `isinstance(current, list)` dispatch relies on.
-/
namespace Bp
open Gen

section Lengths
variable (S : Schema) (rec : Loader) (d : MsgD)

theorem applyField_lengths (st st' : MState) (pf : PField)
    (h : applyField S rec d st pf = .ok st') :
    st'.slots.length = st.slots.length ∧ st'.cur.length = st.cur.length := by
  rcases applyField_commit_ok S rec d st st' pf h with ⟨_, rfl⟩ | ⟨idx, f, _, u, _, _, _, rfl⟩
  · exact ⟨rfl, rfl⟩
  · exact commit_lengths S d st idx f u

theorem foldFields_lengths (pfs : List PField) (st st' : MState)
    (h : foldFields S rec d st pfs = .ok st') :
    st'.slots.length = st.slots.length ∧ st'.cur.length = st.cur.length :=
  foldFields_induct S rec d (fun s => s.slots.length = st.slots.length ∧ s.cur.length = st.cur.length) pfs
    (fun a a' pf _ ha h => by
      have := applyField_lengths S rec d a a' pf h
      exact ⟨this.1.trans ha.1, this.2.trans ha.2⟩)
    st st' ⟨rfl, rfl⟩ h

end Lengths

theorem deepCopySlots_length (S : Schema) (fs : List FieldD) (vs : List Val) (h : vs.length = fs.length) :
    (deepCopySlots S fs vs).length = fs.length := by
  rw [deepCopySlots_eq]; simp [h]

theorem applyKw_slots_length (S : Schema) (fs : List FieldD) (st : MState) (kw : List (Nat × Val)) :
    (applyKw S fs st kw).slots.length = st.slots.length := by
  induction kw generalizing st with
  | nil => rfl
  | cons p kw ih =>
    obtain ⟨i, v⟩ := p
    rw [applyKw, ih, setAttr_slots_length]

theorem loadInto_slots_length (S : Schema) (fuel : Nat) (d : MsgD) (st st' : MState) (bs : Bytes)
    (h : loadInto S fuel d st bs = .ok st') : st'.slots.length = st.slots.length := by
  cases fuel with
  | zero => simp [loadInto] at h
  | succ n =>
    rw [loadInto] at h
    cases hl : loadFields bs with
    | error e => rw [hl] at h; simp at h
    | ok pfs =>
      rw [hl] at h; simp only [bind_ok] at h
      exact (foldFields_lengths S _ d pfs _ st' h).1

theorem stepOp_full (S : Schema) (c : Nat) (sl : List Val) (ow : Bool) (unk : Bytes) (cur : List (Option Nat))
    (op : Op) (m' : Val) (hlen : sl.length = (fieldsOf S c).length)
    (hs : stepOp S (.msg c sl ow unk cur) op = .ok m') :
    ∃ sl' ow' unk' cur', m' = .msg c sl' ow' unk' cur' ∧ sl'.length = (fieldsOf S c).length := by
  obtain ⟨st', rfl, h'⟩ := stepOp_elim S c ⟨sl, ow, unk, cur⟩ op m' hs (fun st' => st'.slots.length = (fieldsOf S c).length)
    (fun idx v => by rw [setAttr_slots_length]; exact hlen)
    (fun idx v st' hg => by
      obtain ⟨_, _, _, _, rfl⟩ := getAttr_ok _ _ _ _ hg
      simp only [setAt_length]; exact hlen)
    (fun st0 bs st' h0 hl => by
      rw [loadInto_slots_length S _ _ _ st' bs hl]
      rcases h0 with rfl | rfl
      · exact hlen
      · simp [freshState])
    (fun kw => by rw [applyKw_slots_length]; exact hlen) (fun g _ => by simp [hlen])
    (by simp only [materializeAll_length]; exact hlen) hlen
  exact ⟨_, _, _, _, rfl, h'⟩

theorem fits_singular_packed (f : FieldD) (wt : Nat) (hrep : f.repeated = false) (hfit : wireFits f wt = true)
    (hp : isPacked f.ty = true) : (wt == wireLenDelim) = false := by
  obtain ⟨w, r, _⟩ := wire_row f.ty
  rw [wireFits_eq, r.wireOf, hrep, Bool.and_false, Bool.or_false, beq_iff_eq, Option.some.injEq] at hfit
  rw [r.packed, decide_eq_true_eq] at hp
  subst hfit; simpa using hp

/-- a scalar Python value: int / bool / float (bit pattern) / str / bytes -/
def isScalarVal : Val → Bool
  | .int _ | .bool _ | .f32 _ | .f64 _ | .str _ | .byt _ => true
  | _ => false

theorem scalarVal_notList (v : Val) (h : isScalarVal v = true) : isListVal v = false := by
  cases v with
  | list _ => cases h
  | _ => rfl

theorem scalarVal_stored (S : Schema) (v : Val) (h : isScalarVal v = true) : storedVal S v = v := by
  cases v with
  | msg _ _ _ _ _ => cases h
  | _ => rfl

theorem postVarint_scalar (t : PType) (n : Nat) : isScalarVal (postVarint t n) = true := by
  cases t <;> rfl

theorem postFixed_scalar (t : PType) (p : Bytes) (v : Val) (h : postFixed t p = .ok v) : isScalarVal v = true := by
  obtain ⟨_, _, _, _, _, rfl⟩ := postFixed_ok t p v h
  split
  · split
    · rfl
    · rfl
  · split
    · rfl
    · rfl

theorem decodeValue_scalar (S : Schema) (rec : Loader) (f : FieldD) (pf : PField) (v : Val)
    (hrep : f.repeated = false) (hfit : wireFits f pf.wt = true) (hm : f.ty ≠ .map) (hmsg : f.ty ≠ .message)
    (h : decodeValue S rec f pf = .ok v) : isScalarVal v = true := by
  have hnl : (pf.wt == wireLenDelim && isPacked f.ty) = false := by
    cases hp : isPacked f.ty with
    | false => rw [Bool.and_false]
    | true => rw [fits_singular_packed f pf.wt hrep hfit hp]; rfl
  by_cases h0 : pf.wt = wireVarint
  · rw [decodeValue_eq_varint S rec f pf h0] at h; cases h; exact postVarint_scalar _ _
  by_cases h5 : pf.wt = wireFixed32 ∨ pf.wt = wireFixed64
  · rw [decodeValue_eq_fixed S rec f pf h5] at h; exact postFixed_scalar _ _ _ h
  rw [decodeValue_eq_other S rec f pf hnl h0 h5, if_neg (by simpa using hm)] at h
  by_cases hs : f.ty = .string
  · rw [postLen_eq_string S rec f _ hs] at h
    split at h <;> cases h
    rfl
  · rw [postLen_eq_bytes S rec f _ hs hmsg] at h
    cases h; rfl

end Bp
