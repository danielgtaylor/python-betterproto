import BpModel.All
import BpModel.Json
import BpProofs.Json
import BpProofs.JsonEqv
import BpProofs.JsonTyped
/-
  C04, message level: `from_dict(to_dict(m))` for flat AND nested messages.

  `jrt S E cs m` is the message the round trip rebuilds (written fields are decoded and handed
  to the constructor, omitted fields get the dataclass default, `_serialized_on_wire = True`,
  sub-messages / repeated messages / map message values recursively).  Given the per-slot statement
  `SlotRT2` for every slot of a message, `msg_assemble` shows that the loop of `_from_dict_init`
  returns the written fields with their rebuilt values, that the constructor builds `jrt m` from
  them, and that `m ≈ jrt m` (`DEqv`, BpProofs/JsonEqv.lean; same bytes by `deqv_dumpVal`).  The
  induction over nested values that supplies `SlotRT2` is in BpProofs/JsonRtMain.lean.

  SCHEMA guards: `jsonOk S E cs` (BpModel/Json.lean: D15 names, D17 field kinds, enum aliases) and
  `groupsOk S` (every oneof index of a field is a group of its class).  VALUE guards: `wellTyped' S m`
  (BpProofs/JsonGuard.lean: `wellTyped` of BpModel/Json.lean without the clause "an absent plain
  sub-message equals a fresh one") and `selOk S m` (a oneof selection names a member of that very
  group — the part of the oneof invariant `wellTyped` does not contain).
-/
namespace Bp
open Gen

section Assemble
variable (S : Schema) (E : Enums) (cs : KeyCase) (f : FieldD) (hid sel : Bool)
  (fs : List FieldD) (cur : List (Option Nat))

/-- every `group` of a field is a group of its class (`WfGroups`, decidable, whole schema) -/
def groupsOk (S : Schema) : Bool :=
  S.all fun d => d.fields.all fun f => match f.group with
    | some g => decide (g < d.nGroups)
    | Option.none => true

/-- `_group_current[g] = name` names a field of group `g` -/
def curPoints (fs : List FieldD) (cur : List (Option Nat)) : Bool :=
  (List.range cur.length).all fun g => match cur.getD g Option.none with
    | Option.none => true
    | some i => (match fs[i]? with
                 | some f => f.group == some g
                 | Option.none => false)

mutual
/-- at every nesting level the oneof selection names members of the right group -/
def selOk (S : Schema) : Val → Bool
  | .msg c sl _ _ cur => curPoints (fieldsOf S c) cur && selOkList S sl
  | .list xs => selOkList S xs
  | .dict _ vs => selOkList S vs
  | _ => true
def selOkList (S : Schema) : List Val → Bool
  | [] => true
  | x :: xs => selOk S x && selOkList S xs
end

/-- the schema guards of the round-trip theorems -/
def SchemaOk (S : Schema) (E : Enums) (cs : KeyCase) : Prop := jsonOk S E cs = true ∧ groupsOk S = true

instance (S : Schema) (E : Enums) (cs : KeyCase) : Decidable (SchemaOk S E cs) := by unfold SchemaOk; infer_instance


mutual
/-- `jrt` ("JSON round trip"): what `from_dict(to_dict(v))` rebuilds -/
def jrt (S : Schema) (E : Enums) (cs : KeyCase) : Val → Val
  | .msg c sl _ unk cur => .msg c (jrtSlots S E cs (fieldsOf S c) cur 0 sl) true unk cur
  | .list xs => .list (jrtList S E cs xs)
  | .dict ks vs => .dict ks (jrtList S E cs vs)
  | v => v
def jrtList (S : Schema) (E : Enums) (cs : KeyCase) : List Val → List Val
  | [] => []
  | x :: xs => jrt S E cs x :: jrtList S E cs xs
/-- slot by slot: a field `to_dict` leaves out gets the dataclass default (None for a
    proto3-optional field, else PLACEHOLDER), a written field its decoded value -/
def jrtSlots (S : Schema) (E : Enums) (cs : KeyCase) (fs : List FieldD) (cur : List (Option Nat)) :
    Nat → List Val → List Val
  | _, [] => []
  | k, v :: vs =>
    (match fs[k]? with
     | Option.none => v
     | some f =>
       match toDictSlot S E cs false f (hidden f k cur) (selectedInGroup f k cur) v with
       | Option.none => freshVal f
       | some _ => jrt S E cs v) :: jrtSlots S E cs fs cur (k + 1) vs
end

/-- the constructor arguments: the written fields by index, with their decoded values
    (`emitted` of BpProofs/Json.lean with `jrt` applied to the values) -/
def emitted2 (S : Schema) (E : Enums) (cs : KeyCase) (fs : List FieldD) (cur : List (Option Nat)) :
    Nat → List Val → List (Nat × Val)
  | _, [] => []
  | idx, v :: vs =>
    match fs[idx]? with
    | Option.none => []
    | some f =>
      match toDictSlot S E cs false f (hidden f idx cur) (selectedInGroup f idx cur) v with
      | some _ => (idx, jrt S E cs v) :: emitted2 S E cs fs cur (idx + 1) vs
      | Option.none => emitted2 S E cs fs cur (idx + 1) vs

/-- `SlotRT2` ("slot round trip", nested; the flat one is `FieldRT`): the per-slot statement of the induction: (1) a written field is not null, decodes to
    `jrt v`, which is related to `v`, kept (`keptSlot`: present, or a sub-message that differs
    from its default), not a sentinel, and the field is readable;
    (2) an omitted field is not the selected member, and holds the dataclass default or an
    absent default-valued value -/
def SlotRT2 (S : Schema) (E : Enums) (cs : KeyCase) (f : FieldD) (hid sel : Bool) (v : Val) : Prop :=
  (∀ j, toDictSlot S E cs false f hid sel v = some j →
      j ≠ .null ∧ decodeField S E f j = .ok (jrt S E cs v) ∧ DEqv S v (jrt S E cs v) ∧
      keptSlot S f sel v = true ∧ isSentinel f (jrt S E cs v) = false ∧ hid = false)
  ∧ (toDictSlot S E cs false f hid sel v = Option.none →
      sel = false ∧
      (v = freshVal f ∨ (f.optional = false ∧ eqDefault S f.defKind v = true ∧ onWireOf v = false)))

theorem emitted2_eq
    (idx : Nat) (sl : List Val) :
    emitted2 S E cs fs cur idx sl = (emitted S E cs fs cur idx sl).map fun p => (p.1, jrt S E cs p.2) := by
  induction sl generalizing idx with
  | nil => rw [emitted2, emitted]; rfl
  | cons v vs ih =>
    rw [emitted2, emitted]
    cases fs[idx]? with
    | none => rfl
    | some f =>
      simp only
      cases toDictSlot S E cs false f (hidden f idx cur) (selectedInGroup f idx cur) v <;> simp [ih]


theorem lookup_emitted2_lt
    (sl : List Val) (idx i : Nat) (h : i < idx) : lookupKw (emitted2 S E cs fs cur idx sl) i = Option.none := by
  induction sl generalizing idx with
  | nil => rw [emitted2]; rfl
  | cons v vs ih =>
    rw [emitted2]
    split
    · rfl
    · split
      · rw [lookupKw]
        have : (idx == i) = false := by simp; omega
        simp only [this, Bool.false_eq_true, if_false]
        exact ih (idx + 1) (by omega)
      · exact ih (idx + 1) (by omega)

theorem initSlots_congr (kw kw' : List (Nat × Val)) (rest : List FieldD) (j : Nat)
    (h : ∀ i, j ≤ i → lookupKw kw i = lookupKw kw' i) : initSlots fs kw j rest = initSlots fs kw' j rest := by
  induction rest generalizing j with
  | nil => rfl
  | cons f rest ih =>
    rw [initSlots, initSlots, h j (Nat.le_refl _), ih (j + 1) (fun i hi => h i (by omega))]

/-- the dataclass `__init__` on the written fields gives exactly `jrtSlots` -/
theorem initSlots_emitted2
    (sl : List Val) (idx : Nat) (rest : List FieldD) (hrest : rest = fs.drop idx) (hl : sl.length = rest.length) :
    initSlots fs (emitted2 S E cs fs cur idx sl) idx rest = jrtSlots S E cs fs cur idx sl := by
  induction sl generalizing idx rest with
  | nil =>
    cases rest with
    | nil => rw [jrtSlots]; rfl
    | cons _ _ => simp at hl
  | cons v vs ih =>
    cases rest with
    | nil => simp at hl
    | cons f rest =>
      have hf : fs[idx]? = some f := by
        have : (fs.drop idx)[0]? = some f := by rw [← hrest]; rfl
        simpa using this
      have hrest' : rest = fs.drop (idx + 1) := by
        have : (fs.drop idx).tail = rest := by rw [← hrest]; rfl
        rw [← this]; simp [List.tail_drop]
      have ih' := ih (idx + 1) rest hrest' (by simpa using hl)
      rw [initSlots, jrtSlots, emitted2]
      simp only [hf]
      cases hs : toDictSlot S E cs false f (hidden f idx cur) (selectedInGroup f idx cur) v with
      | none =>
        simp only []
        rw [lookup_emitted2_lt S E cs fs cur vs (idx + 1) idx (by omega), ih']
        rfl
      | some j =>
        simp only []
        have : lookupKw ((idx, jrt S E cs v) :: emitted2 S E cs fs cur (idx + 1) vs) idx = some (jrt S E cs v) := by
          rw [lookupKw]; simp
        rw [this]
        simp only []
        congr 1
        rw [← ih']
        apply initSlots_congr
        intro i hi
        rw [lookupKw]
        have : (idx == i) = false := by simp; omega
        simp only [this, Bool.false_eq_true, if_false]

theorem jrtSlots_length
    (sl : List Val) (idx : Nat) : (jrtSlots S E cs fs cur idx sl).length = sl.length := by
  induction sl generalizing idx with
  | nil => rw [jrtSlots]
  | cons v vs ih => rw [jrtSlots]; simp [ih]

/-- the slot the rebuilt message holds for a field `f` whose slot held `v` (`jrtSlots_get`) -/
def jrtSlot (S : Schema) (E : Enums) (cs : KeyCase) (f : FieldD) (hid sel : Bool) (v : Val) : Val :=
  match toDictSlot S E cs false f hid sel v with
  | Option.none => freshVal f
  | some _ => jrt S E cs v

theorem jrtSlots_get
    (sl : List Val) (idx k : Nat) (v : Val) (f : FieldD) (hv : sl[k]? = some v) (hf : fs[idx + k]? = some f) :
    (jrtSlots S E cs fs cur idx sl)[k]? =
      some (jrtSlot S E cs f (hidden f (idx + k) cur) (selectedInGroup f (idx + k) cur) v) := by
  induction sl generalizing idx k with
  | nil => simp at hv
  | cons a as ih =>
    rw [jrtSlots]
    cases k with
    | zero =>
      simp at hv; subst hv
      simp only [Nat.add_zero] at hf ⊢
      simp only [hf, List.getElem?_cons_zero, jrtSlot]
    | succ k =>
      have := ih (idx + 1) k (by simpa using hv) (by rw [← hf]; congr 1; omega)
      have e : idx + (k + 1) = idx + 1 + k := by omega
      rw [e]; simpa using this


theorem curPoints_spec (h : curPoints fs cur = true) (g i : Nat)
    (hc : cur.getD g Option.none = some i) : ∃ f, fs[i]? = some f ∧ f.group = some g := by
  unfold curPoints at h
  rw [List.all_eq_true] at h
  have hg : g < cur.length := by
    by_contra hn
    rw [List.getD_eq_getElem?_getD, List.getElem?_eq_none (by omega)] at hc
    simp at hc
  have := h g (by simp [hg])
  rw [hc] at this
  simp only at this
  cases hf : fs[i]? with
  | none => rw [hf] at this; simp at this
  | some f =>
    rw [hf] at this
    exact ⟨f, rfl, by simpa using this⟩

theorem hidden_of_unselected (i g : Nat) (cur : List (Option Nat)) (hg : f.group = some g)
    (h : cur.getD g Option.none ≠ some i) : hidden f i cur = true :=
  hidden_of_cur_ne f i g cur hg h

theorem initCur_jrtSlots (n : Nat) (sl : List Val)
    (cur : List (Option Nat)) (hw : WfGroups fs n)
    (hopt : ∀ f ∈ fs, f.group.isSome = true → f.optional = false)
    (hlen : cur.length = n) (hsl : sl.length = fs.length) (hcp : curPoints fs cur = true)
    (hrt : ∀ k v f, sl[k]? = some v → fs[k]? = some f →
      SlotRT2 S E cs f (hidden f k cur) (selectedInGroup f k cur) v) :
    initCur fs (jrtSlots S E cs fs cur 0 sl) 0 (List.replicate n Option.none) = cur := by
  have hget : ∀ i f, fs[i]? = some f → ∃ v, sl[i]? = some v ∧
      (jrtSlots S E cs fs cur 0 sl).getD i .ph = jrtSlot S E cs f (hidden f i cur) (selectedInGroup f i cur) v := by
    intro i f hf
    have hi : i < sl.length := by
      rw [hsl]
      by_contra hc
      rw [List.getElem?_eq_none (by omega)] at hf; simp at hf
    refine ⟨sl[i], List.getElem?_eq_getElem hi, ?_⟩
    have := jrtSlots_get S E cs fs cur sl 0 i sl[i] f (List.getElem?_eq_getElem hi) (by simpa using hf)
    rw [List.getD_eq_getElem?_getD, this]
    simp
  apply initCur_eq_cur fs n _ cur hw hopt hlen (curPoints_spec fs cur hcp)
  · intro i f g hf hg hc
    obtain ⟨v, hv, he⟩ := hget i f hf
    rw [he]
    have hh := hidden_of_cur_ne f i g cur hg hc
    have hr := hrt i v f hv hf
    unfold jrtSlot
    cases hs : toDictSlot S E cs false f (hidden f i cur) (selectedInGroup f i cur) v with
    | none =>
      simp only [freshVal, hopt f (List.mem_of_getElem? hf) (by simp [hg])]
      rfl
    | some j =>
      have := (hr.1 j hs).2.2.2.2.2
      rw [hh] at this; simp at this
  · intro g i hc
    obtain ⟨f, hf, hg⟩ := curPoints_spec fs cur hcp g i hc
    obtain ⟨v, hv, he⟩ := hget i f hf
    rw [he]
    have hsel := selectedInGroup_of_cur f i g cur hg hc
    have hr := hrt i v f hv hf
    unfold jrtSlot
    cases hs : toDictSlot S E cs false f (hidden f i cur) (selectedInGroup f i cur) v with
    | none =>
      have := (hr.2 hs).1
      rw [hsel] at this; simp at this
    | some j =>
      simp only
      have := (hr.1 j hs).2.2.2.2.1
      intro e; rw [e] at this; simp [isSentinel] at this


theorem dAtom_freshVal : dAtom (freshVal f) = true := by
  unfold freshVal; split <;> rfl

theorem keptSlot_freshVal : keptSlot S f sel (freshVal f) = true := by
  unfold freshVal; split <;> rfl

theorem slotsDEqv_jrt
    (sl : List Val) (idx : Nat) (hfs : idx + sl.length ≤ fs.length)
    (hrt : ∀ k v f, sl[k]? = some v → fs[idx + k]? = some f →
      SlotRT2 S E cs f (hidden f (idx + k) cur) (selectedInGroup f (idx + k) cur) v) :
    SlotsDEqv S fs cur idx sl (jrtSlots S E cs fs cur idx sl) := by
  induction sl generalizing idx with
  | nil => rw [jrtSlots]; exact SlotsDEqv.nil fs cur idx
  | cons v vs ih =>
    have hk : idx < fs.length := by simp at hfs; omega
    have hf : fs[idx]? = some fs[idx] := List.getElem?_eq_getElem hk
    have ih' := ih (idx + 1) (by simp at hfs; omega) (by
      intro k v' f' hv hf'
      have := hrt (k + 1) v' f' (by simpa using hv) (by rw [← hf']; congr 1; omega)
      have e : idx + (k + 1) = idx + 1 + k := by omega
      rw [e] at this; exact this)
    have h0 := hrt 0 v fs[idx] (by simp) (by simp)
    simp only [Nat.add_zero] at h0
    rw [jrtSlots]
    simp only [hf]
    cases hs : toDictSlot S E cs false fs[idx] (hidden fs[idx] idx cur) (selectedInGroup fs[idx] idx cur) v with
    | some j =>
      obtain ⟨_, _, hd, hp, _, _⟩ := h0.1 j hs
      exact SlotsDEqv.same fs cur idx fs[idx] v _ vs _ hf hd hp ih'
    | none =>
      obtain ⟨hsel, hc⟩ := h0.2 hs
      simp only
      rcases hc with hc | ⟨ho, hd, hw⟩
      · rw [← hc]
        refine SlotsDEqv.same fs cur idx fs[idx] v v vs _ hf (DEqv.atom v (by rw [hc]; exact dAtom_freshVal _)) ?_ ih'
        rw [hc]; exact keptSlot_freshVal _ _ _
      · have : freshVal fs[idx] = Val.ph := by simp [freshVal, ho]
        rw [this]
        exact SlotsDEqv.unset fs cur idx fs[idx] v vs _ hf ho hsel hd hw ih'


theorem fieldsOf_mem (c : Nat) (f : FieldD) (hf : f ∈ fieldsOf S c) :
    ∃ d, d ∈ S ∧ S[c]? = some d ∧ f ∈ d.fields := by
  unfold fieldsOf at hf
  cases hd : S[c]? with
  | none => rw [hd] at hf; simp at hf
  | some d => rw [hd] at hf; exact ⟨d, List.mem_of_getElem? hd, rfl, hf⟩

theorem fieldJsonOk_of_jsonOk (h : jsonOk S E cs = true) (c : Nat) (f : FieldD)
    (hf : f ∈ fieldsOf S c) : fieldJsonOk f = true := by
  obtain ⟨d, hd, _, hfd⟩ := fieldsOf_mem S c f hf
  unfold jsonOk at h
  simp only [Bool.and_eq_true, List.all_eq_true] at h
  exact (h.1 d hd).1 f hfd

theorem schema_field (hS : SchemaOk S E cs) (c : Nat) (f : FieldD)
    (hf : f ∈ fieldsOf S c) : fieldJsonOk f = true :=
  fieldJsonOk_of_jsonOk S E cs hS.1 c f hf

theorem namesOk_of_jsonOk (h : jsonOk S E cs = true) (c : Nat) :
    namesOk cs (fieldsOf S c) = true := by
  unfold fieldsOf
  cases hd : S[c]? with
  | none => rfl
  | some d =>
    unfold jsonOk at h
    simp only [Bool.and_eq_true, List.all_eq_true] at h
    exact (h.1 d (List.mem_of_getElem? hd)).2

theorem schema_names (hS : SchemaOk S E cs) (c : Nat) :
    namesOk cs (fieldsOf S c) = true :=
  namesOk_of_jsonOk S E cs hS.1 c

theorem schema_groups (hS : SchemaOk S E cs) (c : Nat) :
    WfGroups (fieldsOf S c) (groupsOf S c) := by
  intro f hf g hg
  obtain ⟨d, hd, hc, hfd⟩ := fieldsOf_mem S c f hf
  have := hS.2
  unfold groupsOk at this
  simp only [List.all_eq_true] at this
  have := this d hd f hfd
  rw [hg] at this
  simp only [decide_eq_true_eq] at this
  simpa [groupsOf, hc] using this

/-- what holds of every enum of the schema and of the empty enum holds of the enum of a field (`enumOf` falls back to `[]`) -/
theorem enumOf_all (P : EnumDef → Bool) (h0 : P [] = true) (h : E.all P = true) (f : FieldD) : P (enumOf E f) = true := by
  unfold enumOf
  rw [List.getD_eq_getElem?_getD]
  cases he : E[f.enumRef.getD 0]? with
  | none => exact h0
  | some e => exact List.all_eq_true.mp h e (List.mem_of_getElem? he)

theorem schema_enum (hS : SchemaOk S E cs) (f : FieldD) :
    enumOk (enumOf E f) = true :=
  enumOf_all E enumOk rfl (Bool.and_eq_true_iff.mp hS.1).2 f

theorem fieldJsonOk_group_nonopt (h : fieldJsonOk f = true) (hg : f.group.isSome = true) :
    f.optional = false :=
  (fj_of f h).grp_opt hg


/-- a rebuilt value is already marked present: the marking `__setattr__` applies to field-less
    constructor arguments changes nothing -/
theorem markEmpty_jrt (v : Val) :
    markEmpty S (jrt S E cs v) = jrt S E cs v := by
  cases v <;> rw [jrt] <;> simp [markEmpty]

theorem emitted2_marked :
    ∀ (sl : List Val) (idx : Nat),
      (emitted2 S E cs fs cur idx sl).map (fun (p : Nat × Val) => (p.1, markEmpty S p.2)) = emitted2 S E cs fs cur idx sl := by
  intro sl
  induction sl with
  | nil => intro idx; simp [emitted2]
  | cons v vs ih =>
    intro idx
    rw [emitted2]
    cases hf : fs[idx]? with
    | none => simp
    | some f =>
      simp only
      cases toDictSlot S E cs false f (hidden f idx cur) (selectedInGroup f idx cur) v with
      | none => simpa using ih (idx + 1)
      | some j => simp [markEmpty_jrt, ih (idx + 1)]

theorem msg_assemble (hS : SchemaOk S E cs) (c : Nat) (sl : List Val)
    (cur : List (Option Nat)) (hlen : sl.length = (fieldsOf S c).length) (hcl : cur.length = groupsOf S c)
    (hcp : curPoints (fieldsOf S c) cur = true)
    (hrt : ∀ k v f, sl[k]? = some v → (fieldsOf S c)[k]? = some f →
      SlotRT2 S E cs f (hidden f k cur) (selectedInGroup f k cur) v) :
    fromDictKV S E c ((toDictKVs S E cs false (fieldsOf S c) cur 0 sl).map (·.1))
        ((toDictKVs S E cs false (fieldsOf S c) cur 0 sl).map (·.2))
      = .ok (emitted2 S E cs (fieldsOf S c) cur 0 sl)
    ∧ fromDictCls S c (emitted2 S E cs (fieldsOf S c) cur 0 sl)
      = .msg c (jrtSlots S E cs (fieldsOf S c) cur 0 sl) true [] cur
    ∧ SlotsDEqv S (fieldsOf S c) cur 0 sl (jrtSlots S E cs (fieldsOf S c) cur 0 sl) := by
  have hrt0 : ∀ k v f, sl[k]? = some v → (fieldsOf S c)[0 + k]? = some f →
      SlotRT2 S E cs f (hidden f (0 + k) cur) (selectedInGroup f (0 + k) cur) v := by
    intro k v f hv hf
    simp only [Nat.zero_add] at hf ⊢
    exact hrt k v f hv hf
  refine ⟨by
      rw [emitted2_eq]
      exact kv_roundtrip S E cs c cur (schema_names S E cs hS c) (jrt S E cs) sl 0 fun k v f hv hf j hj =>
        have h := (hrt0 k v f hv hf).1 j hj
        ⟨h.1, h.2.1⟩, ?_,
    slotsDEqv_jrt S E cs _ cur sl 0 (by omega) hrt0⟩
  unfold fromDictCls construct
  simp only
  rw [emitted2_marked S E cs (fieldsOf S c) cur sl 0]
  rw [initSlots_emitted2 S E cs (fieldsOf S c) cur sl 0 (fieldsOf S c) (by simp) hlen,
    initCur_jrtSlots S E cs (fieldsOf S c) (groupsOf S c) sl cur (schema_groups S E cs hS c)
      (fun f hf hg => fieldJsonOk_group_nonopt f (schema_field S E cs hS c f hf) hg) hcl hlen hcp hrt]

end Assemble

end Bp
