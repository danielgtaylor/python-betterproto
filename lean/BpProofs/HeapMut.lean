import BpProofs.HeapBasic
/-
  Mutations of the heap model: what a mutation can change (only cells reachable from its target,
  never a bytes object), which references it can create (only ones it was handed, or new
  objects), and the SEPARATION invariant that makes two object graphs independent.
-/
namespace Bp.Hp

theorem ref_mem_refs {b : Nat} {v : HVal} (h : HVal.ref b = v) : b ∈ v.refs := by
  subst h; simp [HVal.refs]

theorem mem_itemRefs_set {b i : Nat} {sl : List HVal} {v : HVal} (hb : b ∈ itemRefs (sl.set i v)) :
    b ∈ itemRefs sl ∨ b ∈ v.refs := by
  rw [mem_itemRefs] at hb ⊢
  exact (List.mem_or_eq_of_mem_set hb).imp_right ref_mem_refs

theorem mem_itemRefs_clearSlots {b : Nat} {sibs : List Nat} {sl : List HVal}
    (hb : b ∈ itemRefs (clearSlots sibs sl)) : b ∈ itemRefs sl := by
  induction sibs generalizing sl with
  | nil => exact hb
  | cons s r ih => exact (mem_itemRefs_set (ih hb)).resolve_right nofun

theorem mem_itemRefs_dictPut {b : Nat} {ks : List Nat} {vs : List HVal} {k : Nat} {v : HVal} :
    b ∈ itemRefs (dictPut ks vs k v).2 → b ∈ itemRefs vs ∨ b ∈ v.refs := by
  fun_induction dictPut ks vs k v with
  | case1 => exact fun hb => (List.mem_append.mp hb).symm.imp_left (List.mem_append_right _)
  | case2 _ _ _ _ _ _ _ _ ih =>
    intro hb
    rcases List.mem_append.mp hb with hb | hb
    · exact Or.inl (List.mem_append_left _ hb)
    · exact (ih hb).imp_left (List.mem_append_right _)
  | case3 => exact fun hb => Or.inr (ref_mem_refs (List.mem_singleton.mp (mem_itemRefs.mp hb)))

theorem msg_refs_of_slots {sl sl' : List HVal} {P : Nat → Prop} {ow ow' : Bool} {u g : Nat}
    (hsub : ∀ b ∈ itemRefs sl', b ∈ itemRefs sl ∨ P b) {b : Nat} (hb : b ∈ (Cell.msg sl' ow u g).refs) :
    b ∈ (Cell.msg sl ow' u g).refs ∨ P b := by
  rcases List.mem_cons.mp hb with rfl | hb
  · exact Or.inl List.mem_cons_self
  rcases List.mem_cons.mp hb with rfl | hb
  · exact Or.inl (List.mem_cons_of_mem _ List.mem_cons_self)
  · exact (hsub b hb).imp_left fun hb => List.mem_cons_of_mem _ (List.mem_cons_of_mem _ hb)

theorem getElem?_set_some {h : Heap} {t a : Nat} {c c' : Cell} (hc : (h.set t c)[a]? = some c') :
    (t = a ∧ c' = c) ∨ (t ≠ a ∧ h[a]? = some c') := by
  by_cases hta : t = a
  · subst hta
    rw [List.getElem?_set] at hc
    simp only [if_true] at hc
    split at hc
    · cases hc; exact Or.inl ⟨rfl, rfl⟩
    · cases hc
  · rw [List.getElem?_set_ne hta] at hc
    exact Or.inr ⟨hta, hc⟩

/-- the object a mutation is invoked on -/
def Mut.target : Mut → Option Nat
  | .setSlot t _ _ => some t
  | .fill t _ _ => some t
  | .listAppend t _ => some t
  | .listClear t => some t
  | .dictSet t _ _ => some t
  | .selectMember t _ _ _ _ => some t
  | .mergeUnknown t _ => some t
  | _ => none

theorem Mut.target_mem_touched {mu : Mut} {t : Nat} (ht : mu.target = some t) : t ∈ mu.touched := by
  cases mu <;> cases ht <;> exact List.mem_cons_self

section
variable {h h' : Heap} {mu : Mut}

/-- what the cell `c'` at `x` can be after the mutation `mu` of `h` has given a heap of `n'` cells -/
inductive CellAfter (h : Heap) (mu : Mut) (n' x : Nat) (c' : Cell) : Prop
  | same : h[x]? = some c' → CellAfter h mu n' x c'
  /-- the target (a message, list or dict) rewritten: it points where it pointed, to what the
      mutation was handed, or to a new object -/
  | target (c0 : Cell) : mu.target = some x → h[x]? = some c0 → (∀ sel, c0 ≠ .gcur sel) → (∀ bs, c0 ≠ .bytes bs) →
      (∀ b ∈ c'.refs, b ∈ c0.refs ∨ b ∈ mu.touched ∨ (h.length ≤ b ∧ b < n')) → CellAfter h mu n' x c'
  /-- the `_group_current` dict of the target message (a oneof assignment) -/
  | gcur (t : Nat) (sl : List HVal) (ow : Bool) (u : Nat) (sel sel' : List (Option Nat)) : mu.target = some t →
      h[t]? = some (.msg sl ow u x) → h[x]? = some (.gcur sel) → c' = .gcur sel' → CellAfter h mu n' x c'
  | new : h.length ≤ x → (∀ b ∈ c'.refs, h.length ≤ b ∧ b < n') → CellAfter h mu n' x c'

structure StepOK (h : Heap) (mu : Mut) (h' : Heap) : Prop where
  length : h.length ≤ h'.length
  cell : ∀ x c', h'[x]? = some c' → CellAfter h mu h'.length x c'

theorem StepOK.refl : StepOK h mu h :=
  ⟨Nat.le_refl _, fun _ _ hx => .same hx⟩

theorem StepOK.set_append {ext : Heap} {t : Nat} {c0 c : Cell} (htg : mu.target = some t)
    (ht : h[t]? = some c0) (hg : ∀ sel, c0 ≠ .gcur sel) (hb : ∀ bs, c0 ≠ .bytes bs)
    (hrefs : ∀ b ∈ c.refs, b ∈ c0.refs ∨ b ∈ mu.touched ∨ (h.length ≤ b ∧ b < h.length + ext.length))
    (hnew : ∀ c ∈ ext, ∀ b ∈ c.refs, h.length ≤ b ∧ b < h.length + ext.length) :
    StepOK h mu (h.set t c ++ ext) := by
  have hlen : (h.set t c ++ ext).length = h.length + ext.length := by
    rw [List.length_append, List.length_set]
  refine ⟨hlen ▸ Nat.le_add_right _ _, fun x c' hx => ?_⟩
  rw [hlen]
  by_cases hlt : x < h.length
  · rw [List.getElem?_append_left (by rw [List.length_set]; exact hlt)] at hx
    rcases getElem?_set_some hx with ⟨rfl, rfl⟩ | ⟨_, hx⟩
    · exact .target c0 htg ht hg hb hrefs
    · exact .same hx
  · have hge := Nat.le_of_not_lt hlt
    rw [List.getElem?_append_right (by rw [List.length_set]; exact hge)] at hx
    exact .new hge (hnew c' (List.mem_of_getElem? hx))

theorem StepOK.set {t : Nat} {c0 c : Cell} (htg : mu.target = some t)
    (ht : h[t]? = some c0) (hg : ∀ sel, c0 ≠ .gcur sel) (hb : ∀ bs, c0 ≠ .bytes bs)
    (hrefs : ∀ b ∈ c.refs, b ∈ c0.refs ∨ b ∈ mu.touched) : StepOK h mu (h.set t c) :=
  List.append_nil (h.set t c) ▸
    StepOK.set_append (ext := []) htg ht hg hb (fun b hb => (hrefs b hb).imp_right Or.inl) nofun

theorem StepOK.append (ext : Heap)
    (hnew : ∀ c ∈ ext, ∀ b ∈ c.refs, h.length ≤ b ∧ b < h.length + ext.length) : StepOK h mu (h ++ ext) := by
  refine ⟨(List.prefix_append h ext).length_le, fun x c' hx => ?_⟩
  rw [List.length_append]
  by_cases hlt : x < h.length
  · exact .same ((List.getElem?_append_left hlt).symm.trans hx)
  · have hge := Nat.le_of_not_lt hlt
    rw [List.getElem?_append_right hge] at hx
    exact .new hge (hnew c' (List.mem_of_getElem? hx))

theorem applyMut_step (h : Heap) (mu : Mut) : StepOK h mu (applyMut h mu) := by
  cases mu with
  | setSlot t i v =>
    dsimp only [applyMut]
    split
    · rename_i ht
      exact .set rfl ht nofun nofun fun b hb =>
        (msg_refs_of_slots (fun _ => mem_itemRefs_set) hb).imp_right (List.mem_cons_of_mem _)
    · exact .refl
  | fill t i v =>
    dsimp only [applyMut]
    split
    · rename_i ht
      split
      · exact .set rfl ht nofun nofun fun b hb =>
        (msg_refs_of_slots (fun _ => mem_itemRefs_set) hb).imp_right (List.mem_cons_of_mem _)
      · exact .refl
    · exact .refl
  | listAppend t v =>
    dsimp only [applyMut]
    split
    · rename_i it ht
      refine .set rfl ht nofun nofun fun b hb => ?_
      rw [Cell.refs, itemRefs_append] at hb
      exact (List.mem_append.mp hb).imp_right fun hb =>
        List.mem_cons_of_mem _ (ref_mem_refs (List.mem_singleton.mp (mem_itemRefs.mp hb)))
    · exact .refl
  | listClear t =>
    dsimp only [applyMut]
    split
    · rename_i ht
      exact .set rfl ht nofun nofun fun b hb => absurd hb List.not_mem_nil
    · exact .refl
  | dictSet t k v =>
    dsimp only [applyMut]
    split
    · rename_i ht
      exact .set rfl ht nofun nofun fun b hb => (mem_itemRefs_dictPut hb).imp_right (List.mem_cons_of_mem _)
    · exact .refl
  | selectMember t g i sibs v =>
    dsimp only [applyMut]
    split
    · rename_i sl ow u gc ht
      refine ⟨by rw [List.length_set]; split <;> simp, fun x c' hx => ?_⟩
      rcases getElem?_set_some hx with ⟨rfl, rfl⟩ | ⟨_, hx⟩
      · exact .target _ rfl ht nofun nofun fun b hb =>
          (msg_refs_of_slots (fun _ hb => (mem_itemRefs_set hb).imp_left mem_itemRefs_clearSlots) hb).imp_right
            fun hb => Or.inl (List.mem_cons_of_mem _ hb)
      · split at hx
        · rename_i sel hgc
          rcases getElem?_set_some hx with ⟨rfl, rfl⟩ | ⟨_, hx⟩
          · exact .gcur t sl ow u sel _ rfl ht hgc rfl
          · exact .same hx
        · exact .same hx
    · exact .refl
  | mergeUnknown t bs =>
    dsimp only [applyMut]
    split
    · rename_i sl ow u g ht
      refine .set_append rfl ht nofun nofun (fun b hb => ?_) ?_
      · rcases List.mem_cons.mp hb with rfl | hb
        · exact Or.inr (Or.inr ⟨Nat.le_refl _, Nat.lt_succ_self _⟩)
        · exact Or.inl (List.mem_cons_of_mem _ hb)
      · intro c hc
        cases List.mem_singleton.mp hc
        nofun
    · exact .refl
  | newMsg ns ng =>
    refine .append _ fun c hc b hb => ?_
    rcases List.mem_cons.mp hc with rfl | hc
    · cases hb
    rcases List.mem_cons.mp hc with rfl | hc
    · cases hb
    cases List.mem_singleton.mp hc
    rcases List.mem_cons.mp hb with rfl | hb
    · exact ⟨Nat.le_refl _, Nat.lt_add_of_pos_right (Nat.succ_pos _)⟩
    rcases List.mem_cons.mp hb with rfl | hb
    · exact ⟨Nat.le_add_right _ 1, Nat.add_lt_add_left (Nat.lt_succ_of_lt (Nat.lt_succ_self 1)) _⟩
    · cases List.eq_of_mem_replicate (mem_itemRefs.mp hb)
  | newList =>
    refine .append _ fun c hc => ?_
    cases List.mem_singleton.mp hc
    nofun
  | newDict =>
    refine .append _ fun c hc => ?_
    cases List.mem_singleton.mp hc
    nofun

theorem applyMut_length (h : Heap) (mu : Mut) : h.length ≤ (applyMut h mu).length :=
  (applyMut_step h mu).length

/-- the only cells a mutation changes are its target (a message, list or dict) and, for
    a oneof assignment, the target message's own `_group_current` dict -/
theorem applyMut_changed_target (h : Heap) (mu : Mut) (x : Nat) (hx : x < h.length)
    (hne : (applyMut h mu)[x]? ≠ h[x]?) :
    (mu.target = some x ∧ (∀ sel, h[x]? ≠ some (.gcur sel)) ∧ isBytes h x = false) ∨
    ∃ t sl ow u sel, mu.target = some t ∧ h[t]? = some (.msg sl ow u x) ∧ h[x]? = some (.gcur sel) := by
  have hs := applyMut_step h mu
  have hc' := List.getElem?_eq_getElem (Nat.lt_of_lt_of_le hx hs.length)
  cases hs.cell x _ hc' with
  | same hsame => exact absurd (hc'.trans hsame.symm) hne
  | target c0 htg h0 hg hb =>
    refine Or.inl ⟨htg, fun sel hsel => hg sel (Option.some.inj (h0.symm.trans hsel)), ?_⟩
    unfold isBytes
    rw [h0]
    cases c0 with
    | bytes bs => exact absurd rfl (hb bs)
    | _ => rfl
  | gcur t sl ow u sel sel' htg ht hgc => exact Or.inr ⟨t, sl, ow, u, sel, htg, ht, hgc⟩
  | new hge => omega

theorem applyMut_unchanged {x : Nat} (hx : x < h.length)
    (htg : mu.target = some x → ∃ sel, h[x]? = some (.gcur sel))
    (hgc : ∀ t sl ow u, mu.target = some t → h[t]? = some (.msg sl ow u x) → ∀ sel, h[x]? ≠ some (.gcur sel)) :
    (applyMut h mu)[x]? = h[x]? := by
  by_contra hne
  rcases applyMut_changed_target h mu x hx hne with ⟨ht, hng, _⟩ | ⟨t, sl, ow, u, sel, ht, hct, hxg⟩
  · obtain ⟨sel, hsel⟩ := htg ht
    exact hng sel hsel
  · exact hgc t sl ow u ht hct sel hxg

theorem absVal_applyMut {o t : Nat} (hin : ∀ x, Reach h o x → x < h.length)
    (htg : mu.target = some t) (hnt : ¬ Reach h o t)
    (hng : ∀ sl ow u g, h[t]? = some (.msg sl ow u g) → ¬ Reach h o g) (n : Nat) :
    absVal n (applyMut h mu) o = absVal n h o := by
  apply absV_frame
  rintro x ⟨r, hr, hrx⟩
  cases List.mem_singleton.mp hr
  by_contra hne
  rcases applyMut_changed_target h mu x (hin x hrx) hne with ⟨ht, _⟩ | ⟨t', sl, ow, u, sel, ht, hct, _⟩
  · cases htg.symm.trans ht; exact hnt hrx
  · cases htg.symm.trans ht; exact hng _ _ _ _ hct hrx

theorem absVal_applyMut_twins {a b ga gb : Nat} {sl : List HVal} {ow : Bool} {u : Nat}
    {s : List (Option Nat)} (ha : h[a]? = some (.msg sl ow u ga)) (hb : h[b]? = some (.msg sl ow u gb))
    (hga : h[ga]? = some (.gcur s)) (hgb : h[gb]? = some (.gcur s))
    (hua : ∀ t sl' ow' u', h[t]? = some (.msg sl' ow' u' ga) → t = a)
    (hub : ∀ t sl' ow' u', h[t]? = some (.msg sl' ow' u' gb) → t = b)
    (hta : mu.target ≠ some a) (htb : mu.target ≠ some b) (n : Nat) :
    absVal n (applyMut h mu) a = absVal n (applyMut h mu) b := by
  have lt : ∀ {x : Nat} {c : Cell}, h[x]? = some c → x < h.length := fun hx => (List.getElem?_eq_some_iff.mp hx).1
  have ka : (applyMut h mu)[a]? = h[a]? :=
    applyMut_unchanged (lt ha) (fun ht => absurd ht hta) fun _ _ _ _ _ _ _ hx => nomatch ha.symm.trans hx
  have kb : (applyMut h mu)[b]? = h[b]? :=
    applyMut_unchanged (lt hb) (fun ht => absurd ht htb) fun _ _ _ _ _ _ _ hx => nomatch hb.symm.trans hx
  have kga : (applyMut h mu)[ga]? = h[ga]? :=
    applyMut_unchanged (lt hga) (fun _ => ⟨s, hga⟩) fun t _ _ _ ht hct _ _ => hta (hua t _ _ _ hct ▸ ht)
  have kgb : (applyMut h mu)[gb]? = h[gb]? :=
    applyMut_unchanged (lt hgb) (fun _ => ⟨s, hgb⟩) fun t _ _ _ ht hct _ _ => htb (hub t _ _ _ hct ▸ ht)
  exact absV_msg_congr (ka.trans ha) (kb.trans hb) (fun _ => rfl) rfl
    (by rw [selAt_eq (kga.trans hga), selAt_eq (kgb.trans hgb)]) n

theorem StepOK.edge (hs : StepOK h mu h') {a b : Nat} {c' : Cell} (hc : h'[a]? = some c') (hb : b ∈ c'.refs) :
    (∃ c, h[a]? = some c ∧ b ∈ c.refs) ∨ b ∈ mu.touched ∨ (h.length ≤ b ∧ b < h'.length) := by
  cases hs.cell a c' hc with
  | same hsame => exact Or.inl ⟨c', hsame, hb⟩
  | target c0 _ h0 _ _ hrefs => exact (hrefs b hb).imp_left fun hb0 => ⟨c0, h0, hb0⟩
  | gcur _ _ _ _ _ _ _ _ _ hc' => subst hc'; cases hb
  | new _ hnew => exact Or.inr (Or.inr (hnew b hb))

theorem StepOK.reachL {roots : List Nat} (hs : StepOK h mu h') (hP : ∀ b ∈ mu.touched, ReachL h roots b)
    {a y : Nat} (ha : ReachL h roots a ∨ h.length ≤ a) (hr : Reach h' a y) : ReachL h roots y ∨ h.length ≤ y := by
  induction hr with
  | refl => exact ha
  | @step a b y c' hc hb _ ih =>
    apply ih
    rcases hs.edge hc hb with ⟨c, hc0, hb0⟩ | hb | ⟨hge, _⟩
    · rcases ha with ⟨r, hr, hra⟩ | ha
      · exact Or.inl ⟨r, hr, hra.trans (Reach.edge hc0 hb0)⟩
      · rw [List.getElem?_eq_none ha] at hc0; cases hc0
    · exact Or.inl (hP b hb)
    · exact Or.inr hge

theorem newRoots_range (h : Heap) (mu : Mut) :
    ∀ r ∈ mu.newRoots h, h.length ≤ r ∧ r < (applyMut h mu).length := by
  intro r hr
  cases mu with
  | newMsg ns ng => cases List.mem_singleton.mp hr; simp [applyMut]
  | newList => cases List.mem_singleton.mp hr; simp [applyMut]
  | newDict => cases List.mem_singleton.mp hr; simp [applyMut]
  | _ => cases hr

end

/-- the program holding `roots` and the object `o` are SEPARATED: whatever is reachable from both
    is an immutable bytes object -/
structure Sep (h : Heap) (o : Nat) (roots : List Nat) : Prop where
  closed : Closed h
  oIn : o < h.length
  rootsIn : ∀ r ∈ roots, r < h.length
  sep : ∀ x, ReachL h roots x → Reach h o x → isBytes h x = true

/-- the mutation is applied THROUGH `roots`: its target and every reference it stores are
    reachable from them -/
def LegalMut (h : Heap) (roots : List Nat) (mu : Mut) : Prop := ∀ t ∈ mu.touched, ReachL h roots t

/-- a whole program: each step goes through the roots; objects it constructs become roots -/
def Legal : Heap → List Nat → List Mut → Prop
  | _, _, [] => True
  | h, roots, mu :: ms => LegalMut h roots mu ∧ Legal (applyMut h mu) (mu.newRoots h ++ roots) ms

theorem legalB_sound (h : Heap) (roots : List Nat) (ms : List Mut) (hb : legalB h roots ms = true) :
    Legal h roots ms := by
  induction ms generalizing h roots with
  | nil => trivial
  | cons mu ms ih =>
    simp only [legalB, Bool.and_eq_true, List.all_eq_true, List.any_eq_true, List.contains_iff_mem] at hb
    refine ⟨?_, ih _ _ hb.2⟩
    intro t ht
    obtain ⟨r, hr, hrt⟩ := hb.1 t ht
    exact ⟨r, hr, reach_sound h r t hrt⟩

theorem Sep.untouched {h : Heap} {o : Nat} {roots : List Nat} (hs : Sep h o roots) {mu : Mut}
    (hl : LegalMut h roots mu) {x : Nat} (hx : Reach h o x) : (applyMut h mu)[x]? = h[x]? := by
  by_contra hne
  -- a cell that changes is reached from the mutation's target, hence from the roots, and is not a bytes object
  rcases applyMut_changed_target h mu x (hs.closed.reach hs.oIn hx) hne with ⟨htg, _, hb⟩ | ⟨t, sl, ow, u, sel, htg, ht, hgc⟩
  · obtain ⟨r, hr, hrx⟩ := hl x (Mut.target_mem_touched htg)
    exact Bool.false_ne_true (hb.symm.trans (hs.sep x ⟨r, hr, hrx⟩ hx))
  · obtain ⟨r, hr, hrt⟩ := hl t (Mut.target_mem_touched htg)
    have := hs.sep x ⟨r, hr, hrt.trans (.edge ht (List.mem_cons_of_mem _ List.mem_cons_self))⟩ hx
    unfold isBytes at this
    rw [hgc] at this; cases this

theorem Sep.step {h : Heap} {o : Nat} {roots : List Nat} (hs : Sep h o roots) {mu : Mut}
    (hl : LegalMut h roots mu) :
    (∀ n, absVal n (applyMut h mu) o = absVal n h o) ∧ Sep (applyMut h mu) o (mu.newRoots h ++ roots) := by
  have hun : ∀ x, Reach h o x → (applyMut h mu)[x]? = h[x]? := fun x hx => hs.untouched hl hx
  have hstep := applyMut_step h mu
  have hlen := hstep.length
  refine ⟨fun n => absV_frame n _ _ _ fun x ⟨r, hr, hrx⟩ => hun x (List.mem_singleton.mp hr ▸ hrx),
    ?_, Nat.lt_of_lt_of_le hs.oIn hlen, ?_, ?_⟩
  · intro a c' hc b hb
    rcases hstep.edge hc hb with ⟨c, hc0, hb0⟩ | hP | ⟨_, hlt⟩
    · exact Nat.lt_of_lt_of_le (hs.closed a c hc0 b hb0) hlen
    · obtain ⟨r, hr, hrb⟩ := hl b hP
      exact Nat.lt_of_lt_of_le (hs.closed.reach (hs.rootsIn r hr) hrb) hlen
    · exact hlt
  · intro r hr
    rcases List.mem_append.mp hr with hr | hr
    · exact (newRoots_range h mu r hr).2
    · exact Nat.lt_of_lt_of_le (hs.rootsIn r hr) hlen
  · rintro x ⟨r, hr, hrx⟩ hox
    have hox' : Reach h o x := Reach.transport_back hun hox
    have hr0 : ReachL h roots r ∨ h.length ≤ r :=
      (List.mem_append.mp hr).symm.imp (fun hr => ⟨r, hr, .refl r⟩) fun hr => (newRoots_range h mu r hr).1
    rcases hstep.reachL hl hr0 hrx with hh | hh
    · rw [isBytes_congr (hun x hox')]
      exact hs.sep x hh hox'
    · exact absurd (hs.closed.reach hs.oIn hox') (Nat.not_lt_of_le hh)

theorem Sep.run {h : Heap} {o : Nat} {roots : List Nat} (hs : Sep h o roots) (ms : List Mut)
    (hl : Legal h roots ms) : ∀ n, absVal n (runMuts h ms) o = absVal n h o := by
  induction ms generalizing h roots with
  | nil => intro n; rfl
  | cons mu ms ih =>
    obtain ⟨hl1, hl2⟩ := hl
    obtain ⟨hv, hs'⟩ := hs.step hl1
    intro n
    simp only [runMuts]
    rw [ih hs' hl2 n, hv n]

end Bp.Hp
