import BpModel.Chan
/-
  The counts the invariant of the AsyncChannel model is stated with are sums over the task table of a
  measure of one task (`tsum`), so that rewriting one task moves each count by the difference of its two
  measures (`tsum_set`; as a rewriting equation, `tsum_set_eq`); and what `_wakeup_next` does to the table
  (`wakeNext_spec`, `wake_eff`).
-/
namespace Bp.Chan

def tsum (f : Task → Nat) : List Task → Nat
  | [] => 0
  | x :: xs => f x + tsum f xs

theorem tsum_append (f : Task → Nat) (a b : List Task) : tsum f (a ++ b) = tsum f a + tsum f b := by
  induction a with
  | nil => simp [tsum]
  | cons x xs ih => simp [tsum, ih]; omega

theorem tsum_set (f : Task → Nat) {ts : List Task} {t : Nat} {x : Task} (x' : Task) (h : ts[t]? = some x) :
    tsum f (ts.set t x') + f x = tsum f ts + f x' := by
  induction ts generalizing t with
  | nil => simp at h
  | cons y ys ih =>
    cases t with
    | zero => simp at h; subst h; simp [tsum]; omega
    | succ t => simp at h; have := ih h; simp [tsum]; omega

theorem tsum_set_same (f : Task → Nat) {ts : List Task} {t : Nat} {x x' : Task} (h : ts[t]? = some x) (e : f x' = f x) :
    tsum f (ts.set t x') = tsum f ts := by
  have := tsum_set f x' h; omega

theorem tsum_set_le (f : Task → Nat) {ts : List Task} {t : Nat} {x x' : Task} (h : ts[t]? = some x) (e : f x' ≤ f x) :
    tsum f (ts.set t x') ≤ tsum f ts := by
  have := tsum_set f x' h; omega

/-- `+ f x' - f x` in this order: `simp` turns `a + 1 - 1`, `a + 0 - 1`, `a + 1 - 0` into `a`, `a - 1`, `a + 1` -/
theorem tsum_set_eq (f : Task → Nat) {ts : List Task} {t : Nat} {x : Task} (h : ts[t]? = some x) (x' : Task) :
    tsum f (ts.set t x') = tsum f ts + f x' - f x := by
  have := tsum_set f x' h; omega

theorem tsum_pos {f : Task → Nat} {ts : List Task} (h : 0 < tsum f ts) : ∃ (t : Nat) (x : Task), ts[t]? = some x ∧ 0 < f x := by
  induction ts with
  | nil => simp [tsum] at h
  | cons y ys ih =>
    by_cases hy : 0 < f y
    · exact ⟨0, y, by simp, hy⟩
    · have : 0 < tsum f ys := by simp [tsum] at h; omega
      obtain ⟨t, x, h1, h2⟩ := ih this
      exact ⟨t + 1, x, by simpa using h1, h2⟩

theorem tsum_ge {f : Task → Nat} {ts : List Task} {t : Nat} {x : Task} (h : ts[t]? = some x) : f x ≤ tsum f ts := by
  induction ts generalizing t with
  | nil => simp at h
  | cons y ys ih =>
    cases t with
    | zero => simp at h; subst h; simp [tsum]
    | succ t => simp at h; have := ih h; simp [tsum]; omega

theorem tsum_zero {f : Task → Nat} {ts : List Task} (h : tsum f ts = 0) {t : Nat} {x : Task} (hx : ts[t]? = some x) : f x = 0 := by
  have := tsum_ge (f := f) hx; omega

theorem tsum_le_of {f g : Task → Nat} {ts : List Task}
    (h : ∀ (t : Nat) (x : Task), ts[t]? = some x → f x ≤ g x) : tsum f ts ≤ tsum g ts := by
  induction ts with
  | nil => simp [tsum]
  | cons y ys ih =>
    have h0 := h 0 y (by simp)
    have := ih (fun t x hx => h (t + 1) x (by simpa using hx))
    simp only [tsum]; omega

def ind (b : Bool) : Nat := if b then 1 else 0
theorem ind_le (b : Bool) : ind b ≤ 1 := by cases b <;> simp [ind]
@[simp] theorem ind_true : ind true = 1 := rfl
@[simp] theorem ind_false : ind false = 0 := rfl

/-- task is suspended on a pending getter (`g = true`) / putter future -/
def mPend (g : Bool) (x : Task) : Nat := if x.wait = .blocked g .pending then 1 else 0
/-- task has been woken (result set) and has not run yet -/
def mWok (g : Bool) (x : Task) : Nat := if x.wait = .blocked g .woken then 1 else 0
def Wait.inGet : Wait → Bool
  | .blocked true _ => true
  | _ => false
def Wait.isCancelled : Wait → Bool
  | .blocked _ .cancelled => true
  | _ => false
@[simp] theorem Wait.inGet_blocked (g : Bool) (f : Fut) : (Wait.blocked g f).inGet = g := by cases g <;> rfl

/-- task is inside `Queue.get()` (counted in `_waiting_receivers`) -/
def mInGet (x : Task) : Nat := if x.wait.inGet = true then 1 else 0
def owedOf : Code → Nat
  | .flusher (some r) => r
  | _ => 0
/-- sentinels a live `_flush_queue` task still has to put -/
def mOwed (x : Task) : Nat := if x.wait = .done then 0 else owedOf x.code
/-- a `_flush_queue` task that has not started and will start -/
def mFresh (x : Task) : Nat := if x.code = .flusher none ∧ x.wait = .ready ∧ x.mustCancel = false then 1 else 0
/-- a receiver that has finished -/
def mRecvDone (x : Task) : Nat := if x.code.isReceiver = true ∧ x.wait = .done then 1 else 0
/-- a cancellation is in flight for the task -/
def mCanc (x : Task) : Nat := if x.mustCancel = true ∨ x.wait.isCancelled = true then 1 else 0

theorem receiver_of {x : Task} (h : x.code.isReceiver = true) : ∃ tm, x.code = .receiver tm := by
  cases hc : x.code <;> simp_all [Code.isReceiver]

theorem delta {ts : List Task} {t : Nat} {x : Task} (x' : Task) (h : ts[t]? = some x) :
    (tsum (mPend true) (ts.set t x') + mPend true x = tsum (mPend true) ts + mPend true x') ∧
    (tsum (mPend false) (ts.set t x') + mPend false x = tsum (mPend false) ts + mPend false x') ∧
    (tsum (mWok true) (ts.set t x') + mWok true x = tsum (mWok true) ts + mWok true x') ∧
    (tsum (mWok false) (ts.set t x') + mWok false x = tsum (mWok false) ts + mWok false x') ∧
    (tsum mInGet (ts.set t x') + mInGet x = tsum mInGet ts + mInGet x') ∧
    (tsum mOwed (ts.set t x') + mOwed x = tsum mOwed ts + mOwed x') ∧
    (tsum mFresh (ts.set t x') + mFresh x = tsum mFresh ts + mFresh x') ∧
    (tsum mRecvDone (ts.set t x') + mRecvDone x = tsum mRecvDone ts + mRecvDone x') ∧
    (tsum mCanc (ts.set t x') + mCanc x = tsum mCanc ts + mCanc x') :=
  ⟨tsum_set _ x' h, tsum_set _ x' h, tsum_set _ x' h, tsum_set _ x' h, tsum_set _ x' h, tsum_set _ x' h,
   tsum_set _ x' h, tsum_set _ x' h, tsum_set _ x' h⟩

theorem getElem?_lt {ts : List Task} {t : Nat} {x : Task} (h : ts[t]? = some x) : t < ts.length := by
  rcases Nat.lt_or_ge t ts.length with hl | hl
  · exact hl
  · rw [List.getElem?_eq_none hl] at h; cases h

theorem getElem?_set_cases {ts : List Task} {t u : Nat} {x' y : Task} (h : (ts.set t x')[u]? = some y) :
    (u = t ∧ y = x') ∨ (u ≠ t ∧ ts[u]? = some y) := by
  rw [List.getElem?_set] at h
  split at h
  · next e => split at h <;> cases h; exact Or.inl ⟨e.symm, rfl⟩
  · next e => exact Or.inr ⟨fun e' => e e'.symm, h⟩

theorem forall_set {P : Task → Prop} {ts : List Task} {t : Nat} {x' : Task}
    (h : ∀ (u : Nat) (y : Task), ts[u]? = some y → P y) (hx' : P x') :
    ∀ (u : Nat) (y : Task), (ts.set t x')[u]? = some y → P y := by
  intro u y hy
  rcases getElem?_set_cases hy with ⟨_, rfl⟩ | ⟨_, hy⟩
  · exact hx'
  · exact h u y hy

theorem getElem?_snoc {ts : List Task} {x' y : Task} {u : Nat} (h : (ts ++ [x'])[u]? = some y) :
    ts[u]? = some y ∨ y = x' := by
  rw [List.getElem?_append] at h
  split at h
  · exact Or.inl h
  · exact Or.inr (List.mem_singleton.mp (List.mem_of_getElem? h))

def nextAt (ts : List Task) (a : Nat) : Nat :=
  match ts[a]? with
  | some x => x.code.nextSeq
  | none => 0

theorem nextAt_set_le {ts : List Task} {t : Nat} {x x' : Task} (h : ts[t]? = some x)
    (hle : x.code.nextSeq ≤ x'.code.nextSeq) (a : Nat) : nextAt ts a ≤ nextAt (ts.set t x') a := by
  unfold nextAt
  by_cases hat : a = t
  · subst hat
    rw [h]; simp [getElem?_lt h, hle]
  · have : t ≠ a := fun e => hat e.symm
    simp [this]

theorem nextAt_set_self {ts : List Task} {t : Nat} {x : Task} (x' : Task) (h : ts[t]? = some x) :
    nextAt (ts.set t x') t = x'.code.nextSeq := by
  unfold nextAt
  simp [getElem?_lt h]

theorem nextAt_congr {ts ts' : List Task} {a : Nat} (h : (ts'[a]?).map Task.code = (ts[a]?).map Task.code) :
    nextAt ts' a = nextAt ts a := by
  unfold nextAt
  cases h1 : ts'[a]? <;> cases h2 : ts[a]? <;> simp_all

theorem nextAt_append_le (ts : List Task) (x : Task) (a : Nat) : nextAt ts a ≤ nextAt (ts ++ [x]) a := by
  unfold nextAt
  rcases Nat.lt_or_ge a ts.length with hl | hl
  · simp [List.getElem?_append_left hl]
  · simp [List.getElem?_eq_none hl]

theorem wakeNext_spec (g : Bool) (dq : List Nat) (ts : List Task) :
    (∀ v ∈ (wakeNext g dq ts).1, v ∈ dq) ∧
    (((wakeNext g dq ts).2 = ts ∧ ∀ u ∈ dq, ∀ y, ts[u]? = some y → y.wait ≠ .blocked g .pending) ∨
     (∃ u y, u ∈ dq ∧ ts[u]? = some y ∧ y.wait = .blocked g .pending ∧
        (wakeNext g dq ts).2 = ts.set u { y with wait := .blocked g .woken } ∧
        ∀ v ∈ dq, v ≠ u → ∀ z, ts[v]? = some z → z.wait = .blocked g .pending → v ∈ (wakeNext g dq ts).1)) := by
  induction dq with
  | nil => simp [wakeNext]
  | cons u rest ih =>
    by_cases hp : ∃ y, ts[u]? = some y ∧ y.wait = .blocked g .pending
    · obtain ⟨y, hu, hp⟩ := hp
      simp only [wakeNext, hu, hp, if_true]
      refine ⟨fun v hv => List.mem_cons_of_mem _ hv, Or.inr ⟨u, y, List.mem_cons_self, hu, hp, rfl, ?_⟩⟩
      intro v hv hne z _ _
      exact (List.mem_cons.mp hv).resolve_left hne
    · -- `u` is skipped: it is not a task or not a pending waiter
      have hnu : ∀ z, ts[u]? = some z → z.wait ≠ .blocked g .pending := fun z hz h => hp ⟨z, hz, h⟩
      have e : wakeNext g (u :: rest) ts = wakeNext g rest ts := by
        cases hu : ts[u]? with
        | none => simp only [wakeNext, hu]
        | some y => simp only [wakeNext, hu, if_neg (hnu y hu)]
      rw [e]
      obtain ⟨ihA, ihB⟩ := ih
      refine ⟨fun v hv => List.mem_cons_of_mem _ (ihA v hv), ?_⟩
      rcases ihB with ⟨h1, h2⟩ | ⟨u', y', h1, h2, h3, h4, h5⟩
      · refine Or.inl ⟨h1, fun v hv z hz => ?_⟩
        rcases List.mem_cons.mp hv with rfl | hv
        · exact hnu z hz
        · exact h2 v hv z hz
      · refine Or.inr ⟨u', y', List.mem_cons_of_mem _ h1, h2, h3, h4, fun v hv hne z hz hpz => ?_⟩
        rcases List.mem_cons.mp hv with rfl | hv
        · exact absurd hpz (hnu z hz)
        · exact h5 v hv hne z hz hpz

@[simp] theorem wake_queue (g s) : (wake g s).queue = s.queue := by unfold wake Sys.setDq; cases g <;> rfl
@[simp] theorem wake_maxsize (g s) : (wake g s).maxsize = s.maxsize := by unfold wake Sys.setDq; cases g <;> rfl
@[simp] theorem wake_unfinished (g s) : (wake g s).unfinished = s.unfinished := by unfold wake Sys.setDq; cases g <;> rfl
@[simp] theorem wake_closed (g s) : (wake g s).closed = s.closed := by unfold wake Sys.setDq; cases g <;> rfl
@[simp] theorem wake_flushed (g s) : (wake g s).flushed = s.flushed := by unfold wake Sys.setDq; cases g <;> rfl
@[simp] theorem wake_waiting (g s) : (wake g s).waiting = s.waiting := by unfold wake Sys.setDq; cases g <;> rfl
@[simp] theorem wake_putLog (g s) : (wake g s).putLog = s.putLog := by unfold wake Sys.setDq; cases g <;> rfl
@[simp] theorem wake_recvLog (g s) : (wake g s).recvLog = s.recvLog := by unfold wake Sys.setDq; cases g <;> rfl
@[simp] theorem wake_preClose (g s) : (wake g s).preClose = s.preClose := by unfold wake Sys.setDq; cases g <;> rfl
@[simp] theorem wake_cancels (g s) : (wake g s).cancels = s.cancels := by unfold wake Sys.setDq; cases g <;> rfl
theorem wake_tasks (g s) : (wake g s).tasks = (wakeNext g (s.dq g) s.tasks).2 := by unfold wake Sys.setDq; cases g <;> rfl
theorem wake_dq_same (g s) : (wake g s).dq g = (wakeNext g (s.dq g) s.tasks).1 := by
  unfold wake Sys.setDq Sys.dq; cases g <;> rfl
theorem wake_dq_other (g s) : (wake g s).dq (!g) = s.dq (!g) := by
  unfold wake Sys.setDq Sys.dq; cases g <;> rfl

theorem wake_task_cases {g : Bool} {s : Sys} {t : Nat} {y : Task} (h : (wake g s).tasks[t]? = some y) :
    s.tasks[t]? = some y ∨
      ∃ z, s.tasks[t]? = some z ∧ z.wait = .blocked g .pending ∧ y = { z with wait := .blocked g .woken } := by
  rw [wake_tasks] at h
  obtain ⟨_, hB⟩ := wakeNext_spec g (s.dq g) s.tasks
  rcases hB with ⟨h1, _⟩ | ⟨u, z, _, hz, hp, h4, _⟩
  · rw [h1] at h; exact Or.inl h
  · rw [h4] at h
    rcases getElem?_set_cases h with ⟨rfl, rfl⟩ | ⟨_, h⟩
    · exact Or.inr ⟨z, hz, hp, rfl⟩
    · exact Or.inl h

theorem wake_task_keep {g : Bool} {s : Sys} {t : Nat} {y : Task} (h : s.tasks[t]? = some y)
    (hp : y.wait ≠ .blocked g .pending) : (wake g s).tasks[t]? = some y := by
  rw [wake_tasks]
  obtain ⟨_, hB⟩ := wakeNext_spec g (s.dq g) s.tasks
  rcases hB with ⟨h1, _⟩ | ⟨u, z, _, hz, hpz, h4, _⟩
  · rw [h1]; exact h
  · rw [h4, List.getElem?_set_ne (fun e => hp (by subst e; rw [hz] at h; cases h; exact hpz))]; exact h

theorem forall_wake {P : Task → Prop} {g : Bool} {s : Sys} (h : ∀ (u : Nat) (y : Task), s.tasks[u]? = some y → P y)
    (hP : ∀ z : Task, z.wait = .blocked g .pending → P z → P { z with wait := .blocked g .woken }) :
    ∀ (u : Nat) (y : Task), (wake g s).tasks[u]? = some y → P y := by
  intro u y hy
  rcases wake_task_cases hy with hy | ⟨z, hz, hp, rfl⟩
  · exact h u y hy
  · exact hP z hp (h u z hz)

/-- every pending waiter is in its deque (so `_wakeup_next` finds it) -/
def G1 (s : Sys) : Prop :=
  ∀ (g : Bool) (t : Nat) (x : Task), s.tasks[t]? = some x → x.wait = .blocked g .pending → t ∈ s.dq g

/-- what `_wakeup_next` on the getters (`g`) / putters does to the task table -/
structure WakeEff (g : Bool) (s s' : Sys) : Prop where
  len : s'.tasks.length = s.tasks.length
  /-- a waiter only changes from pending to woken -/
  sumPW : tsum (mPend g) s'.tasks + tsum (mWok g) s'.tasks = tsum (mPend g) s.tasks + tsum (mWok g) s.tasks
  /-- if a waiter is pending, one is woken (`set_result(None)`) -/
  wokUp : 0 < tsum (mPend g) s.tasks → tsum (mWok g) s'.tasks = tsum (mWok g) s.tasks + 1
  /-- at most one is woken -/
  wokLe : tsum (mWok g) s.tasks ≤ tsum (mWok g) s'.tasks ∧ tsum (mWok g) s'.tasks ≤ tsum (mWok g) s.tasks + 1
  /-- a count that does not tell a woken waiter from a pending one is unchanged -/
  other : ∀ f : Task → Nat, (∀ y : Task, y.wait = .blocked g .pending → f { y with wait := .blocked g .woken } = f y) →
    tsum f s'.tasks = tsum f s.tasks
  g1 : G1 s'
  next : ∀ a, nextAt s'.tasks a = nextAt s.tasks a
  code : ∀ t : Nat, (s'.tasks[t]?).map Task.code = (s.tasks[t]?).map Task.code

theorem wake_eff (g : Bool) (s : Sys) (hG : G1 s) : WakeEff g s (wake g s) := by
  obtain ⟨hA, hB⟩ := wakeNext_spec g (s.dq g) s.tasks
  rcases hB with ⟨h1, h2⟩ | ⟨u, y, hu, hy, hp, h4, h5⟩
  · -- nobody woken
    have hnp : tsum (mPend g) s.tasks = 0 := by
      rcases Nat.eq_zero_or_pos (tsum (mPend g) s.tasks) with h | h
      · exact h
      · obtain ⟨t, x, hx, hpos⟩ := tsum_pos h
        have hw : x.wait = .blocked g .pending :=
          Decidable.byContradiction fun hh => by simp [mPend, hh] at hpos
        exact absurd hw (h2 t (hG g t x hx hw) x hx)
    have ht : (wake g s).tasks = s.tasks := by rw [wake_tasks, h1]
    refine ⟨by rw [ht], by rw [ht], by omega, by rw [ht]; omega, fun f _ => by rw [ht], ?_, by rw [ht]; simp, by rw [ht]; simp⟩
    intro g' t x hx hw
    rw [ht] at hx
    by_cases hg : g' = g
    · subst hg
      exact absurd hw (h2 t (hG g' t x hx hw) x hx)
    · have : g' = !g := Bool.eq_not_of_ne hg
      subst this
      rw [wake_dq_other]; exact hG _ t x hx hw
  · have ht : (wake g s).tasks = s.tasks.set u { y with wait := .blocked g .woken } := by rw [wake_tasks, h4]
    have dPg := tsum_set (mPend g) { y with wait := .blocked g .woken } hy
    have dWg := tsum_set (mWok g) { y with wait := .blocked g .woken } hy
    have e1 : mPend g y = 1 := by simp [mPend, hp]
    have e2 : mPend g { y with wait := .blocked g .woken } = 0 := by simp [mPend]
    have e3 : mWok g y = 0 := by simp [mWok, hp]
    have e4 : mWok g { y with wait := .blocked g .woken } = 1 := by simp [mWok]
    rw [e1, e2] at dPg
    rw [e3, e4] at dWg
    have hcode : ∀ t : Nat, ((wake g s).tasks[t]?).map Task.code = (s.tasks[t]?).map Task.code := by
      intro t
      rw [ht, List.getElem?_set]
      split
      · next e => subst e; rw [if_pos (getElem?_lt hy), hy]; rfl
      · rfl
    refine ⟨by rw [ht]; simp, by rw [ht]; omega, fun _ => by rw [ht]; omega, by rw [ht]; omega, ?_, ?_,
      fun a => nextAt_congr (hcode a), hcode⟩
    · intro f hf
      have := tsum_set f { y with wait := .blocked g .woken } hy
      rw [hf y hp] at this
      rw [ht]; omega
    · intro g' t x hx hw
      rw [ht] at hx
      replace hx := getElem?_set_cases hx
      rcases hx with ⟨_, rfl⟩ | ⟨htu, hx⟩
      · simp at hw
      · by_cases hg : g' = g
        · subst hg
          rw [wake_dq_same]
          exact h5 t (hG g' t x hx hw) htu x hx hw
        · have : g' = !g := Bool.eq_not_of_ne hg
          subst this
          rw [wake_dq_other]; exact hG _ t x hx hw

theorem WakeEff.others {g : Bool} {s s' : Sys} (h : WakeEff g s s') :
    tsum (mPend (!g)) s'.tasks = tsum (mPend (!g)) s.tasks ∧ tsum (mWok (!g)) s'.tasks = tsum (mWok (!g)) s.tasks ∧
    tsum mInGet s'.tasks = tsum mInGet s.tasks ∧ tsum mOwed s'.tasks = tsum mOwed s.tasks ∧
    tsum mFresh s'.tasks = tsum mFresh s.tasks ∧ tsum mRecvDone s'.tasks = tsum mRecvDone s.tasks ∧
    tsum mCanc s'.tasks = tsum mCanc s.tasks := by
  refine ⟨h.other _ ?_, h.other _ ?_, h.other _ ?_, h.other _ ?_, h.other _ ?_, h.other _ ?_, h.other _ ?_⟩
  · intro y hy; cases g <;> simp [mPend, hy]
  · intro y hy; cases g <;> simp [mWok, hy]
  · intro y hy; cases g <;> simp [mInGet, Wait.inGet, hy]
  · intro y hy; simp [mOwed, hy]
  · intro y hy; simp [mFresh, hy]
  · intro y hy; simp [mRecvDone, hy]
  · intro y hy; simp [mCanc, Wait.isCancelled, hy]

end Bp.Chan
