import BpModel.All
import BpModel.Spec
import BpProofs.SpecLinkVal
import BpProofs.Rt
/-
  C02, link between the model of betterproto and the spec-level decoder: the schema guard
  and the input guards (`narrow32`, `narrow32U`), the simulation relation, and how the model's
  attribute read compares with the spec's "absent ⇒ default".
-/
namespace Bp.Link
open Bp Gen

/-- per-field schema guard, beyond `wfFieldB` (C17):
    * a repeated or map field is in no oneof (protobuf forbids it; betterproto's
      `__setattr__` would select it, the spec leaves the selection alone);
    * a wrapper annotation sits on a plain message field, not on a Timestamp / Duration
      field (betterproto looks at the class first, the spec at the annotation first). -/
def goodFieldB (f : FieldD) : Bool :=
  (!(f.repeated || f.ty == .map) || f.group.isNone)
  && (!(f.ty == .message && f.wraps.isSome) ||
      (match f.kind with
       | .user _ => true
       | _ => false))

/-- distinct field numbers, as a Bool -/
def distinctB : List FieldD → Bool
  | [] => true
  | f :: fs => fs.all (fun g => g.num != f.num) && distinctB fs

theorem distinctB_sound (fs : List FieldD) (h : distinctB fs = true) : DistinctNums fs := by
  have e : ∀ l : List FieldD, distinctB l = numsDistinctB l := by
    intro l
    induction l with
    | nil => rfl
    | cons f l ih => simp only [distinctB, numsDistinctB, ih]
  exact (numsDistinctB_iff fs).1 (e fs ▸ h)

/-- a class descriptor both decoders read the same way -/
def GoodD (S : Schema) (d : MsgD) : Prop :=
  WfD S d ∧ DistinctNums d.fields ∧ ∀ f ∈ d.fields, goodFieldB f = true

def goodMsgDB (d : MsgD) : Bool := distinctB d.fields && d.fields.all goodFieldB

/-- **the schema guard of `load_complete`**: `wfSchemaTB` (C17: repeated fields are not
    `optional`, message fields name existing classes, wrappers wrap scalars, map keys are
    scalars, map values are not maps) + distinct field numbers per class + `goodFieldB` -/
def goodSchemaB (S : Schema) : Bool := wfSchemaTB S && S.all goodMsgDB

def GoodSchema (S : Schema) : Prop := goodSchemaB S = true

instance (S : Schema) : Decidable (GoodSchema S) := by unfold GoodSchema; infer_instance

theorem goodSchema_wf (S : Schema) (h : GoodSchema S) : WfSchemaT S := by
  unfold GoodSchema goodSchemaB at h
  simp only [Bool.and_eq_true] at h
  exact h.1

theorem goodSchema_class (S : Schema) (h : GoodSchema S) (c : Nat) (d : MsgD) (hd : S[c]? = some d) :
    GoodD S d := by
  have hw := goodSchema_wf S h
  unfold GoodSchema goodSchemaB at h
  simp only [Bool.and_eq_true, List.all_eq_true] at h
  have hm := h.2 d (List.mem_of_getElem? hd)
  unfold goodMsgDB at hm
  simp only [Bool.and_eq_true, List.all_eq_true] at hm
  exact ⟨wfSchema_class S hw c d hd, distinctB_sound _ hm.1, hm.2⟩

theorem goodD_secNanos (S : Schema) : GoodD S secNanosD := by
  refine ⟨wfD_secNanos S, distinctB_sound _ (by decide), ?_⟩
  intro f hf
  simp [secNanosD] at hf
  rcases hf with rfl | rfl <;> rfl

theorem goodD_wrapper (S : Schema) (w : PType) (hw : isScalarTy w = true) : GoodD S (wrapperD w) := by
  refine ⟨wfD_wrapper S w hw, distinctB_sound _ (by simp [wrapperD, distinctB]), ?_⟩
  intro f hf
  simp [wrapperD] at hf
  subst hf
  simp [goodFieldB]

theorem goodD_entry (S : Schema) (f : FieldD) (hw : wfFieldB S.length f = true) (ht : f.ty = .map) :
    GoodD S (entryD f) := by
  refine ⟨wfD_entry S f hw ht, distinctB_sound _ (by simp [entryD, distinctB]), ?_⟩
  intro g hg
  rw [entryD_fields] at hg
  simp at hg
  rcases hg with rfl | rfl
  · simp [goodFieldB, keyFieldOf]
  · simp [goodFieldB, valFieldOf]

/-- the class a LEN payload of field `f` is decoded with, if it is a nested message -/
def subDesc (S : Schema) (f : FieldD) : Option MsgD :=
  if f.ty == .map then some (entryD f)
  else if f.ty == .message then
    match f.wraps with
    | some w => some (wrapperD w)
    | Option.none =>
      match f.kind with
      | .user c => S[c]?
      | _ => some secNanosD
  else Option.none

theorem subDesc_cases (S : Schema) (f : FieldD) (d' : MsgD) (h : subDesc S f = some d') :
    (f.ty = .map ∧ d' = entryD f)
    ∨ (f.ty = .message ∧ ∃ w, f.wraps = some w ∧ d' = wrapperD w)
    ∨ (f.ty = .message ∧ f.wraps = Option.none ∧ ∃ c, f.kind = .user c ∧ S[c]? = some d')
    ∨ (f.ty = .message ∧ f.wraps = Option.none ∧ (f.kind = .timestamp ∨ f.kind = .duration) ∧ d' = secNanosD) := by
  unfold subDesc at h
  by_cases hm : f.ty = .map
  · rw [if_pos (by simpa using hm)] at h
    cases h; exact Or.inl ⟨hm, rfl⟩
  rw [if_neg (by simpa using hm)] at h
  by_cases hmsg : f.ty = .message
  · rw [if_pos (by simpa using hmsg)] at h
    cases hwr : f.wraps with
    | some w => rw [hwr] at h; cases h; exact Or.inr (Or.inl ⟨hmsg, w, rfl, rfl⟩)
    | none =>
      rw [hwr] at h
      cases hk : f.kind with
      | user c => rw [hk] at h; exact Or.inr (Or.inr (Or.inl ⟨hmsg, rfl, c, rfl, h⟩))
      | timestamp => rw [hk] at h; cases h; exact Or.inr (Or.inr (Or.inr ⟨hmsg, rfl, Or.inl rfl, rfl⟩))
      | duration => rw [hk] at h; cases h; exact Or.inr (Or.inr (Or.inr ⟨hmsg, rfl, Or.inr rfl, rfl⟩))
  · rw [if_neg (by simpa using hmsg)] at h; cases h

/-- one record carries no over-wide `uint32` / `sint32` varint, `nb` checking nested payloads -/
def narrowField (S : Schema) (nb : MsgD → Bytes → Bool) (d : MsgD) (pf : PField) : Bool :=
  match findField d.fields pf.num with
  | Option.none => true
  | some idx =>
    match d.fields[idx]? with
    | Option.none => true
    | some f =>
      if pf.wt == 0 then !isNarrowTy f.ty || decide (pf.vint < 2 ^ 32)
      else if pf.wt == 2 then
        (!isNarrowTy f.ty || narrowElems (pf.payload.length + 1) pf.payload)
        && (match subDesc S f with
            | some d' => nb d' pf.payload
            | Option.none => true)
      else true

/-- **the input guard of `load_complete`**: no `uint32` / `sint32` position of the byte
    string (singular, repeated element, packed element, map key / value, wrapper payload; at
    any nesting depth ≤ `fuel`) holds a varint ≥ 2^32.  No encoder writes one for a field it knows: such a
    varint is not an encoding of a 32-bit value (for the unknown fields it re-emits see the note above `narrowFieldU`). -/
def narrow32 (S : Schema) : Nat → MsgD → Bytes → Bool
  | 0, _, _ => true
  | fuel + 1, d, bs =>
    match loadFields bs with
    | .ok pfs => pfs.all (narrowField S (narrow32 S fuel) d)
    | .error _ => true

theorem narrowField_iff (S : Schema) (nb : MsgD → Bytes → Bool) (d : MsgD) (pf : PField) (idx : Nat) (f : FieldD)
    (h1 : findField d.fields pf.num = some idx) (h2 : d.fields[idx]? = some f) :
    narrowField S nb d pf = true ↔
      (pf.wt = 0 → isNarrowTy f.ty = true → pf.vint < 2 ^ 32)
      ∧ (pf.wt = 2 → (isNarrowTy f.ty = true → narrowElems (pf.payload.length + 1) pf.payload = true)
          ∧ ∀ d', subDesc S f = some d' → nb d' pf.payload = true) := by
  unfold narrowField
  rw [h1]
  simp only [h2]
  by_cases w0 : pf.wt = 0
  · rw [if_pos (by simp [w0])]
    cases isNarrowTy f.ty <;> simp [w0]
  · rw [if_neg (by simp [w0])]
    by_cases w2 : pf.wt = 2
    · rw [if_pos (by simp [w2])]
      cases isNarrowTy f.ty <;> cases subDesc S f <;> simp [w2]
    · rw [if_neg (by simp [w2])]
      simp [w0, w2]

theorem narrowField_of_field (S : Schema) (nb : MsgD → Bytes → Bool) (d : MsgD) (pf : PField)
    (h : ∀ idx f, findField d.fields pf.num = some idx → d.fields[idx]? = some f →
      isNarrowTy f.ty = false ∧ ∀ d', subDesc S f = some d' → nb d' pf.payload = true) :
    narrowField S nb d pf = true := by
  cases hf : findField d.fields pf.num with
  | none => unfold narrowField; rw [hf]
  | some idx =>
    cases hfi : d.fields[idx]? with
    | none => unfold narrowField; rw [hf]; simp only [hfi]
    | some f =>
      obtain ⟨h1, h2⟩ := h idx f hf hfi
      have hnn : isNarrowTy f.ty = true → False := fun hn => by rw [h1] at hn; cases hn
      exact (narrowField_iff S nb d pf idx f hf hfi).2
        ⟨fun _ hn => (hnn hn).elim, fun _ => ⟨fun hn => (hnn hn).elim, h2⟩⟩

/-
  Why there are two input guards.  `narrow32` inspects every record whose NUMBER the class declares, whatever its
  wire type.  A record with a declared number and an unfitting wire type is an UNKNOWN field for both decoders
  (`isUnknownField`; the model keeps its raw bytes, the spec ignores it), yet `narrow32` still looks into it: number 1
  declared `uint32` (singular), record `0a 05 80 80 80 80 10` (wire type 2, payload = the varint 2^32) fails `narrow32`
  although both decoders skip it.  Such bytes are exactly what `bytes(m)` appends for the unknown fields `m` carries
  (`UnkOk`), so `narrow32` is NOT a property of the encoder's output (counterexample `CX` in
  `BpProofs/Props/C02Dump.lean`); only the encoder's OWN records never violate it (it does hold of messages whose
  unknown fields themselves satisfy it; that is not proved).
  `narrow32U` is `narrow32` with the unknown records skipped, at every nesting level.  It is weaker
  (`narrow32U_of_narrow32`), `load_complete` still holds under it (`load_complete_bytesU`, `BpProofs/SpecLinkNarrow.lean`:
  the step lemma `step_sim` needs the guard only on records the class knows), and it IS a property of the encoder's
  output (`dump_narrowU`, `BpProofs/DumpNarrow.lean`).
-/

/-- `narrowField`, not asked of a record that is an unknown field of the class -/
def narrowFieldU (S : Schema) (nb : MsgD → Bytes → Bool) (d : MsgD) (pf : PField) : Bool :=
  isUnknownField d pf || narrowField S nb d pf

/-- **the input guard on the records the class knows**: no KNOWN `uint32` / `sint32` position of the byte string
    (a record the class declares with a fitting wire type; at any nesting depth ≤ `fuel`)
    holds a varint ≥ 2^32 -/
def narrow32U (S : Schema) : Nat → MsgD → Bytes → Bool
  | 0, _, _ => true
  | fuel + 1, d, bs =>
    match loadFields bs with
    | .ok pfs => pfs.all (narrowFieldU S (narrow32U S fuel) d)
    | .error _ => true

/-- a decoder state of the model and an abstract message of the spec denote the same thing -/
structure Sim (S : Schema) (d : MsgD) (st : MState) (m : Spec.AbsMsg) : Prop where
  typed : StTyped false S d st
  slots : nvs st.slots = nvs m.fields
  sel : st.cur = m.sel
  nonone : ∀ k, m.fields.getD k .ph ≠ Val.none

/-- the nested decoders agree on the payload `p` -/
def SubSim (S : Schema) (rec : Loader) (sub : Spec.SubDecoder) (nb : MsgD → Bytes → Bool) (p : Bytes) : Prop :=
  ∀ (c : Nat) (d : MsgD) (st' : MState), GoodD S d → nb d p = true → rec d (freshState d) p = .ok st' →
    ∃ m, sub c d p = some m ∧ m.cls = c ∧ Sim S d st' m

theorem Sim.len {S : Schema} {d : MsgD} {st : MState} {m : Spec.AbsMsg} (h : Sim S d st m) :
    st.slots.length = d.fields.length ∧ m.fields.length = d.fields.length := by
  have h1 := slotsTyped_length false S _ _ h.typed.2
  have h2 := congrArg List.length h.slots
  rw [nvs_length, nvs_length] at h2
  exact ⟨h1, by omega⟩

theorem Sim.getD {S : Schema} {d : MsgD} {st : MState} {m : Spec.AbsMsg} (h : Sim S d st m) (k : Nat) :
    nv (st.slots.getD k .ph) = nv (m.fields.getD k .ph) := by
  rw [← nvs_getD, ← nvs_getD, h.slots]

theorem nvs_ext (xs ys : List Val) (hl : xs.length = ys.length)
    (h : ∀ k, nv (xs.getD k .ph) = nv (ys.getD k .ph)) : nvs xs = nvs ys := by
  apply list_ext_getD Val.ph _ _ (by rw [nvs_length, nvs_length, hl])
  intro k
  rw [nvs_getD, nvs_getD, h k]

theorem set_getD (xs : List Val) (i k : Nat) (v : Val) :
    (xs.set i v).getD k .ph = if k = i ∧ i < xs.length then v else xs.getD k .ph :=
  setAt_getD xs i k v

theorem clearGroup_length (g : Nat) (fs : List FieldD) (vs : List Val) :
    (Spec.clearGroup g fs vs).length = vs.length := by
  induction fs generalizing vs with
  | nil => cases vs <;> rfl
  | cons f fs ih =>
    cases vs with
    | nil => rfl
    | cons v vs => simp only [Spec.clearGroup, List.length_cons, ih]

theorem clearGroup_getD (g : Nat) (fs : List FieldD) (vs : List Val) (k : Nat) :
    (Spec.clearGroup g fs vs).getD k .ph = if grp fs k = some g then Val.ph else vs.getD k .ph := by
  induction fs generalizing vs k with
  | nil => cases vs <;> simp [Spec.clearGroup, grp_nil]
  | cons f fs ih =>
    cases vs with
    | nil => simp [Spec.clearGroup]
    | cons v vs =>
      cases k with
      | zero => simp only [Spec.clearGroup, List.getD_cons_zero, grp_cons_zero]
      | succ k =>
        simp only [Spec.clearGroup, List.getD_cons_succ, grp_cons_succ]
        exact ih vs k

theorem materialize_orDefault (S : Schema) (fld : FieldD) (k : DefKind) (a b : Val)
    (hk : defaultOf S fld = defaultOfKind S k) (hab : nv a = nv b) (ha : a ≠ .none) (hb : b ≠ .none) :
    nv (materialize S fld a) = nv (Spec.orDefault S k b) := by
  by_cases hph : a = .ph
  · subst hph
    have : b = .ph := by
      rcases (nv_eq_ph b).1 hab.symm with h | h
      · exact h
      · exact absurd h hb
    subst this
    simp [materialize, Spec.orDefault, hk]
  · have hbph : b ≠ .ph := by
      intro hc; subst hc
      rcases (nv_eq_ph a).1 hab with h | h
      · exact hph h
      · exact ha h
    have e1 : materialize S fld a = a := materialize_of_ne_ph S fld hph
    have e2 : Spec.orDefault S k b = b := by cases b <;> simp [Spec.orDefault] at hbph ⊢
    rw [e1, e2, hab]

theorem orDefault_ne_none (S : Schema) (k : DefKind) (b : Val) (hk : k ≠ .none) (hb : b ≠ .none) :
    Spec.orDefault S k b ≠ .none := by
  cases b <;> simp [Spec.orDefault] at hb ⊢
  cases k <;> simp [defaultOfKind, fresh] at hk ⊢

theorem msgKindDef_ne_none (k : MsgKind) : msgKindDef k ≠ .none := _root_.Bp.msgKindDef_ne_none k

theorem slot_ne_none (S : Schema) (d : MsgD) (st : MState) (i : Nat) (fld : FieldD) (ht : StTyped false S d st)
    (hf : d.fields[i]? = some fld) (hn : noneOkB fld = false) : st.slots.getD i .ph ≠ .none := by
  intro hc
  have := slotsTyped_getD false S _ _ i fld ht.2 hf
  rw [hc, slotTypedB, hn] at this
  simp at this

end Bp.Link
