import BpModel.Varint
import Mathlib.Tactic.Ring
/-
  The varint model.  `encNat` and `bitLen` recurse on fuel.  `encNat_lt` / `encNat_ge` are the unfolding
  equations of `encNat`, `encNat_induct` the induction they give, and every fact about `encNat` goes through it.
  `bitLen` is characterised on the recursion itself (`bitLenAux_le_iff`); the length of `encNat n` is read off
  `bitLen n` (`size_encNat`).  The reader has two lemmas: a well-shaped varint is read back whatever follows
  (`loadVarintAux_shape`), and without a terminator in reach the reader fails (`loadVarintAux_cont`);
  `varintShape_take` says that a byte string is in one of the two cases.  Then zig-zag, two's complement and
  fixed-width packing.  The property statements are in Props/C16.lean.
-/
namespace Bp
open Spec

theorem wfBytes_cons {b : Nat} {bs : Bytes} : WfBytes (b :: bs) ↔ b < 256 ∧ WfBytes bs := List.forall_mem_cons

theorem encNatAux_fuel (f n : Nat) (h : n ≤ f) : encNatAux f n = encNatAux n n := by
  induction n using Nat.strongRecOn generalizing f with
  | _ n ih =>
    cases f with
    | zero => obtain rfl : n = 0 := by omega
              rfl
    | succ f =>
      cases n with
      | zero => rfl
      | succ n =>
        simp only [encNatAux]
        split
        · rfl
        · rw [ih _ (by omega) f (by omega), ih _ (by omega) n (by omega)]

theorem encNat_lt (n : Nat) (h : n < 128) : encNat n = [n] := by
  unfold encNat
  cases n with
  | zero => rfl
  | succ m => simp [encNatAux, h]

theorem encNat_ge (n : Nat) (h : ¬ n < 128) : encNat n = (128 + n % 128) :: encNat (n / 128) := by
  unfold encNat
  cases n with
  | zero => omega
  | succ m =>
    simp only [encNatAux, h, if_false]
    rw [encNatAux_fuel m ((m + 1) / 128) (by omega)]

theorem encNat_ne_nil (n : Nat) : encNat n ≠ [] := by
  by_cases h : n < 128
  · simp [encNat_lt n h]
  · simp [encNat_ge n h]

theorem encNat_induct (P : Nat → Bytes → Prop) (small : ∀ n, n < 128 → P n [n])
    (big : ∀ n, ¬ n < 128 → P (n / 128) (encNat (n / 128)) → P n ((128 + n % 128) :: encNat (n / 128)))
    (n : Nat) : P n (encNat n) := by
  induction n using Nat.strongRecOn with
  | _ n ih =>
    by_cases h : n < 128
    · rw [encNat_lt n h]; exact small n h
    · rw [encNat_ge n h]; exact big n h (ih (n / 128) (by omega))

theorem encNat_wf (n : Nat) : WfBytes (encNat n) :=
  encNat_induct (fun _ bs => WfBytes bs) (fun n h => wfBytes_cons.2 ⟨by omega, nofun⟩)
    (fun n _ ih => wfBytes_cons.2 ⟨by omega, ih⟩) n

theorem encNat_value (n : Nat) : varintValue (encNat n) = n :=
  encNat_induct (fun n bs => varintValue bs = n) (fun n h => by simp [varintValue]; omega)
    (fun n _ ih => by simp only [varintValue]; rw [ih]; omega) n

theorem varintShape_cons_cons (a b : Nat) (bs : Bytes) :
    varintShape (a :: b :: bs) = ((128 ≤ a && a < 256) && varintShape (b :: bs)) := rfl

theorem varintShape_cons (a : Nat) (bs : Bytes) (h : varintShape bs = true) :
    varintShape (a :: bs) = (128 ≤ a && a < 256) := by
  cases bs with
  | nil => cases h
  | cons b bs => rw [varintShape_cons_cons, h, Bool.and_true]

theorem encNat_shape (n : Nat) : varintShape (encNat n) = true :=
  encNat_induct (fun _ bs => varintShape bs = true) (fun n h => by simp [varintShape, h])
    (fun n _ ih => by rw [varintShape_cons _ _ ih]; simp; omega) n

theorem encNat_getLast (n : Nat) (h : n ≠ 0) : (encNat n).getLast? ≠ some 0 :=
  encNat_induct (fun n bs => n ≠ 0 → bs.getLast? ≠ some 0) (fun n _ h => by simpa using h)
    (fun n hn ih _ => by
      cases hr : encNat (n / 128) with
      | nil => exact absurd hr (encNat_ne_nil _)
      | cons b bs =>
        rw [List.getLast?_cons_cons, ← hr]
        exact ih (by omega)) n h

theorem encNat_canonical (n : Nat) : varintCanonical (encNat n) = true := by
  unfold varintCanonical
  rw [encNat_shape]
  by_cases h : n = 0
  · subst h; rfl
  · simp [encNat_getLast n h]

theorem bitLen_zero : bitLen 0 = 0 := rfl

theorem bitLenAux_le_iff (f n k : Nat) (h : n ≤ f) : bitLenAux f n ≤ k ↔ n < 2 ^ k := by
  induction f generalizing n k with
  | zero => obtain rfl : n = 0 := by omega
            simp [bitLenAux]
  | succ f ih =>
    simp only [bitLenAux]
    split
    · subst n; simp
    · cases k with
      | zero => simp; omega
      | succ k =>
        rw [Nat.add_comm, Nat.succ_le_succ_iff, ih (n / 2) k (by omega), Nat.pow_succ]
        omega

theorem bitLen_le_iff (n k : Nat) : bitLen n ≤ k ↔ n < 2 ^ k := bitLenAux_le_iff n n k (Nat.le_refl n)

/-- both sides are the number that `bitLenAux_le_iff` characterises -/
theorem bitLenAux_fuel (f n : Nat) (h : n ≤ f) : bitLenAux f n = bitLen n :=
  Nat.le_antisymm ((bitLenAux_le_iff f n _ h).2 ((bitLen_le_iff n _).1 (Nat.le_refl _)))
    ((bitLen_le_iff n _).2 ((bitLenAux_le_iff f n _ h).1 (Nat.le_refl _)))

theorem bitLen_pos (n : Nat) (h : n ≠ 0) : bitLen n = 1 + bitLen (n / 2) := by
  cases n with
  | zero => omega
  | succ m =>
    rw [← bitLenAux_fuel m ((m + 1) / 2) (by omega)]
    simp [bitLen, bitLenAux]

theorem bitLen_shift (j n : Nat) (h : 2 ^ j ≤ n) : bitLen n = j + bitLen (n / 2 ^ j) := by
  induction j generalizing n with
  | zero => simp
  | succ j ih =>
    have hpos := Nat.two_pow_pos j
    rw [Nat.pow_succ] at h
    rw [bitLen_pos n (by omega), ih (n / 2) (by omega), Nat.div_div_eq_div_mul, Nat.pow_succ, Nat.mul_comm 2]
    omega

theorem size_encNat (n : Nat) (h : n ≠ 0) : (bitLen n + 6) / 7 = (encNat n).length :=
  encNat_induct (fun n bs => n ≠ 0 → (bitLen n + 6) / 7 = bs.length)
    (fun n hn h => by
      -- one byte: 1 ≤ bit length ≤ 7
      have up : bitLen n ≤ 7 := (bitLen_le_iff n 7).mpr hn
      have lo : ¬ bitLen n ≤ 0 := by rw [bitLen_le_iff]; omega
      show _ = 1
      omega)
    (fun n hn ih _ => by
      -- seven more bits, one more byte
      have e := bitLen_shift 7 n (by omega)
      rw [show (2 : Nat) ^ 7 = 128 from rfl] at e
      rw [List.length_cons, ← ih (by omega), e]
      omega) n h

theorem encNat_length_le10 (n : Nat) (h : n < 2 ^ 64) : (encNat n).length ≤ 10 := by
  by_cases h0 : n = 0
  · subst h0; decide
  · have := (bitLen_le_iff n 64).mpr h
    rw [← size_encNat n h0]; omega

theorem encNat_length_10 (n : Nat) (hlo : 2 ^ 63 ≤ n) (hhi : n < 2 ^ 64) : (encNat n).length = 10 := by
  have up := (bitLen_le_iff n 64).mpr hhi
  have lo : ¬ bitLen n ≤ 63 := fun hc => absurd ((bitLen_le_iff n 63).mp hc) (by omega)
  rw [← size_encNat n (by omega)]; omega

theorem loadVarintAux_shape (bs rest : Bytes) (shift res k : Nat)
    (hs : varintShape bs = true) (hlen : shift + 7 * bs.length ≤ 70) :
    loadVarintAux shift res k (bs ++ rest)
      = .ok (res + varintValue bs * 2 ^ shift, k + bs.length) := by
  induction bs generalizing shift res k with
  | nil => cases hs
  | cons b bs ih =>
    rw [List.length_cons] at hlen
    have hsh : ¬ shift ≥ 64 := by omega
    rw [List.cons_append, loadVarintAux]
    cases bs with
    | nil =>
      have hb : b < 128 := by simpa [varintShape] using hs
      simp only [hsh, hb, if_true, if_false, varintValue, Nat.mod_eq_of_lt hb, List.length_singleton,
        Nat.mul_zero, Nat.add_zero]
    | cons c cs =>
      rw [varintShape_cons_cons, Bool.and_eq_true, Bool.and_eq_true, decide_eq_true_eq, decide_eq_true_eq] at hs
      have hb : ¬ b < 128 := by omega
      simp only [hsh, hb, if_false]
      rw [ih (shift + 7) _ (k + 1) hs.2 (by omega),
        show varintValue (b :: c :: cs) = b % 128 + 128 * varintValue (c :: cs) from rfl, Nat.pow_add]
      congr 2
      · ring
      · simp only [List.length_cons]; omega

theorem loadVarint_shape (bs rest : Bytes) (hs : varintShape bs = true) (hlen : bs.length ≤ 10) :
    loadVarint (bs ++ rest) = .ok (varintValue bs % 2 ^ 64, bs.length) := by
  unfold loadVarint
  rw [loadVarintAux_shape bs rest 0 0 0 hs (by omega)]
  simp

theorem loadVarint_encNat (n : Nat) (rest : Bytes) (h : n < 2 ^ 64) :
    loadVarint (encNat n ++ rest) = .ok (n, (encNat n).length) := by
  rw [loadVarint_shape _ _ (encNat_shape n) (encNat_length_le10 n h), encNat_value,
    Nat.mod_eq_of_lt h]

/-- a byte string begins with a well-shaped varint of at most `n` bytes, or its first `n` bytes all carry the
    continuation bit -/
theorem varintShape_take (bs : Bytes) (hw : WfBytes bs) (n : Nat) :
    (∃ m, 1 ≤ m ∧ m ≤ n ∧ m ≤ bs.length ∧ varintShape (bs.take m) = true) ∨ ∀ b ∈ bs.take n, 128 ≤ b := by
  induction bs generalizing n with
  | nil => right; simp
  | cons b bs ih =>
    cases n with
    | zero => right; simp
    | succ n =>
      obtain ⟨hb256, hw'⟩ := wfBytes_cons.1 hw
      by_cases hb : b < 128
      · left; exact ⟨1, by simp [varintShape, hb]⟩
      rcases ih hw' n with ⟨m, h1, h2, h3, h4⟩ | h
      · left
        refine ⟨m + 1, by omega, by omega, by simp; omega, ?_⟩
        rw [List.take_succ_cons, varintShape_cons _ _ h4]; simp; omega
      · exact .inr (List.forall_mem_cons.2 ⟨by omega, h⟩)

/-- `n` more bytes may come before the shift reaches 70: with no terminator among these the reader fails, with
    `EOFError` if the input ends first -/
theorem loadVarintAux_cont (bs : Bytes) (shift n res k : Nat) (hn : shift + 7 * n = 70)
    (h : ∀ b ∈ bs.take n, 128 ≤ b) :
    loadVarintAux shift res k bs = .error (if bs.length < n then .eof else .value) := by
  induction bs generalizing shift n res k with
  | nil => cases n <;> simp [loadVarintAux] <;> omega
  | cons b bs ih =>
    cases n with
    | zero => simp [loadVarintAux]; omega
    | succ n =>
      obtain ⟨hb, h'⟩ := List.forall_mem_cons.1 h
      rw [loadVarintAux]
      simp only [show ¬ shift ≥ 64 by omega, show ¬ b < 128 by omega, if_false]
      rw [ih (shift + 7) n _ _ (by omega) h']
      simp

theorem unzig_zig (v : Int) : unzig (zig v).toNat = v := by
  unfold zig unzig
  split <;> split <;> omega

theorem zig_nonneg (v : Int) : 0 ≤ zig v := by unfold zig; split <;> omega

theorem two_pow_pred {bits : Nat} (hb : 1 ≤ bits) : 2 ^ bits = 2 * 2 ^ (bits - 1) := by
  rw [← Nat.pow_succ']; congr 1; omega

theorem zig_lt (bits : Nat) (v : Int) (hlo : -(2 ^ (bits - 1) : Nat) ≤ v) (hhi : v < (2 ^ (bits - 1) : Nat))
    (hb : 1 ≤ bits) : zig v < (2 ^ bits : Nat) := by
  have := two_pow_pred hb
  unfold zig; split <;> omega

/-- the unsigned 64-bit pattern `dump_varint` writes for an integer -/
def asU64 (v : Int) : Nat := if v < 0 then (v + two64).toNat else v.toNat

theorem asU64_lt (i : Int) (hlo : -two63 ≤ i) (hhi : i < two64) : asU64 i < 2 ^ 64 := by
  rw [show (2 : Nat) ^ 64 = 18446744073709551616 by decide]
  unfold asU64 two64 two63 at *
  split <;> omega

theorem asU64_nonneg (i : Int) (h : 0 ≤ i) : asU64 i = i.toNat := by
  unfold asU64
  rw [if_neg (by omega)]

theorem packLE_length (n v : Nat) : (packLE n v).length = n := by
  induction n generalizing v with
  | zero => rfl
  | succ n ih => simp [packLE, ih]

theorem packLE_wf (n v : Nat) : WfBytes (packLE n v) := by
  induction n generalizing v with
  | zero => exact nofun
  | succ n ih => exact wfBytes_cons.2 ⟨by omega, ih _⟩

theorem unpackLE_packLE (n v : Nat) (h : v < 256 ^ n) : unpackLE (packLE n v) = v := by
  induction n generalizing v with
  | zero => simp at h; simp [packLE, unpackLE, h]
  | succ n ih =>
    simp only [packLE, unpackLE]
    rw [ih (v / 256)]
    · omega
    · rw [Nat.pow_succ] at h
      exact (Nat.div_lt_iff_lt_mul (by omega)).mpr h

theorem unpackLE_lt (bs : Bytes) (hw : WfBytes bs) : unpackLE bs < 256 ^ bs.length := by
  induction bs with
  | nil => simp [unpackLE]
  | cons b bs ih =>
    obtain ⟨hb, hw'⟩ := wfBytes_cons.1 hw
    have := ih hw'
    simp only [List.length_cons, unpackLE, Nat.pow_succ]
    omega

theorem toSigned_range (bits : Nat) (hb : 1 ≤ bits) (u : Nat) (h : u < 2 ^ bits) :
    -((2 ^ (bits - 1) : Nat) : Int) ≤ toSigned bits u ∧ toSigned bits u < ((2 ^ (bits - 1) : Nat) : Int) := by
  have e := two_pow_pred hb
  unfold toSigned
  generalize 2 ^ (bits - 1) = H at *
  rw [e] at h ⊢
  split <;> omega

theorem toSigned_ofSigned (bits : Nat) (hb : 1 ≤ bits) (v : Int)
    (hlo : -(2 ^ (bits - 1) : Nat) ≤ v) (hhi : v < (2 ^ (bits - 1) : Nat)) :
    toSigned bits (ofSigned bits v) = v := by
  have e := two_pow_pred hb
  unfold toSigned ofSigned
  generalize 2 ^ (bits - 1) = H at *
  rw [e]
  -- `v mod 2H` is `v` or `v + 2H`, by the sign of `v`
  by_cases hv : 0 ≤ v
  · rw [Int.emod_eq_of_lt hv (by omega)]
    split <;> omega
  · rw [← Int.add_emod_right, Int.emod_eq_of_lt (by omega) (by omega)]
    split <;> omega

/-- the low `bits` bits of the pattern `dump_varint` writes are the `bits`-wide two's complement pattern -/
theorem asU64_mod (bits : Nat) (hb : bits ≤ 64) (v : Int) (hlo : -two63 ≤ v) :
    asU64 v % 2 ^ bits = ofSigned bits v := by
  have e : two64 = ((2 ^ bits : Nat) : Int) * ((2 ^ (64 - bits) : Nat) : Int) := by
    rw [← Int.natCast_mul, ← Nat.pow_add, show bits + (64 - bits) = 64 by omega]; rfl
  have hp : (0 : Int) ≤ ((2 ^ bits : Nat) : Int) := Int.natCast_nonneg _
  unfold asU64 ofSigned
  split
  · rw [← Int.add_mul_emod_self_left v, ← e, Int.toNat_emod (by unfold two63 two64 at *; omega) hp, Int.toNat_natCast]
  · rw [Int.toNat_emod (by omega) hp, Int.toNat_natCast]

/-- sign recovery of any width up to 64 inverts `dump_varint` on the signed range of that width:
    `signRecover bits n` is `toSigned bits (n % 2 ^ bits)` by definition -/
theorem signRecover_asU64 (bits : Nat) (hb : 1 ≤ bits) (hb64 : bits ≤ 64) (v : Int)
    (hlo : -(2 ^ (bits - 1) : Nat) ≤ v) (hhi : v < (2 ^ (bits - 1) : Nat)) :
    signRecover bits (asU64 v) = v := by
  have : (2 ^ (bits - 1) : Nat) ≤ 2 ^ 63 := Nat.pow_le_pow_right (by decide) (by omega)
  show toSigned bits (asU64 v % 2 ^ bits) = v
  rw [asU64_mod bits hb64 v (by unfold two63; omega), toSigned_ofSigned bits hb v hlo hhi]
end Bp
