import BpModel.All
import BpProofs.Ops
import BpProofs.Rt
import BpProofs.JsonNonEmpty
/-
  C04, the relation between a message and what `from_dict(to_dict(m))` rebuilds, and the
  proof that related messages encode to the same bytes.  Nothing in this file mentions JSON
  values: `DEqv` is a relation on message values.

    m ≈ m'  (`DEqv S m m'`)  iff  same class, same `_unknown_fields`, same oneof selection,
    `_serialized_on_wire` is True in `m'` (at every nesting level), and slot by slot either
      * `same`  : the values are related (identical leaves; lists and dict values item-wise;
                  sub-messages recursively) — for a singular sub-message only when the
                  original is *kept* (`keptSlot`): it is `_serialized_on_wire`, or
                  proto3-optional, or the selected oneof member, or it differs
                  from a fresh `Sub()` although nothing marked it (D46), or
      * `unset` : `m` holds a value that `==` the field's default, is not the selected member
                  of a oneof, is not a proto3-optional field and (for a sub-message) is not
                  `_serialized_on_wire`; `m'` holds PLACEHOLDER, which every read
                  materialises to that default.

  Equal bytes (`deqv_dumpVal`) needs the value to be TYPED (`wellTyped'`, BpProofs/JsonGuard.lean)
  and map fields to be singular (part of `fieldJsonOk`): an unmarked sub-message is encoded
  with `serialize_empty = False`, the rebuilt, marked one with `serialize_empty = True`, and the
  two agree because a typed sub-message that differs from `Sub()` has a non-empty body
  (`dumpSlots_nonempty`, BpProofs/JsonNonEmpty.lean).
-/
namespace Bp
open Gen

def dAtom : Val → Bool
  | .list _ | .dict _ _ | .msg _ _ _ _ _ => false
  | _ => true

/-- a singular sub-message is present: `_serialized_on_wire`, proto3-optional, or the selected
    member of its oneof; every other kind of value is present when it is stored -/
def presentSlot (f : FieldD) (sel : Bool) : Val → Bool
  | .msg _ _ ow _ _ => ow || f.optional || sel
  | _ => true

/-- a singular sub-message is kept by `to_dict` and by `dump`: it is present, or it differs from
    the field's default (a fresh `Sub()`) although nothing marked it (`m.a.b.x = 1` leaves `m.a`
    in that state); every other kind of value is kept when it is stored -/
def keptSlot (S : Schema) (f : FieldD) (sel : Bool) : Val → Bool
  | .msg c sl ow unk cur => ow || f.optional || sel || !eqDefault S f.defKind (.msg c sl ow unk cur)
  | _ => true

theorem keptSlot_of_present (S : Schema) (f : FieldD) (sel : Bool) (v : Val) (h : presentSlot f sel v = true) :
    keptSlot S f sel v = true := by
  cases v with
  | msg _ _ _ _ _ => simp only [presentSlot] at h; simp only [keptSlot, h, Bool.true_or]
  | _ => rfl

mutual
inductive DEqv (S : Schema) : Val → Val → Prop
  | atom (v : Val) : dAtom v = true → DEqv S v v
  | msg (c : Nat) (sl sl' : List Val) (ow : Bool) (unk : Bytes) (cur : List (Option Nat)) :
      SlotsDEqv S (fieldsOf S c) cur 0 sl sl' → DEqv S (.msg c sl ow unk cur) (.msg c sl' true unk cur)
  | list (xs ys : List Val) : ListDEqv S xs ys → DEqv S (.list xs) (.list ys)
  | dict (ks vs vs' : List Val) : ListDEqv S vs vs' → DEqv S (.dict ks vs) (.dict ks vs')
inductive ListDEqv (S : Schema) : List Val → List Val → Prop
  | nil : ListDEqv S [] []
  | consAtom (x : Val) (xs ys : List Val) : dAtom x = true → ListDEqv S xs ys → ListDEqv S (x :: xs) (x :: ys)
  | consMsg (c : Nat) (sl sl' : List Val) (ow : Bool) (unk : Bytes) (cur : List (Option Nat)) (xs ys : List Val) :
      SlotsDEqv S (fieldsOf S c) cur 0 sl sl' → ListDEqv S xs ys →
      ListDEqv S (.msg c sl ow unk cur :: xs) (.msg c sl' true unk cur :: ys)
inductive SlotsDEqv (S : Schema) : List FieldD → List (Option Nat) → Nat → List Val → List Val → Prop
  | nil (fs : List FieldD) (cur : List (Option Nat)) (k : Nat) : SlotsDEqv S fs cur k [] []
  | same (fs : List FieldD) (cur : List (Option Nat)) (k : Nat) (f : FieldD) (v v' : Val) (vs vs' : List Val) :
      fs[k]? = some f → DEqv S v v' → keptSlot S f (selectedInGroup f k cur) v = true →
      SlotsDEqv S fs cur (k + 1) vs vs' → SlotsDEqv S fs cur k (v :: vs) (v' :: vs')
  | unset (fs : List FieldD) (cur : List (Option Nat)) (k : Nat) (f : FieldD) (v : Val) (vs vs' : List Val) :
      fs[k]? = some f → f.optional = false → selectedInGroup f k cur = false →
      eqDefault S f.defKind v = true → onWireOf v = false →
      SlotsDEqv S fs cur (k + 1) vs vs' → SlotsDEqv S fs cur k (v :: vs) (Val.ph :: vs')
end


theorem group_none_of_vis_unsel (f : FieldD) (k : Nat) (cur : List (Option Nat))
    (h1 : hidden f k cur = false) (h2 : selectedInGroup f k cur = false) : f.group = Option.none := by
  rw [selectedInGroup_eq, h1] at h2
  simpa using h2

theorem dumpSlot_unset (S : Schema) (f : FieldD) (v : Val) (hg : f.group = Option.none) (ho : f.optional = false)
    (hd : eqDefault S f.defKind v = true) (hw : onWireOf v = false) :
    dumpSlot S f false false v = .ok [] ∧ dumpSlot S f false false Val.ph = .ok [] := by
  constructor
  · cases v with
    | ph => simp [eqDefault] at hd
    | none => simp [dumpSlot]
    | msg c sl ow unk cur =>
      simp only [onWireOf] at hw
      subst hw
      simp [dumpSlot, hd, hg, ho]
    | _ => simp [dumpSlot, hd, hg, ho]
  · rw [dumpSlot]
    simp only [Bool.false_eq_true, if_false, dumpDefault, hg, ho, Option.isSome_none, Bool.or_self, Bool.not_false, if_true]
    split <;> rfl

theorem prepScalar_msg (S : Schema) (t : PType) (c : Nat) (sl : List Val) (ow : Bool) (unk : Bytes) (cur : List (Option Nat))
    (c' : Nat) (sl' : List Val) (ow' : Bool) (unk' : Bytes) (cur' : List (Option Nat)) :
    prepScalar S t Option.none (.msg c sl ow unk cur) = prepScalar S t Option.none (.msg c' sl' ow' unk' cur') := by
  simp only [prepScalar, prepPlain, asInt, packFixed]

theorem listDEqv_isEmpty (S : Schema) (xs ys : List Val) (h : ListDEqv S xs ys) : ys.isEmpty = xs.isEmpty := by
  cases h <;> rfl

theorem listDEqv_prepPacked (S : Schema) (t : PType) : ∀ (xs ys : List Val), ListDEqv S xs ys →
    prepPacked S t ys = prepPacked S t xs
  | [], ys, h => by cases h; rfl
  | x :: xs, ys, h => by
    cases h with
    | consAtom _ _ ys' ha hl => rw [prepPacked, prepPacked, listDEqv_prepPacked S t xs ys' hl]
    | consMsg c sl sl' ow unk cur _ ys' hs hl =>
      rw [prepPacked, prepPacked, listDEqv_prepPacked S t xs ys' hl,
        prepScalar_msg S t c sl' true unk cur c sl ow unk cur]

theorem frame_se_irrel (num : Nat) (t : PType) (pre : Bytes) (se se' w : Bool) (h : pre ≠ []) :
    frame num t pre se w = frame num t pre se' w := by
  obtain ⟨wt, hw, _⟩ := frame_eq num t pre se w
  have hn (b : Bool) : framed num wt pre b = rawRec num wt pre := if_neg fun hc => h hc.2.1
  rw [frame_of hw, frame_of hw, hn, hn]

theorem dumpSlot_kept_msg (S : Schema) (hS : ∀ c, ∀ f ∈ fieldsOf S c, fieldJsonOk f = true) (f : FieldD) (sel : Bool)
    (hsg : sel = true → f.group.isSome = true) (c : Nat) (sl sl' : List Val) (ow : Bool) (unk : Bytes)
    (cur : List (Option Nat))
    (hwt : slotOk' S f false sel (.msg c sl ow unk cur) = true)
    (hp : keptSlot S f sel (.msg c sl ow unk cur) = true)
    (hbody : dumpSlots S (fieldsOf S c) cur 0 sl' = dumpSlots S (fieldsOf S c) cur 0 sl) :
    dumpSlot S f false sel (.msg c sl' true unk cur) = dumpSlot S f false sel (.msg c sl ow unk cur) := by
  rw [dumpSlot, dumpSlot]
  simp only [Bool.false_eq_true, if_false]
  rw [hbody]
  have e1 : (f.group.isSome || f.optional || true || sel) = true := by simp
  by_cases hpres : (ow || f.optional || sel) = true
  · have e2 : (f.group.isSome || f.optional || ow || sel) = true := by
      simp only [Bool.or_eq_true] at hpres ⊢
      rcases hpres with (hp | hp) | hp
      · left; right; exact hp
      · left; left; right; exact hp
      · right; exact hp
    have e3 : (ow || (f.group.isSome || f.optional)) = true := by
      simp only [Bool.or_eq_true] at hpres ⊢
      rcases hpres with (hp | hp) | hp
      · left; exact hp
      · right; right; exact hp
      · right; left; exact hsg hp
    simp only [e1, e2, e3, Bool.not_true, Bool.and_false, Bool.false_eq_true, if_false, Bool.true_or]
  · -- not marked, not optional, not selected: kept because it differs from its default
    have hpres' : (ow || f.optional || sel) = false := by simpa using hpres
    simp only [Bool.or_eq_false_iff] at hpres'
    obtain ⟨⟨how, hopt⟩, hsel⟩ := hpres'
    subst how
    have hne : eqDefault S f.defKind (.msg c sl false unk cur) = false := by
      simp only [keptSlot, hopt, hsel, Bool.or_self, Bool.false_or, Bool.not_eq_true'] at hp
      exact hp
    rw [slotOk'] at hwt
    simp only [Bool.and_eq_true, Bool.not_eq_true', beq_iff_eq, Option.isNone_iff_eq_none] at hwt
    obtain ⟨⟨⟨⟨⟨⟨⟨⟨_, hty⟩, hw⟩, hr⟩, hk⟩, _⟩, _⟩, _⟩, hsl⟩ := hwt
    simp only [e1, hne, Bool.not_true, Bool.and_false, Bool.false_and, Bool.false_eq_true, if_false, Bool.true_or,
      Bool.false_or]
    cases hb : dumpSlots S (fieldsOf S c) cur 0 sl with
    | error e => rfl
    | ok body =>
      simp only [bind_ok, hty, hw, beq_self_eq_true, Option.isNone_none, Bool.and_self, if_true]
      have hdk : f.defKind = .msg c := by
        unfold FieldD.defKind
        simp [hr, hty, hopt, hw, hk, msgKindDef]
      rw [hdk, eqDefault] at hne
      simp only [beq_self_eq_true, Bool.true_and] at hne
      have hbne : body ≠ [] :=
        dumpSlots_nonempty S hS (fieldsOf S c) cur (hS c) sl 0 hsl (by simpa using hne) body hb
      exact frame_se_irrel _ _ _ _ _ _ (List.append_ne_nil_of_left_ne_nil hbne _)

mutual
theorem deqv_dumpSlots (S : Schema) (hS : ∀ c, ∀ f ∈ fieldsOf S c, fieldJsonOk f = true) (fs : List FieldD)
    (cur : List (Option Nat)) :
    ∀ (vs vs' : List Val) (k : Nat), slotsOk' S fs cur k vs = true → SlotsDEqv S fs cur k vs vs' →
      dumpSlots S fs cur k vs' = dumpSlots S fs cur k vs
  | _, _, _, _, .nil .. => rfl
  | v :: vs, v' :: ws, k, hwt, .same _ _ _ f _ _ _ _ hf hv hp hrest => by
    rw [slotsOk'] at hwt
    simp only [Bool.and_eq_true, hf] at hwt
    rw [dumpSlots, dumpSlots]
    simp only [hf]
    rw [deqv_dumpSlot S hS f (hidden f k cur) (selectedInGroup f k cur) (selected_group f k cur) v v' hwt.1 hv hp,
      deqv_dumpSlots S hS fs cur vs ws (k + 1) hwt.2 hrest]
  | v :: vs, _ :: ws, k, hwt, .unset _ _ _ f _ _ _ hf ho hs hd hw hrest => by
    rw [slotsOk'] at hwt
    simp only [Bool.and_eq_true] at hwt
    rw [dumpSlots, dumpSlots]
    simp only [hf]
    rw [deqv_dumpSlots S hS fs cur vs ws (k + 1) hwt.2 hrest]
    cases hh : hidden f k cur with
    | true => rw [hidden_empty, hidden_empty]
    | false =>
      obtain ⟨h1, h2⟩ := dumpSlot_unset S f v (group_none_of_vis_unsel f k cur hh hs) ho hd hw
      rw [hs, h1, h2]

theorem deqv_dumpSlot (S : Schema) (hS : ∀ c, ∀ f ∈ fieldsOf S c, fieldJsonOk f = true) (f : FieldD) (hid sel : Bool)
    (hsg : sel = true → f.group.isSome = true) :
    ∀ (v v' : Val), slotOk' S f hid sel v = true → DEqv S v v' → keptSlot S f sel v = true →
      dumpSlot S f hid sel v' = dumpSlot S f hid sel v
  | _, _, _, .atom .., _ => rfl
  | .msg c sl ow unk cur, .msg _ sl' _ _ _, hwt, .msg _ _ _ _ _ _ hs, hp => by
    cases hid with
    | true => rw [hidden_empty, hidden_empty]
    | false =>
      have hsl : slotsOk' S (fieldsOf S c) cur 0 sl = true := by
        have := hwt
        rw [slotOk'] at this
        simp only [Bool.and_eq_true] at this
        exact this.2
      exact dumpSlot_kept_msg S hS f sel hsg c sl sl' ow unk cur hwt hp
        (deqv_dumpSlots S hS (fieldsOf S c) cur sl sl' 0 hsl hs)
  | .list xs, .list ys, hwt, .list _ _ hl, _ => by
    cases hid with
    | true => rw [hidden_empty, hidden_empty]
    | false =>
      rw [slotOk'] at hwt
      simp only [Bool.and_eq_true] at hwt
      rw [dumpSlot, dumpSlot]
      simp only [Bool.false_eq_true, if_false]
      rw [eqDefault, eqDefault, listDEqv_isEmpty S xs ys hl, listDEqv_prepPacked S f.ty xs ys hl,
        deqv_dumpItems S hS f xs ys hwt.2 hl]
  | .dict ks vs, .dict _ vs', hwt, .dict _ _ _ hl, _ => by
    cases hid with
    | true => rw [hidden_empty, hidden_empty]
    | false =>
      rw [slotOk'] at hwt
      simp only [Bool.and_eq_true] at hwt
      rw [dumpSlot, dumpSlot]
      simp only [Bool.false_eq_true, if_false]
      rw [eqDefault, eqDefault, deqv_dumpEntries S hS f vs vs' ks hwt.2 hl]

theorem deqv_dumpItems (S : Schema) (hS : ∀ c, ∀ f ∈ fieldsOf S c, fieldJsonOk f = true) (f : FieldD) :
    ∀ (xs ys : List Val), itemsOk' S f xs = true → ListDEqv S xs ys → dumpItems S f ys = dumpItems S f xs
  | _, _, _, .nil => rfl
  | x :: xs, _ :: ys, hwt, .consAtom _ _ _ ha hl => by
    rw [dumpItems_cons', dumpItems_cons', deqv_dumpItems S hS f xs ys (itemsOk'_cons S f _ xs hwt).1 hl]
  -- a message item is written from its body alone: `serialize_empty` is set, `_serialized_on_wire` is not read
  | .msg c sl ow unk cur :: xs, .msg _ sl' _ _ _ :: ys, hwt, .consMsg _ _ _ _ _ _ _ _ hs hl => by
    obtain ⟨hrest, hmsg⟩ := itemsOk'_cons S f _ xs hwt
    rw [dumpItems_cons', dumpItems_cons', deqv_dumpItems S hS f xs ys hrest hl, dumpRec, dumpRec,
      deqv_dumpSlots S hS (fieldsOf S c) cur sl sl' 0 (hmsg c sl ow unk cur rfl) hs]

theorem deqv_dumpEntries (S : Schema) (hS : ∀ c, ∀ f ∈ fieldsOf S c, fieldJsonOk f = true) (f : FieldD) :
    ∀ (vs vs' ks : List Val), mapValsOk' S f vs = true → ListDEqv S vs vs' →
      dumpEntries S f ks vs' = dumpEntries S f ks vs
  | _, _, _, _, .nil => rfl
  | _ :: _, _ :: _, [], _, _ => by rw [dumpEntries_nil_left, dumpEntries_nil_left]
  | x :: xs, _ :: ys, k :: ks, hwt, .consAtom _ _ _ ha hl => by
    rw [dumpEntries_cons', dumpEntries_cons', deqv_dumpEntries S hS f xs ys ks (mapValsOk'_cons S f _ xs hwt).1 hl]
  | .msg c sl ow unk cur :: xs, .msg _ sl' _ _ _ :: ys, k :: ks, hwt, .consMsg _ _ _ _ _ _ _ _ hs hl => by
    obtain ⟨hrest, hmsg⟩ := mapValsOk'_cons S f _ xs hwt
    rw [dumpEntries_cons', dumpEntries_cons', deqv_dumpEntries S hS f xs ys ks hrest hl, dumpRec, dumpRec,
      deqv_dumpSlots S hS (fieldsOf S c) cur sl sl' 0 (hmsg c sl ow unk cur rfl) hs]
end

/-- **related messages encode to the same bytes** (for a typed `m`, map fields singular) -/
theorem deqv_dumpVal (S : Schema) (hS : ∀ c, ∀ f ∈ fieldsOf S c, fieldJsonOk f = true) (m m' : Val)
    (hwt : wellTyped' S m = true) (h : DEqv S m m') : dumpVal S m' = dumpVal S m := by
  cases h with
  | atom _ _ => rfl
  | msg c sl sl' ow unk cur hs =>
    rw [wellTyped'] at hwt
    simp only [Bool.and_eq_true] at hwt
    rw [dumpVal, dumpVal, deqv_dumpSlots S hS (fieldsOf S c) cur sl sl' 0 hwt.2 hs]
  | list xs ys _ => rfl
  | dict ks vs vs' _ => rfl

end Bp

#print axioms Bp.deqv_dumpVal
