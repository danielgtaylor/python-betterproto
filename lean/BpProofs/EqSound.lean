import BpModel.All
import BpProofs.Eqv
import BpProofs.OkView
import BpProofs.JsonNonEmpty
/-
  C01, the last link: the relation `ValEqv` the round-trip theorem delivers is CONTAINED in
  Python's `==` on messages, `Message.__eq__`, as modelled by `msgEq` (BpModel/Eq.lean).

    valEqv_msgEq :  MsgOk S m → ValEqv S m m' → msgEq S m m' = true ∧ msgEq S m' m = true

  Only the ORIGINAL has to be well-typed (`MsgOk`); nothing is asked of the decoded side.
  There is no counterexample: every pair `ValEqv` relates, with a `MsgOk` left component, is
  identified by `==`.

  The steps (in the namespace `Bp.EqS`):
    * `atomEq_comm`, `valEq_default_right` / `valEq_default_left`: `defEq S k v` — what `slotsEq`
      uses when one side holds PLACEHOLDER — IS `valEq` against the materialised default
      `defaultOfKind S k`, in either order (faithfulness of the split definition in BpModel/Eq.lean);
    * `valEq_refl`: `==` is reflexive on `DeepOk` values (nested messages `MsgOk`; dict keys
      pairwise different and equal to themselves) — this is where the both-NaN rule is needed;
    * `slot_default_both`: a well-typed slot that emits no byte, or that the encoder
      finds equal to its default (`eqDefault`), equals the corresponding slot of a fresh instance
      under `__eq__` — `-0.0`, empty str / bytes / list / dict, epoch, zero timedelta, `None` in a
      wrapper field, an unmarked sub-message all of whose slots are like that (induction);
    * `eqv_sound` / `listEqv_listEq` / `slotsEqv_slotsEq`: the containment, one case per rule of the relation.
  `valEq_refl` and `slot_default_both` go by `val_induction` (BpProofs/Presence.lean; its `isAtom` and
  `isAtomV` here unfold to the same cases), the containment by recursion on the derivation.
-/
namespace Bp.EqS
open Bp Gen

def isAtomV : Val → Bool
  | .list _ | .dict _ _ | .msg .. => false
  | _ => true

theorem f32Eq_refl (b : Nat) : f32Eq b b = true := by
  unfold f32Eq
  cases h : isNaN32 b <;> simp

theorem f64Eq_refl (b : Nat) : f64Eq b b = true := by
  unfold f64Eq
  cases h : isNaN64 b <;> simp

theorem atomEq_refl (v : Val) (h : isAtomV v = true) : atomEq v v = true := by
  cases v with
  | list _ | dict _ _ | msg _ _ _ _ _ => cases h
  | ph | none => rfl
  | f32 b => exact f32Eq_refl b
  | f64 b => exact f64Eq_refl b
  | _ => exact beq_self_eq_true _

theorem valEq_atom (S : Schema) (a b : Val) (h : isAtomV a = true) : valEq S a b = atomEq a b := by
  cases a with
  | list _ | dict _ _ | msg _ _ _ _ _ => cases h
  | _ => rfl

theorem atomEq_container_left (a b : Val) (h : isAtomV a = false) : atomEq a b = false := by
  cases a with
  | list _ | dict _ _ | msg _ _ _ _ _ => cases b <;> rfl
  | _ => cases h

theorem valEq_atom_right (S : Schema) (a b : Val) (h : isAtomV b = true) : valEq S a b = atomEq a b := by
  cases a with
  | list _ | dict _ _ | msg _ _ _ _ _ =>
    -- the equation of `valEq` for a container against anything but a container of its kind
    rw [valEq, atomEq_container_left _ _ rfl]
    intros; subst_vars; cases h
  | _ => rfl

theorem fnumEq_comm (x y : FNum) : fnumEq x y = fnumEq y x := by
  cases x with
  | nan => cases y <;> rfl
  | inf a => cases y with
    | inf b => exact Bool.beq_comm
    | _ => rfl
  | fin n1 m1 e1 =>
    cases y with
    | nan => rfl
    | inf b => rfl
    | fin n2 m2 e2 =>
      have hmin : (if e2 ≤ e1 then e2 else e1) = (if e1 ≤ e2 then e1 else e2) := by
        split <;> split <;> omega
      simp only [fnumEq, hmin]
      rw [Bool.beq_comm (a := m2 * _), Bool.beq_comm (a := n2)]
      cases h : m1 * 2 ^ (e1 - if e1 ≤ e2 then e1 else e2).toNat == m2 * 2 ^ (e2 - if e1 ≤ e2 then e1 else e2).toNat
      · rfl
      · rw [eq_of_beq h]

theorem f32Eq_comm (a b : Nat) : f32Eq a b = f32Eq b a := by
  unfold f32Eq
  rw [Bool.or_comm, Bool.and_comm (isNaN32 a), Bool.and_comm (f32IsZero a), Bool.beq_comm (a := a)]

theorem f64Eq_comm (a b : Nat) : f64Eq a b = f64Eq b a := by
  unfold f64Eq
  rw [Bool.or_comm, Bool.and_comm (isNaN64 a), Bool.and_comm (f64IsZero a), Bool.beq_comm (a := a)]

theorem atomEq_comm (a b : Val) : atomEq a b = atomEq b a := by
  cases a with
  | list _ | dict _ _ | msg _ _ _ _ _ => cases b <;> rfl
  | ph | none => cases b <;> rfl
  | int x => cases b with
    | int y => exact Bool.beq_comm
    | f32 y | f64 y => exact fnumEq_comm _ _
    | _ => rfl
  | bool x => cases b with
    | bool y => exact Bool.beq_comm
    | f32 y | f64 y => exact fnumEq_comm _ _
    | _ => rfl
  | f32 x => cases b with
    | f32 y => exact f32Eq_comm x y
    | int y | bool y | f64 y => exact fnumEq_comm _ _
    | _ => rfl
  | f64 x => cases b with
    | f64 y => exact f64Eq_comm x y
    | int y | bool y | f32 y => exact fnumEq_comm _ _
    | _ => rfl
  | str x => cases b with
    | str y => exact Bool.beq_comm
    | _ => rfl
  | byt x => cases b with
    | byt y => exact Bool.beq_comm
    | _ => rfl
  | ts x => cases b with
    | ts y => exact Bool.beq_comm
    | _ => rfl
  | dur x => cases b with
    | dur y => exact Bool.beq_comm
    | _ => rfl

theorem atomEq_container_right (a b : Val) (h : isAtomV b = false) : atomEq a b = false := by
  rw [atomEq_comm, atomEq_container_left b a h]

theorem valEq_comm_of_atom (S : Schema) (a b : Val) (h : isAtomV a = true) : valEq S a b = valEq S b a := by
  rw [valEq_atom S a b h, valEq_atom_right S b a h, atomEq_comm]

theorem defEq_atom (S : Schema) (k : DefKind) (v : Val) (h : isAtomV v = true) :
    defEq S k v = atomDefEq k v := by
  cases v with
  | list _ | dict _ _ | msg _ _ _ _ _ => cases h
  | _ => rfl

def slotDefB (S : Schema) (f : FieldD) (v : Val) : Bool :=
  match v with
  | .ph => if f.optional then atomDefEq f.defKind .none else true
  | .none => if f.optional then true else atomDefEq f.defKind .none
  | v => if f.optional then false else defEq S f.defKind v

def slotEqB (S : Schema) (f : FieldD) (a b : Val) : Bool :=
  match a with
  | .ph => (match b with
            | .ph => true
            | b => defEq S f.defKind b)
  | a => (match b with
          | .ph => defEq S f.defKind a
          | b => valEq S a b)

section
variable (S : Schema)

theorem fresh_slots (c : Nat) :
    fresh S c = .msg c ((fieldsOf S c).map freshVal) false [] (List.replicate (groupsOf S c) Option.none) := rfl

theorem slotsDef_cons (f : FieldD) (fs : List FieldD) (v : Val) (vs : List Val) :
    slotsDef S (f :: fs) (v :: vs) = (slotDefB S f v && slotsDef S fs vs) := by
  rw [slotsDef.eq_def]; rfl

theorem slotsEq_cons (f : FieldD) (fs : List FieldD) (a b : Val) (as bs : List Val) :
    slotsEq S (f :: fs) (a :: as) (b :: bs) = (slotEqB S f a b && slotsEq S fs as bs) := by
  rw [slotsEq.eq_def]; rfl

theorem atomDefEq_none (k : DefKind) : atomDefEq k .none = (k == .none) := by
  cases k <;> rfl

theorem slotEqB_fresh (f : FieldD) (a : Val) :
    slotEqB S f a (freshVal f) = slotDefB S f a ∧ slotEqB S f (freshVal f) a = slotDefB S f a := by
  unfold freshVal slotDefB
  cases f.optional <;> cases a <;> exact ⟨rfl, rfl⟩

/- The last equation of `slotsEq` (`| _, _, _ => true`; likewise of `slotsDef`, `dictEq`) rewrites when the arguments
   are not of the form `f :: fs, a :: as, b :: bs`: the side goal it leaves asks for that, and one of the three
   equations is between `[]` and a `cons`. -/
theorem slotsEq_nil_left (fs : List FieldD) (bs : List Val) : slotsEq S fs [] bs = true := by
  rw [slotsEq]
  intro _ _ a as _ _ _ (h : [] = a :: as) _
  cases h

theorem slotsEq_nil_right (fs : List FieldD) (as : List Val) : slotsEq S fs as [] = true := by
  rw [slotsEq]
  intro _ _ _ _ b bs _ _ (h : [] = b :: bs)
  cases h

theorem slotsEq_nil_fields (as bs : List Val) : slotsEq S [] as bs = true := by
  rw [slotsEq]
  intro f fs _ _ _ _ (h : [] = f :: fs) _ _
  cases h

theorem slotsDef_nil_fields (vs : List Val) : slotsDef S [] vs = true := by
  rw [slotsDef]
  intro f fs _ _ (h : [] = f :: fs) _
  cases h

theorem slotsDef_nil (fs : List FieldD) : slotsDef S fs [] = true := by
  rw [slotsDef]
  intro _ _ v vs _ (h : [] = v :: vs)
  cases h

theorem slotsEq_fresh : ∀ (fs : List FieldD) (sl : List Val),
    slotsEq S fs sl (fs.map freshVal) = slotsDef S fs sl ∧ slotsEq S fs (fs.map freshVal) sl = slotsDef S fs sl
  | [], sl => by rw [slotsEq_nil_fields, slotsEq_nil_fields, slotsDef_nil_fields]; exact ⟨rfl, rfl⟩
  | f :: fs, [] => by rw [slotsEq_nil_left, slotsEq_nil_right, slotsDef_nil]; exact ⟨rfl, rfl⟩
  | f :: fs, a :: as => by
    rw [List.map_cons, slotsEq_cons, slotsEq_cons, slotsDef_cons, (slotEqB_fresh S f a).1, (slotEqB_fresh S f a).2,
      (slotsEq_fresh fs as).1, (slotsEq_fresh fs as).2]
    exact ⟨rfl, rfl⟩

theorem listEq_nil_right (xs : List Val) : listEq S xs [] = xs.isEmpty := by
  cases xs <;> rfl

theorem listEq_nil_left (ys : List Val) : listEq S [] ys = ys.isEmpty := by
  cases ys <;> rfl

theorem dictEq_nil (vs ks' vs' : List Val) : dictEq S [] vs ks' vs' = true := by
  rw [dictEq]
  intro k ks _ _ (h : [] = k :: ks) _
  cases h

theorem valEq_list_list (xs ys : List Val) : valEq S (.list xs) (.list ys) = listEq S xs ys := rfl
theorem valEq_dict_dict (ks vs ks' vs' : List Val) :
    valEq S (.dict ks vs) (.dict ks' vs') = (ks.length == ks'.length && dictEq S ks vs ks' vs') := rfl
theorem valEq_msg_msg (c : Nat) (sl : List Val) (ow : Bool) (unk : Bytes) (cur : List (Option Nat))
    (c' : Nat) (sl' : List Val) (ow' : Bool) (unk' : Bytes) (cur' : List (Option Nat)) :
    valEq S (.msg c sl ow unk cur) (.msg c' sl' ow' unk' cur') = (c == c' && slotsEq S (fieldsOf S c) sl sl') := rfl

theorem atomEq_default (k : DefKind) (v : Val) : atomEq v (defaultOfKind S k) = atomDefEq k v := by
  cases k with
  | list | dict | msg _ => exact atomEq_container_right _ _ rfl
  | _ => rfl

/-- `v == default` (the default materialised by `_get_field_default`) is `defEq` -/
theorem valEq_default_right (k : DefKind) (v : Val) : valEq S v (defaultOfKind S k) = defEq S k v := by
  cases v with
  | list xs => cases k with
    | list => exact listEq_nil_right S xs
    | _ => rfl
  | dict ks vs => cases k with
    | dict => cases ks with
      | nil => exact dictEq_nil S vs [] []
      | cons _ _ => rfl
    | _ => rfl
  | msg c sl ow unk cur => cases k with
    | msg c' =>
      show (c == c' && slotsEq S (fieldsOf S c) sl ((fieldsOf S c').map freshVal))
        = (c == c' && slotsDef S (fieldsOf S c) sl)
      cases h : c == c'
      · rfl
      · rw [← eq_of_beq h, (slotsEq_fresh S _ sl).1]
    | _ => rfl
  | _ => exact (valEq_atom S _ _ rfl).trans ((atomEq_default S k _).trans (defEq_atom S k _ rfl).symm)

theorem valEq_default_left (k : DefKind) (v : Val) : valEq S (defaultOfKind S k) v = defEq S k v := by
  cases k with
  | list => cases v with
    | list xs => exact listEq_nil_left S xs
    | _ => rfl
  | dict => cases v with
    | dict ks vs => cases ks <;> rfl
    | _ => rfl
  | msg c => cases v with
    | msg c' sl ow unk cur =>
      show (c == c' && slotsEq S (fieldsOf S c) ((fieldsOf S c).map freshVal) sl)
        = (c' == c && slotsDef S (fieldsOf S c') sl)
      rw [Bool.beq_comm (a := c)]
      cases h : c' == c
      · rfl
      · rw [eq_of_beq h, (slotsEq_fresh S _ sl).2]
    | _ => rfl
  | _ => exact (valEq_comm_of_atom S _ v rfl).trans (valEq_default_right S _ v)

theorem listEq_cons (x y : Val) (xs ys : List Val) :
    listEq S (x :: xs) (y :: ys) = (valEq S x y && listEq S xs ys) := by rw [listEq]

theorem dictEq_cons (k v : Val) (ks vs ks' vs' : List Val) :
    dictEq S (k :: ks) (v :: vs) ks' vs' =
      ((match dictGet ks' vs' k with
        | some v' => valEq S v v'
        | Option.none => false) && dictEq S ks vs ks' vs') := by rw [dictEq]; rfl

theorem dictGet_zip : ∀ (ks vs : List Val), KeysDistinct ks → (∀ k ∈ ks, keyEq k k = true) →
    ∀ k v, (k, v) ∈ ks.zip vs → dictGet ks vs k = some v
  | [], _, _, _, _, _, h => by cases h
  | _ :: _, [], _, _, _, _, h => by cases h
  | k0 :: ks, v0 :: vs, hd, hr, k, v, h => by
    rw [List.zip_cons_cons, List.mem_cons] at h
    rw [dictGet]
    rcases h with h | h
    · cases h
      rw [hr _ (List.mem_cons_self ..), if_pos rfl]
    · rw [hd.1 k (List.of_mem_zip h).1]
      simp only [Bool.false_eq_true, if_false]
      exact dictGet_zip ks vs hd.2 (fun k' hk' => hr k' (List.mem_cons_of_mem _ hk')) k v h

theorem dictEq_of_get (K V : List Val) : ∀ (ks vs vs' : List Val), listEq S vs vs' = true →
    (∀ k v', (k, v') ∈ ks.zip vs' → dictGet K V k = some v') → dictEq S ks vs K V = true
  | [], vs, _, _, _ => dictEq_nil S vs K V
  | k :: ks, [], _, _, _ => by
    rw [dictEq]
    intro _ _ v vs _ (h : [] = v :: vs)
    cases h
  | k :: ks, v :: vs, [], h, _ => by rw [listEq_nil_right] at h; cases h
  | k :: ks, v :: vs, v' :: vs', h, hg => by
    rw [listEq_cons, Bool.and_eq_true] at h
    rw [dictEq_cons, hg k v' (List.mem_cons_self ..)]
    simp only [h.1, Bool.true_and]
    exact dictEq_of_get K V ks vs vs' h.2 fun k2 v2 hm => hg k2 v2 (List.mem_cons_of_mem _ hm)

theorem valEq_dict_same_keys (ks vs vs' : List Val)
    (hd : KeysDistinct ks) (hr : ∀ k ∈ ks, keyEq k k = true) (h : listEq S vs vs' = true) :
    valEq S (.dict ks vs) (.dict ks vs') = true := by
  rw [valEq_dict_dict, beq_self_eq_true]
  exact dictEq_of_get S ks vs' ks vs vs' h (dictGet_zip ks vs' hd hr)

end

/-! What the original value has to satisfy, at every level: nested messages are `MsgOk`,
    dicts have as many values as keys, pairwise different keys that are equal to themselves. -/

mutual
def DeepOk (S : Schema) : Val → Prop
  | .msg c sl ow unk cur => MsgOk S (.msg c sl ow unk cur)
  | .list xs => DeepOkL S xs
  | .dict ks vs => ks.length = vs.length ∧ KeysDistinct ks ∧ (∀ k ∈ ks, keyEq k k = true) ∧ DeepOkL S vs
  | .ph | .none | .int _ | .bool _ | .f32 _ | .f64 _ | .str _ | .byt _ | .ts _ | .dur _ => True
def DeepOkL (S : Schema) : List Val → Prop
  | [] => True
  | x :: xs => DeepOk S x ∧ DeepOkL S xs
end

theorem deepOk_atom (S : Schema) (v : Val) (h : isAtomV v = true) : DeepOk S v := by
  cases v with
  | list _ | dict _ _ | msg _ _ _ _ _ => cases h
  | _ => exact True.intro

theorem deepOkL_of (S : Schema) : ∀ (xs : List Val), (∀ x ∈ xs, DeepOk S x) → DeepOkL S xs
  | [], _ => by rw [DeepOkL]; trivial
  | x :: xs, h => by
    rw [DeepOkL]
    exact ⟨h x List.mem_cons_self, deepOkL_of S xs fun y hy => h y (List.mem_cons_of_mem _ hy)⟩

theorem deepOk_item (S : Schema) (P : Val → Prop) (K : ItemKind) (x : Val) (h : ItemOk S P K x) : DeepOk S x := by
  cases h with
  | scalar t _ hx | wrapped t _ hx => exact deepOk_atom S x (scalarOk_atom t x hx)
  | time d _ hx => exact deepOk_atom S x (timeValOk_atom d x hx)
  | msg _ _ _ _ _ hm _ => rw [DeepOk]; exact hm

theorem slotOk_deepOk (S : Schema) (f : FieldD) (v : Val) (h : SlotOk S f v) : DeepOk S v := by
  cases h.view with
  | unset | none => exact True.intro
  | one K _ _ hv => exact deepOk_item S _ K v hv
  | many K xs _ hxs => rw [DeepOk]; exact deepOkL_of S xs fun x hx => deepOk_item S _ K x (hxs x hx)
  | map K ks vs hf hl hk hvs hd =>
    rw [DeepOk]
    exact ⟨hl, hd, fun k hk' => (keyEq_typed _ k k hf.carries.2.2 (hk k hk') (hk k hk')).2 rfl,
      deepOkL_of S vs fun x hx => deepOk_item S _ K x (hvs x hx)⟩

theorem slotEqB_set (S : Schema) (f : FieldD) (a b : Val) (ha : a ≠ .ph) (hb : b ≠ .ph) :
    slotEqB S f a b = valEq S a b := by
  unfold slotEqB
  split
  · exact absurd rfl ha
  · split
    · exact absurd rfl hb
    · rfl

theorem slotEqB_ph_ph (S : Schema) (f : FieldD) : slotEqB S f .ph .ph = true := rfl

theorem slotEqB_ph_left (S : Schema) (f : FieldD) (b : Val) (hb : b ≠ .ph) : slotEqB S f .ph b = defEq S f.defKind b := by
  show (match b with | .ph => true | b => defEq S f.defKind b) = _
  split
  · exact absurd rfl hb
  · rfl

theorem slotEqB_ph_right (S : Schema) (f : FieldD) (a : Val) (ha : a ≠ .ph) : slotEqB S f a .ph = defEq S f.defKind a := by
  unfold slotEqB
  split
  · exact absurd rfl ha
  · rfl

theorem valEq_refl_both (S : Schema) : (∀ v, DeepOk S v → valEq S v v = true) ∧
    ∀ xs, (DeepOkL S xs → listEq S xs xs = true) ∧ ∀ fs, SlotsOk S fs xs → slotsEq S fs xs xs = true := by
  apply val_induction
  · exact fun v ha _ => (valEq_atom S v v ha).trans (atomEq_refl v ha)
  · intro xs ih h
    rw [DeepOk] at h
    exact ih.1 h
  · intro ks vs _ ih h
    rw [DeepOk] at h
    exact valEq_dict_same_keys S ks vs vs h.2.1 h.2.2.1 (ih.1 h.2.2.2)
  · intro c sl ow unk cur ih h
    rw [DeepOk] at h
    cases h with
    | mk _ d _ _ _ _ hd _ _ _ _ _ _ _ hsl _ =>
      rw [valEq_msg_msg, fieldsOf_some S c d hd, ih.2 d.fields hsl, beq_self_eq_true]
      rfl
  · exact ⟨fun _ => rfl, fun fs _ => slotsEq_nil_left S fs []⟩
  · intro x xs ihx ihxs
    refine ⟨fun h => ?_, fun fs h => ?_⟩
    · rw [DeepOkL] at h
      rw [listEq_cons, ihx h.1, ihxs.1 h.2]
      rfl
    · cases h with
      | cons f _ fs' _ ha hr =>
        rw [slotsEq_cons, ihxs.2 fs' hr, Bool.and_true]
        by_cases hp : x = .ph
        · subst hp; rfl
        · rw [slotEqB_set S f x x hp hp]
          exact ihx (slotOk_deepOk S f x ha)

theorem valEq_refl (S : Schema) : ∀ (v : Val), DeepOk S v → valEq S v v = true := (valEq_refl_both S).1

theorem listEq_refl (S : Schema) : ∀ (xs : List Val), DeepOkL S xs → listEq S xs xs = true :=
  fun xs => ((valEq_refl_both S).2 xs).1

theorem slotsEq_refl (S : Schema) : ∀ (sl : List Val) (fs : List FieldD), SlotsOk S fs sl → slotsEq S fs sl sl = true :=
  fun sl => ((valEq_refl_both S).2 sl).2

/-- slot `k + j` is well-typed for field `k + j`, and holds PLACEHOLDER when the field is an
    unselected oneof member -/
def SlotsT (S : Schema) (fs : List FieldD) (cur : List (Option Nat)) : Nat → List Val → Prop
  | _, [] => True
  | k, v :: vs =>
    (∃ f, fs[k]? = some f ∧ SlotOk S f v ∧ (hidden f k cur = true → v = .ph)) ∧ SlotsT S fs cur (k + 1) vs

theorem slotsT_of (S : Schema) (fs : List FieldD) (cur : List (Option Nat)) : ∀ (vs : List Val) (k : Nat),
    SlotsOk S (fs.drop k) vs →
    (∀ j f, fs[k + j]? = some f → hidden f (k + j) cur = true → vs.getD j .ph = .ph) → SlotsT S fs cur k vs
  | [], _, _, _ => trivial
  | v :: vs, k, h, hi => by
    generalize hd : fs.drop k = tl at h
    cases h with
    | cons f _ fs' _ hv hr =>
      have hf : fs[k]? = some f := by rw [← List.head?_drop, hd]; rfl
      have hfs' : fs.drop (k + 1) = fs' := by rw [← List.tail_drop, hd]; rfl
      refine ⟨⟨f, hf, hv, hi 0 f hf⟩, slotsT_of S fs cur vs (k + 1) (hfs' ▸ hr) fun j f' hf' hh' => ?_⟩
      rw [Nat.add_right_comm] at hf' hh'
      exact hi (j + 1) f' hf' hh'

theorem msgOk_slotsT (S : Schema) (c : Nat) (sl : List Val) (ow : Bool) (unk : Bytes) (cur : List (Option Nat))
    (h : MsgOk S (.msg c sl ow unk cur)) : ∃ d, S[c]? = some d ∧ SlotsT S d.fields cur 0 sl := by
  cases h with
  | mk _ d _ _ _ _ hd _ _ _ _ _ hinv _ hsl _ =>
    refine ⟨d, hd, slotsT_of S d.fields cur sl 0 hsl (fun j f hf hh => ?_)⟩
    obtain ⟨g, hg, hc⟩ := hidden_group f (0 + j) cur hh
    simp only [Nat.zero_add] at hf hc
    exact hinv j f g hf hg hc

theorem msgOk_slotsT_fields (S : Schema) (c : Nat) (sl : List Val) (ow : Bool) (unk : Bytes) (cur : List (Option Nat))
    (h : MsgOk S (.msg c sl ow unk cur)) : SlotsT S (fieldsOf S c) cur 0 sl := by
  obtain ⟨d, hd, hT⟩ := msgOk_slotsT S c sl ow unk cur h
  rwa [fieldsOf_some S c d hd]

/-! What `SlotOk S f v` says for a value of a given form, read off the shape of the slot (BpProofs/OkView.lean);
    a value that is no sentinel is an item (`itemOk_oneVal`), which rules out the other shapes. -/

theorem slotOk_msg_inv (S : Schema) (f : FieldD) (c : Nat) (sl : List Val) (ow : Bool) (unk : Bytes) (cur : List (Option Nat))
    (h : SlotOk S f (.msg c sl ow unk cur)) : SubField f c ∧ f.repeated = false ∧ MsgOk S (.msg c sl ow unk cur) := by
  cases h.view with
  | one K _ hf hv =>
    cases hv with
    | scalar _ _ hx | wrapped _ _ hx | time _ _ hx => cases hx
    | msg _ _ _ _ _ hm _ => cases hf with | msg _ hs hr => exact ⟨hs, hr, hm⟩

theorem slotOk_list_inv (S : Schema) (f : FieldD) (xs : List Val) (h : SlotOk S f (.list xs)) :
    f.repeated = true ∧ f.optional = false := by
  cases h.view with
  | one K _ _ hv => cases itemOk_oneVal S _ K _ hv
  | many K _ hf _ =>
    cases hf with
    | scalar hf hr => exact ⟨hr, (hf.rep hr).1⟩
    | msg _ hf hr => exact ⟨hr, (hf.rep hr).1⟩
    | wrapped _ hf | time _ hf => exact ⟨hf.rep, hf.opt⟩

theorem slotOk_dict_inv (S : Schema) (f : FieldD) (ks vs : List Val) (h : SlotOk S f (.dict ks vs)) :
    f.ty = .map ∧ f.repeated = false ∧ f.optional = false ∧ ks.length = vs.length := by
  cases h.view with
  | one K _ _ hv => cases itemOk_oneVal S _ K _ hv
  | map K _ _ hf hl _ _ _ => cases hf with | scalar hf | time _ hf | msg _ hf => exact ⟨hf.ty, hf.rep, hf.opt, hl⟩

/-- the encoder's `value == default` implies the one of `__eq__` (which also knows `False == 0`) -/
theorem eqDefault_leaf_defEq (S : Schema) (k : DefKind) (v : Val) (hl : isPlainVal v = true)
    (h : eqDefault S k v = true) : defEq S k v = true := by
  cases v with
  | ph | none | list _ | dict _ _ | msg _ _ _ _ _ => cases hl
  | int i | ts i | dur i =>
    obtain ⟨hk, hv⟩ := Bool.and_eq_true_iff.1 h
    obtain rfl := eq_of_beq hk
    obtain rfl := eq_of_beq hv
    rfl
  | bool b =>
    obtain ⟨hk, hv⟩ := Bool.and_eq_true_iff.1 h
    obtain rfl := eq_of_beq hk
    cases b
    · rfl
    · cases hv
  | f32 b | f64 b =>
    obtain ⟨hk, hv⟩ := Bool.and_eq_true_iff.1 h
    obtain rfl := eq_of_beq hk
    rcases Bool.or_eq_true_iff.1 hv with h0 | h0 <;> obtain rfl := eq_of_beq h0 <;> rfl
  | str s | byt s =>
    obtain ⟨hk, hv⟩ := Bool.and_eq_true_iff.1 h
    obtain rfl := eq_of_beq hk
    obtain rfl := List.isEmpty_iff.1 hv
    rfl

theorem leaf_emit (S : Schema) (P : Val → Prop) (f : FieldD) (K : ItemKind) (sel : Bool) (v : Val) (hl : isPlainVal v = true)
    (hf : OneField f K) (hv' : ItemOk S P K v)
    (h : dumpSlot S f false sel v = .ok []) : f.optional = false ∧ eqDefault S f.defKind v = true := by
  obtain ⟨se, hse, hds⟩ := dumpSlot_leaf S f sel v hl
  rw [hds] at h
  by_cases hc : (eqDefault S f.defKind v && !((f.group.isSome || f.optional) || sel)) = true
  · simp only [Bool.and_eq_true, Bool.not_eq_true', Bool.or_eq_false_iff] at hc
    exact ⟨hc.2.1.2, hc.1⟩
  · -- the value is framed, with no byte: it is the empty string / bytes, the epoch or the zero timedelta, and the
    -- field (singular, not optional, no wrapper) has the default of its type
    rw [if_neg hc] at h
    obtain ⟨hse', hw, hv⟩ := serializeScalar_nil S _ _ _ _ _ h
    have ho : f.optional = false := Bool.eq_false_iff.2 fun ho => by rw [hse ho] at hse'; cases hse'
    refine ⟨ho, ?_⟩
    have hnm : f.ty ≠ .map := by simpa using hf.plain.1
    have hdk : f.defKind = if f.ty == .message then msgKindDef f.kind else scalarDef f.ty := by
      unfold FieldD.defKind
      simp [hf.plain.2, hnm, ho, hw]
    rw [hdk]
    cases hf with
    | scalar hff _ =>
      have hm := isScalar_ne f.ty hff.sc
      rw [hm]
      rcases hv with ⟨e, rfl⟩ | ⟨e | e, rfl⟩ | ⟨e, _⟩
      · rw [e]; rfl
      · rw [e]; rfl
      · exact absurd hnm (by simp [e])
      · rw [e] at hm; cases hm
    | wrapped w hwf => rw [hwf.wr] at hw; cases hw
    | time d htf =>
      cases hv' with
      | time _ _ hvt =>
        rw [htf.ty, htf.kind]
        rcases hv with ⟨e, _⟩ | ⟨e | e, _⟩ | ⟨_, rfl | rfl⟩
        · rw [htf.ty] at e; cases e
        · rw [htf.ty] at e; cases e
        · rw [htf.ty] at e; cases e
        · cases d with
          | false => rfl
          | true => cases hvt
        · cases d with
          | false => cases hvt
          | true => rfl
    | msg c _ _ => cases hv'; cases hl

theorem list_emit (S : Schema) (f : FieldD) (sel : Bool) (xs : List Val)
    (h : dumpSlot S f false sel (.list xs) = .ok []) : xs = [] := by
  cases xs with
  | nil => rfl
  | cons x xs => exact absurd rfl (dumpSlot_list_ne_nil S f sel x xs [] h)

theorem dict_emit (S : Schema) (f : FieldD) (sel : Bool) (ks vs : List Val) (hl : ks.length = vs.length)
    (h : dumpSlot S f false sel (.dict ks vs) = .ok []) : ks = [] := by
  cases ks with
  | nil => rfl
  | cons k ks =>
    cases vs with
    | nil => cases hl
    | cons v vs => exact absurd rfl (dumpSlot_dict_ne_nil S f sel k v ks vs [] h)

def isDefSlot (S : Schema) (f : FieldD) (v : Val) : Bool :=
  match v with
  | .ph => true
  | v => eqDefault S f.defKind v

theorem slotsEqFresh_cons (S : Schema) (f : FieldD) (fs : List FieldD) (v : Val) (vs : List Val) :
    slotsEqFresh S (f :: fs) (v :: vs) = (isDefSlot S f v && slotsEqFresh S fs vs) := by
  rw [slotsEqFresh.eq_def]; rfl

theorem isDefSlot_set (S : Schema) (f : FieldD) (v : Val) (h : v ≠ .ph) : isDefSlot S f v = eqDefault S f.defKind v := by
  unfold isDefSlot
  split
  · exact absurd rfl h
  · rfl

/-- an unselected oneof member holds PLACEHOLDER, which is default-like: only slots that are not hidden are looked at -/
theorem unhidden (S : Schema) (f : FieldD) (hid sel : Bool) (v : Val) (hh : hid = true → v = .ph)
    (h : dumpSlot S f hid sel v = .ok []) : dumpSlot S f false sel v = .ok [] ∨ isDefSlot S f v = true := by
  cases hid with
  | false => exact .inl h
  | true => rw [hh rfl]; exact .inr rfl

theorem slotDefB_leaf (S : Schema) (f : FieldD) (v : Val) (hl : isPlainVal v = true) :
    slotDefB S f v = if f.optional then false else defEq S f.defKind v := by
  cases v with
  | ph | none | list | dict | msg => cases hl
  | _ => rfl

theorem msg_emit (S : Schema) (f : FieldD) (sel : Bool) (c : Nat) (sl : List Val) (ow : Bool) (unk : Bytes)
    (cur : List (Option Nat)) (sf : SubField f c) (hr : f.repeated = false)
    (h : dumpSlot S f false sel (.msg c sl ow unk cur) = .ok [] ∨ eqDefault S f.defKind (.msg c sl ow unk cur) = true) :
    f.optional = false ∧
      (dumpSlots S (fieldsOf S c) cur 0 sl = .ok [] ∨ slotsEqFresh S (fieldsOf S c) sl = true) := by
  have key : eqDefault S f.defKind (.msg c sl ow unk cur) = true →
      f.optional = false ∧ slotsEqFresh S (fieldsOf S c) sl = true := by
    intro he
    rw [sub_defKind f c sf hr] at he
    cases ho : f.optional with
    | true => rw [ho] at he; cases he
    | false => rw [ho] at he; exact ⟨rfl, (Bool.and_eq_true_iff.1 he).2⟩
  rcases h with h | h
  · rw [dumpSlot] at h
    simp only [Bool.false_eq_true, if_false] at h
    by_cases hc : (eqDefault S f.defKind (.msg c sl ow unk cur) && !(f.group.isSome || f.optional || ow || sel)) = true
    · exact (key (Bool.and_eq_true_iff.1 hc).1).imp id Or.inr
    · rw [if_neg hc] at h
      obtain ⟨body, hbody, h⟩ := bind_inv h
      simp only [sf.ty, sf.nw, beq_self_eq_true, Option.isNone_none, Bool.and_self, if_true] at h
      obtain ⟨_, hp, hse, _⟩ := (frame_nil_iff _ _ _ _ _).mp h
      rw [(List.append_eq_nil_iff.1 hp).1] at hbody
      simp only [Bool.or_eq_false_iff] at hse
      exact ⟨hse.2.2, Or.inl hbody⟩
  · exact (key h).imp id Or.inr

theorem slot_default_both (S : Schema) :
    (∀ v, ∀ (f : FieldD) (sel : Bool), SlotOk S f v →
      (dumpSlot S f false sel v = .ok [] ∨ isDefSlot S f v = true) → slotDefB S f v = true) ∧
    ∀ vs, ∀ (fs : List FieldD) (cur : List (Option Nat)) (k : Nat), SlotsT S fs cur k vs →
      (dumpSlots S fs cur k vs = .ok [] ∨ slotsEqFresh S (fs.drop k) vs = true) → slotsDef S (fs.drop k) vs = true := by
  apply val_induction
  · intro v ha f sel ht h
    cases ht.view with
    | many | map => cases ha
    | unset ho => simp [slotDefB, ho]
    | none hn =>
      unfold slotDefB
      rcases hn with ho | ⟨_, w, hw⟩
      · simp [ho]
      · have hk := defKind_none_of f hw.rep (by rw [hw.ty]; decide) (.inr (by rw [hw.wr]; rfl))
        cases ho : f.optional <;> simp [hk, atomDefEq_none]
    | one K _ hf hv =>
      have hl : isPlainVal v = true := by
        have := itemOk_oneVal S _ K v hv
        cases v with
        | ph | none => exact Bool.noConfusion this
        | list | dict | msg => exact Bool.noConfusion ha
        | _ => rfl
      rw [isDefSlot_set S f v fun e => by rw [e] at hl; cases hl] at h
      have key : f.optional = false ∧ eqDefault S f.defKind v = true := by
        rcases h with h | h
        · exact leaf_emit S _ f K sel v hl hf hv h
        · refine ⟨Bool.eq_false_iff.2 fun ho => ?_, h⟩
          rw [defKind_none_of f hf.plain.2 (by simpa using hf.plain.1) (Or.inl ho),
            eqDefault_plain_false S _ v hl (.inr (.inr rfl))] at h
          cases h
      rw [slotDefB_leaf S f v hl, key.1]
      exact eqDefault_leaf_defEq S f.defKind v hl key.2
  · intro xs _ f sel ht h
    obtain ⟨hr, ho⟩ := slotOk_list_inv S f xs ht
    have hdk := defKind_rep f hr
    obtain rfl : xs = [] := h.elim (list_emit S f sel xs) fun h => List.isEmpty_iff.1 (Bool.and_eq_true_iff.1 h).2
    simp [slotDefB, ho, hdk, defEq]
  · intro ks vs _ _ f sel ht h
    obtain ⟨hty, hr, ho, hl⟩ := slotOk_dict_inv S f ks vs ht
    have hdk := defKind_map f hr (by simp [hty])
    obtain rfl : ks = [] := h.elim (dict_emit S f sel ks vs hl) fun h => List.isEmpty_iff.1 (Bool.and_eq_true_iff.1 h).2
    simp [slotDefB, ho, hdk, defEq]
  · intro c sl ow unk cur ih f sel ht h
    obtain ⟨sf, hr, hm⟩ := slotOk_msg_inv S f c sl ow unk cur ht
    obtain ⟨ho, hsl⟩ := msg_emit S f sel c sl ow unk cur sf hr h
    have hs := ih (fieldsOf S c) cur 0 (msgOk_slotsT_fields S c sl ow unk cur hm) hsl
    have hdk := sub_defKind f c sf hr
    rw [ho] at hdk
    simpa [slotDefB, ho, hdk, defEq] using hs
  · exact fun fs _ k _ _ => slotsDef_nil S _
  · intro v vs ihv ihvs fs cur k hT h
    obtain ⟨⟨f, hf, hv, hh⟩, hrest⟩ := hT
    rw [drop_cons_of_get fs k f hf] at h ⊢
    rw [slotsDef_cons]
    rcases h with h | h
    · obtain ⟨a, b, ha, hb, h⟩ := dumpSlots_cons_inv hf h
      obtain ⟨rfl, rfl⟩ := List.append_eq_nil_iff.1 h.symm
      rw [ihv f _ hv (unhidden S f _ _ v hh ha), ihvs fs cur (k + 1) hrest (Or.inl hb)]
      rfl
    · rw [slotsEqFresh_cons, Bool.and_eq_true] at h
      rw [ihv f false hv (Or.inr h.1), ihvs fs cur (k + 1) hrest (Or.inr h.2)]
      rfl

theorem slot_default (S : Schema) (v : Val) (f : FieldD) (hid sel : Bool) (hv : SlotOk S f v) (hh : hid = true → v = .ph)
    (h : dumpSlot S f hid sel v = .ok []) : slotDefB S f v = true :=
  (slot_default_both S).1 v f sel hv (unhidden S f hid sel v hh h)

/- One recursion over the three mutually defined relations, one case per rule.  Where a hypothesis stands before the
   derivation, the values are named in the patterns before it and left `_` in the rule (the other way round the
   hypothesis's type keeps them from being assigned). -/
mutual
theorem eqv_sound (S : Schema) : ∀ (a b : Val), ValEqv S a b → DeepOk S a → valEq S a b = true ∧ valEq S b a = true
  | _, _, .refl v, hd => ⟨valEq_refl S v hd, valEq_refl S v hd⟩
  | _, _, .negZero32, _ | _, _, .negZero64, _ => ⟨rfl, rfl⟩
  | _, _, .emptyMsg c sl ow unk cur hdump, hd => by
    have hT := msgOk_slotsT_fields S c sl ow unk cur hd
    rw [dumpVal] at hdump
    obtain ⟨body, hbody, hdump⟩ := bind_inv hdump
    injection hdump with hdump
    rw [(List.append_eq_nil_iff.1 hdump).1] at hbody
    have hs : slotsDef S (fieldsOf S c) sl = true := (slot_default_both S).2 sl _ cur 0 hT (Or.inl hbody)
    rw [show fresh S c = defaultOfKind S (.msg c) from rfl, valEq_default_right, valEq_default_left, defEq, hs,
      beq_self_eq_true]
    exact ⟨rfl, rfl⟩
  | _, _, .msg c sl sl' ow unk cur hs, hd => by
    rw [valEq_msg_msg, valEq_msg_msg, beq_self_eq_true]
    exact slotsEqv_slotsEq S sl sl' _ cur 0 (msgOk_slotsT_fields S c sl ow unk cur hd) hs
  | _, _, .list xs ys hl, hd => listEqv_listEq S xs ys hd hl
  | _, _, .dict ks vs vs' hl, hd => by
    rw [DeepOk] at hd
    exact (listEqv_listEq S vs vs' hd.2.2.2 hl).imp (valEq_dict_same_keys S ks vs vs' hd.2.1 hd.2.2.1)
      (valEq_dict_same_keys S ks vs' vs hd.2.1 hd.2.2.1)
theorem listEqv_listEq (S : Schema) : ∀ (xs ys : List Val), DeepOkL S xs → ListEqv S xs ys →
    listEq S xs ys = true ∧ listEq S ys xs = true
  | _, _, _, .nil => ⟨rfl, rfl⟩
  | x :: xs, y :: ys, hd, .cons _ _ _ _ hv hl => by
    rw [DeepOkL] at hd
    obtain ⟨a1, a2⟩ := eqv_sound S x y hv hd.1
    obtain ⟨b1, b2⟩ := listEqv_listEq S xs ys hd.2 hl
    rw [listEq_cons, listEq_cons, a1, a2, b1, b2]
    exact ⟨rfl, rfl⟩
theorem slotsEqv_slotsEq (S : Schema) : ∀ (vs vs' : List Val) (fs : List FieldD) (cur : List (Option Nat)) (k : Nat),
    SlotsT S fs cur k vs → SlotsEqv S fs cur k vs vs' →
    slotsEq S (fs.drop k) vs vs' = true ∧ slotsEq S (fs.drop k) vs' vs = true
  | _, _, _, _, _, _, .nil .. => ⟨slotsEq_nil_left S _ _, slotsEq_nil_left S _ _⟩
  | x :: vs, v' :: vs', fs, cur, k, hT, .consEqv _ _ _ _ _ _ _ hvv hr => by
    obtain ⟨⟨f, hf, hv, _⟩, hrest⟩ := hT
    obtain ⟨r1, r2⟩ := slotsEqv_slotsEq S vs vs' fs cur (k + 1) hrest hr
    rw [drop_cons_of_get fs k f hf, slotsEq_cons, slotsEq_cons, r1, r2, Bool.and_true, Bool.and_true]
    by_cases hp : x = .ph
    · subst hp
      cases hvv
      exact ⟨rfl, rfl⟩
    · have hp' : v' ≠ .ph := by
        intro e; subst e
        cases hvv
        exact hp rfl
      rw [slotEqB_set S f x v' hp hp', slotEqB_set S f v' x hp' hp]
      exact eqv_sound S x v' hvv (slotOk_deepOk S f x hv)
  | x :: vs, v' :: vs', fs, cur, k, hT, .consFresh _ _ _ _ _ _ _ f' hf' hv' hdump hr => by
    obtain ⟨⟨f, hf, hv, hh⟩, hrest⟩ := hT
    obtain ⟨r1, r2⟩ := slotsEqv_slotsEq S vs vs' fs cur (k + 1) hrest hr
    obtain rfl : f = f' := Option.some.inj (hf.symm.trans hf')
    subst hv'
    rw [drop_cons_of_get fs k f hf, slotsEq_cons, slotsEq_cons, r1, r2, (slotEqB_fresh S f x).1, (slotEqB_fresh S f x).2,
      slot_default S x f _ _ hv hh hdump]
    exact ⟨rfl, rfl⟩
end

end Bp.EqS

namespace Bp
open Gen EqS

/-- **`ValEqv` is contained in `==`**: a well-typed message and anything `ValEqv`-related to it
    (in particular what `parse(bytes(m))` returns) are equal under `Message.__eq__`, in both
    orders.  Nothing is assumed about `m'`. -/
theorem valEqv_msgEq (S : Schema) (m m' : Val) (hm : MsgOk S m) (h : ValEqv S m m') :
    msgEq S m m' = true ∧ msgEq S m' m = true := by
  obtain ⟨c, sl, ow, unk, cur, rfl⟩ : ∃ c sl ow unk cur, m = .msg c sl ow unk cur := by
    cases hm; exact ⟨_, _, _, _, _, rfl⟩
  obtain ⟨e1, e2⟩ := eqv_sound S _ m' h (by rw [DeepOk]; exact hm)
  have hmsg : isMsgVal m' = true := by
    cases h with
    | refl => rfl
    | emptyMsg => rfl
    | msg => rfl
  unfold msgEq
  rw [e1, e2, hmsg]
  exact ⟨rfl, rfl⟩

end Bp

#print axioms Bp.valEqv_msgEq
#print axioms Bp.EqS.valEq_default_right
#print axioms Bp.EqS.valEq_default_left
