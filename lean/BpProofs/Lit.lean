/-
  The characters of a string literal, for terms the kernel evaluates.  `"…".toList` makes the kernel decode the UTF-8 bytes
  (quadratic in the length, and again in every declaration); `lit "…"` is the list itself.  Where a statement has
  `"…".toList` written in it, `repeat rw [String.toList_ofList]` before `decide +kernel` makes the same replacement in
  the goal (the rewrite unifies each literal with `String.ofList ?l`, as the default argument of `lit` does).
-/
namespace Bp

/-- `lit "abc"` is `['a', 'b', 'c']`: elaborating the default argument unifies `"abc"` with `String.ofList ?l`, which reads
    the characters off the literal, and the body stored is that list.  The argument must stay a literal. -/
def lit (s : String) {l : List Char} (_ : s.toList = l := by exact String.toList_ofList) : List Char := l

theorem lit_eq (s : String) {l : List Char} (h : s.toList = l) : s.toList = lit s h := h
theorem lit_def (s : String) {l : List Char} (h : s.toList = l) : lit s h = s.toList := h.symm

end Bp
