import BpProofs.Gen.SrcImportingRe
import BpProofs.SrcTieCasing
import BpModel.Importing
/-
  The translated source of `parse_source_type_name` (BpProofs/Gen/SrcImportingRe.lean: the regular expression
  `^\.?([^A-Z]+)\.(.+)` parsed from the source, `re.match`, the two branches) EQUALS the model's
  `parseSourceTypeName` (BpModel/Importing.lean) on every string that contains no newline.

  Under the semantics of BpProofs/PyRegex.lean the greedy `[^A-Z]+` first takes the whole leading run of
  non-capitals and then gives characters back one by one until what follows is a dot and at least one more
  character: the LAST such dot of the run — which is what the model's forward scan `parseAux` keeps in `best`
  (`scan`).  `(.+)` then takes everything up to the first newline; the model takes everything (so the two differ on
  a name with a newline in it: `C13.src_parse_newline_witness`).  The optional leading dot is tried consumed first, then
  unconsumed — the model's `first` / second attempt.
-/
namespace Bp.SrcTieImpRe
open Bp Bp.Casing Bp.PyRe Bp.Importing Bp.SrcTieCasing

def setNotUp : CSet := ⟨true, [('A', 'Z')]⟩
def setDot : CSet := ⟨false, [('.', '.')]⟩
def setAny : CSet := ⟨true, [('\n', '\n')]⟩

theorem mem_notUp (c : Char) : setNotUp.mem c = decide (cls c ≠ .up) := by
  simp only [setNotUp, CSet.mem, List.any_cons, List.any_nil, Bool.or_false, rng_up]
  cases h : cls c <;> simp

theorem range_single (x c : Char) : (decide (x ≤ c) && decide (c ≤ x)) = decide (c = x) := by
  rw [← Bool.decide_and]
  refine decide_eq_decide.2 ⟨fun ⟨h1, h2⟩ => ?_, fun h => h ▸ ⟨Char.le_refl _, Char.le_refl _⟩⟩
  rw [char_le_iff] at h1 h2
  exact Char.toNat_inj.mp (Nat.le_antisymm h2 h1)

theorem mem_dot (c : Char) : setDot.mem c = decide (c = '.') := by
  simp only [CSet.mem, setDot, List.any_cons, List.any_nil, Bool.or_false, range_single, Bool.false_bne]

theorem mem_any (c : Char) : setAny.mem c = decide (c ≠ '\n') := by
  simp only [CSet.mem, setAny, List.any_cons, List.any_nil, Bool.or_false, range_single, Bool.true_bne, decide_not]

def NoNl (s : Str) : Prop := ∀ c ∈ s, c ≠ '\n'

instance (s : Str) : Decidable (NoNl s) := by unfold NoNl; infer_instance

/-- a greedy `[..]*` whose continuation accepts the end of a string made of members takes all of it -/
theorem star_all (cs : CSet) (k : Nat → Str → Option Match) (t : Str) (pos : Nat) (hm : ∀ c ∈ t, cs.mem c = true)
    (hk : (k (pos + t.length) []).isSome) : starSet cs k pos t = k (pos + t.length) [] := by
  obtain ⟨r, hr⟩ := Option.isSome_iff_exists.1 hk
  rw [hr, ← List.append_nil t, star_run hm (by simp) k pos (by simpa using hr)]

/-- the final continuation of `re.match` -/
def k0 : K := fun stop rest caps => some ⟨stop, rest, caps⟩

/-- `\.(.+)` and the end of the pattern -/
def tailRe : Re := .seq (.set setDot) (.group 2 (.plus setAny))

/-- the outcome of `\.(.+)` at a split point -/
def tailOut (p : Nat) (caps : Caps) : Str → Option Match
  | '.' :: c :: r => some ⟨p + 1 + 1 + r.length, [], (2, c :: r) :: caps⟩
  | _ => none

theorem tailOut_not_dot (p : Nat) (caps : Caps) (d : Char) (t : Str) (hd : d ≠ '.') :
    tailOut p caps (d :: t) = none := by
  unfold tailOut
  split
  · rename_i heq; injection heq with h1 _; exact absurd h1 hd
  · rfl

theorem tail_eval (p : Nat) (t : Str) (caps : Caps) (hn : NoNl t) :
    m tailRe p t caps k0 = tailOut p caps t := by
  unfold tailRe
  rw [m_seq]
  cases t with
  | nil => rw [m_set_nil]; rfl
  | cons d t1 =>
    rw [m_set_cons, mem_dot]
    by_cases hd : d = '.'
    · subst hd
      simp only [decide_true, if_true]
      rw [m_group, Re.plus, m_seq]
      cases t1 with
      | nil => rw [m_set_nil]; rfl
      | cons c r =>
        have hc : c ≠ '\n' := hn c (by simp)
        have hr : ∀ x ∈ r, setAny.mem x = true := fun x hx => by
          rw [mem_any]; exact decide_eq_true (hn x (by simp [hx]))
        rw [m_set_cons, mem_any, decide_eq_true hc, if_pos rfl, m_star]
        rw [star_all setAny _ r (p + 1 + 1) hr (by simp [k0])]
        simp only [k0]
        have : (c :: r).take (p + 1 + 1 + r.length - (p + 1)) = c :: r := by
          apply List.take_of_length_le; simp; omega
        rw [this]; rfl
    · simp only [hd, decide_false, Bool.false_eq_true, if_false]
      rw [tailOut_not_dot _ _ _ _ hd]

def proj (mt : Match) : Str × Str := (mt.str 1, mt.str 2)

/-- continuation of the `[^A-Z]*` inside group 1, whose text started at `s0` / `pos0` -/
def kG (pos0 : Nat) (s0 : Str) : Nat → Str → Option Match :=
  fun p s' => m tailRe p s' ((1, s0.take (p - pos0)) :: []) k0

/-- the candidate split the model records at a dot -/
def splitOut (pre : Str) : Str → Option (Str × Str)
  | '.' :: c :: r => some (pre, c :: r)
  | _ => none

theorem splitOut_not_dot (pre : Str) (d : Char) (t : Str) (hd : d ≠ '.') : splitOut pre (d :: t) = none := by
  unfold splitOut
  split
  · rename_i heq; injection heq with h1 _; exact absurd h1 hd
  · rfl

theorem kG_eval (pos0 : Nat) (pre t : Str) (hn : NoNl t) :
    (kG pos0 (pre ++ t) (pos0 + pre.length) t).map proj = splitOut pre t := by
  unfold kG
  rw [tail_eval _ _ _ hn]
  have ht : (pre ++ t).take (pos0 + pre.length - pos0) = pre := by
    rw [Nat.add_sub_cancel_left]; simp
  rw [ht]
  unfold tailOut splitOut
  split
  · simp [proj, Match.str, Match.group, List.lookup]
  · simp

/-- the greedy run with backtracking = the model's forward scan keeping the last candidate -/
theorem scan (pos0 : Nat) (s0 : Str) :
    ∀ (t pre : Str) (best : Option (Str × Str)), s0 = pre ++ t → pre ≠ [] → NoNl t →
      ((starSet setNotUp (kG pos0 s0) (pos0 + pre.length) t).map proj).or best = parseAux pre t best
  | [], pre, best, hs, _, hn => by
    have h := kG_eval pos0 pre [] hn
    rw [← hs] at h
    rw [star_nil, h]; simp [parseAux, splitOut]
  | c :: r, pre, best, hs, hp, hn => by
    have hnr : NoNl r := fun x hx => hn x (by simp [hx])
    have hk := kG_eval pos0 pre (c :: r) hn
    rw [← hs] at hk
    by_cases hu : cls c = .up
    · have hm : setNotUp.mem c = false := by rw [mem_notUp]; simp [hu]
      have hc : c ≠ '.' := by rintro rfl; simp [cls_dot] at hu
      rw [star_out hm, hk, splitOut_not_dot _ _ _ hc]
      simp [parseAux, hu]
    · have hm : setNotUp.mem c = true := by rw [mem_notUp]; simp [hu]
      have hs' : s0 = (pre ++ [c]) ++ r := by rw [hs]; simp
      have ih := scan pos0 s0 r (pre ++ [c])
        (if c = '.' ∧ pre ≠ [] ∧ r ≠ [] then some (pre, r) else best) hs' (by simp) hnr
      have e : pos0 + (pre ++ [c]).length = pos0 + pre.length + 1 := by simp; omega
      rw [e] at ih
      rw [star_in hm]
      simp only [parseAux, hu, if_false]
      rw [← ih]
      cases hx : starSet setNotUp (kG pos0 s0) (pos0 + pre.length + 1) r with
      | some x => simp [Option.orElse]
      | none =>
        simp only [Option.orElse, Option.map_none, Option.none_or]
        rw [hk]
        by_cases hc : c = '.'
        · subst hc
          cases r with
          | nil => simp [splitOut]
          | cons c2 r2 => simp [splitOut, hp]
        · rw [splitOut_not_dot _ _ _ hc]
          simp [hc]

/-- group 1 and everything after it, attempted at `pos0` on `s0` -/
def attempt (pos0 : Nat) (s0 : Str) : Option Match :=
  m (.seq (.group 1 (.plus setNotUp)) tailRe) pos0 s0 [] k0

theorem attempt_eq (pos0 : Nat) (s0 : Str) (hn : NoNl s0) :
    (attempt pos0 s0).map proj = parseAux [] s0 none := by
  unfold attempt
  rw [m_seq, m_group, Re.plus, m_seq]
  cases s0 with
  | nil => rw [m_set_nil]; simp [parseAux]
  | cons c t =>
    rw [m_set_cons]
    by_cases hu : cls c = .up
    · have hm : setNotUp.mem c = false := by rw [mem_notUp]; simp [hu]
      simp [hm, parseAux, hu]
    · have hm : setNotUp.mem c = true := by rw [mem_notUp]; simp [hu]
      have hnt : NoNl t := fun x hx => hn x (by simp [hx])
      rw [if_pos hm, m_star]
      have h := scan pos0 (c :: t) t [c] none (by simp) (by simp) hnt
      simp only [List.length_singleton, Option.or_none] at h
      simp only [parseAux, hu, if_false, List.nil_append]
      have e : (if c = '.' ∧ ([] : Str) ≠ [] ∧ t ≠ [] then some (([] : Str), t) else none) = none := by simp
      rw [e, ← h]
      rfl

theorem pattern_eq : Src.parse_source_type_name.pattern =
    .seq .bol (.seq (.opt (.set setDot)) (.seq (.group 1 (.plus setNotUp)) tailRe)) := rfl

theorem m_bol (pos : Nat) (s : Str) (caps : Caps) (K : K) :
    m .bol pos s caps K = if pos = 0 then K pos s caps else none := by simp only [m]
theorem m_opt (a : Re) (pos : Nat) (s : Str) (caps : Caps) (K : K) :
    m (.opt a) pos s caps K = (m a pos s caps K).orElse fun _ => K pos s caps := by simp only [m]

/-- the attempt with the leading dot consumed -/
def firstTry {α : Type} (f : Str → Option α) : Str → Option α
  | '.' :: r => f r
  | _ => none

theorem firstTry_not_dot {α : Type} (f : Str → Option α) (c : Char) (t : Str) (hc : c ≠ '.') :
    firstTry f (c :: t) = none := by
  unfold firstTry
  split
  · rename_i r heq; injection heq with h1 _; exact absurd h1 hc
  · rfl

/-- `re.match` of the parsed pattern: the optional dot consumed first, then not -/
theorem reMatch_eq (s : Str) :
    reMatch Src.parse_source_type_name.pattern s =
      ((firstTry (attempt 1) s).orElse fun _ => attempt 0 s) := by
  have hk : (fun (stop : Nat) (rest : Str) (caps : Caps) =>
      if (false && stop == 0) = true then none else some (⟨stop, rest, caps⟩ : Match)) = k0 := by
    funext stop rest caps; simp [k0]
  unfold reMatch matchAt
  rw [hk, pattern_eq, m_seq, m_bol, if_pos rfl, m_seq, m_opt]
  cases s with
  | nil => rw [m_set_nil]; rfl
  | cons c t =>
    rw [m_set_cons, mem_dot]
    by_cases hc : c = '.'
    · subst hc; simp only [decide_true, if_true]; rfl
    · simp only [hc, decide_false, Bool.false_eq_true, if_false]
      rw [firstTry_not_dot _ _ _ hc]; rfl

/-- the model, in the shape of `reMatch_eq` -/
theorem parseSourceTypeName_firstTry (s : Str) :
    parseSourceTypeName s =
      match (firstTry (fun r => parseAux [] r none) s).orElse fun _ => parseAux [] s none with
      | some x => x
      | none => ([], lstripDots s) := by
  cases s with
  | nil => rfl
  | cons c t =>
    by_cases hc : c = '.'
    -- the scans are generalized before `rfl`: comparing them would evaluate the class tables
    · subst hc
      simp only [parseSourceTypeName, firstTry]
      generalize parseAux [] ('.' :: t) none = A
      cases parseAux [] t none <;> rfl
    · rw [firstTry_not_dot _ _ _ hc]
      unfold parseSourceTypeName
      generalize parseAux [] (c :: t) none = A
      split
      · rename_i x heq
        injection heq with h1 _; exact absurd h1 hc
      · rfl

end Bp.SrcTieImpRe
