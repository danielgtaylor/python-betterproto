import BpProofs.JsonRtSlot
/-
  C04, the induction over nested messages and the round-trip theorems.

  `rt_walk` goes by induction on the typing derivation `JOk` (BpProofs/JsonTyped.lean): a message is handled
  through its slots (`msg_assemble`, BpProofs/JsonRt.lean), a slot through the lemma of BpProofs/JsonRtSlot.lean
  for its typing rule, repeated messages and map message values item by item.  `rt_slots` / `rt_slot` /
  `rt_msgs` are what it says of a slot list, a slot, a list of messages of a `wellTyped'` value.
-/
namespace Bp
open Gen

theorem selOk_msg (S : Schema) (c : Nat) (sl : List Val) (ow : Bool) (unk : Bytes) (cur : List (Option Nat)) :
    selOk S (.msg c sl ow unk cur) = (curPoints (fieldsOf S c) cur && selOkList S sl) := by rw [selOk]
theorem selOk_list (S : Schema) (xs : List Val) : selOk S (.list xs) = selOkList S xs := by rw [selOk]
theorem selOk_dict (S : Schema) (ks vs : List Val) : selOk S (.dict ks vs) = selOkList S vs := by rw [selOk]

/-- the three facts about one message the induction carries -/
def MsgRT (S : Schema) (E : Enums) (cs : KeyCase) (c : Nat) (sl : List Val) (cur : List (Option Nat)) : Prop :=
  fromDictKV S E c ((toDictKVs S E cs false (fieldsOf S c) cur 0 sl).map (·.1))
      ((toDictKVs S E cs false (fieldsOf S c) cur 0 sl).map (·.2))
    = .ok (emitted2 S E cs (fieldsOf S c) cur 0 sl)
  ∧ fromDictCls S c (emitted2 S E cs (fieldsOf S c) cur 0 sl)
    = .msg c (jrtSlots S E cs (fieldsOf S c) cur 0 sl) true [] cur
  ∧ SlotsDEqv S (fieldsOf S c) cur 0 sl (jrtSlots S E cs (fieldsOf S c) cur 0 sl)

theorem msgRT_of_slots (S : Schema) (E : Enums) (cs : KeyCase) (hS : SchemaOk S E cs) (c : Nat) (sl : List Val)
    (unk : Bytes) (cur : List (Option Nat)) (hbody : bodyOk S c sl unk cur = true)
    (hcp : curPoints (fieldsOf S c) cur = true)
    (hrt : ∀ k v f, sl[k]? = some v → (fieldsOf S c)[0 + k]? = some f →
      SlotRT2 S E cs f (hidden f (0 + k) cur) (selectedInGroup f (0 + k) cur) v) :
    MsgRT S E cs c sl cur := by
  obtain ⟨_, hlen, hcl, _⟩ := bodyOk_spec S c sl unk cur hbody
  exact msg_assemble S E cs hS c sl cur hlen hcl hcp (fun k v f hv hf => by
    have := hrt k v f hv (by simpa using hf)
    simpa using this)

/-- what the round trip says at each place of the typing derivation; the Boolean guards travel along as premises,
    since the lemmas of BpProofs/JsonRtSlot.lean are stated over them -/
def RtAt (S : Schema) (E : Enums) (cs : KeyCase) : JAt → Prop
  | .slot f hid sel v => FJ f → HS f hid sel → slotOk' S f hid sel v = true → selOk S v = true → SlotRT2 S E cs f hid sel v
  | .slots fs cur idx vs => (∀ f ∈ fs, fieldJsonOk f = true) → slotsOk' S fs cur idx vs = true → selOkList S vs = true →
      ∀ k v f, vs[k]? = some v → fs[idx + k]? = some f →
        SlotRT2 S E cs f (hidden f (idx + k) cur) (selectedInGroup f (idx + k) cur) v
  | .msgs c xs => selOkList S xs = true →
      fromDictItems S E c (toDictList S E cs false xs) = .ok (jrtList S E cs xs)
      ∧ fromDictMapVals S E c (toDictMapVals S E cs false xs) = .ok (jrtList S E cs xs)
      ∧ ListDEqv S xs (jrtList S E cs xs)

/-- induction on the typing derivation: the rule says which lemma of BpProofs/JsonRtSlot.lean applies; a message is
    handled through its slots (`msgRT_of_slots`) -/
theorem rt_walk (S : Schema) (E : Enums) (cs : KeyCase) (hS : SchemaOk S E cs) {a : JAt} (h : JOk S a) : RtAt S E cs a := by
  have he := schema_enum S E cs hS
  induction h with
  | @unset f hid _ _ => exact fun hj _ h _ => rt_ph S E cs f hid false hj h
  | @none f _ _ _ => exact fun _ hs h _ => rt_none S E cs f false false hs h
  | @wrapped f sel v w _ _ _ _ hv =>
    exact fun hj _ h _ => rt_leaf S E cs f false sel v hj (he f) (valOfType_leaf w v hv).1 (valOfType_leaf w v hv).2 h
  | @time f sel v _ _ _ hk =>
    intro hj _ h _
    rcases hk with ⟨_, us, rfl⟩ | ⟨_, us, rfl⟩ <;> exact rt_leaf S E cs f false sel _ hj (he f) rfl nofun h
  | @scalar f sel v _ _ _ hv =>
    exact fun hj _ h _ => rt_leaf S E cs f false sel v hj (he f) (valOfType_leaf f.ty v hv).1 (valOfType_leaf f.ty v hv).2 h
  | @times f xs _ _ hk =>
    refine fun hj hs h _ => rt_list_flat S E cs f false false xs hj hs (he f) ?_ h
    rintro ⟨_, _, c, hc⟩
    rcases hk with ⟨hk, _⟩ | ⟨hk, _⟩ <;> rw [hk] at hc <;> cases hc
  | @scalars f xs _ hm _ =>
    exact fun hj hs h _ => rt_list_flat S E cs f false false xs hj hs (he f) (fun hu => by rw [hm] at hu; cases hu.1) h
  | @items f xs c _ hm hk _ ih =>
    intro hj hs h hsel
    rw [selOk_list] at hsel
    obtain ⟨h1, _, h3⟩ := ih hsel
    exact rt_list_user S E cs f false false xs c hj hs hm hk h h1 h3
  | @mapS f ks vs _ hv _ _ _ => exact fun hj hs h _ => rt_dict_flat S E cs f false false ks vs hj hs hv h
  | @mapM f ks vs c _ hv hk _ _ _ ih =>
    intro hj hs h hsel
    rw [selOk_dict] at hsel
    obtain ⟨_, h2, h3⟩ := ih hsel
    exact rt_dict_user S E cs f false false ks vs c hj hs hv hk h h2 h3
  | @sub f sel c sl ow unk cur _ _ _ _ _ hbody _ ih =>
    intro _ _ h hsel
    rw [selOk_msg] at hsel
    simp only [Bool.and_eq_true] at hsel
    obtain ⟨a1, a2, a3⟩ := msgRT_of_slots S E cs hS c sl unk cur hbody hsel.1
      (ih (schema_field S E cs hS c) (bodyOk_spec S c sl unk cur hbody).2.2.2 hsel.2)
    exact rt_msg_slot S E cs f false sel c sl ow unk cur h a1 a2 a3
  | nil => intro _ _ _ k v f hv; simp at hv
  | @cons fs cur idx f a vs hf _ _ ih1 ih2 =>
    intro hfs h hs k v f' hv hf'
    rw [slotsOk', hf] at h
    rw [selOkList] at hs
    simp only [Bool.and_eq_true] at h hs
    cases k with
    | zero =>
      simp only [List.getElem?_cons_zero, Option.some.injEq] at hv
      simp only [Nat.add_zero] at hf' ⊢
      rw [hf] at hf'
      cases hf'
      rw [← hv]
      exact ih1 (fj_of f (hfs f (List.mem_of_getElem? hf))) (hs_slot f idx cur) h.1 hs.1
    | succ k =>
      have := ih2 hfs h.2 hs.2 k v f' (by simpa using hv) (by rw [← hf']; congr 1; omega)
      have e : idx + (k + 1) = idx + 1 + k := by omega
      rw [e]; exact this
  | nilM => exact fun _ => ⟨rfl, rfl, ListDEqv.nil⟩
  | @consM c sl ow unk cur xs hbody _ _ ih1 ih2 =>
    intro hsel
    rw [selOkList, selOk_msg] at hsel
    simp only [Bool.and_eq_true] at hsel
    obtain ⟨hunk, _, _, hsl⟩ := bodyOk_spec S c sl unk cur hbody
    obtain ⟨a1, a2, a3⟩ := msgRT_of_slots S E cs hS c sl unk cur hbody hsel.1.1
      (ih1 (schema_field S E cs hS c) hsl hsel.1.2)
    obtain ⟨b1, b2, b3⟩ := ih2 hsel.2
    subst hunk
    rw [toDictList, toDictMapVals, jrtList, jrt_msg]
    simp only [mkObj]
    rw [fromDictItems, fromDictMapVals]
    simp only [a1, a2, bind_ok, b1, b2]
    exact ⟨trivial, trivial, ListDEqv.consMsg c sl _ ow [] cur xs _ a3 b3⟩

theorem rt_slots (S : Schema) (E : Enums) (cs : KeyCase) (hS : SchemaOk S E cs) (fs : List FieldD)
    (cur : List (Option Nat)) (hfs : ∀ f ∈ fs, fieldJsonOk f = true) :
    ∀ (vs : List Val) (idx : Nat), slotsOk' S fs cur idx vs = true → selOkList S vs = true →
      ∀ k v f, vs[k]? = some v → fs[idx + k]? = some f →
        SlotRT2 S E cs f (hidden f (idx + k) cur) (selectedInGroup f (idx + k) cur) v :=
  fun vs idx h => rt_walk S E cs hS (jslots_of S (schema_field S E cs hS) fs cur hfs vs idx h) hfs h

theorem rt_slot (S : Schema) (E : Enums) (cs : KeyCase) (hS : SchemaOk S E cs) (f : FieldD) (hid sel : Bool)
    (hj : FJ f) (hs : HS f hid sel) :
    ∀ (v : Val), slotOk' S f hid sel v = true → selOk S v = true → SlotRT2 S E cs f hid sel v :=
  fun v h => rt_walk S E cs hS (jslot_of S (schema_field S E cs hS) f hid sel hj hs v h) hj hs h

theorem rt_msgs (S : Schema) (E : Enums) (cs : KeyCase) (hS : SchemaOk S E cs) (c : Nat) :
    ∀ (xs : List Val), (∀ x ∈ xs, ∃ sl ow unk cur, x = Val.msg c sl ow unk cur ∧ bodyOk S c sl unk cur = true) →
      selOkList S xs = true →
      fromDictItems S E c (toDictList S E cs false xs) = .ok (jrtList S E cs xs)
      ∧ fromDictMapVals S E c (toDictMapVals S E cs false xs) = .ok (jrtList S E cs xs)
      ∧ ListDEqv S xs (jrtList S E cs xs) :=
  fun xs h => rt_walk S E cs hS (jmsgs_of S (schema_field S E cs hS) c xs h)

theorem msgRT_of_wellTyped (S : Schema) (E : Enums) (cs : KeyCase) (hS : SchemaOk S E cs) (c : Nat) (sl : List Val)
    (ow : Bool) (unk : Bytes) (cur : List (Option Nat))
    (hwt : wellTyped' S (.msg c sl ow unk cur) = true) (hsel : selOk S (.msg c sl ow unk cur) = true) :
    unk = [] ∧ MsgRT S E cs c sl cur := by
  rw [wellTyped_msg] at hwt
  rw [selOk_msg] at hsel
  simp only [Bool.and_eq_true] at hsel
  obtain ⟨hunk, _, _, hsl⟩ := bodyOk_spec S c sl unk cur hwt
  exact ⟨hunk, msgRT_of_slots S E cs hS c sl unk cur hwt hsel.1
    (rt_slots S E cs hS (fieldsOf S c) cur (fun f hf => schema_field S E cs hS c f hf) sl 0 hsl hsel.2)⟩

/-- **class form, flat and nested messages**: `Cls.from_dict(m.to_dict(casing))` returns `jrt m`;
    `jrt m` is related to `m` by `DEqv` and encodes to the same bytes -/
theorem roundtrip_class (S : Schema) (E : Enums) (cs : KeyCase) (hS : SchemaOk S E cs) (c : Nat) (sl : List Val)
    (ow : Bool) (unk : Bytes) (cur : List (Option Nat))
    (hwt : wellTyped' S (.msg c sl ow unk cur) = true) (hsel : selOk S (.msg c sl ow unk cur) = true) :
    fromDictC S E c (toDict S E cs false (.msg c sl ow unk cur)) = .ok (jrt S E cs (.msg c sl ow unk cur))
    ∧ DEqv S (.msg c sl ow unk cur) (jrt S E cs (.msg c sl ow unk cur))
    ∧ dumpVal S (jrt S E cs (.msg c sl ow unk cur)) = dumpVal S (.msg c sl ow unk cur) := by
  obtain ⟨hunk, a1, a2, a3⟩ := msgRT_of_wellTyped S E cs hS c sl ow unk cur hwt hsel
  subst hunk
  have hd : DEqv S (.msg c sl ow [] cur) (jrt S E cs (.msg c sl ow [] cur)) := by
    rw [jrt_msg]; exact DEqv.msg c sl _ ow [] cur a3
  refine ⟨?_, hd, deqv_dumpVal S (fun c f hf => schema_field S E cs hS c f hf) _ _ hwt hd⟩
  rw [toDict]
  simp only [mkObj, fromDictC, fromDictInit, a1, bind_ok, a2, jrt_msg]

end Bp

#print axioms Bp.roundtrip_class
