import BpModel.All
import BpModel.Json
import BpProofs.Ops
import BpProofs.SpecWf
import BpProofs.JsonGuard
/-
  What `to_dict` writes for one slot: the case equations of `toDictSlot` / `toDictPlain` /
  `toDictDefault` that the JSON proofs (C04, C05, C07) rewrite with, and on top of them the JSON
  half of C07: which oneof members `to_dict` / `to_json` write, and the projection of `toDictKVs`
  on field indices.
-/
namespace Bp

/- `JVal` is a nested inductive like `Val` (BpProofs/ValDec.lean): decidable equality by hand -/
mutual
def JVal.eqb : JVal → JVal → Bool
  | .null, .null => true
  | .bool a, .bool b => a == b
  | .num a, .num b | .decStr a, .decStr b | .tsStr a, .tsStr b | .durStr a, .durStr b => a == b
  | .fnum32 a, .fnum32 b | .fnum a, .fnum b | .fstr a, .fstr b => a == b
  | .str a, .str b | .b64 a, .b64 b => a == b
  | .arr a, .arr b => JVal.eqbs a b
  | .obj k a, .obj l b => k == l && JVal.eqbs a b
  | .raw a, .raw b => a == b
  | _, _ => false
def JVal.eqbs : List JVal → List JVal → Bool
  | [], [] => true
  | a :: as, b :: bs => JVal.eqb a b && JVal.eqbs as bs
  | _, _ => false
end

mutual
theorem JVal.eqb_iff : ∀ a b : JVal, JVal.eqb a b = true ↔ a = b
  | .null, b | .bool _, b | .num _, b | .decStr _, b | .tsStr _, b | .durStr _, b | .fnum32 _, b | .fnum _, b
  | .fstr _, b | .str _, b | .b64 _, b | .raw _, b => by cases b <;> simp [JVal.eqb]
  | .arr a, b => by cases b <;> simp [JVal.eqb, JVal.eqbs_iff a]
  | .obj _ a, b => by cases b <;> simp [JVal.eqb, JVal.eqbs_iff a]
theorem JVal.eqbs_iff : ∀ as bs : List JVal, JVal.eqbs as bs = true ↔ as = bs
  | [], bs => by cases bs <;> simp [JVal.eqbs]
  | a :: as, bs => by cases bs <;> simp [JVal.eqbs, JVal.eqb_iff a, JVal.eqbs_iff as]
end

instance : DecidableEq JVal := fun a b => decidable_of_iff _ (JVal.eqb_iff a b)

section Slots
variable (S : Schema) (E : Enums) (cs : KeyCase) (f : FieldD) (sel : Bool)

/-- a oneof member as protoc admits it: not `repeated`, not a map (protoc also rejects
    `optional` members; the theorems do not need that) -/
def memberOk (f : FieldD) : Bool := f.group.isNone || (!f.repeated && f.ty != .map)

def membersOk (fs : List FieldD) : Bool := fs.all memberOk

/-- `value is None` tests of `to_dict` that win over "the selected member is always written":
    sub-messages / wrappers, 64-bit ints and enums -/
def skipsNone (f : FieldD) : Bool := f.ty == .message || isInt64 f.ty || f.ty == .enum

/-- the selected member is NOT written exactly when it holds `None` in a field of those kinds
    (a wrapper member whose slot is still PLACEHOLDER reads as `None`) -/
def skipsSelected (f : FieldD) : Val → Bool
  | .none => skipsNone f
  | .ph => (f.wraps.isSome || f.optional) && skipsNone f
  | _ => false

/- These equations stand upstream of `BpProofs.Json`: that file cannot be imported here, since it
clashes with `BpProofs.RtFlat` (both define a `flatSlotOk`), which C14 imports next to C07. -/

theorem toDictSlot_leaf (incl : Bool) (f : FieldD) (hid sel : Bool) (v : Val)
    (h : isLeafVal v = true) :
    toDictSlot S E cs incl f hid sel v = if hid then toDictDefault S E f sel incl else toDictPlain S E f sel incl v := by
  cases v with
  | ph | list _ | dict _ _ | msg _ _ _ _ _ => cases h
  | _ =>
    -- the equation of the catch-all alternative of `toDictSlot`; its side goals say that the
    -- value is none of the constructors matched before
    rw [toDictSlot]
    all_goals (intros; contradiction)

theorem toDictSlot_ph (incl : Bool) (f : FieldD) (hid sel : Bool) :
    toDictSlot S E cs incl f hid sel .ph = toDictDefault S E f sel incl := by
  rw [toDictSlot]

theorem toDictSlot_hidden (incl : Bool) (v : Val) :
    toDictSlot S E cs incl f true sel v = toDictDefault S E f sel incl := by
  cases v with
  | ph => rw [toDictSlot]
  | list | dict | msg => rw [toDictSlot]; rfl
  | _ => rw [toDictSlot_leaf _ _ _ _ _ _ _ _ rfl]; rfl

/-- what `to_dict` writes for one scalar item of a field of type `f.ty` -/
def encItem (E : Enums) (f : FieldD) (v : Val) : JVal :=
  if isInt64 f.ty then strJ v
  else if f.ty == .bytes then b64J v
  else if f.ty == .enum then dumpEnum (enumOf E f) v
  else if f.ty == .float || f.ty == .double then dumpFloat v
  else rawJ v

theorem encScalar_some (incl : Bool) (v : Val) (hr : f.repeated = false) (hn : v ≠ .none) :
    encScalar E f incl v = some (encItem E f v) := by
  -- `hn` rules out the `None` alternative of each `match` (simp finds it among the hypotheses)
  unfold encScalar encItem
  simp only [hr, Bool.false_eq_true, if_false, apply_ite some]

theorem encScalar_none (hr : f.repeated = false) :
    (encScalar E f false .none).isNone = (isInt64 f.ty || f.ty == .enum) := by
  unfold encScalar
  simp only [hr, Bool.false_eq_true, if_false]
  by_cases h1 : isInt64 f.ty = true
  · simp [h1]
  · by_cases h2 : (f.ty == .bytes) = true
    · have : f.ty = .bytes := by simpa using h2
      simp [this, isInt64, Gen.int64Types]
    · by_cases h3 : (f.ty == .enum) = true
      · simp [h1, h2, h3]
      · by_cases h4 : (f.ty == .float || f.ty == .double) = true <;> simp [h1, h2, h3, h4]

theorem toDictPlain_scalar (sel incl : Bool) (v : Val)
    (hm : (f.ty == .message) = false) (hmap : (f.ty == .map) = false) :
    toDictPlain S E f sel incl v
      = if !eqDefault S f.defKind v || incl || sel then encScalar E f incl v else Option.none := by
  simp only [toDictPlain, hm, hmap, Bool.false_eq_true, if_false]

theorem toDictPlain_none (hr : f.repeated = false)
    (hmap : (f.ty == PType.map) = false) (ho : (f.optional || f.wraps.isSome) = true) :
    toDictPlain S E f false false .none = Option.none := by
  by_cases hm : (f.ty == .message) = true
  · simp only [toDictPlain, hm, hr, if_true, Bool.false_eq_true, if_false, ite_self]
  · rw [toDictPlain_scalar S E f false false _ (by simpa using hm) hmap, defKind_none f hr hmap ho]
    simp [eqDefault]

/-- with `sel` every test of `to_dict` on a plain value passes but the `value is None` ones -/
theorem toDictPlain_selected (v : Val) (hr : f.repeated = false)
    (hmap : (f.ty == .map) = false) (hl : isLeafVal v = true) :
    (toDictPlain S E f true false v).isNone = skipsSelected f v := by
  by_cases hm : (f.ty == .message) = true
  · unfold toDictPlain
    cases v with
    | ph | list _ | dict _ _ | msg _ _ _ _ _ => cases hl
    | _ => cases f.wraps <;> simp [hm, hr, skipsSelected, skipsNone]
  · have hm : (f.ty == .message) = false := by simpa using hm
    rw [toDictPlain_scalar S E f true false v hm hmap, Bool.or_true, if_pos rfl]
    cases v with
    | ph | list _ | dict _ _ | msg _ _ _ _ _ => cases hl
    | none => simpa [skipsSelected, skipsNone, hm] using encScalar_none E f hr
    | _ => rw [encScalar_some E f false _ hr (by nofun)]; rfl

theorem rawJList_eq_map (xs : List Val) : rawJList xs = xs.map rawJ := by
  induction xs with
  | nil => simp [rawJList]
  | cons x xs ih => simp [rawJList, ih]

theorem toDictSlot_repeated_scalar (incl : Bool) (f : FieldD) (sel : Bool)
    (xs : List Val) (hm : (f.ty == .message) = false) (hmap : (f.ty == .map) = false) (hr : f.repeated = true) :
    toDictSlot S E cs incl f false sel (.list xs)
      = if !xs.isEmpty || incl || sel then some (.arr (xs.map (encItem E f))) else Option.none := by
  rw [toDictSlot]
  simp only [Bool.false_eq_true, if_false, hm, hmap, hr, Bool.not_true, defKind_rep f hr, eqDefault_list]
  congr 1
  unfold encItem
  by_cases h1 : isInt64 f.ty = true
  · simp [h1]
  · by_cases h2 : (f.ty == PType.bytes) = true
    · simp [h1, h2]
    · by_cases h3 : (f.ty == PType.enum) = true
      · simp [h1, h2, h3]
      · by_cases h4 : (f.ty == PType.float || f.ty == PType.double) = true
        · simp only [h1, h2, h3, h4, if_true, if_false, Bool.false_eq_true]
        · simp only [h1, h2, h3, h4, if_false, Bool.false_eq_true, rawJ, rawJList_eq_map]

theorem toDictList_isEmpty (incl : Bool) (xs : List Val) :
    (toDictList S E cs incl xs).isEmpty = xs.isEmpty := by
  cases xs with
  | nil => simp [toDictList]
  | cons x xs => cases x <;> simp [toDictList]

theorem toDictSlot_repeated_msg (incl : Bool) (f : FieldD) (sel : Bool)
    (xs : List Val) (hm : (f.ty == .message) = true) (hw : f.wraps = Option.none) (hr : f.repeated = true) :
    toDictSlot S E cs incl f false sel (.list xs)
      = if !xs.isEmpty || incl then
          some (.arr (match f.kind with
            | .timestamp => xs.map tsJ
            | .duration => xs.map durJ
            | .user _ => toDictList S E cs incl xs))
        else Option.none := by
  rw [toDictSlot]
  simp only [Bool.false_eq_true, if_false, hm, if_true, hw, Option.isSome_none, hr]
  cases f.kind <;> simp [toDictList_isEmpty]

theorem toDictSlot_map (incl : Bool) (f : FieldD) (sel : Bool)
    (ks vs : List Val) (hmap : (f.ty == .map) = true) :
    toDictSlot S E cs incl f false sel (.dict ks vs)
      = if !ks.isEmpty || incl then some (.obj (ks.map keyJ) (toDictMapVals S E cs incl vs)) else Option.none := by
  rw [toDictSlot]
  simp only [Bool.false_eq_true, if_false, hmap, if_true]

theorem toDictSlot_msg (incl : Bool) (f : FieldD) (sel : Bool) (c : Nat)
    (sl : List Val) (ow : Bool) (unk : Bytes) (cur : List (Option Nat))
    (hm : (f.ty == .message) = true) (hw : f.wraps = Option.none) (hr : f.repeated = false) :
    toDictSlot S E cs incl f false sel (.msg c sl ow unk cur)
      = if ow || incl || f.optional || sel || !eqDefault S f.defKind (.msg c sl ow unk cur) then
          some (mkObj (toDictKVs S E cs incl (fieldsOf S c) cur 0 sl))
        else Option.none := by
  rw [toDictSlot]
  simp only [Bool.false_eq_true, if_false, hm, hw, hr, Option.isNone_none, Bool.not_false, Bool.and_self, if_true]

theorem toDictSlot_none (hr : f.repeated = false)
    (hmap : (f.ty == PType.map) = false) (ho : (f.optional || f.wraps.isSome) = true) :
    toDictSlot S E cs false f false false .none = Option.none := by
  rw [toDictSlot_leaf _ _ _ _ _ _ _ _ rfl, if_neg (by simp)]
  exact toDictPlain_none S E f hr hmap ho

/-- a wrapper field that holds a value: the bare value, whatever the flags -/
theorem toDictSlot_wrapped (incl : Bool) (f : FieldD) (sel : Bool) (v : Val) (w : PType)
    (hm : (f.ty == .message) = true) (hw : f.wraps = some w) (hv : valOfType w v = true) :
    toDictSlot S E cs incl f false sel v = some (rawJ v) := by
  rw [toDictSlot_leaf _ _ _ _ _ _ _ _ (valOfType_leaf w v hv).1]
  cases v <;> first | cases hv | simp [toDictPlain, hm, hw]

theorem eqDefault_scalarDef (t : PType) : eqDefault S (scalarDef t) (defaultOfKind S (scalarDef t)) = true := by
  cases t <;> rfl

theorem scalarDef_leaf (t : PType) :
    isLeafVal (defaultOfKind S (scalarDef t)) = true ∧ ∀ f, skipsSelected f (defaultOfKind S (scalarDef t)) = false := by
  cases t <;> exact ⟨rfl, fun _ => rfl⟩

theorem toDictDefault_leaf (sel incl : Bool)
    (h : isLeafVal (defaultOfKind S f.defKind) = true) :
    toDictDefault S E f sel incl = toDictPlain S E f sel incl (defaultOfKind S f.defKind) := by
  unfold toDictDefault
  generalize f.defKind = k at h ⊢
  cases k with
  | list | dict | msg _ => cases h
  | _ => rfl

/-- (`sel = false` is what `to_dict` sees for a plain field and, by `AttributeError`, for an
    unselected member: each branch asks `value != default`, and this value is the default) -/
theorem toDictDefault_unselected (hr : f.repeated = false) :
    toDictDefault S E f false false = Option.none := by
  rcases defKind_cases f with ⟨e, _⟩ | ⟨_, ht, hd⟩ | ⟨_, ht, ho, hd⟩ | ⟨_, ht, ho, hw, hd⟩ | ⟨_, ht, htm, ho, hw, hd⟩
  · rw [hr] at e; cases e
  · simp [toDictDefault, hd, ht]
  · rw [toDictDefault_leaf S E f _ _ (by rw [hd]; rfl), hd]
    exact toDictPlain_none S E f hr (by simpa using ht) ho
  · cases hk : f.kind <;> simp [toDictDefault, hd, hk, msgKindDef, defaultOfKind, toDictPlain, ht, ho]
  · have hm : (f.ty == .message) = false := by simpa using htm
    rw [toDictDefault_leaf S E f _ _ (hd ▸ (scalarDef_leaf S f.ty).1), hd,
      toDictPlain_scalar S E f _ _ _ hm (by simpa using ht), hd, eqDefault_scalarDef]
    rfl

/-- a selected member whose slot is still PLACEHOLDER: its default is `None` exactly when it is
    `optional` or a wrapper -/
theorem toDictDefault_selected (hr : f.repeated = false) (hmap : (f.ty == .map) = false) :
    (toDictDefault S E f true false).isNone = skipsSelected f .ph := by
  rcases defKind_cases f with ⟨e, _⟩ | ⟨_, ht, hd⟩ | ⟨_, ht, ho, hd⟩ | ⟨_, ht, ho, hw, hd⟩ | ⟨_, ht, htm, ho, hw, hd⟩
  · rw [hr] at e; cases e
  · simp [ht] at hmap
  · rw [toDictDefault_leaf S E f _ _ (by rw [hd]; rfl), hd, toDictPlain_selected S E f _ hr hmap rfl]
    simp [skipsSelected, defaultOfKind, ho, Bool.or_comm]
  · cases hk : f.kind <;> simp [toDictDefault, hd, hk, msgKindDef, defaultOfKind, toDictPlain, ht, ho, hw, skipsSelected]
  · obtain ⟨hl, hs⟩ := scalarDef_leaf S f.ty
    rw [toDictDefault_leaf S E f _ _ (hd ▸ hl), hd, toDictPlain_selected S E f _ hr hmap hl, hs]
    simp [skipsSelected, ho, hw]

/-- (`hid = true`, `sel = false` is what `hidden` and `selectedInGroup` give for an unselected member) -/
theorem toDictSlot_unselected (f : FieldD)
    (hr : f.repeated = false) (v : Val) :
    toDictSlot S E cs false f true false v = Option.none := by
  rw [toDictSlot_hidden, toDictDefault_unselected S E f hr]

theorem toDictDefault_none (hj : FJ f) :
    toDictDefault S E f false false = Option.none := by
  cases hr : f.repeated
  · exact toDictDefault_unselected S E f hr
  · have hw : f.wraps.isSome = false := by
      cases h : f.wraps.isSome with
      | false => rfl
      | true => exact absurd (hj.wr_rep h) (by simp [hr])
    have hmap : (f.ty == PType.map) = false := by
      cases h : (f.ty == PType.map) with
      | false => rfl
      | true => exact absurd (hj.map_rep h) (by simp [hr])
    simp [toDictDefault, defKind_rep f hr, hw, hmap]

theorem eqDefault_none_leaf (v : Val) (hl : isLeafVal v = true) (hn : v ≠ .none) :
    eqDefault S .none v = false := by
  cases v with
  | ph | list _ | dict _ _ | msg _ _ _ _ _ => cases hl
  | none => exact absurd rfl hn
  | _ => simp [eqDefault]

/-- **the selected member is written unless it holds `None` in a message / wrapper / 64-bit /
    enum field** (exact characterisation; `hid = false`, `sel = true` is what `hidden` and
    `selectedInGroup` give for the selected member) -/
theorem toDictSlot_selected (f : FieldD)
    (hr : f.repeated = false) (hm : f.ty ≠ .map) (v : Val) :
    (toDictSlot S E cs false f false true v).isNone = skipsSelected f v := by
  have hmap : (f.ty == .map) = false := by simpa using hm
  by_cases hl : isLeafVal v = true
  · rw [toDictSlot_leaf _ _ _ _ _ _ _ _ hl, if_neg (by simp)]
    exact toDictPlain_selected S E f v hr hmap hl
  · cases v with
    | ph => rw [toDictSlot_ph]; exact toDictDefault_selected S E f hr hmap
    | list xs => rw [toDictSlot]; cases f.wraps <;> simp [hr, hmap, skipsSelected, apply_ite Option.isSome]
    | dict ks vs => rw [toDictSlot]; simp [hmap, skipsSelected]
    | msg c sl ow unk cur => rw [toDictSlot]; simp [hr, skipsSelected, apply_ite Option.isSome]
    | _ => exact absurd rfl hl

/-- the projection of `toDictKVs` on field indices: index of every entry, in output order -/
def emittedIdx (S : Schema) (E : Enums) (cs : KeyCase) (incl : Bool) (fs : List FieldD) (cur : List (Option Nat)) :
    Nat → List Val → List Nat
  | _, [] => []
  | idx, v :: vs =>
    match fs[idx]? with
    | Option.none => []
    | some f =>
      match toDictSlot S E cs incl f (hidden f idx cur) (selectedInGroup f idx cur) v with
      | some _ => idx :: emittedIdx S E cs incl fs cur (idx + 1) vs
      | Option.none => emittedIdx S E cs incl fs cur (idx + 1) vs

/-- the key `to_dict` uses for field `i` -/
def keyAt (cs : KeyCase) (fs : List FieldD) (i : Nat) : JKey := jsonKey cs (fs.getD i default).name

theorem toDictKVs_keys (incl : Bool) (fs : List FieldD) (cur : List (Option Nat))
    (idx : Nat) (vs : List Val) :
    (toDictKVs S E cs incl fs cur idx vs).map (·.1) = (emittedIdx S E cs incl fs cur idx vs).map (keyAt cs fs) := by
  fun_induction emittedIdx S E cs incl fs cur idx vs with
  | case1 => rw [toDictKVs]; rfl
  | case2 k v vs hf => rw [toDictKVs, hf]; rfl
  | case3 k v vs f hf j hs ih =>
    rw [toDictKVs, hf]; simp only [hs]
    rw [List.map_cons, List.map_cons, ih, keyAt, List.getD_eq_getElem?_getD, hf]; rfl
  | case4 k v vs f hf hs ih => rw [toDictKVs, hf]; simp only [hs]; exact ih

/-- `emittedIdx` in closed form: the numbered slots for which `toDictSlot` writes something -/
theorem emittedIdx_eq (incl : Bool) (fs : List FieldD) (cur : List (Option Nat)) (k : Nat) (vs : List Val) :
    emittedIdx S E cs incl fs cur k vs = ((vs.zipIdx k).filter fun p =>
      (fs[p.2]?.bind fun f => toDictSlot S E cs incl f (hidden f p.2 cur) (selectedInGroup f p.2 cur) p.1).isSome).map
        (·.2) := by
  fun_induction emittedIdx S E cs incl fs cur k vs with
  | case1 => rfl
  | case2 k v vs hf =>
    -- the fields have run out at `k`, and every slot of `v :: vs` has an index from `k` on
    rw [List.filter_eq_nil_iff.2 fun p hp => ?_]; rfl
    rw [List.getElem?_eq_none (Nat.le_trans (List.getElem?_eq_none_iff.1 hf) (List.le_snd_of_mem_zipIdx hp))]; nofun
  | case3 k v vs f hf j hs ih =>
    rw [List.zipIdx_cons, List.filter_cons]
    simp only [hf, hs, Option.bind_some, Option.isSome_some, if_true, List.map_cons, ih]
  | case4 k v vs f hf hs ih =>
    rw [List.zipIdx_cons, List.filter_cons]
    simp only [hf, hs, Option.bind_some, Option.isSome_none, Bool.false_eq_true, if_false, ih]

theorem emittedIdx_sorted (incl : Bool) (fs : List FieldD) (cur : List (Option Nat))
    (k : Nat) (vs : List Val) : (emittedIdx S E cs incl fs cur k vs).Pairwise (· < ·) := by
  rw [emittedIdx_eq]
  exact .sublist (List.filter_sublist.map _) (by rw [List.zipIdx_map_snd]; exact List.pairwise_lt_range')

theorem emittedIdx_nodup (incl : Bool) (fs : List FieldD) (cur : List (Option Nat))
    (k : Nat) (vs : List Val) : (emittedIdx S E cs incl fs cur k vs).Nodup :=
  (emittedIdx_sorted S E cs incl fs cur k vs).imp (fun h => Nat.ne_of_lt h)

def inGroup (fs : List FieldD) (g : Nat) (i : Nat) : Bool := (fs[i]?.bind (·.group)) == some g

theorem inGroup_iff (fs : List FieldD) (g i : Nat) :
    inGroup fs g i = true ↔ ∃ f, fs[i]? = some f ∧ f.group = some g := by
  unfold inGroup
  cases fs[i]? with
  | none => simp
  | some f => simp

end Slots

section Members
variable (S : Schema) (E : Enums) (cs : KeyCase) (fs : List FieldD) (cur : List (Option Nat)) (sl : List Val)
  (hm : membersOk fs = true) (i : Nat) (f : FieldD) (g : Nat) (hf : fs[i]? = some f) (hg : f.group = some g)
include hm hf hg

/-- which members of a group `to_dict` writes: the selected one, unless it holds a `None` that is skipped -/
theorem mem_emittedIdx_member :
    i ∈ emittedIdx S E cs false fs cur 0 sl ↔
      cur.getD g Option.none = some i ∧ ∃ v, sl[i]? = some v ∧ skipsSelected f v = false := by
  have hok := List.all_eq_true.1 hm f (List.mem_of_getElem? hf)
  rw [memberOk, hg] at hok
  obtain ⟨hr, hmap⟩ : f.repeated = false ∧ f.ty ≠ .map := by simpa using hok
  rw [emittedIdx_eq]
  simp only [List.mem_map, List.mem_filter, Prod.exists, exists_eq_right, List.mk_mem_zipIdx_iff_getElem?, hf,
    Option.bind_some]
  by_cases hsel : cur.getD g Option.none = some i
  · have b := selectedInGroup_of_cur f i g cur hg hsel
    obtain ⟨_, _, _, a⟩ := selected_member f i cur b
    simp only [a, b, hsel, true_and, ← toDictSlot_selected S E cs f hr hmap, Option.isSome_iff_ne_none,
      Option.isNone_eq_false_iff]
  · rw [selectedInGroup_eq, hidden_of_cur_ne f i g cur hg hsel]
    simp only [Bool.not_true, Bool.and_false, toDictSlot_unselected S E cs f hr, hsel, false_and, Option.isSome_none,
      Bool.false_eq_true, and_false, exists_false]

/-- **(3)** every entry of a member of group `g` is the entry of the selected member
    (`which_one_of`'s answer), so two entries of one group are the same entry -/
theorem emitted_is_selected (h : i ∈ emittedIdx S E cs false fs cur 0 sl) : cur.getD g Option.none = some i :=
  ((mem_emittedIdx_member S E cs fs cur sl hm i f g hf hg).1 h).1

/-- **(1)** a member of a group that is not the selected one has no entry in the output -/
theorem emitted_unselected (hsel : cur.getD g Option.none ≠ some i) : i ∉ emittedIdx S E cs false fs cur 0 sl :=
  fun h => hsel (emitted_is_selected S E cs fs cur sl hm i f g hf hg h)

/-- **(2)** the selected member has an entry — its default value included — unless it holds
    `None` in a message / wrapper / 64-bit / enum field (`skipsSelected`) -/
theorem emitted_selected (hsel : cur.getD g Option.none = some i) (hl : i < sl.length) :
    i ∈ emittedIdx S E cs false fs cur 0 sl ↔ skipsSelected f (sl.getD i .ph) = false := by
  have hv : sl[i]? = some (sl.getD i .ph) := by
    rw [List.getD_eq_getElem?_getD, List.getElem?_eq_getElem hl]; rfl
  simp only [mem_emittedIdx_member S E cs fs cur sl hm i f g hf hg, hsel, hv, true_and, Option.some.injEq,
    exists_eq_left']

/-- **(3′)** the entries of group `g`, as a list: the selected member alone, or nothing -/
theorem group_entries_selected (hsel : cur.getD g Option.none = some i) (hl : i < sl.length) :
    (emittedIdx S E cs false fs cur 0 sl).filter (inGroup fs g) =
      if skipsSelected f (sl.getD i .ph) then [] else [i] := by
  -- among the entries, the members of `g` are `i` alone; an entry occurs once
  have one : ∀ x ∈ emittedIdx S E cs false fs cur 0 sl, inGroup fs g x = (x == i) := fun x hx => by
    rw [Bool.eq_iff_iff, inGroup_iff, beq_iff_eq]
    constructor
    · rintro ⟨fx, hfx, hgx⟩
      have := emitted_is_selected S E cs fs cur sl hm x fx g hfx hgx hx
      rw [hsel] at this; injection this with this; exact this.symm
    · rintro rfl; exact ⟨f, hf, hg⟩
  rw [List.filter_congr one, List.filter_beq, (emittedIdx_nodup S E cs false fs cur 0 sl).count]
  simp only [emitted_selected S E cs fs cur sl hm i f g hf hg hsel hl]
  cases skipsSelected f (sl.getD i .ph) <;> rfl

end Members

/-- … and nothing at all when no member of the group is selected -/
theorem group_entries_none (S : Schema) (E : Enums) (cs : KeyCase) (fs : List FieldD) (cur : List (Option Nat))
    (sl : List Val) (hm : membersOk fs = true) (g : Nat)
    (hnone : ∀ i f, fs[i]? = some f → f.group = some g → cur.getD g Option.none ≠ some i) :
    (emittedIdx S E cs false fs cur 0 sl).filter (inGroup fs g) = [] := by
  rw [List.filter_eq_nil_iff]
  intro x hx hx2
  obtain ⟨fx, hfx, hgx⟩ := (inGroup_iff fs g x).1 hx2
  exact hnone x fx hfx hgx (emitted_is_selected S E cs fs cur sl hm x fx g hfx hgx hx)

end Bp
