import BpModel.All
import BpModel.JsonSpec
import BpProofs.JsonSpec
import BpProofs.JsonRt
/-
  C05, the message-level theorem: inside the decidable guards, betterproto's `to_dict`
  (`toDict`, BpModel/Json.lean) IS the canonical proto3 JSON mapping (`specJson`,
  BpModel/JsonSpec.lean), member for member and in the same order, to any nesting depth.

  `canon_walk` goes by induction on the typing derivation `JOk` (BpProofs/JsonTyped.lean): each typing rule of a
  `wellTyped'` value is one case, in which the two functions are compared on that kind of slot value.
-/
namespace Bp
open Gen

/-- the part of `jsonOk5` the forward direction (`toDict = specJson`) uses: every field is in the
    region where `to_dict` is right AND canonical (`fieldJsonOk5`), Python enum member names are
    the proto names (`enumOk5`).  `namesOk` / `enumOk` (keys and enum names are read BACK
    correctly) are not needed to compare the two outputs. -/
def canonOk (S : Schema) (E : Enums) : Bool :=
  S.all (fun d => d.fields.all fieldJsonOk5) && E.all enumOk5

section Kinds
variable (S : Schema) (E : Enums) (f : FieldD) (hid sel : Bool)

theorem canonOk_of_jsonOk5 (h : jsonOk5 S E = true) : canonOk S E = true := by
  unfold jsonOk5 at h
  unfold canonOk
  simp only [Bool.and_eq_true] at h ⊢
  exact ⟨h.1.2, h.2⟩

theorem canon_field (h : canonOk S E = true) (c : Nat) (f : FieldD)
    (hf : f ∈ fieldsOf S c) : fieldJsonOk5 f = true := by
  unfold canonOk at h
  simp only [Bool.and_eq_true, List.all_eq_true] at h
  obtain ⟨d, hd, _, hfd⟩ := fieldsOf_mem S c f hf
  exact h.1 d hd f hfd

theorem canon_enum (h : canonOk S E = true) (f : FieldD) :
    enumOk5 (enumOf E f) = true :=
  enumOf_all E enumOk5 rfl (Bool.and_eq_true_iff.mp h).2 f

/-- what `fieldJsonOk5` adds to `fieldJsonOk` -/
structure FJ5 (f : FieldD) : Prop where
  fj : FJ f
  key : jsonKey .camel f.name = specKey f.name
  mapv : (f.ty == PType.map) = true →
    (isInt64 f.mapV || f.mapV == .bytes || f.mapV == .enum || f.mapV == .float || f.mapV == .double) = false
  wr : ∀ w, f.wraps = some w → (isInt64 w || w == .bytes || w == .enum || w == .float || w == .double) = false

theorem fj5_of (h : fieldJsonOk5 f = true) : FJ5 f := by
  unfold fieldJsonOk5 at h
  simp only [Bool.and_eq_true, beq_iff_eq] at h
  obtain ⟨⟨h1, h2⟩, h3⟩ := h
  have hj := fj_of f h1
  refine ⟨hj, h2, ?_, ?_⟩
  · intro hm
    rw [if_pos (eq_of_beq hm)] at h3
    generalize f.mapV = t at h3 ⊢
    simp only [Bool.or_eq_true, beq_iff_eq] at h3
    rcases h3 with ((((((rfl | rfl) | rfl) | rfl) | rfl) | rfl) | rfl) | rfl <;> rfl
  · intro w hw
    have hty : ¬ f.ty = PType.map := fun e => by have := hj.map_wr (by simp [e]); rw [hw] at this; cases this
    rw [if_neg hty, hw] at h3
    simp only [Bool.or_eq_true, beq_iff_eq] at h3
    rcases h3 with ((rfl | rfl) | rfl) | rfl <;> rfl

/-- `hid` / `sel` as `to_dict` computes them: a visible field is "selected" iff it is a oneof member -/
def HS5 (f : FieldD) (hid sel : Bool) : Prop := hid = false → sel = f.group.isSome

theorem hs5_slot (k : Nat) (cur : List (Option Nat)) :
    HS5 f (hidden f k cur) (selectedInGroup f k cur) :=
  fun h => by rw [selectedInGroup_eq, h, Bool.not_false, Bool.and_true]

/-- the default test of `to_dict` on a typed scalar of an implicit-presence field is the spec's inside the value guard:
    `to_dict` takes -0.0 for the default too (D25) -/
theorem eqDefault_spec (t : PType) (v : Val) (hv : valOfType t v = true) (hz : noNegZeroSlot S f v = true)
    (he : (f.group.isSome || f.optional || f.wraps.isSome) = false) :
    eqDefault S (scalarDef t) v = specIsDefault v := by
  rcases valOfType_cases _ _ hv with ⟨i, rfl⟩ | ⟨b, rfl, rfl⟩ | ⟨b, rfl, rfl⟩ | ⟨b, rfl, rfl⟩ | ⟨s, rfl, rfl⟩ | ⟨s, rfl, rfl⟩
  · have : scalarDef t = .int := by cases t <;> first | rfl | cases hv
    simp [eqDefault, this, specIsDefault]
  · simp [eqDefault, scalarDef, specIsDefault]
  · have : b ≠ 0x80000000 := by simpa [noNegZeroSlot, he] using hz
    simp [eqDefault, scalarDef, specIsDefault, f32IsZero, this]
  · have : b ≠ 0x8000000000000000 := by simpa [noNegZeroSlot, he] using hz
    simp [eqDefault, scalarDef, specIsDefault, f64IsZero, this]
  · simp [eqDefault, scalarDef, specIsDefault]
  · simp [eqDefault, scalarDef, specIsDefault]

theorem specLeaf_typed (v : Val) (t : PType) (hv : valOfType t v = true) :
    specLeaf E f v = match f.wraps with
      | some w => specScalar [] w v
      | Option.none => specScalar (enumOf E f) f.ty v := by
  cases v <;> first | cases hv | rfl

theorem specSlot_typed (v : Val) (t : PType) (hv : valOfType t v = true) :
    specSlot S E f hid v =
      if hid then Option.none
      else if f.group.isSome || f.optional || f.wraps.isSome then some (specLeaf E f v)
      else if specIsDefault v then Option.none else some (specLeaf E f v) := by
  cases v <;> first | cases hv | (rw [specSlot]; all_goals first | rfl | (intros; contradiction))

theorem specSlot_list_scalar (xs : List Val) (hm : (f.ty == PType.message) = false) :
    specSlot S E f hid (.list xs) =
      if hid || xs.isEmpty then Option.none else some (.arr (xs.map (specLeaf E f))) := by
  rw [specSlot]
  congr 3
  split
  · rename_i h _ _; rw [h] at hm; cases hm
  · rfl

theorem specSlot_list_msg (xs : List Val) (hm : (f.ty == PType.message) = true) (hw : f.wraps = Option.none) :
    specSlot S E f hid (.list xs) =
      if hid || xs.isEmpty then Option.none
      else some (.arr (match f.kind with
        | .user _ => specList S E xs
        | _ => xs.map (specLeaf E f))) := by
  rw [specSlot, eq_of_beq hm, hw]
  cases f.kind <;> rfl

theorem specSlot_dict (ks vs : List Val) :
    specSlot S E f hid (.dict ks vs) =
      if hid || ks.isEmpty then Option.none
      else some (.obj (ks.map specMapKey)
        (if f.mapV == .message then specMapVals S E f vs else vs.map (specScalar (enumOf E f) f.mapV))) := by
  rw [specSlot]

theorem keyJ_spec (ks : List Val) (h : ∀ k ∈ ks, ∃ s, k = Val.str s) : ks.map keyJ = ks.map specMapKey := by
  apply List.map_congr_left
  intro k hk
  obtain ⟨s, rfl⟩ := h k hk
  rfl

theorem specSlot_msg (c : Nat) (sl : List Val) (ow : Bool)
    (unk : Bytes) (cur : List (Option Nat)) :
    specSlot S E f hid (.msg c sl ow unk cur) =
      if hid then Option.none
      else if f.group.isSome || f.optional || ow || !eqDefault S f.defKind (.msg c sl ow unk cur) then
        some (mkObj (specKVs S E (fieldsOf S c) cur 0 sl))
      else Option.none := by
  rw [specSlot]

theorem noNegZeroSlot_list (xs : List Val) :
    noNegZeroSlot S f (.list xs) = noNegZeroList S xs := by rw [noNegZeroSlot]
theorem noNegZeroSlot_dict (ks vs : List Val) :
    noNegZeroSlot S f (.dict ks vs) = noNegZeroList S vs := by rw [noNegZeroSlot]
theorem noNegZeroSlot_msg (c : Nat) (sl : List Val) (ow : Bool) (unk : Bytes)
    (cur : List (Option Nat)) :
    noNegZeroSlot S f (.msg c sl ow unk cur) = noNegZeroSlots S (fieldsOf S c) 0 sl := by rw [noNegZeroSlot]

end Kinds

/-- inside the guards `to_dict` is the canonical mapping: for one slot, for the slots of a message, for a list of messages -/
def CanonAt (S : Schema) (E : Enums) : JAt → Prop
  | .slot f hid sel v => FJ5 f → HS5 f hid sel → noNegZeroSlot S f v = true →
      toDictSlot S E .camel false f hid sel v = specSlot S E f hid v
  | .slots fs cur idx vs => (∀ f ∈ fs, fieldJsonOk5 f = true) → noNegZeroSlots S fs idx vs = true →
      toDictKVs S E .camel false fs cur idx vs = specKVs S E fs cur idx vs
  | .msgs _ xs => noNegZeroList S xs = true →
      toDictList S E .camel false xs = specList S E xs ∧ ∀ f, toDictMapVals S E .camel false xs = specMapVals S E f xs

theorem canon_walk (S : Schema) (E : Enums) (hS : canonOk S E = true) {a : JAt} (h : JOk S a) : CanonAt S E a := by
  induction h with
  | @unset f _ hj ho => intro _ _ _; rw [toDictSlot_ph, toDictDefault_none S E f hj, specSlot]
  | @none f hr hmap ho => intro _ _ _; rw [specSlot, toDictSlot_none S E .camel f hr hmap ho]
  | @wrapped f sel v w hm hw hb hr hv =>
    intro h5 _ _
    rw [specSlot_typed S E f false v w hv, specLeaf_typed E f v w hv, hw,
      toDictSlot_wrapped S E .camel false f sel v w hm hw hv, rawJ_spec [] w v hv (h5.wr w hw)]
    simp
  | @time f sel v hm hw hr hk =>
    intro _ hs _
    have hsel := hs rfl
    rcases hk with ⟨_, us, rfl⟩ | ⟨_, us, rfl⟩ <;>
    · rw [toDictSlot_leaf _ _ _ _ _ _ _ _ rfl]
      simp only [specSlot, Bool.false_eq_true, if_false, toDictPlain, hm, if_true, Bool.or_false, hw, Option.isSome_none,
        specLeaf, hsel]
      cases f.group.isSome <;> cases f.optional <;> by_cases h0 : us = 0 <;> simp [h0]
  | @scalar f sel v hm hmap hr hv =>
    intro h5 hs hz
    have hsel := hs rfl
    obtain ⟨hl, hn⟩ := valOfType_leaf f.ty v hv
    have hw : f.wraps = Option.none :=
      Option.not_isSome_iff_eq_none.mp fun h => by rw [h5.fj.wr_msg h] at hm; cases hm
    rw [specSlot_typed S E f false v f.ty hv, toDictSlot_scalar S E .camel f sel v hm hmap hr hv,
      encItem_spec E f (canon_enum S E hS f) v hv, specLeaf_typed E f v f.ty hv, hw, hsel]
    simp only [Option.isSome_none, Bool.or_false, Bool.false_eq_true, if_false]
    cases hg : f.group.isSome with
    | true => simp
    | false =>
      cases ho : f.optional with
      | true => rw [defKind_none f hr hmap (by simp [ho]), eqDefault_none_leaf S v hl hn]; simp
      | false =>
        rw [defKind_scalar f hr hmap (by simp [ho, hw]) hm, eqDefault_spec S f f.ty v hv hz (by simp [hg, ho, hw])]
        cases specIsDefault v <;> simp
  | @times f xs hrep hm hk =>
    intro _ _ _
    rw [specSlot_list_msg S E f false xs hm hrep.nw, toDictSlot_repeated_msg S E .camel false f false xs hm hrep.nw hrep.rep]
    rcases hk with ⟨hk, hx⟩ | ⟨hk, hx⟩ <;>
    · simp only [hk]
      rw [List.map_congr_left (g := specLeaf E f) fun x h => by obtain ⟨us, rfl⟩ := hx x h; rfl]
      cases xs <;> rfl
  | @scalars f xs hrep hm hv =>
    intro _ _ _
    have hspec : xs.map (specLeaf E f) = xs.map (encItem E f) :=
      List.map_congr_left fun x hx => by
        rw [specLeaf_typed E f x f.ty (hv x hx), hrep.nw, encItem_spec E f (canon_enum S E hS f) x (hv x hx)]
    rw [specSlot_list_scalar S E f false xs hm,
      toDictSlot_repeated_scalar S E .camel false f false xs hm hrep.nmap hrep.rep, hspec]
    cases xs <;> rfl
  | @items f xs c hrep hm hk _ ih =>
    intro _ _ hz
    rw [noNegZeroSlot_list] at hz
    rw [specSlot_list_msg S E f false xs hm hrep.nw,
      toDictSlot_repeated_msg S E .camel false f false xs hm hrep.nw hrep.rep, hk]
    simp only [(ih hz).1]
    cases xs <;> rfl
  | @mapS f ks vs hmf hv hl hks hvs =>
    intro h5 _ _
    have hraw : ∀ x ∈ vs, rawOk x = true := fun x hx => valOfType_rawOk _ x (hvs x hx) hmf.vb
    have hsp : vs.map rawJ = vs.map (specScalar (enumOf E f) f.mapV) :=
      List.map_congr_left fun x hx => rawJ_spec _ _ x (hvs x hx) (h5.mapv hmf.ty)
    rw [specSlot_dict, toDictSlot_map S E .camel false f false ks vs hmf.ty]
    simp only [Bool.or_false, Bool.false_or, hv,
      toDictMapVals_raw S E .camel false vs hraw, rawJList_eq_map, hsp, keyJ_spec ks hks]
    cases ks <;> simp
  | @mapM f ks vs c hmf hv hk hl hks _ ih =>
    intro _ _ hz
    rw [noNegZeroSlot_dict] at hz
    rw [specSlot_dict, toDictSlot_map S E .camel false f false ks vs hmf.ty]
    simp only [Bool.or_false, Bool.false_or, hv, (ih hz).2 f, keyJ_spec ks hks]
    cases ks <;> simp
  | @sub f sel c sl ow unk cur hm hw hr hk hgs hbody _ ih =>
    intro _ hs hz
    rw [noNegZeroSlot_msg] at hz
    rw [specSlot_msg, toDictSlot_msg S E .camel false f sel c sl ow unk cur hm hw hr]
    simp only [Bool.or_false, ih (canon_field S E hS c) hz, hs rfl]
    cases f.group.isSome <;> cases f.optional <;> cases ow <;> simp
  | nil => intro _ _; rw [toDictKVs, specKVs]
  | @cons fs cur idx f a vs hf _ _ ih1 ih2 =>
    intro hfs hz
    rw [noNegZeroSlots, hf] at hz
    simp only [Bool.and_eq_true] at hz
    have h5 := fj5_of f (hfs f (List.mem_of_getElem? hf))
    rw [toDictKVs, specKVs, hf]
    simp only
    rw [ih1 h5 (hs5_slot f idx cur) hz.1, ih2 hfs hz.2, h5.key]
    rfl
  | nilM => intro _; rw [toDictList, toDictMapVals, specList]; exact ⟨rfl, fun f => by rw [specMapVals]⟩
  | @consM c sl ow unk cur xs hbody _ _ ih1 ih2 =>
    intro hz
    rw [noNegZeroList] at hz
    simp only [Bool.and_eq_true] at hz
    obtain ⟨b1, b2⟩ := ih2 hz.2
    rw [toDictList, toDictMapVals, specList, ih1 (canon_field S E hS c) hz.1, b1]
    exact ⟨rfl, fun f => by rw [specMapVals, b2 f]⟩

theorem canon_fields (S : Schema) (E : Enums) (hS : canonOk S E = true) :
    ∀ c, ∀ f ∈ fieldsOf S c, fieldJsonOk f = true := fun c f hf => by
  have := canon_field S E hS c f hf
  unfold fieldJsonOk5 at this
  simp only [Bool.and_eq_true] at this
  exact this.1.1

theorem canon_msgs (S : Schema) (E : Enums) (hS : canonOk S E = true) (f : FieldD) (c : Nat) :
    ∀ (xs : List Val), (∀ x ∈ xs, ∃ sl ow unk cur, x = Val.msg c sl ow unk cur ∧ bodyOk S c sl unk cur = true) →
      noNegZeroList S xs = true →
      toDictList S E .camel false xs = specList S E xs
      ∧ toDictMapVals S E .camel false xs = specMapVals S E f xs :=
  fun xs h hz => (canon_walk S E hS (jmsgs_of S (canon_fields S E hS) c xs h) hz).imp_right (· f)

theorem toDict_eq_specJson (S : Schema) (E : Enums) (hS : canonOk S E = true) (m : Val)
    (hwt : wellTyped' S m = true) (hz : noNegZero S m = true) :
    toDict S E .camel false m = specJson S E m := by
  cases m with
  | msg c sl ow unk cur =>
    rw [wellTyped_msg] at hwt
    rw [noNegZero] at hz
    rw [toDict, specJson, canon_walk S E hS (jslots_of S (canon_fields S E hS) _ cur (canon_fields S E hS c) sl 0
      (bodyOk_spec S c sl unk cur hwt).2.2.2) (canon_field S E hS c) hz]
  | _ => simp [wellTyped'] at hwt

theorem canon_slot (S : Schema) (E : Enums) (hS : canonOk S E = true) (f : FieldD) (hid sel : Bool)
    (h5 : FJ5 f) (hs : HS f hid sel) (hs5 : HS5 f hid sel) :
    ∀ (v : Val), slotOk' S f hid sel v = true → noNegZeroSlot S f v = true →
      toDictSlot S E .camel false f hid sel v = specSlot S E f hid v :=
  fun v h => canon_walk S E hS (jslot_of S (canon_fields S E hS) f hid sel h5.fj hs v h) h5 hs5

end Bp

#print axioms Bp.toDict_eq_specJson
