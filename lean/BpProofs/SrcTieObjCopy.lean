import BpProofs.Gen.SrcObjCopy
import BpProofs.Ops
/-
  THE TIE BETWEEN THE TRANSLATED OBJECT METHODS AND THE HAND-WRITTEN MODEL, third group:
  `Message.__copy_state_to(self, clone, dup)` — what `__copy__` (`dup` = identity) and
  `__deepcopy__` (`dup` = `copy.deepcopy`) transfer to the fresh instance `self.__class__()` —
  against `shallowCopy` / `deepCopy` of BpModel/Ops.lean.

  Guard: the original has one raw slot per field (`FullVal`).  The translator refuses a body that
  stores a REFERENCE to `self._group_current` in the clone (aliasing cannot be expressed in the
  value model; that the copy's dict is a different object is `C14.deepcopy_disjoint`'s subject).
-/
namespace Bp.SrcTieObjCopy
open Bp Bp.Py

section Tie
-- every lemma below whose statement mentions `S` takes it first; a theorem that binds `S` itself is as it reads
variable (S : Schema)

@[simp] theorem res_bind_ok {α β} (a : α) (f : α → Res β) : (Res.ok a).bind f = f a := rfl

/-- the dataclass default of a field on a fresh instance -/
def freshV (f : FieldD) : Val := if f.optional then Val.none else Val.ph

/-- the slots of the clone: a PLACEHOLDER slot of the original leaves the fresh instance's default
    in place, any other value is stored after `dup` -/
def copySlot (dup : Val → Val) (f : FieldD) : Val → Val
  | .ph => freshV f
  | v => dup v
def copySlots (dup : Val → Val) : List FieldD → List Val → List Val
  | f :: fs, v :: vs => copySlot dup f v :: copySlots dup fs vs
  | _, _ => []

/-- the state `__copy_state_to` leaves in the clone -/
def copyM (dup : Val → Val) (fs : List FieldD) (st : MState) : MState :=
  { slots := copySlots dup fs st.slots, onWire := st.onWire, unknown := st.unknown, cur := st.cur }

theorem slot_nonph (dup : Val → Val) (f : FieldD) (v : Val) (h : isPlaceholder v = false) :
    copySlot dup f v = dup v := by
  cases v with
  | ph => simp [isPlaceholder] at h
  | _ => rfl

theorem copy_loop (fs : List FieldD) (st : MState) (dup : Val → Val) :
    ∀ (fs' : List FieldD) (ss pre : List Val) (j : Nat) (clone : MState),
    ss.length = fs'.length → pre.length = j → clone.slots = pre ++ fs'.map freshV → st.slots.drop j = ss →
    Src.copy_state_to.loop1 S fs st dup (List.range' j fs'.length) clone
      = .ok { clone with slots := pre ++ copySlots dup fs' ss }
  | [], ss, pre, j, clone, _, _, hc, _ => by
    cases clone
    simp only [List.map_nil, List.append_nil] at hc
    simp [Src.copy_state_to.loop1, copySlots, hc]
  | f :: fs', [], _, _, _, hl, _, _, _ => by simp at hl
  | f :: fs', v :: vs, pre, j, clone, hl, hp, hc, hs => by
    obtain ⟨hv, hs'⟩ := drop_cons st.slots j v vs hs
    simp only [List.length_cons, List.range'_succ]
    rw [Src.copy_state_to.loop1]
    simp only [rawGet, List.getD_eq_getElem?_getD, hv, Option.getD_some]
    cases hph : isPlaceholder v with
    | true =>
      have : v = .ph := by
        cases v with
        | ph => rfl
        | _ => simp [isPlaceholder] at hph
      subst this
      simp only [Bool.not_true, Bool.false_eq_true, if_false, res_bind_ok]
      rw [copy_loop fs st dup fs' vs (pre ++ [freshV f]) (j + 1) clone (by simpa using hl) (by simp [hp])
        (by simp [hc]) hs']
      simp [copySlots, copySlot]
    | false =>
      simp only [Bool.not_false, if_true, res_bind_ok]
      have hsl : (rawSet clone j (dup v)).slots = (pre ++ [dup v]) ++ fs'.map freshV := by
        simp only [rawSet, setAt, hc, List.map_cons]
        rw [← hp]
        simp
      rw [copy_loop fs st dup fs' vs (pre ++ [dup v]) (j + 1) (rawSet clone j (dup v)) (by simpa using hl) (by simp [hp])
        hsl hs']
      simp only [copySlots, rawSet, List.append_assoc, List.singleton_append]
      rw [slot_nonph dup f v hph]

theorem copy_state_to_eq (fs : List FieldD) (st clone : MState) (dup : Val → Val)
    (hl : st.slots.length = fs.length) (hc : clone.slots = fs.map freshV) :
    Src.copy_state_to S fs st clone dup = .ok (copyM dup fs st) := by
  unfold Src.copy_state_to sortedFieldNames
  rw [List.range_eq_range', copy_loop S fs st dup fs st.slots [] 0 clone hl rfl (by simpa using hc) rfl]
  rfl

theorem freshState_slots (d : MsgD) : (freshState d).slots = d.fields.map freshV := rfl

theorem shallow_slots : ∀ (fs : List FieldD) (sl : List Val),
    ((sl.zip fs).map fun (p : Val × FieldD) => match p.1 with
      | .ph => if p.2.optional then Val.none else Val.ph
      | v => v) = copySlots id fs sl
  | [], sl => by cases sl <;> rfl
  | f :: fs, [] => by rfl
  | f :: fs, v :: sl => by
    simp only [List.zip_cons_cons, List.map_cons, copySlots]
    rw [shallow_slots fs sl]
    cases v <;> rfl

/-- with `dup` = identity the clone is the model's `shallowCopy` -/
theorem copyM_shallow (c : Nat) (st : MState) :
    (copyM id (fieldsOf S c) st).toVal c = shallowCopy S (st.toVal c) := by
  simp only [copyM, MState.toVal, shallowCopy]
  congr 1
  exact (shallow_slots (fieldsOf S c) st.slots).symm

theorem deep_slots : ∀ (fs : List FieldD) (sl : List Val),
    deepCopySlots S fs sl = copySlots (deepCopy S) fs sl
  | [], sl => by cases sl <;> rfl
  | f :: fs, [] => rfl
  | f :: fs, v :: sl => by
    rw [deepCopySlots_cons, deep_slots fs sl]
    simp only [copySlots]
    cases v <;> rfl

/-- with `dup` = `deepcopy` the clone is the model's `deepCopy` -/
theorem copyM_deep (c : Nat) (st : MState) :
    (copyM (deepCopy S) (fieldsOf S c) st).toVal c = deepCopy S (st.toVal c) := by
  simp only [copyM, MState.toVal]
  rw [deepCopy, deep_slots]

end Tie

end Bp.SrcTieObjCopy
