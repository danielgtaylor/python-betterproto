import BpProofs.Gen.SrcEnum
import BpProofs.EnumM
/-
  C20 source tie.  `Bp.Src.EnumType.*` / `Bp.Src.Enum.*` (BpProofs/Gen/SrcEnum.lean) are regenerated from the Python AST
  of src/betterproto/enum.py on every run.  The theorems below say that each of them computes exactly
  what the model function of BpModel/EnumM.lean computes — `declare` for one turn of the member loop,
  `build` / `mk` for the loop / `EnumType.__new__`, `call`, `getitem`, `fromString`, `tryValue`, `iter`,
  `reversed`, `len`, `contains`, and the result of `step` for every operation of a lock-step run — for
  ALL declaration lists, class states and arguments.  What is trusted is the meaning of the Python
  operations fixed in BpProofs/PyPreludeEnum.lean.
-/
set_option linter.unusedSectionVars false
namespace Bp.SrcTieEnum
open Bp Bp.Py Bp.EnumM Bp.PyEnum

variable {ν : Type} [DecidableEq ν]

/-- the dict law: after `d[k] = b`, `k` maps to `b` and every other key to what it mapped to -/
theorem assoc_dictSet {κ β : Type} [DecidableEq κ] (l : List (κ × β)) (k k' : κ) (b : β) :
    assoc k' (dictSet l k b) = if k' = k then some b else assoc k' l := by
  induction l with
  | nil => simp [dictSet, assoc]
  | cons hd tl ih =>
    obtain ⟨k1, b1⟩ := hd
    by_cases hk : k = k1
    · subst hk
      by_cases h2 : k' = k <;> simp [dictSet, assoc, h2]
    · by_cases h2 : k' = k1
      · subst h2
        have : ¬ k' = k := fun e => hk e.symm
        simp [dictSet, assoc, hk, this]
      · simp [dictSet, assoc, hk, h2, ih]

theorem dictSet_keys_present {κ β : Type} [DecidableEq κ] (l : List (κ × β)) (k : κ) (b b0 : β)
    (h : assoc k l = some b0) : (dictSet l k b).map (·.1) = l.map (·.1) := by
  induction l with
  | nil => simp [assoc] at h
  | cons hd tl ih =>
    obtain ⟨k1, b1⟩ := hd
    by_cases hk : k = k1
    · simp [dictSet, hk]
    · simp only [assoc, hk, if_false] at h
      simp [dictSet, hk, ih h]

theorem dictSet_absent {κ β : Type} [DecidableEq κ] (l : List (κ × β)) (k : κ) (b : β)
    (h : assoc k l = none) : dictSet l k b = l ++ [(k, b)] := by
  induction l with
  | nil => rfl
  | cons hd tl ih =>
    obtain ⟨k1, b1⟩ := hd
    by_cases hk : k = k1
    · simp [assoc, hk] at h
    · simp only [assoc, hk, if_false] at h
      simp [dictSet, hk, ih h]

/-- the class object of a model state in which the member attributes are bound as the loop binds them -/
def obj (c : Cls ν) : ClsObj ν := { st := c, vars := c.memberMap }

theorem newClass_eq : (PyEnum.newClass : ClsObj ν) = obj {} := rfl

theorem eq_obj (cls : ClsObj ν) (hv : cls.vars = cls.st.memberMap) : cls = obj cls.st := by
  cases cls; exact congrArg (ClsObj.mk _) hv

/-- one turn of the loop, for EVERY class state (replace included): `_value_map_`, the allocation
    count and the member `m` that is bound are the model's `declare`; the store into `_value_map_` is
    never a replace; `member_map[name] = m` and the attribute binding are the dict store `dictSet` where
    the model appends -/
theorem new_step_general (cls : ClsObj ν) (n : ν) (v : Int) :
    ∃ m, assoc v (declare cls.st n v).valueMap = some m
      ∧ (declare cls.st n v).memberMap = cls.st.memberMap ++ [(n, m)]
      ∧ Src.EnumType.new_step cls n v
          = .ok { st := { declare cls.st n v with memberMap := dictSet cls.st.memberMap n m },
                  vars := dictSet cls.vars n m } := by
  unfold Src.EnumType.new_step declare dictGet valueMap
  cases hv : assoc v cls.st.valueMap with
  | some m => exact ⟨m, hv, rfl, rfl⟩
  | none =>
    refine ⟨_, ?_, rfl, ?_⟩
    · rw [assoc_append, hv]; exact if_pos rfl
    · dsimp only; rw [← dictSet_absent _ _ _ hv]; rfl

/-- **one turn of the loop as written is `declare`**, whenever the name is not yet a key of
    `_member_map_` (always the case in the loop: `members` is a dict) -/
theorem new_step_eq (c : Cls ν) (n : ν) (v : Int) (h : assoc n c.memberMap = none) :
    Src.EnumType.new_step (obj c) n v = .ok (obj (declare c n v)) := by
  obtain ⟨m, _, hm, e⟩ := new_step_general (obj c) n v
  simp only [obj] at hm e ⊢
  rw [e, dictSet_absent _ _ _ h, ← hm]

/-- **the loop as written is `build`**: for every declaration list with distinct names none of which
    is a key of `_member_map_` yet -/
theorem new_loop_eq (d : Decl ν) (c : Cls ν) (hnd : NamesNodup d = true)
    (hfresh : ∀ p ∈ d, assoc p.1 c.memberMap = none) :
    Src.EnumType.new_loop (obj c) d = .ok (obj (build c d)) := by
  induction d generalizing c with
  | nil => rfl
  | cons hd tl ih =>
    obtain ⟨n, v⟩ := hd
    obtain ⟨h1, h2⟩ := Bool.and_eq_true_iff.mp hnd
    show (Src.EnumType.new_step (obj c) n v).bind _ = _
    rw [new_step_eq c n v (hfresh (n, v) List.mem_cons_self)]
    refine ih _ h2 fun p hp => ?_
    obtain ⟨m, _, hm⟩ := declare_memberMap c n v
    rw [hm, assoc_append, hfresh p (List.mem_cons_of_mem _ hp)]
    exact if_neg ((assoc_eq_none_iff n tl).mp (Option.isNone_iff_eq_none.mp h1) p hp)

theorem call_eq (cls : ClsObj ν) (v : Int) : Src.EnumType.call cls v = ofR (call cls.st v) := by
  unfold Src.EnumType.call call dictItem valueMap
  cases assoc v cls.st.valueMap <;> rfl

theorem getitem_eq (cls : ClsObj ν) (n : ν) : Src.EnumType.getitem cls n = ofR (getitem cls.st n) := by
  unfold Src.EnumType.getitem getitem dictItem memberMap
  cases assoc n cls.st.memberMap <;> rfl

theorem from_string_eq (cls : ClsObj ν) (n : ν) : Src.Enum.from_string cls n = ofR (fromString cls.st n) := by
  unfold Src.Enum.from_string fromString dictItem memberMap
  cases assoc n cls.st.memberMap <;> rfl

theorem try_value_eq (cls : ClsObj ν) (v : Int) :
    Src.Enum.try_value cls v = .ok ((tryValue cls.st v).2, { cls with st := (tryValue cls.st v).1 }) := by
  unfold Src.Enum.try_value tryValue dictItem valueMap
  cases assoc v cls.st.valueMap <;> rfl

/-- attribute access for a name the loop bound: the model's `getattr` -/
theorem classVar_eq (c : Cls ν) (n : ν) : classVar (obj c) n = ofR (getattr c n) := by
  unfold classVar getattr obj
  cases assoc n c.memberMap <;> rfl

theorem iter_eq (cls : ClsObj ν) : Src.EnumType.iter cls = .ok (iter cls.st) := rfl
theorem reversed_eq (cls : ClsObj ν) : Src.EnumType.reversed cls = .ok (reversed cls.st) := rfl
theorem len_eq (cls : ClsObj ν) : Src.EnumType.len cls = .ok ((len cls.st : Nat) : Int) := rfl

theorem contains_member_eq (cls : ClsObj ν) (m : Member ν) :
    Src.EnumType.contains cls (.member m) = .ok (contains cls.st m) := by
  obtain ⟨name, _, _⟩ := m
  cases name <;> rfl

/-- what the caller of a lookup sees: the member, or the exception class -/
def outRes (r : Res (Member ν)) : Res (Out ν) :=
  match r with
  | .ok m => .ok (.member m)
  | .raise e => .ok (.err e)
  | .diverge => .diverge

/-- what the caller of a method that cannot return sees -/
def outNever (r : Res Empty) : Res (Out ν) :=
  match r with
  | .ok e => nomatch e
  | .raise e => .ok (.err e)
  | .diverge => .diverge

/-- one operation of a lock-step run (the model's `Op`), carried out by calling the translated methods
    the way Python dispatches it: `cls(v)` → `EnumType.__call__`, `setattr(cls.try_value(v), a, x)` →
    `Enum.try_value` then `Enum.__setattr__`, `pickle` → `try_value`, `__getnewargs_ex__`,
    `cls.__new__(cls, **kwargs)` …  `attr` gives the attribute name of a member that `Attr` stands for.
    `none`: the operation is not carried out by code of enum.py (`cls.__members__[n] = v` is refused by
    `MappingProxyType`). -/
def srcStep (attr : Attr → ν) (cls : ClsObj ν) : Op ν → Option (Res (ClsObj ν × Out ν))
  | .call v => some ((outRes (Src.EnumType.call cls v)).bind fun o => .ok (cls, o))
  | .getitem n => some ((outRes (Src.EnumType.getitem cls n)).bind fun o => .ok (cls, o))
  | .getattr n => some ((outRes (classVar cls n)).bind fun o => .ok (cls, o))
  | .tryValue v => some ((Src.Enum.try_value cls v).bind fun (m, cls) => .ok (cls, .member m))
  | .fromString n => some ((outRes (Src.Enum.from_string cls n)).bind fun o => .ok (cls, o))
  | .iter => some ((Src.EnumType.iter cls).bind fun ms => .ok (cls, .members ms))
  | .reversed => some ((Src.EnumType.reversed cls).bind fun ms => .ok (cls, .members ms))
  | .len => some ((Src.EnumType.len cls).bind fun k => .ok (cls, .nat k.toNat))
  | .contains v => some ((Src.Enum.try_value cls v).bind fun (m, cls) =>
      (Src.EnumType.contains cls (.member m)).bind fun b => .ok (cls, .bool b))
  | .containsInt v => some ((Src.EnumType.contains cls (.int v)).bind fun b => .ok (cls, .bool b))
  | .setattrCls n _ => some ((outNever (Src.EnumType.setattr cls n .opaque)).bind fun o => .ok (cls, o))
  | .delattrCls n => some ((outNever (Src.EnumType.delattr cls n)).bind fun o => .ok (cls, o))
  | .membersSet _ _ => none
  | .setattrMem v a _ => some ((Src.Enum.try_value cls v).bind fun (m, cls) =>
      (outNever (Src.Enum.setattr m (attr a) .opaque)).bind fun o => .ok (cls, o))
  | .delattrMem v _ => some ((Src.Enum.try_value cls v).bind fun (m, cls) =>
      (outNever (Src.Enum.delattr m .opaque)).bind fun o => .ok (cls, o))
  | .copy v => some ((Src.Enum.try_value cls v).bind fun (m, cls) =>
      (Src.Enum.copy m).bind fun m' => .ok (cls, .copied m' m))
  | .deepcopy v => some ((Src.Enum.try_value cls v).bind fun (m, cls) =>
      (Src.Enum.deepcopy m .opaque).bind fun m' => .ok (cls, .copied m' m))
  | .pickle v => some ((Src.Enum.try_value cls v).bind fun (m, cls) =>
      (Src.Enum.getnewargs_ex m).bind fun a =>
      let (m', cls) := unpickle cls a
      .ok (cls, .copied m' m))

theorem outRes_ofR (r : R (Member ν)) : outRes (ofR r) = .ok (outR r) := by
  cases r <;> rfl

/-- **every operation carried out with the source as written gives the class state and the result of
    the model's `step`** (`none`: assignment through `__members__`) -/
theorem srcStep_eq (attr : Attr → ν) (cls : ClsObj ν) (op : Op ν) (hv : cls.vars = cls.st.memberMap) :
    srcStep attr cls op = none
      ∨ srcStep attr cls op = some (.ok ({ cls with st := (step cls.st op).1 }, (step cls.st op).2)) := by
  cases op
  case membersSet => exact .inl rfl
  all_goals refine .inr (congrArg some ?_)
  case call v => rw [call_eq, outRes_ofR]; rfl
  case getitem n => rw [getitem_eq, outRes_ofR]; rfl
  case fromString n => rw [from_string_eq, outRes_ofR]; rfl
  case getattr n => rw [eq_obj cls hv, classVar_eq, outRes_ofR]; rfl
  case contains v =>
    rw [try_value_eq]
    simp only [Res.bind, contains_member_eq]
    rfl
  case tryValue v | setattrMem v _ _ | delattrMem v _ | copy v | deepcopy v | pickle v =>
    rw [try_value_eq]; rfl
  -- `__iter__`, `__reversed__`, `__len__`, `i in cls` for an int and the two `__setattr__` / `__delattr__` of the class
  -- unfold to the model's
  all_goals rfl

end Bp.SrcTieEnum
