import BpModel.PyDict
import BpProofs.JsonRtInst
import BpProofs.JsonGuardFast
import BpProofs.PyPreludeDyn
/-
  C14 / C04: `Cls().from_pydict(m.to_pydict(casing))` rebuilds `jrt m`, the very message
  `from_dict(to_dict(m))` rebuilds (BpProofs/JsonRt.lean), for every schema inside `pyDictOk`
  (BpModel/PyDict.lean) and every value inside the guards of C04's `roundtrip_all` whose dicts have
  pairwise distinct keys (`dictKeysOk`: what a Python dict is).  So the relation to `m` (`DEqv`) and
  the equality of the bytes are those of C04.

  How: slot by slot (`SlotRTP`), `to_pydict` writes a field exactly when `to_dict` does, and
  `from_pydict`'s step for the written object is `setattr(self, name, jrt v)` — on an instance whose
  slot for that field is still the dataclass default (`FreshAbove`): that is where `getattr` returns
  the default list / dict / sub-message the step then fills.  The loop over the keys is then the
  `setattr` sequence of the instance form of `from_dict` (`applyKw … emitted2`), whose result
  BpProofs/JsonRtInst.lean computes.  Induction on the typing derivation `JOk` (BpProofs/JsonTyped.lean).
  At the end: the schema `Spy` and the value `mpy` of Props/C14PyDictRt.lean, with their guards.
-/
namespace Bp
open Gen

section rt
variable (S : Schema) (cs : KeyCase) (fs : List FieldD) (st : MState) (idx : Nat) (f : FieldD) (hid sel : Bool)

/-- what `fieldPyOk` gives beyond `fieldJsonOk`, in usable form -/
structure FP (f : FieldD) : Prop where
  fj : FJ f
  msg_grp : (f.ty == PType.message) = true → f.group = Option.none
  msg_opt : (f.ty == PType.message) = true → f.wraps = Option.none → f.optional = false
  msg_rep : (f.ty == PType.message) = true → f.wraps = Option.none → f.repeated = true → ∃ c, f.kind = .user c

theorem fp_of (h : fieldPyOk f = true) : FP f := by
  unfold fieldPyOk at h
  simp only [Bool.and_eq_true] at h
  obtain ⟨hj, h2⟩ := h
  refine ⟨fj_of f hj, ?_, ?_, ?_⟩
  · intro hm
    rw [if_pos hm] at h2
    simp only [Bool.and_eq_true, Option.isNone_iff_eq_none] at h2
    exact h2.1
  · intro hm hw
    rw [if_pos hm] at h2
    simp only [Bool.and_eq_true, Bool.or_eq_true, hw, Option.isSome_none, Bool.false_eq_true, false_or,
      Bool.not_eq_true'] at h2
    exact h2.2.1
  · intro hm hw hr
    rw [if_pos hm] at h2
    simp only [Bool.and_eq_true, Bool.or_eq_true, hw, Option.isSome_none, Bool.false_eq_true, false_or,
      Bool.not_eq_true', hr, Bool.true_and, Bool.not_eq_false'] at h2
    cases hk : f.kind with
    | user c => exact ⟨c, rfl⟩
    | timestamp => rw [hk] at h2; simp [isUserK] at h2
    | duration => rw [hk] at h2; simp [isUserK] at h2

theorem pyDictOk_schema (h : pyDictOk S cs = true) :
    jsonOk S [] cs = true ∧ ∀ c, ∀ f ∈ fieldsOf S c, fieldPyOk f = true := by
  unfold pyDictOk at h
  simp only [Bool.and_eq_true, List.all_eq_true] at h
  refine ⟨h.1, fun c f hf => ?_⟩
  obtain ⟨d, hd, _, hfd⟩ := fieldsOf_mem S c f hf
  exact h.2 d hd f hfd

mutual
/-- every dict, at every level, has pairwise distinct keys (what a Python dict is; the typing
    judgement `wellTyped'` does not say it) -/
def dictKeysOk : Val → Bool
  | .msg _ sl _ _ _ => dictKeysOkL sl
  | .list xs => dictKeysOkL xs
  | .dict ks vs => decide ((ks.map keyJ).Nodup) && dictKeysOkL vs
  | _ => true
def dictKeysOkL : List Val → Bool
  | [] => true
  | x :: xs => dictKeysOk x && dictKeysOkL xs
end

theorem dictKeysOk_msg (c : Nat) (sl : List Val) (ow : Bool) (unk : Bytes) (cur : List (Option Nat)) :
    dictKeysOk (.msg c sl ow unk cur) = dictKeysOkL sl := by rw [dictKeysOk]
theorem dictKeysOk_list (xs : List Val) : dictKeysOk (.list xs) = dictKeysOkL xs := by rw [dictKeysOk]
theorem dictKeysOk_dict (ks vs : List Val) :
    dictKeysOk (.dict ks vs) = (decide ((ks.map keyJ).Nodup) && dictKeysOkL vs) := by rw [dictKeysOk]

theorem rawJ_list (xs : List Val) : rawJ (.list xs) = .arr (rawJList xs) := by rw [rawJ]

/-- the invariant of the insertions: the keys there and the keys to come are pairwise distinct -/
theorem dictInsertAll_new : ∀ (ks ys ks0 vs0 : List Val), ks0.length = vs0.length → ks.length = ys.length →
    ((ks0 ++ ks).Pairwise fun a b => keyEq a b = false) → dictInsertAll ks0 vs0 ks ys = (ks0 ++ ks, vs0 ++ ys)
  | [], [], ks0, vs0, _, _, _ => by simp [dictInsertAll]
  | [], _ :: _, _, _, _, h, _ => by simp at h
  | _ :: _, [], _, _, _, h, _ => by simp at h
  | k :: ks, y :: ys, ks0, vs0, h0, h1, h2 => by
    rw [dictInsertAll]
    simp only [dictInsert_append ks0 vs0 k y h0 fun k0 hk0 => (List.pairwise_append.1 h2).2.2 k0 hk0 k (by simp)]
    rw [dictInsertAll_new ks ys (ks0 ++ [k]) (vs0 ++ [y]) (by simp [h0]) (by simpa using h1) (by simpa using h2)]
    simp

theorem keyV_keyJ_str (ks : List Val) (h : ∀ k ∈ ks, ∃ s, k = Val.str s) : (ks.map keyJ).map keyV = ks :=
  keyV_keyJ ks h

theorem str_keys_pairwise (ks : List Val) (h : ∀ k ∈ ks, ∃ s, k = Val.str s) (hn : (ks.map keyJ).Nodup) :
    ks.Pairwise fun a b => keyEq a b = false :=
  (List.pairwise_map.1 hn).imp_of_mem fun {a b} ha hb hne => by
    obtain ⟨s, rfl⟩ := h a ha
    obtain ⟨t, rfl⟩ := h b hb
    simp only [keyEq, beq_eq_false_iff_ne, ne_eq]
    rintro rfl; exact hne rfl

def FreshAbove (fs : List FieldD) (idx : Nat) (st : MState) : Prop :=
  ∀ i f, idx ≤ i → fs[i]? = some f → st.slots.getD i .ph = freshVal f

theorem freshAbove_mono (st : MState) (h : FreshAbove fs idx st) : FreshAbove fs (idx + 1) st :=
  fun i f hi hf => h i f (by omega) hf

/-- `setattr` of field `idx` leaves the later slots at their dataclass defaults: it writes slot
    `idx` and resets the other members of its group to PLACEHOLDER, which IS their default
    (a oneof member is not proto3-optional) -/
theorem freshAbove_setAttr (st : MState) (w : Val) (fi : FieldD) (hfi : fs[idx]? = some fi)
    (hopt : ∀ f ∈ fs, f.group.isSome = true → f.optional = false)
    (h : FreshAbove fs idx st) : FreshAbove fs (idx + 1) (setAttr S fs st idx w) := by
  intro i f hi hf
  rw [setAttr_slots_getD S fs st idx w fi hfi i, if_neg (fun hc => by omega)]
  split
  · rename_i hc
    have : f.optional = false := hopt f (List.mem_of_getElem? hf) (by rw [← grp_of fs i f hf, hc.2.1]; exact hc.1)
    simp [freshVal, this]
  · exact h i f (by omega) hf

def freshOn (S : Schema) (c : Nat) : MState :=
  { slots := (fieldsOf S c).map fun f => if f.optional then Val.none else Val.ph, onWire := true, unknown := [],
    cur := List.replicate (groupsOf S c) Option.none }

theorem freshAbove_fresh (c : Nat) : FreshAbove (fieldsOf S c) 0 (freshOn S c) := by
  intro i f _ hf
  simp only [freshOn, List.getD_eq_getElem?_getD, List.getElem?_map, hf, Option.map_some, Option.getD_some, freshVal]


theorem setAttr_over (i : Nat) (f : FieldD) (hf : fs[i]? = some f)
    (a v : Val) : setAttr S fs { st with slots := setAt st.slots i a } i v = setAttr S fs st i v := by
  cases hg : f.group <;> simp only [setAttr_eq, hf, hg, setAt_setAt]
  congr 1
  exact setAt_resetGroup_congr _ i fs _ _ _ (by simp [setAt_length]) fun k hk _ => by rw [setAt_getD]; simp [hk]

theorem setAttrNN_ne (i : Nat) (v : Val) (hv : v ≠ .none) :
    setAttrNN S fs st i v = setAttr S fs st i v := by
  cases v with
  | none => exact absurd rfl hv
  | _ => rfl

/-- `getattr` of a field still at its dataclass default returns the default and stores it in the slot; the `setattr`
    of that field that follows does not see the store -/
theorem getAttr_fresh (i : Nat) (f : FieldD) (hf : fs[i]? = some f)
    (hg : f.group = Option.none) (ho : f.optional = false) (hs : st.slots.getD i .ph = freshVal f) :
    ∃ st1, getAttr S fs st i = .ok (defaultOf S f, st1) ∧ ∀ w, setAttr S fs st1 i w = setAttr S fs st i w := by
  have hs' : st.slots.getD i .ph = .ph := by rw [hs]; simp [freshVal, ho]
  refine ⟨_, ?_, setAttr_over S fs st i f hf (defaultOf S f)⟩
  rw [getAttr_visible S fs st i f hf (hidden_nogroup f i st.cur hg), hs']; rfl

/-- a dict written by `to_pydict` has as many keys as values (the representation keeps them in two lists) -/
def objLen (p : PVal) : Prop := ∀ ks ps, p = JVal.obj ks ps → ks.length = ps.length

theorem objLen_rawJ_leaf (v : Val) (hl : isLeafVal v = true) : objLen (rawJ v) := by
  intro ks ps h
  cases v with
  | ph | list _ | dict _ _ | msg _ _ _ _ _ => cases hl
  | _ => simp [rawJ] at h

theorem objLen_arr (xs : List PVal) : objLen (.arr xs) := by intro ks ps h; cases h
theorem objLen_obj {ks : List JKey} {ps : List PVal} (h : ks.length = ps.length) : objLen (.obj ks ps) := by
  intro ks' ps' he; cases he; exact h

def SlotRTP (S : Schema) (cs : KeyCase) (fs : List FieldD) (idx : Nat) (f : FieldD) (hid sel : Bool) (v : Val) : Prop :=
  (toDictSlot S [] cs false f hid sel v = Option.none → toPyDictSlot S cs false f hid sel v = .ok Option.none) ∧
  (∀ j, toDictSlot S [] cs false f hid sel v = some j →
    ∃ p, toPyDictSlot S cs false f hid sel v = .ok (some p) ∧ objLen p ∧
      ∀ st : MState, fs[idx]? = some f → st.slots.getD idx .ph = freshVal f →
        fromPyField S fs st idx f p = .ok (setAttr S fs st idx (jrt S [] cs v)))

theorem toPyDictSlot_leaf' (incl : Bool) (f : FieldD) (hid sel : Bool) (v : Val)
    (h : isLeafVal v = true) :
    toPyDictSlot S cs incl f hid sel v
      = if hid then toPyDictDefault S f sel incl else toPyDictPlain S f sel incl v := by
  rw [toPyDictSlot.eq_def]
  cases v with
  | ph | list | dict | msg => cases h
  | _ => rfl

theorem toPyDictPlain_none (hr : f.repeated = false) (hmap : (f.ty == PType.map) = false)
    (hdk : f.defKind = .none) : toPyDictPlain S f false false .none = .ok Option.none := by
  unfold toPyDictPlain
  by_cases hm : (f.ty == PType.message) = true
  · simp only [hm, if_true, hr, Bool.false_eq_true, if_false]
    split <;> rfl
  · simp only [hm, hmap, Bool.false_eq_true, if_false, hdk]
    rfl

theorem toPyDictDefault_none (hj : FJ f) : toPyDictDefault S f false false = .ok Option.none := by
  unfold toPyDictDefault
  rcases defKind_cases f with ⟨hr, hd⟩ | ⟨_, hty, hd⟩ | ⟨hr, hnm, _, hd⟩ | ⟨_, hty, _, _, hd⟩ | ⟨hr, hnm, hnmsg, ho, hw, hd⟩
  · -- repeated: neither a wrapper nor a map (`fieldJsonOk`)
    have hw : f.wraps.isSome = false := by
      cases h : f.wraps.isSome with
      | false => rfl
      | true => have := hj.wr_rep h; rw [hr] at this; cases this
    have hmap : (f.ty == PType.map) = false := by
      cases h : (f.ty == PType.map) with
      | false => rfl
      | true => have := hj.map_rep h; rw [hr] at this; cases this
    rw [hd]
    by_cases hm : (f.ty == PType.message) = true <;> simp [hm, hw, hmap]
  · rw [hd]; simp [hty]
  · rw [hd]; exact toPyDictPlain_none S f hr (by simpa using hnm) hd
  · rw [hd]
    cases hk : f.kind <;> simp [msgKindDef, toPyDictPlain, defaultOfKind, hty]
  · have hm : (f.ty == PType.message) = false := by simpa using hnmsg
    have hmap : (f.ty == PType.map) = false := by simpa using hnm
    have hpl : toPyDictPlain S f false false (defaultOfKind S (scalarDef f.ty)) = .ok Option.none := by
      unfold toPyDictPlain
      simp only [hm, hmap, Bool.false_eq_true, if_false, hd, eqDefault_scalarDef]
      rfl
    rw [hd]
    cases hty : f.ty <;> (rw [hty] at hpl; exact hpl)

theorem isSome_ite_some {α : Type} (c : Bool) (x : α) : (if c = true then some x else Option.none).isSome = c := by
  cases c <;> rfl

theorem slotRTP_mk (v : Val)
    (c : Bool) (p : PVal)
    (hd : (toDictSlot S [] cs false f hid sel v).isSome = c)
    (hpy : toPyDictSlot S cs false f hid sel v = .ok (if c then some p else Option.none))
    (hol : objLen p)
    (hdec : c = true → ∀ st : MState, fs[idx]? = some f → st.slots.getD idx .ph = freshVal f →
      fromPyField S fs st idx f p = .ok (setAttr S fs st idx (jrt S [] cs v))) :
    SlotRTP S cs fs idx f hid sel v := by
  constructor
  · intro hn
    rw [hn] at hd
    have : c = false := by simpa using hd.symm
    rw [hpy, this]; rfl
  · intro j hj
    rw [hj] at hd
    have : c = true := by simpa using hd.symm
    exact ⟨p, by rw [hpy, this]; rfl, hol, hdec this⟩

theorem fromPyField_leaf (i : Nat) (f : FieldD) (p : PVal)
    (h : isLeafJ p = true) :
    fromPyField S fs st i f p =
      if f.ty == .message then
        (getAttr S fs st i).bind fun (v, st1) =>
        match v with
        | .list _ => .error (iterErr p)
        | .ts _ => (unRaw p).bind fun w => .ok (setAttrNN S fs st1 i w)
        | .dur _ => (unRaw p).bind fun w => .ok (setAttrNN S fs st1 i w)
        | v =>
          if f.wraps.isSome then (unRaw p).bind fun w => .ok (setAttrNN S fs st1 i w)
          else .error (notMsgErr v)
      else if f.ty == .map && f.mapV == .message then
        (getAttr S fs st i).bind fun _ => .error (iterErr p)
      else (unRaw p).bind fun w => .ok (setAttrNN S fs st i w) := by
  rw [fromPyField.eq_def]
  cases p with
  | arr xs | obj ks vs | null => cases h
  | _ => rfl

theorem fromPyField_scalar (v : Val)
    (hl : isLeafVal v = true) (hn : v ≠ .none) (hm : (f.ty == PType.message) = false) (hmap : (f.ty == PType.map) = false) :
    fromPyField S fs st idx f (rawJ v) = .ok (setAttr S fs st idx v) := by
  rw [fromPyField_leaf S fs st idx f _ (unRaw_rawJ_leaf v ⟨hl, hn⟩).2]
  simp only [hm, hmap, Bool.false_and, Bool.false_eq_true, if_false, (unRaw_rawJ_leaf v ⟨hl, hn⟩).1, Except.bind,
    setAttrNN_ne S fs st idx v hn]

theorem fromPyField_msgleaf (v : Val)
    (hf : fs[idx]? = some f) (hs : st.slots.getD idx .ph = freshVal f)
    (hl : isLeafVal v = true) (hn : v ≠ .none) (hm : (f.ty == PType.message) = true)
    (hg : f.group = Option.none) (ho : f.optional = false)
    (hk : (f.wraps.isSome = true ∧ defaultOf S f = .none) ∨ (∃ us, defaultOf S f = .ts us) ∨
      (∃ us, defaultOf S f = .dur us)) :
    fromPyField S fs st idx f (rawJ v) = .ok (setAttr S fs st idx v) := by
  obtain ⟨st1, hga, hset⟩ := getAttr_fresh S fs st idx f hf hg ho hs
  rw [fromPyField_leaf S fs st idx f _ (unRaw_rawJ_leaf v ⟨hl, hn⟩).2]
  simp only [hm, if_true, hga, (unRaw_rawJ_leaf v ⟨hl, hn⟩).1, Except.bind, setAttrNN_ne S fs _ idx v hn, hset]
  rcases hk with ⟨hw, hd⟩ | ⟨us, hd⟩ | ⟨us, hd⟩
  · rw [hd]; simp only [hw, if_true]
  · rw [hd]
  · rw [hd]

theorem toPyDictMapVals_raw (S : Schema) (cs : KeyCase) (incl : Bool) : ∀ (vs : List Val), (∀ x ∈ vs, isMsgVal x = false) →
    toPyDictMapVals S cs incl vs = .ok (rawJList vs)
  | [], _ => by rw [toPyDictMapVals, rawJList]
  | x :: xs, h => by
    have hx := h x (by simp)
    have ih := toPyDictMapVals_raw S cs incl xs (fun y hy => h y (by simp [hy]))
    rw [rawJList, toPyDictMapVals.eq_def]
    cases x with
    | msg c sl ow unk cur => cases hx
    | _ => simp only [ih]; rfl

/-- the model's per-key step of the loop of `from_pydict` (what `fromPyKeys` does with one pair) -/
def _root_.Bp.SrcTieFromPyDict.keyStepP (S : Schema) (c : Nat) (st : MState) (k : JKey) (p : PVal) : R MState :=
  match fieldOfJKey (fieldsOf S c) k with
  | .error e => .error e
  | .ok Option.none => .ok st
  | .ok (some (i, f)) => fromPyField S (fieldsOf S c) st i f p

theorem _root_.Bp.SrcTieFromPyDict.fromPyKeys_cons (S : Schema) (c : Nat) (st : MState) (k : JKey) (ks : List JKey) (p : PVal) (ps : List PVal) :
    fromPyKeys S c st (k :: ks) (p :: ps) = (SrcTieFromPyDict.keyStepP S c st k p).bind fun st' => fromPyKeys S c st' ks ps := by
  rw [fromPyKeys, SrcTieFromPyDict.keyStepP]
  cases fieldOfJKey (fieldsOf S c) k with
  | error e => rfl
  | ok o => cases o with
    | none => rfl
    | some q => rfl

/-- the guards of one iteration: a dict under the key has as many keys as values; the attribute of a
    `map<K, Message>` field is a dict -/
def _root_.Bp.SrcTieFromPyDict.StepOk (S : Schema) (c : Nat) (st : MState) (k : JKey) (p : PVal) : Prop :=
  (∀ ks ps, p = .obj ks ps → ks.length = ps.length) ∧
  ∀ i f, fieldOfJKey (fieldsOf S c) k = .ok (some (i, f)) → (f.ty == .map && f.mapV == .message) = true →
    ∀ v st1, getAttr S (fieldsOf S c) st i = .ok (v, st1) → Py.isDict v = true

/-- the guards along the run of the loop -/
def _root_.Bp.SrcTieFromPyDict.KeysTieOk (S : Schema) (c : Nat) : MState → List JKey → List PVal → Prop
  | st, k :: ks, p :: ps => SrcTieFromPyDict.StepOk S c st k p ∧ ∀ st', SrcTieFromPyDict.keyStepP S c st k p = .ok st' →
      SrcTieFromPyDict.KeysTieOk S c st' ks ps
  | _, _, _ => True

open SrcTieFromPyDict (keyStepP fromPyKeys_cons StepOk KeysTieOk)

theorem dictKeysOkL_cons (x : Val) (xs : List Val) : dictKeysOkL (x :: xs) = (dictKeysOk x && dictKeysOkL xs) := by
  rw [dictKeysOkL]

theorem jrtList_length (S : Schema) (E : Enums) (cs : KeyCase) : ∀ xs : List Val, (jrtList S E cs xs).length = xs.length
  | [] => by rw [jrtList]
  | x :: xs => by rw [jrtList]; simp [jrtList_length S E cs xs]

/-- `from_pydict` undoes `to_pydict`.  For one slot: `SlotRTP`.  For the slots of a message from `idx` on, read back key by
    key on an instance whose slots from `idx` on are fresh: the model's loop ends in `applyKw` of the emitted arguments,
    and the guards of the source tie hold along the run.  For a list of messages: item by item. -/
def RtpAt (S : Schema) (cs : KeyCase) : JAt → Prop
  | .slot f hid sel v => FP f → selOk S v = true → dictKeysOk v = true → ∀ fs idx, SlotRTP S cs fs idx f hid sel v
  | .slots fs cur idx vs => ∀ c, fs = fieldsOf S c → selOkList S vs = true → dictKeysOkL vs = true →
      ∀ st, FreshAbove fs idx st →
        ∃ kvs, toPyDictKVs S cs false fs cur idx vs = .ok kvs ∧
          fromPyKeys S c st (kvs.map (·.1)) (kvs.map (·.2)) = .ok (applyKw S fs st (emitted2 S [] cs fs cur idx vs)) ∧
          KeysTieOk S c st (kvs.map (·.1)) (kvs.map (·.2))
  | .msgs c xs => selOkList S xs = true → dictKeysOkL xs = true →
      ∃ items, toPyDictList S cs false xs = .ok items ∧ toPyDictMapVals S cs false xs = .ok items ∧
        fromPyItems S c items = .ok (jrtList S [] cs xs) ∧ items.length = xs.length

/-- one message: on a fresh instance the key loop ends in the slots of `jrt` -/
def MsgRTP (S : Schema) (cs : KeyCase) (c : Nat) (sl : List Val) (cur : List (Option Nat)) : Prop :=
  ∃ kvs, toPyDictKVs S cs false (fieldsOf S c) cur 0 sl = .ok kvs ∧
    fromPyKeys S c (freshOn S c) (kvs.map (·.1)) (kvs.map (·.2))
      = .ok { slots := jrtSlots S [] cs (fieldsOf S c) cur 0 sl, onWire := true, unknown := [], cur := cur } ∧
    KeysTieOk S c (freshOn S c) (kvs.map (·.1)) (kvs.map (·.2))

/-- the `setattr` sequence the loop amounts to is the one of the instance form of `from_dict` (BpProofs/JsonRtInst.lean) -/
theorem msgRTP_of_slots (hS : SchemaOk S [] cs) (c : Nat) (sl : List Val) (ow : Bool)
    (unk : Bytes) (cur : List (Option Nat)) (hbody : bodyOk S c sl unk cur = true)
    (hsel : selOk S (.msg c sl ow unk cur) = true) (hdk : dictKeysOk (.msg c sl ow unk cur) = true)
    (hloop : RtpAt S cs (.slots (fieldsOf S c) cur 0 sl)) :
    unk = [] ∧ MsgRTP S cs c sl cur := by
  rw [selOk_msg] at hsel
  rw [dictKeysOk_msg] at hdk
  simp only [Bool.and_eq_true] at hsel
  obtain ⟨kvs, h1, h2, h3⟩ := hloop c rfl hsel.2 hdk (freshOn S c) (freshAbove_fresh S c)
  refine ⟨(bodyOk_spec S c sl unk cur hbody).1, kvs, h1, ?_, h3⟩
  rw [h2, freshOn, applyKw_fresh_jrt S [] cs hS c sl unk cur hbody hsel.1 hsel.2]

/-- a leaf slot: `to_pydict` writes the value itself where `to_dict` writes its JSON form, and `from_pydict` stores it -/
theorem slotRTP_leaf (v : Val)
    (hl : isLeafVal v = true ∧ v ≠ .none)
    (hpy : toPyDictPlain S f sel false v
      = .ok (if (toDictPlain S [] f sel false v).isSome then some (rawJ v) else Option.none))
    (hdec : ∀ st : MState, fs[idx]? = some f → st.slots.getD idx .ph = freshVal f →
      fromPyField S fs st idx f (rawJ v) = .ok (setAttr S fs st idx v)) :
    SlotRTP S cs fs idx f false sel v := by
  apply slotRTP_mk S cs fs idx f false sel v (toDictPlain S [] f sel false v).isSome (rawJ v)
  · rw [toDictSlot_leaf _ _ _ _ _ _ _ _ hl.1]; rfl
  · rw [toPyDictSlot_leaf' _ _ _ _ _ _ _ hl.1]; exact hpy
  · exact objLen_rawJ_leaf v hl.1
  · intro _
    rw [jrt_atom S [] cs v (leaf_facts S f v hl.1 hl.2 sel).1]
    exact hdec

theorem rtp_walk (hS : SchemaOk S [] cs) (hP : ∀ c, ∀ f ∈ fieldsOf S c, fieldPyOk f = true)
    {a : JAt} (h : JOk S a) : RtpAt S cs a := by
  induction h with
  | @unset f hid hj ho =>
    intro _ _ _ fs idx
    have hn : toDictSlot S [] cs false f hid false .ph = Option.none := by
      rw [toDictSlot_ph, toDictDefault_none S [] f hj]
    refine ⟨fun _ => ?_, fun j hjj => (by rw [hn] at hjj; cases hjj)⟩
    rw [toPyDictSlot, toPyDictDefault_none S f hj]
  | @none f hr hmap ho =>
    intro _ _ _ fs idx
    have hn := toDictSlot_none S [] cs f hr hmap ho
    refine ⟨fun _ => ?_, fun j hjj => (by rw [hn] at hjj; cases hjj)⟩
    rw [toPyDictSlot_leaf' _ _ _ _ _ _ _ rfl]
    exact toPyDictPlain_none S f hr hmap (defKind_none f hr hmap ho)
  | @wrapped f sel v w hm hw hb hr hv =>
    intro hp _ _ fs idx
    have hl := valOfType_leaf w v hv
    have hw' : f.wraps.isSome = true := by simp [hw]
    have hmap : (f.ty == PType.map) = false := by rw [(by simpa using hm : f.ty = PType.message)]; rfl
    refine slotRTP_leaf S cs fs idx f sel v hl ?_ fun st hf hs =>
      fromPyField_msgleaf S fs st idx f v hf hs hl.1 hl.2 hm (hp.msg_grp hm) (hp.fj.wr_opt hw') (.inl ⟨hw', ?_⟩)
    · unfold toPyDictPlain toDictPlain
      simp only [hm, if_true, hw]
      rcases valOfType_cases _ _ hv with ⟨i, rfl⟩ | ⟨b, rfl, _⟩ | ⟨b, rfl, _⟩ | ⟨b, rfl, _⟩ | ⟨s, rfl, _⟩ | ⟨s, rfl, _⟩ <;> rfl
    · unfold defaultOf; rw [defKind_none f hr hmap (by simp [hw'])]; rfl
  | @time f sel v hm hw hr hk =>
    intro hp _ _ fs idx
    have ho := hp.msg_opt hm hw
    have hmap : (f.ty == PType.map) = false := by rw [(by simpa using hm : f.ty = PType.message)]; rfl
    have hdk := defKind_msg f hr hmap (by simp [ho, hw]) hm
    -- the two kinds alike: the default is the epoch / zero, which is what `getattr` returns
    rcases hk with ⟨hk, us, rfl⟩ | ⟨hk, us, rfl⟩ <;>
    · refine slotRTP_leaf S cs fs idx f sel _ ⟨rfl, nofun⟩ ?_ fun st hf hs =>
        fromPyField_msgleaf S fs st idx f _ hf hs rfl nofun hm (hp.msg_grp hm) ho
          (by simp [defaultOf, hdk, hk, msgKindDef, defaultOfKind])
      unfold toPyDictPlain toDictPlain
      simp only [hm, if_true, ho, Bool.or_false, apply_ite Option.isSome, Option.isSome_some,
        Option.isSome_none, Bool.if_true_left, Bool.or_false, rawJ]
      by_cases hc : (us != 0 || sel) = true <;> simp [hc]
  | @scalar f sel v hm hmap hr hv =>
    intro _ _ _ fs idx
    have hl := valOfType_leaf f.ty v hv
    refine slotRTP_leaf S cs fs idx f sel v hl ?_ fun st _ _ => fromPyField_scalar S fs st idx f v hl.1 hl.2 hm hmap
    unfold toPyDictPlain toDictPlain
    simp only [hm, hmap, Bool.false_eq_true, if_false, Bool.or_false]
    by_cases hc : (!eqDefault S f.defKind v || sel) = true
    · simp only [hc, if_true, encScalar_some [] f false v hr hl.2, Option.isSome_some]
    · simp only [hc, Bool.false_eq_true, if_false, Option.isSome_none]
  | @times f xs hrep hm hk =>
    intro hp _ _ fs idx
    obtain ⟨c, hc⟩ := hp.msg_rep hm hrep.nw hrep.rep
    rcases hk with ⟨hk, _⟩ | ⟨hk, _⟩ <;> rw [hk] at hc <;> cases hc
  | @scalars f xs hrep hm hv =>
    intro _ _ _ fs idx
    have hl2 : ∀ x ∈ xs, isLeafVal x = true ∧ x ≠ .none := fun x hx => valOfType_leaf f.ty x (hv x hx)
    have hatoms : ∀ x ∈ xs, dAtom x = true := fun x hx => isLeafVal_dAtom x (hl2 x hx).1
    have hjrt : jrt S [] cs (.list xs) = .list xs := by rw [jrt_list, jrtList_atoms S [] cs xs hatoms]
    apply slotRTP_mk S cs fs idx f false false (.list xs) (!xs.isEmpty) (rawJ (.list xs))
    · rw [toDictSlot_repeated_scalar S [] cs false f false xs hm hrep.nmap hrep.rep]
      simp only [Bool.or_false, isSome_ite_some]
    · rw [toPyDictSlot]
      simp only [Bool.false_eq_true, if_false, hm, hrep.nmap, Bool.or_false, defKind_rep f hrep.rep, eqDefault_list]
    · rw [rawJ_list]; exact objLen_arr _
    · intro _ st hf hst
      rw [hjrt, rawJ_list, fromPyField]
      simp only [hm, hrep.nmap, Bool.false_and, Bool.false_eq_true, if_false, unRaw, unRawList_rawJList_leaf xs hl2,
        Except.bind]
      rfl
  | @items f xs c hrep hm hk _ ih =>
    intro hp hsel hdk fs idx
    rw [selOk_list] at hsel
    rw [dictKeysOk_list] at hdk
    obtain ⟨items, hitems, _, hdec, hil⟩ := ih hsel hdk
    have hemp : items.isEmpty = xs.isEmpty := by cases xs <;> cases items <;> simp_all
    apply slotRTP_mk S cs fs idx f false false (.list xs) (!xs.isEmpty) (.arr items)
    · rw [toDictSlot_repeated_msg S [] cs false f false xs hm hrep.nw hrep.rep]
      simp only [Bool.or_false, isSome_ite_some]
    · rw [toPyDictSlot]
      simp only [Bool.false_eq_true, if_false, hm, if_true, hrep.nw, Option.isSome_none, hrep.rep, hitems, Except.bind,
        Bool.or_false, hemp]
    · exact objLen_arr _
    · intro _ st hf hst
      obtain ⟨st1, hga, hset⟩ := getAttr_fresh S fs st idx f hf (hp.msg_grp hm) hrep.opt hst
      rw [jrt_list, fromPyField]
      simp only [hm, if_true, hga, defaultOf_repeated S f hrep.rep, Except.bind, hrep.nw,
        Option.isSome_none, Bool.false_eq_true, if_false, hk, hdec, List.nil_append, hset]
  | @mapS f ks vs hmf hv hl hks hvs =>
    intro _ _ _ fs idx
    have hmap := hmf.ty
    have hm : (f.ty == PType.message) = false := by rw [eq_of_beq hmap]; rfl
    have hraw : ∀ x ∈ vs, rawOk x = true := fun x hx => valOfType_rawOk _ x (hvs x hx) hmf.vb
    have hl2 : ∀ x ∈ vs, isLeafVal x = true ∧ x ≠ .none := fun x hx => (rawOk_leaf x (hraw x hx)).1
    have hnm : ∀ x ∈ vs, isMsgVal x = false := fun x hx => (rawOk_leaf x (hraw x hx)).2
    have hatoms : ∀ x ∈ vs, dAtom x = true := fun x hx => isLeafVal_dAtom x (hl2 x hx).1
    have hjrt : jrt S [] cs (.dict ks vs) = .dict ks vs := by rw [jrt_dict, jrtList_atoms S [] cs vs hatoms]
    apply slotRTP_mk S cs fs idx f false false (.dict ks vs) (!ks.isEmpty) (.obj (ks.map keyJ) (rawJList vs))
    · rw [toDictSlot_map S [] cs false f false ks vs hmap]
      simp only [Bool.or_false, isSome_ite_some]
    · rw [toPyDictSlot]
      simp only [Bool.false_eq_true, if_false, hmap, if_true, Bool.or_false, toPyDictMapVals_raw S cs false vs hnm,
        Except.bind]
    · exact objLen_obj (by simp [rawJList_eq_map, hl])
    · intro _ st hf hst
      rw [hjrt, fromPyField]
      simp only [hm, hmap, hv, Bool.and_false, Bool.false_eq_true, if_false, unRaw, unRawList_rawJList_leaf vs hl2,
        Except.bind, keyV_keyJ ks hks]
      rfl
  | @mapM f ks vs c hmf hv hk hl hks _ ih =>
    intro hp hsel hdk fs idx
    rw [selOk_dict] at hsel
    rw [dictKeysOk_dict] at hdk
    simp only [Bool.and_eq_true, decide_eq_true_eq] at hdk
    obtain ⟨items, _, hitems, hdec, hil⟩ := ih hsel hdk.2
    have hmap := hmf.ty
    have hm : (f.ty == PType.message) = false := by rw [eq_of_beq hmap]; rfl
    apply slotRTP_mk S cs fs idx f false false (.dict ks vs) (!ks.isEmpty) (.obj (ks.map keyJ) items)
    · rw [toDictSlot_map S [] cs false f false ks vs hmap]
      simp only [Bool.or_false, isSome_ite_some]
    · rw [toPyDictSlot]
      simp only [Bool.false_eq_true, if_false, hmap, if_true, Bool.or_false, hitems, Except.bind]
    · exact objLen_obj (by simp [hil, hl])
    · intro _ st hf hst
      have hd : defaultOf S f = .dict [] [] := by unfold defaultOf; rw [defKind_map f hmf.rep hmap]; rfl
      have hins := dictInsertAll_new ks (jrtList S [] cs vs) [] [] rfl (by rw [jrtList_length, hl])
        (str_keys_pairwise ks hks hdk.1)
      obtain ⟨st1, hga, hset⟩ := getAttr_fresh S fs st idx f hf (hp.fj.map_grp hmap) hmf.opt hst
      rw [jrt_dict, fromPyField]
      simp only [hm, hmap, hv, Bool.and_self, Bool.false_eq_true, if_false, if_true, hga, hd, Except.bind, hk, hdec,
        keyV_keyJ ks hks, hins, List.nil_append, hset]
  | @sub f sel c sl ow unk cur hm hw hr hk hgs hbody _ ih =>
    intro hp hsel hdk fs idx
    have hg := hp.msg_grp hm
    have ho := hp.msg_opt hm hw
    obtain rfl := hgs hg
    obtain ⟨rfl, kvs, hkvs, hfrom, -⟩ := msgRTP_of_slots S cs hS c sl ow unk cur hbody hsel hdk ih
    have hmap : (f.ty == PType.map) = false := by rw [(by simpa using hm : f.ty = PType.message)]; rfl
    have hdk : f.defKind = .msg c := by rw [defKind_msg f hr hmap (by simp [ho, hw]) hm, hk]; rfl
    apply slotRTP_mk S cs fs idx f false false (.msg c sl ow [] cur)
      (ow || !eqDefault S f.defKind (.msg c sl ow [] cur)) (mkObj kvs)
    · rw [toDictSlot_msg S [] cs false f false c sl ow [] cur hm hw hr]
      simp only [Bool.or_false, ho, isSome_ite_some]
    · rw [toPyDictSlot]
      simp only [Bool.false_eq_true, if_false, hm, hw, hr, Option.isNone_none, Bool.not_false, Bool.and_self, if_true,
        Bool.or_false, hkvs, Except.bind]
      exact (apply_ite Except.ok _ _ _).symm
    · exact objLen_obj (by simp)
    · intro _ st hf hst
      -- `getattr` materialises the default sub-message, `from_pydict` fills that very object, `setattr` stores it
      have hd : defaultOf S f = fresh S c := by unfold defaultOf; rw [hdk]; rfl
      obtain ⟨st1, hga, hset⟩ := getAttr_fresh S fs st idx f hf hg ho hst
      rw [jrt_msg, mkObj, fromPyField]
      simp only [hm, if_true, hga, hd, fresh, Except.bind, hw, Option.isSome_none, Bool.false_eq_true, if_false]
      unfold freshOn at hfrom
      rw [hfrom]
      simp only [MState.toVal, hset]
  | nil =>
    intro c _ _ _ st _
    refine ⟨[], by rw [toPyDictKVs], ?_, trivial⟩
    rw [emitted2]; simp [fromPyKeys, applyKw]
  | @cons fs cur idx f v vs hf _ _ ih1 ih2 =>
    intro c hc hs hd st hfr
    subst hc
    rw [selOkList] at hs
    rw [dictKeysOkL_cons] at hd
    simp only [Bool.and_eq_true] at hs hd
    have hp := fp_of f (hP c f (List.mem_of_getElem? hf))
    have h0 := ih1 hp hs.1 hd.1 (fieldsOf S c) idx
    rw [toPyDictKVs, emitted2, hf]
    simp only
    cases hj : toDictSlot S [] cs false f (hidden f idx cur) (selectedInGroup f idx cur) v with
    | none =>
      obtain ⟨kvs, hk1, hk2⟩ := ih2 c rfl hs.2 hd.2 st (freshAbove_mono _ idx st hfr)
      exact ⟨kvs, by rw [h0.1 hj, hk1]; rfl, hk2⟩
    | some j =>
      obtain ⟨p, hp1, hol, hp2⟩ := h0.2 j hj
      have hslot := hfr idx f (Nat.le_refl _) hf
      have hkey := namesOk_lookup cs _ (schema_names S [] cs hS c) idx f hf
      have hstep : keyStepP S c st (jsonKey cs f.name) p = .ok (setAttr S (fieldsOf S c) st idx (jrt S [] cs v)) := by
        rw [keyStepP, hkey]; exact hp2 st hf hslot
      obtain ⟨kvs, hk1, hk2, hk3⟩ := ih2 c rfl hs.2 hd.2 _ (freshAbove_setAttr S _ idx st (jrt S [] cs v) f hf
        (fun f hf hg => fieldJsonOk_group_nonopt f (schema_field S [] cs hS c f hf) hg) hfr)
      refine ⟨(jsonKey cs f.name, p) :: kvs, by rw [hp1, hk1]; rfl, ?_, ⟨hol, ?_⟩, ?_⟩
      · simp only [List.map_cons]
        rw [fromPyKeys_cons S c, hstep]; exact hk2
      · -- the attribute of a `map<K, Message>` field not yet written is the default `{}`
        intro i f' hk' hmm v0 st1 hga
        obtain ⟨rfl, rfl⟩ : idx = i ∧ f = f' := by simpa [hkey] using hk'
        have hmap : (f.ty == PType.map) = true := (Bool.and_eq_true _ _ ▸ hmm).1
        obtain ⟨_, hga', -⟩ := getAttr_fresh S _ st idx f hf (hp.fj.map_grp hmap) (hp.fj.map_opt hmap) hslot
        obtain ⟨rfl, -⟩ : defaultOf S f = v0 ∧ _ := by simpa [hga'] using hga
        rw [defaultOf, defKind_map f (hp.fj.map_rep hmap) hmap]; rfl
      · intro st' hst'
        obtain rfl : setAttr S (fieldsOf S c) st idx (jrt S [] cs v) = st' := by simpa [hstep] using hst'
        exact hk3
  | nilM =>
    intro _ _
    refine ⟨[], by rw [toPyDictList], by rw [toPyDictMapVals], ?_, rfl⟩
    rw [jrtList, fromPyItems]
  | @consM c sl ow unk cur xs hbody _ _ ih1 ih2 =>
    intro hsel hdk
    rw [selOkList] at hsel
    rw [dictKeysOkL_cons] at hdk
    simp only [Bool.and_eq_true] at hsel hdk
    obtain ⟨items, b1, b2, b3, b4⟩ := ih2 hsel.2 hdk.2
    obtain ⟨rfl, kvs, a1, a2, -⟩ := msgRTP_of_slots S cs hS c sl ow unk cur hbody hsel.1 hdk.1 ih1
    refine ⟨mkObj kvs :: items, ?_, ?_, ?_, by simp [b4]⟩
    · rw [toPyDictList, a1, b1]; rfl
    · rw [toPyDictMapVals, a1, b2]; rfl
    · rw [jrtList, jrt_msg, mkObj, fromPyItems]
      unfold freshOn at a2
      rw [a2]
      simp only [Except.bind, b3, MState.toVal]


theorem rtp_slot (S : Schema) (cs : KeyCase) (hS : SchemaOk S [] cs) (hP : ∀ c, ∀ f ∈ fieldsOf S c, fieldPyOk f = true)
    (fs : List FieldD) (idx : Nat) (f : FieldD) (hid sel : Bool) (hp : FP f) (hs : HS f hid sel) :
    ∀ (v : Val), slotOk' S f hid sel v = true → selOk S v = true → dictKeysOk v = true → SlotRTP S cs fs idx f hid sel v :=
  fun v h hsel hdk => rtp_walk S cs hS hP (jslot_of S (schema_field S [] cs hS) f hid sel hp.fj hs v h) hp hsel hdk fs idx

theorem rtp_msgs (S : Schema) (cs : KeyCase) (hS : SchemaOk S [] cs) (hP : ∀ c, ∀ f ∈ fieldsOf S c, fieldPyOk f = true)
    (c : Nat) :
    ∀ (xs : List Val), (∀ x ∈ xs, ∃ sl ow unk cur, x = Val.msg c sl ow unk cur ∧ bodyOk S c sl unk cur = true) →
      selOkList S xs = true → dictKeysOkL xs = true →
      ∃ items, toPyDictList S cs false xs = .ok items ∧ toPyDictMapVals S cs false xs = .ok items ∧
        fromPyItems S c items = .ok (jrtList S [] cs xs) ∧ items.length = xs.length :=
  fun xs h => rtp_walk S cs hS hP (jmsgs_of S (schema_field S [] cs hS) c xs h)

/-- one `wellTyped'` message: what `pydict_roundtrip` and the round trip of the two loops as written
    (BpProofs/SrcTiePyDictRt.lean) both start from -/
theorem msgRTP_of_wellTyped (hok : pyDictOk S cs = true) (hgroups : groupsOk S = true)
    (c : Nat) (sl : List Val) (ow : Bool) (unk : Bytes) (cur : List (Option Nat))
    (hwt : wellTyped' S (.msg c sl ow unk cur) = true) (hsel : selOk S (.msg c sl ow unk cur) = true)
    (hkeys : dictKeysOk (.msg c sl ow unk cur) = true) : unk = [] ∧ MsgRTP S cs c sl cur := by
  obtain ⟨hjson, hP⟩ := pyDictOk_schema S cs hok
  have hS : SchemaOk S [] cs := ⟨hjson, hgroups⟩
  rw [wellTyped_msg] at hwt
  exact msgRTP_of_slots S cs hS c sl ow unk cur hwt hsel hkeys (rtp_walk S cs hS hP
    (jslots_of S (schema_field S [] cs hS) _ cur (schema_field S [] cs hS c) sl 0 (bodyOk_spec S c sl unk cur hwt).2.2.2))

theorem pydict_roundtrip (hok : pyDictOk S cs = true) (hgroups : groupsOk S = true)
    (c : Nat) (sl : List Val) (ow : Bool) (unk : Bytes) (cur : List (Option Nat))
    (hwt : wellTyped' S (.msg c sl ow unk cur) = true) (hsel : selOk S (.msg c sl ow unk cur) = true)
    (hkeys : dictKeysOk (.msg c sl ow unk cur) = true) :
    ∃ p, toPyDict S cs false (.msg c sl ow unk cur) = .ok p ∧
      fromPyDict S c p = .ok (jrt S [] cs (.msg c sl ow unk cur)) := by
  obtain ⟨rfl, kvs, a1, a2, -⟩ := msgRTP_of_wellTyped S cs hok hgroups c sl ow unk cur hwt hsel hkeys
  refine ⟨mkObj kvs, by rw [toPyDict, a1]; rfl, ?_⟩
  unfold fromPyDict fromPyDictI fresh
  unfold freshOn at a2
  simp only [mkObj, a2, Except.bind, jrt_msg, MState.toVal]

end rt

end Bp

namespace Bp.C14
open Bp Gen

/-- `message Sub { int32 x = 1; string name = 2; }`
    `message Top { Sub sub = 1; repeated Sub subs = 2; map<string, Sub> by_name = 3; oneof pick { int32 a = 4; string b = 5; }`
    `              google.protobuf.Timestamp at = 6; google.protobuf.Int32Value w = 7; repeated sint64 nums = 8; bytes raw = 9; }` -/
def Spy : Schema := [
  { fields := [{ name := "x", num := 1, ty := .int32 }, { name := "name", num := 2, ty := .string }] },
  { fields := [{ name := "sub", num := 1, ty := .message, kind := .user 0 },
               { name := "subs", num := 2, ty := .message, kind := .user 0, repeated := true },
               { name := "by_name", num := 3, ty := .map, mapK := .string, mapV := .message, mapVKind := .user 0 },
               { name := "a", num := 4, ty := .int32, group := some 0 },
               { name := "b", num := 5, ty := .string, group := some 0 },
               { name := "at", num := 6, ty := .message, kind := .timestamp },
               { name := "w", num := 7, ty := .message, kind := .user 2, wraps := some .int32 },
               { name := "nums", num := 8, ty := .sint64, repeated := true },
               { name := "raw", num := 9, ty := .bytes }], nGroups := 1 },
  wrapperD .int32]
def subN (n : Int) : Val := .msg 0 [.int n, .ph] true [] []
/-- `Top(sub=Sub(x=-5), subs=[Sub(x=1), Sub()], by_name={"k": Sub(x=9), "": Sub()}, a=0, at=…, w=0, nums=[-1, 150], raw=b"\x01\x02")` -/
def mpy : Val := .msg 1 [subN (-5), .list [subN 1, .msg 0 [.ph, .ph] false [] []],
    .dict [.str [107], .str []] [subN 9, .msg 0 [.ph, .ph] false [] []],
    .int 0, .ph, .ts 1700000000123456, .int 0, .list [.int (-1), .int 150], .byt [1, 2]] true [] [some 3]

/-- the guards of the round trip on `Spy` / `mpy`, both casings, evaluated once; the key-name check of `pyDictOk`
    is evaluated in its fast form (BpProofs/JsonGuardFast.lean) -/
theorem spy_guards : pyDictOk Spy .camel = true ∧ pyDictOk Spy .snake = true ∧ groupsOk Spy = true ∧
    wellTyped' Spy mpy = true ∧ selOk Spy mpy = true ∧ dictKeysOk mpy = true := by
  rw [pyDictOk_fast]; decide +kernel

end Bp.C14
