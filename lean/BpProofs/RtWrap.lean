import BpModel.All
import BpProofs.Rt
import BpProofs.RtFlat
import BpProofs.RtScalar
import BpProofs.RtSub
import BpProofs.RtMap
import BpProofs.Load
/-
  C01, well-known wrapper fields (`google.protobuf.Int32Value`, `StringValue`, `BoolValue`, …):
  betterproto stores such a field as `Optional[scalar]` (`f.ty = .message`,
  `f.wraps = some w`, default `None`) and encodes a non-None value `v` as a length-delimited
  record whose payload is `bytes(Wrapper(value=v))`.

  FINDING (see the `example`s at the end, also replayed on the real code): the wrapper class
  has ONE implicit-presence field, so a value that compares equal to the default of `w` is
  not written into the payload, and the decoder hands back the default.  For floats
  `-0.0 == 0.0`, hence `FloatValue(-0.0)` / `DoubleValue(-0.0)` decode to `+0.0`: the sign of a
  negative zero is lost.  Everything else round-trips exactly.  The theorems are therefore
  stated twice: in general with the normal form `wrapNorm` of the value, and with equality
  under the decidable side condition `wrapStable` (excludes exactly the two bit patterns).
-/
namespace Bp
open Gen

/-- the values a wrapper restores exactly: everything but the two negative zeros -/
def wrapStable : Val → Bool
  | .f32 b => b != 0x80000000
  | .f64 b => b != 0x8000000000000000
  | _ => true

/-- what a wrapped value comes back as: a value equal to the default of `w` is not written
    and comes back as THE default -/
def wrapNorm (S : Schema) (w : PType) (v : Val) : Val :=
  if scalarIsDefault S w v then defaultOfKind S (scalarDef w) else v

/-- the one field `value` #1 of the wrapper class -/
abbrev wrapValueD (w : PType) : FieldD := { name := "value", num := 1, ty := w }

theorem wrapNorm_stable (S : Schema) (w : PType) (v : Val) (hv : scalarOk w v = true)
    (hs : wrapStable v = true) : wrapNorm S w v = v := by
  unfold wrapNorm
  by_cases hdef : scalarIsDefault S w v = true
  · rw [if_pos hdef]
    unfold scalarIsDefault at hdef
    cases v with
    | int _ | bool _ | str _ | byt _ =>
      rw [eqDefault] at hdef
      simp at hdef
      rw [hdef.1, hdef.2]; rfl
    | f32 b | f64 b =>
      -- a zero pattern other than the negative zero is `+0.0`, the default itself
      rw [eqDefault] at hdef
      simp [f32IsZero, f64IsZero] at hdef
      simp [wrapStable] at hs
      rcases hdef.2 with e | e
      · rw [hdef.1, e]; rfl
      · exact absurd e hs
    | _ => cases hv
  · rw [if_neg hdef]

theorem scalarOk_default (S : Schema) (w : PType) (hw : isScalarType w = true) :
    scalarOk w (defaultOfKind S (scalarDef w)) = true := by
  cases w with
  | message | map => exact absurd hw (by decide)
  | _ => rfl

theorem scalarIsDefault_default (S : Schema) (w : PType) :
    scalarIsDefault S w (defaultOfKind S (scalarDef w)) = true := by
  cases w <;> rfl

theorem scalarOk_norm (S : Schema) (w : PType) (v : Val) (hw : isScalarType w = true)
    (hv : scalarOk w v = true) : scalarOk w (wrapNorm S w v) = true := by
  unfold wrapNorm
  by_cases hdef : scalarIsDefault S w v = true
  · rw [if_pos hdef]; exact scalarOk_default S w hw
  · rw [if_neg hdef]; exact hv

theorem wrapperBytes_norm (S : Schema) (w : PType) (v : Val) :
    wrapperBytes S w (wrapNorm S w v) = wrapperBytes S w v := by
  unfold wrapNorm
  by_cases hdef : scalarIsDefault S w v = true
  · rw [if_pos hdef]
    unfold wrapperBytes
    rw [if_pos hdef, if_pos (scalarIsDefault_default S w)]
  · rw [if_neg hdef]

theorem wrapValue_flat (w : PType) (hw : isScalarType w = true) : FlatField (wrapValueD w) :=
  ⟨hw, rfl, rfl, fun h => by cases h⟩

theorem wrapValue_default (S : Schema) (w : PType) (hw : isScalarType w = true) :
    defaultOf S (wrapValueD w) = defaultOfKind S (scalarDef w) := by
  unfold defaultOf
  rw [flat_defKind_singular _ (wrapValue_flat w hw) rfl]
  rfl

theorem wrapperBytes_nondefault (S : Schema) (w : PType) (v : Val) (hw : isScalarType w = true)
    (hnd : ¬ scalarIsDefault S w v = true) :
    wrapperBytes S w v = serializeScalar S 1 w v false Option.none := by
  unfold wrapperBytes
  rw [if_neg hnd, serializeScalar_plain S 1 w v false hw]

theorem wrapper_roundtrip_norm (S : Schema) (rec rec' : Loader) (hu : Unfolds S rec rec') (w : PType) (v : Val)
    (p : Bytes)
    (hw : isScalarType w = true) (hv : scalarOk w v = true)
    (h : wrapperBytes S w v = .ok p) (hp : p.length < 2 ^ 64) :
    ∃ st, rec (wrapperD w) (freshState (wrapperD w)) p = .ok st
      ∧ materialize S (wrapperD w).fields[0]! (st.slots.getD 0 .ph) = wrapNorm S w v := by
  rw [wrapperD_value]
  have hff := wrapValue_flat w hw
  by_cases hdef : scalarIsDefault S w v = true
  · -- nothing was written: the slot stays PLACEHOLDER and materialises the default
    have h' := h
    unfold wrapperBytes at h'
    rw [if_pos hdef] at h'
    injection h' with h'
    subst h'
    refine ⟨{ freshState (wrapperD w) with onWire := true }, by rw [hu]; rfl, ?_⟩
    unfold wrapNorm
    rw [if_pos hdef, ← wrapValue_default S w hw]
    rfl
  · -- field #1 of the wrapper class, decoded from the state with the fresh slot
    rw [wrapperBytes_nondefault S w v hw hdef] at h
    obtain ⟨st', ⟨pfs, hp1, hj1, hf1⟩, hm1, _, _⟩ :=
      entryStep_scalar S rec' (wrapperD w) 0 (wrapValueD w) v p (numsDistinct_single _) rfl hff rfl rfl rfl
        hv h hp { freshState (wrapperD w) with onWire := true } Nat.zero_lt_one rfl
    refine ⟨st', ?_, ?_⟩
    · rw [hu, ← hj1, loadFields_join _ hp1]
      exact hf1
    · rw [hm1]
      unfold wrapNorm
      rw [if_neg hdef]

/-- the same with equality, for every value but the two negative zeros -/
theorem wrapper_roundtrip (S : Schema) (n : Nat) (w : PType) (v : Val) (p : Bytes)
    (hw : isScalarType w = true) (hv : scalarOk w v = true) (hs : wrapStable v = true)
    (h : wrapperBytes S w v = .ok p) (hp : p.length < 2 ^ 64) :
    ∃ st, loadInto S (n + 1) (wrapperD w) (freshState (wrapperD w)) p = .ok st
      ∧ materialize S (wrapperD w).fields[0]! (st.slots.getD 0 .ph) = v := by
  obtain ⟨st, h1, h2⟩ := wrapper_roundtrip_norm S _ _ (unfolds_succ S n) w v p hw hv h hp
  exact ⟨st, h1, by rw [h2, wrapNorm_stable S w v hv hs]⟩

theorem wrap_notmap (f : FieldD) (w : PType) (hwf : WrapField f w) : (f.ty == PType.map) = false := by
  rw [hwf.ty]; rfl

/-- `_preprocess_single` of a scalar held by a wrapper field: `bytes(Wrapper(value=v))` -/
theorem prepScalar_wrap (S : Schema) (w : PType) (v : Val) (hv : scalarOk w v = true) :
    prepScalar S PType.message (some w) v = wrapperBytes S w v := by
  cases v with
  | ph | none | ts | dur | list | dict | msg => cases hv
  | _ => rfl

/-- the normal form is as present as the value: only a negative zero changes, into the zero that is skipped alike -/
theorem asPresent_wrapNorm (S : Schema) (w : PType) (v : Val) (hv : scalarOk w v = true) :
    AsPresent S v (wrapNorm S w v) := by
  unfold wrapNorm
  by_cases hdef : scalarIsDefault S w v = true
  · rw [if_pos hdef]
    unfold scalarIsDefault at hdef
    cases v with
    | int _ | bool _ | str _ | byt _ =>
      rw [eqDefault] at hdef
      simp at hdef
      rw [hdef.1, hdef.2]; exact AsPresent.refl S _
    | f32 b =>
      rw [eqDefault] at hdef
      simp only [Bool.and_eq_true, beq_iff_eq] at hdef
      rw [hdef.1]
      exact ⟨fun _ h => h, .inr ⟨rfl, fun k => by simp only [eqDefault, defaultOfKind, hdef.2]; rfl⟩⟩
    | f64 b =>
      rw [eqDefault] at hdef
      simp only [Bool.and_eq_true, beq_iff_eq] at hdef
      rw [hdef.1]
      exact ⟨fun _ h => h, .inr ⟨rfl, fun k => by simp only [eqDefault, defaultOfKind, hdef.2]; rfl⟩⟩
    | _ => cases hv
  · rw [if_neg hdef]; exact AsPresent.refl S v

/-- the codec of a wrapped scalar: the payload is `bytes(Wrapper(value=v))`, and `v` comes back in its normal form -/
theorem itemRt_wrap (S : Schema) (rec rec' : Loader) (hu : Unfolds S rec rec') (f : FieldD) (w : PType) (x : Val)
    (hty : f.ty = PType.message) (hwr : f.wraps = some w) (hk : ∃ c, f.kind = MsgKind.user c)
    (hnum : numOk f.num = true) (hw : isScalarType w = true) (hx : scalarOk w x = true) :
    ItemRt S rec f (fun a b => b = wrapNorm S w a) x := by
  have hy := scalarOk_norm S w x hw hx
  have hdr : ∀ v, scalarOk w v = true → ∀ se, dumpRec S f.num f.ty f.wraps se v
      = (wrapperBytes S w v).bind fun p => frame f.num f.ty p se true := by
    intro v hv se
    rw [dumpRec_nonmsg S _ _ _ _ v (scalarOk_plain w v hv).2, hwr, serializeScalar, hty, prepScalar_wrap S w v hv]
    rfl
  refine itemRt_of_payload S rec f _ x (wrapperBytes S w x) true (by rw [hty]; exact lenT_message) hnum (hdr x hx)
    fun p hp hpl => ?_
  obtain ⟨st, hload, hmat⟩ := wrapper_roundtrip_norm S rec rec' hu w x p hw hx hp hpl
  exact ⟨wrapNorm S w x, by obtain ⟨c, hc⟩ := hk; rw [postLen_eq_wrapped S rec f p c w hty hc hwr, hload, bind_ok, hmat], rfl,
    isItem_of_plain S _ (scalarOk_plain w _ hy).1, asPresent_wrapNorm S w x hx,
    fun se => by rw [hdr _ hy, wrapperBytes_norm, hp, bind_ok]⟩

theorem slotStep_wrap_norm (S : Schema) (rec rec' : Loader) (hu : Unfolds S rec rec') (d : MsgD) (k : Nat)
    (f : FieldD) (w : PType) (hid sel : Bool) (v : Val)
    (hd : NumsDistinct d.fields) (hk : d.fields[k]? = some f) (hwf : WrapField f w) (hv : scalarOk w v = true)
    (R : FieldD → Val → Val → Prop) (hR : R f v (wrapNorm S w v)) :
    SlotStep S rec d R k f hid sel v :=
  slotStep_one S rec d R (fun a b => b = wrapNorm S w a) k f hid sel v hd hk (wrap_notmap f w hwf) hwf.rep
    (isItem_of_plain S v (scalarOk_plain w v hv).1).one
    (itemRt_wrap S rec rec' hu f w v hwf.ty hwf.wr hwf.kind hwf.num hwf.wty hv) fun _ e => e ▸ hR

/-- with a reflexive relation, for every value but the two negative zeros -/
theorem slotStep_wrap (S : Schema) (n : Nat) (d : MsgD) (k : Nat) (f : FieldD) (w : PType) (hid sel : Bool) (v : Val)
    (hd : NumsDistinct d.fields) (hk : d.fields[k]? = some f) (hwf : WrapField f w) (hv : scalarOk w v = true)
    (hs : wrapStable v = true)
    (R : FieldD → Val → Val → Prop) (hR : ∀ f v, R f v v) :
    SlotStep S (loadInto S (n + 1)) d R k f hid sel v :=
  slotStep_wrap_norm S _ _ (unfolds_succ S n) d k f w hid sel v hd hk hwf hv R (by rw [wrapNorm_stable S w v hv hs]; exact hR f v)

/-! non-vacuity, and the counterexample that forces `wrapStable` -/

def SW : Schema := [{ fields := [{ name := "w", num := 1, ty := .message, wraps := some .float },
                                  { name := "i", num := 2, ty := .message, wraps := some .int32 }] }]

example : WrapField (SW[0]!).fields[0]! .float := ⟨rfl, rfl, rfl, by decide, rfl, ⟨0, rfl⟩⟩

-- an ordinary value round-trips (1.5f = 0x3fc00000, Int32Value(0) is the empty wrapper)
example : dumpVal SW (.msg 0 [.f32 0x3fc00000, .int 0] false [] []) = .ok [10, 5, 13, 0, 0, 192, 63, 18, 0] := by decide +kernel
example : (match parse SW 0 [10, 5, 13, 0, 0, 192, 63, 18, 0] with
           | .ok (.msg 0 [.f32 0x3fc00000, .int 0] true [] []) => true
           | _ => false) = true := by decide +kernel

-- COUNTEREXAMPLE: -0.0 is a well-typed float, its wrapper payload is empty …
example : scalarOk .float (.f32 0x80000000) = true ∧ scalarOk .double (.f64 0x8000000000000000) = true := by decide +kernel
example : wrapperBytes [] .float (.f32 0x80000000) = .ok [] ∧ wrapperBytes [] .double (.f64 0x8000000000000000) = .ok [] := by
  decide +kernel
-- … so the wrapper message decodes to +0.0 …
example : (match loadInto [] 1 (wrapperD .float) (freshState (wrapperD .float)) [] with
           | .ok st => (match materialize [] (wrapperD .float).fields[0]! (st.slots.getD 0 .ph) with
                        | .f32 0 => true
                        | _ => false)
           | _ => false) = true := by decide +kernel
-- … and at the message level `FloatValue(-0.0)` comes back as `+0.0`
example : dumpVal SW (.msg 0 [.f32 0x80000000, .none] false [] []) = .ok [10, 0] := by decide +kernel
example : (match parse SW 0 [10, 0] with
           | .ok (.msg 0 [.f32 0, .ph] true [] []) => true
           | _ => false) = true := by decide +kernel

end Bp

#print axioms Bp.wrapper_roundtrip_norm
#print axioms Bp.wrapper_roundtrip
#print axioms Bp.slotStep_wrap_norm
#print axioms Bp.slotStep_wrap
