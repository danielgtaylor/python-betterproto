import BpModel.Naming
import BpProofs.CharFast
import BpProofs.Lit
/-
  A second way to EVALUATE the casing model (BpModel/Casing.lean, BpModel/Naming.lean): in `Fast`, each function that
  reaches a character table or the keyword table is written again, word for word, over `Fast.cls` / `Fast.lowerC` /
  `Fast.upperC` and a keyword table of character lists; `f_fast : f = Fast.f` is proved once.  Only `go` needs an induction.
  Functions that reach no table (`joinU`, `emit`, `rstripU`, `afterFirst` …) are the model's.  A model function that is
  another one under a second name (`protoIdent`, `fieldOfKey`, `pythonize{Field,Method,Class}Name`) or `rstripU` around
  one (`keyCamel`, `keySnake`) gets no twin of its own: the right side of its equation is the other's twin, resp.
  `rstripU` around it.  Use:
  `rw [snake_fast]; decide +kernel` on a closed call.  No lemma is about a function of this file's `Fast` except its
  equation.
-/
namespace Bp.Casing

namespace Fast

/-- `Bp.Gen.keywords` by its characters.  The table is regenerated from the interpreter by harness/extract.py; if it
    ever differs, `kw_fast` below fails when this file is built, and this list is then to be brought in line by hand. -/
def kw : List (List Char) :=
  [lit "False", lit "None", lit "True", lit "and", lit "as", lit "assert", lit "async", lit "await", lit "break",
   lit "class", lit "continue", lit "def", lit "del", lit "elif", lit "else", lit "except", lit "finally", lit "for",
   lit "from", lit "global", lit "if", lit "import", lit "in", lit "is", lit "lambda", lit "nonlocal", lit "not", lit "or",
   lit "pass", lit "raise", lit "return", lit "try", lit "while", lit "with", lit "yield"]

def go : St → List Char → List (List Char)
  | .sym, [] => []
  | .up pre l, [] => [pre ++ [l]]
  | .lo cur, [] => [cur]
  | .dg cur, [] => [cur]
  | .sym, c :: s =>
    match cls c with
    | .sym => go .sym s
    | .up => go (.up [] c) s
    | .lo => go (.lo [c]) s
    | .dg => go (.dg [c]) s
  | .up pre l, c :: s =>
    match cls c with
    | .up => go (.up (pre ++ [l]) c) s
    | .lo => emit pre (go (.lo [l, c]) s)
    | .dg => go (.dg (pre ++ [l, c])) s
    | .sym => (pre ++ [l]) :: go .sym s
  | .lo cur, c :: s =>
    match cls c with
    | .lo => go (.lo (cur ++ [c])) s
    | .dg => go (.dg (cur ++ [c])) s
    | .up => cur :: go (.up [] c) s
    | .sym => cur :: go .sym s
  | .dg cur, c :: s =>
    match cls c with
    | .dg => go (.dg (cur ++ [c])) s
    | .up => cur :: go (.up [] c) s
    | .lo => cur :: go (.lo [c]) s
    | .sym => cur :: go .sym s

def lowerW (w : List Char) : List Char := w.map lowerC
def capitalize : List Char → List Char
  | [] => []
  | c :: w => upperC c :: lowerW w
def tokens (s : List Char) : List (List Char) := go .sym s
def snake (s : List Char) : List Char := joinU ((tokens s).map lowerW)
def pascal (s : List Char) : List Char := ((tokens s).map capitalize).flatten
def lowerFirst : List Char → List Char
  | [] => []
  | c :: s => lowerC c :: s
def camel (s : List Char) : List Char := lowerFirst (pascal s)
def identStart (c : Char) : Bool := cls c = .up || cls c = .lo || c = '_'
def identChar (c : Char) : Bool := cls c ≠ .sym || c = '_'
def pyIdent : List Char → Bool
  | [] => false
  | c :: s => identStart c && s.all identChar
def sanitize (v : List Char) : List Char :=
  if v ∈ kw then v ++ ['_'] else if pyIdent v then v else '_' :: v
def safeSnake (s : List Char) : List Char := sanitize (snake s)
def isLetter (c : Char) : Bool := cls c = .up || cls c = .lo
def startsAlpha2 : List Char → Bool
  | a :: b :: _ => isLetter a && isLetter b
  | _ => false
def allWordsAlpha2 (s : List Char) : Bool := (tokens s).all startsAlpha2
def capKeywords : List (List Char) :=
  kw.filter fun k => match k with
    | c :: _ => cls c = .up
    | [] => false
def firstAlnumIsLetter (s : List Char) : Bool :=
  match s.dropWhile (fun c => cls c = .sym) with
  | c :: _ => isLetter c
  | [] => false
def classNameGuard (s : List Char) : Bool :=
  firstAlnumIsLetter s && !(capKeywords.contains (pascal s))
def pythonizeEnumMemberName (name enumName : List Char) : List Char :=
  match Bp.Naming.afterFirst ((snake enumName).map upperC) name with
  | some rest => sanitize (Bp.Naming.stripU rest)
  | none => sanitize name

end Fast

theorem kw_fast : kw = Fast.kw := by decide +kernel

theorem go_fast : go = Fast.go := by
  funext st s
  induction s generalizing st with
  | nil => cases st <;> rfl
  | cons c s ih => cases st <;> simp only [go, Fast.go, ← cls_fast, ih] <;> cases cls c <;> rfl

theorem lowerW_fast : lowerW = Fast.lowerW := by funext w; rw [lowerW, lowerC_fast]; rfl
theorem capitalize_fast : capitalize = Fast.capitalize := by
  funext w; cases w <;> simp only [capitalize, Fast.capitalize, upperC_fast, lowerW_fast]
theorem tokens_fast : tokens = Fast.tokens := by funext s; rw [tokens, go_fast]; rfl
theorem snake_fast : snake = Fast.snake := by funext s; rw [snake, tokens_fast, lowerW_fast]; rfl
theorem pascal_fast : pascal = Fast.pascal := by funext s; rw [pascal, tokens_fast, capitalize_fast]; rfl
theorem lowerFirst_fast : lowerFirst = Fast.lowerFirst := by
  funext w; cases w <;> simp only [lowerFirst, Fast.lowerFirst, lowerC_fast]
theorem camel_fast : camel = Fast.camel := by funext s; rw [camel, lowerFirst_fast, pascal_fast]; rfl
theorem identStart_fast : identStart = Fast.identStart := by funext c; rw [identStart, cls_fast]; rfl
theorem identChar_fast : identChar = Fast.identChar := by funext c; rw [identChar, cls_fast]; rfl
theorem pyIdent_fast : pyIdent = Fast.pyIdent := by
  funext w; cases w <;> simp only [pyIdent, Fast.pyIdent, identStart_fast, identChar_fast]
theorem protoIdent_fast : protoIdent = Fast.pyIdent := by funext k; rw [protoIdent, pyIdent_fast]
theorem sanitize_fast : sanitize = Fast.sanitize := by funext v; rw [sanitize, kw_fast, pyIdent_fast]; rfl
theorem safeSnake_fast : safeSnake = Fast.safeSnake := by funext s; rw [safeSnake, sanitize_fast, snake_fast]; rfl
theorem keyCamel_fast : keyCamel = fun f => rstripU (Fast.camel f) := by funext f; rw [keyCamel, camel_fast]
theorem keySnake_fast : keySnake = fun f => rstripU (Fast.snake f) := by funext f; rw [keySnake, snake_fast]
theorem fieldOfKey_fast : fieldOfKey = Fast.safeSnake := by funext k; rw [fieldOfKey, safeSnake_fast]
theorem isLetter_fast : isLetter = Fast.isLetter := by funext c; rw [isLetter, cls_fast]; rfl
theorem startsAlpha2_fast : startsAlpha2 = Fast.startsAlpha2 := by
  funext w; rcases w with _ | ⟨a, _ | ⟨b, t⟩⟩ <;> simp only [startsAlpha2, Fast.startsAlpha2, isLetter_fast]
theorem allWordsAlpha2_fast : allWordsAlpha2 = Fast.allWordsAlpha2 := by
  funext s; rw [allWordsAlpha2, tokens_fast, startsAlpha2_fast]; rfl
theorem capKeywords_fast : capKeywords = Fast.capKeywords := by rw [capKeywords, kw_fast, cls_fast]; rfl
theorem firstAlnumIsLetter_fast : firstAlnumIsLetter = Fast.firstAlnumIsLetter := by
  funext s; rw [firstAlnumIsLetter, cls_fast, isLetter_fast]; rfl
theorem classNameGuard_fast : classNameGuard = Fast.classNameGuard := by
  funext s; rw [classNameGuard, firstAlnumIsLetter_fast, capKeywords_fast, pascal_fast]; rfl

end Bp.Casing

namespace Bp.Naming
open Bp.Casing

theorem pythonizeFieldName_fast : pythonizeFieldName = Fast.safeSnake := by
  funext s; rw [pythonizeFieldName, safeSnake_fast]
theorem pythonizeMethodName_fast : pythonizeMethodName = Fast.safeSnake := by
  funext s; rw [pythonizeMethodName, safeSnake_fast]
theorem pythonizeClassName_fast : pythonizeClassName = Fast.pascal := by funext s; rw [pythonizeClassName, pascal_fast]
theorem pythonizeEnumMemberName_fast : pythonizeEnumMemberName = Fast.pythonizeEnumMemberName := by
  funext n e; rw [pythonizeEnumMemberName, upperW, snake_fast, upperC_fast, sanitize_fast]; rfl

end Bp.Naming
