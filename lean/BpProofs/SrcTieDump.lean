import BpProofs.Gen.SrcDump
import BpProofs.Presence
import BpProofs.Len
import BpProofs.Typed
import BpProofs.ResCalc
/-
  `Bp.Src.dump_field` / `Bp.Src.len_field` (BpProofs/Gen/SrcDump.lean) are regenerated from
  the Python AST of the body of the field loop of `Message.dump` / `Message.__len__` on
  every run.  The theorems below say that, with `enc := dumpVal S` (the recursive encoder
  of the model standing for `bytes(<Message>)`), one iteration as written

    * appends to the stream exactly the bytes of the model's `dumpSlot S f hid sel v`
    * adds to `size` exactly the model's `lenSlot S f hid sel v`

  and raises exactly when the model raises — for every field descriptor `f`, every raw
  slot value `v`, both flags (`hid`: getattr raises AttributeError, `sel`:
  `_include_default_value_for_oneof`), under two explicit guards:

    * `dynOk f v` (decidable): a Message instance sits only where the descriptor says
      "message without wrapper" (singular value, list item, map value), and a non-empty
      dict sits in a map field whose key type is not `message`.  Every typed slot of a
      well-formed schema satisfies it (`dynOk_of_typed`).  Outside the guard the model and
      the source are both in their error paths but name different exceptions / stop at
      different points (see the notes at `dynOk`).
    * `WfSchemaOpt S` (BpProofs/Presence.lean; only used for a PLACEHOLDER slot of a
      message-typed field): optional fields are singular non-map fields, which makes a fresh
      instance compare equal to itself in the model's `eqDefault`.

  The recursion parameter: `dump_field_rel` says the same of EVERY `enc` that agrees with `dumpVal S` on the
  Message instances the iteration hands to it (`AgreeL` on `subs w`, asked only where `needed`: the default test
  does not skip the value); `dump_field_eq` is its instance at `dumpVal S`.  The three notions are declared here,
  in the namespace of their user: the whole-method tie (SrcTieMsg.lean) instantiates `enc` with the translated
  `__bytes__` one nesting level down.
-/
namespace Bp.SrcTieDump
open Bp Bp.Py Gen

section Tie
-- every lemma below whose statement mentions `S` takes it first; a theorem that binds `S` itself is as it reads
variable (S : Schema)

def appR (s : Bytes) (r : R Bytes) : Res Bytes := ofR (r.map fun b => s ++ b)

def addR (n : Int) (r : R Nat) : Res Int := ofR (r.map fun (k : Nat) => n + (k : Int))

@[simp] theorem appR_ok (s b : Bytes) : appR s (.ok b) = .ok (s ++ b) := rfl
@[simp] theorem appR_error (s : Bytes) (e : PyErr) : appR s (.error e) = .raise e := rfl
@[simp] theorem addR_ok (n : Int) (k : Nat) : addR n (.ok k) = .ok (n + (k : Int)) := rfl
@[simp] theorem addR_error (n : Int) (e : PyErr) : addR n (.error e) = .raise e := rfl
@[simp] theorem ofR_ok {α} (a : α) : ofR (Except.ok a : R α) = .ok a := rfl
@[simp] theorem ofR_error {α} (e : PyErr) : ofR (Except.error e : R α) = .raise e := rfl
@[simp] theorem res_bind_ok {α β} (a : α) (f : α → Res β) : (Res.ok a).bind f = f a := rfl
@[simp] theorem res_bind_raise {α β} (e : PyErr) (f : α → Res β) : (Res.raise e : Res α).bind f = .raise e := rfl
/-- `appR` in the form the calculus of ResCalc.lean works on -/
theorem appR_bind (s : Bytes) (r : R Bytes) : appR s r = (ofR r).bind fun b => .ok (s ++ b) := Res.ofR_map r _

/-- `f.ty == message` without wrapper: where a Message instance is a legal value -/
def msgPlace (f : FieldD) : Bool := f.ty == .message && f.wraps.isNone

/-- The guard of the tie.  Outside it both sides are error paths that differ in detail:
    * a Message instance in a field that is not a plain message field: the model encodes the
      instance first and then raises TypeError, `_preprocess_single` raises at once (TypeError /
      AttributeError / struct.error depending on the proto type);
    * a dict in a field that is not a map field: `assert meta.map_types` fails in the source,
      the model frames the entries under the field's own proto type;
    * a Message instance as a map KEY under key type `message` (protoc rejects such a map):
      the source encodes it with `bytes(key)`, the model raises TypeError. -/
def dynOk (f : FieldD) : Val → Bool
  | .msg _ _ _ _ _ => msgPlace f
  | .list xs => xs.all fun x => !isMsgVal x || msgPlace f
  | .dict ks vs => (ks.zip vs).all fun kv =>
      f.ty == .map && (!isMsgVal kv.1 || f.mapK != .message) && (!isMsgVal kv.2 || f.mapV == .message)
  | _ => true

/-- `enc` and `enc'` give the same bytes for every Message instance among `xs` -/
def _root_.Bp.SrcTieMsg.AgreeL (enc enc' : Val → R Bytes) (xs : List Val) : Prop :=
  ∀ x ∈ xs, isMsgVal x = true → enc x = enc' x
open Bp.SrcTieMsg (AgreeL)

theorem _root_.Bp.SrcTieMsg.AgreeL.tail {enc enc' : Val → R Bytes} {x : Val} {xs : List Val} (h : AgreeL enc enc' (x :: xs)) :
    AgreeL enc enc' xs :=
  fun y hy => h y (List.mem_cons_of_mem _ hy)

-- the recursion parameter (what `bytes(<Message>)` is taken to be): a lemma that mentions `enc` takes it second, after `S`
variable (enc : Val → R Bytes)

/-- a map KEY: under the guard `dynOk` puts on it `_preprocess_single` does not call `bytes(key)` -/
theorem serializeSingleR_keyty (num : Nat) (t : PType) (v : Val) (se : Bool)
    (h : (!isMsgVal v || t != .message) = true) :
    serializeSingleR S enc num t v se Option.none = serializeScalar S num t v se Option.none := by
  have : (isMsgVal v && t == .message) = false := by
    cases hv : isMsgVal v with
    | false => rfl
    | true => simpa [hv] using h
  simp [serializeSingleR, preprocessSingleR, serializeScalar, this]

/-- ONE value: under the guard `dynOk` puts on it (a Message instance only where the field holds messages) and for
    every `enc` that is the model's encoder on it, `_serialize_single` is the model's `dumpRec` -/
theorem serializeSingleR_rec (num : Nat) (t : PType) (v : Val) (se : Bool) (w : Option PType)
    (hg : (!isMsgVal v || (t == .message && w.isNone)) = true) (ha : isMsgVal v = true → enc v = dumpVal S v) :
    serializeSingleR S enc num t v se w = dumpRec S num t w se v := by
  cases v with
  | msg c sl ow unk cur =>
    obtain ⟨rfl, rfl⟩ : t = .message ∧ w = Option.none := by simpa [isMsgVal] using hg
    rw [dumpRec_msg S num _ se c sl ow unk cur rfl, ← ha rfl]; rfl
  | _ => rfl

theorem lenSingleR_eq (num : Nat) (t : PType) (v : Val) (se : Bool) (w : Option PType) :
    lenSingleR S enc num t v se w = Except.map List.length (serializeSingleR S enc num t v se w) := by
  unfold lenSingleR serializeSingleR lenPreprocessedSingleR preprocessSingleR
  split
  · cases enc v <;> simp [lenFrame_eq]
  · rw [sizeScalar_eq]
    cases prepScalar S t w v <;> simp [lenFrame_eq]

theorem wrapsOr_noWraps (w : Option PType) : wrapsOr w noWraps = w := by cases w <;> rfl


/-- `_serialize_single(number, proto_type, <bytes>, serialize_empty=True)` for the entry of a map field -/
theorem serializeSingleR_entry (num : Nat) (b : Bytes) :
    serializeSingleR S enc num PType.map (bytesVal b) true noWraps = frame num PType.map b true false := rfl

/-- `_serialize_single(number, TYPE_BYTES, buf)` for a packed list -/
theorem serializeSingleR_packed (num : Nat) (b : Bytes) :
    serializeSingleR S enc num PType.bytes (bytesVal b) false noWraps = frame num PType.bytes b false false := rfl

theorem preprocess_packed (f : FieldD) (hp : isPacked f.ty = true) (x : Val) :
    preprocessSingle S enc (metaProtoType f) noWraps x = ofR (prepScalar S f.ty Option.none x) := by
  simp [preprocessSingle, preprocessSingleR, metaProtoType, noWraps, Bp.packed_ne_message hp]

/-- `for item in value: buf += _preprocess_single(meta.proto_type, "", item)` is `prepPacked` -/
theorem dump_loop1 (f : FieldD) (hp : isPacked f.ty = true) :
    ∀ (xs : List Val) (buf : Bytes), Src.dump_field.loop1 S enc f xs buf = appR buf (prepPacked S f.ty xs)
  | [], buf => by rw [Src.dump_field.loop1, prepPacked]; simp
  | x :: xs, buf => by
    rw [Src.dump_field.loop1, prepPacked, preprocess_packed S enc f hp]
    simp only [dump_loop1 f hp xs, appR_bind, Res.ofR_bind, Res.ofR_ok, Res.bind_assoc, Res.ok_bind, List.append_assoc]

theorem dump_loop2 (f : FieldD) :
    ∀ (xs : List Val) (stream : Bytes), (xs.all fun x => !isMsgVal x || msgPlace f) = true → AgreeL enc (dumpVal S) xs →
      Src.dump_field.loop2 S enc f xs stream = appR stream (dumpItems S f xs)
  | [], stream, _, _ => by rw [Src.dump_field.loop2, dumpItems_nil]; simp
  | x :: xs, stream, h, ha => by
    simp only [List.all_cons, Bool.and_eq_true] at h
    rw [Src.dump_field.loop2, dumpItems_cons']
    simp only [wrapsOr_noWraps, serializeSingle, metaNumber, metaProtoType, metaWraps, bytesOr,
      serializeSingleR_rec S enc _ _ x _ _ h.1 (ha x List.mem_cons_self),
      fun s => dump_loop2 f xs s h.2 ha.tail,
      appR_bind, Res.ofR_bind, Res.ofR_ok, Res.bind_assoc, Res.ok_bind, List.append_assoc]

theorem dump_loop3 (f : FieldD) :
    ∀ (ks vs : List Val) (stream : Bytes), dynOk f (.dict ks vs) = true → AgreeL enc (dumpVal S) ((ks.zip vs).map Prod.snd) →
      Src.dump_field.loop3 S enc f (ks.zip vs) stream = appR stream (dumpEntries S f ks vs)
  | [], vs, stream, _, _ => by rw [List.zip_nil_left, Src.dump_field.loop3, dumpEntries_nil_left]; simp
  | k :: ks, [], stream, _, _ => by rw [List.zip_nil_right, Src.dump_field.loop3, dumpEntries_nil_right]; simp
  | k :: ks, v :: vs, stream, h, hav => by
    simp only [dynOk, List.zip_cons_cons, List.all_cons, Bool.and_eq_true] at h
    obtain ⟨⟨⟨hm, hk⟩, hv⟩, hrest⟩ := h
    have hm' : f.ty = PType.map := by simpa using hm
    have ih := fun s => dump_loop3 f ks vs s (by simpa [dynOk] using hrest) hav.tail
    rw [List.zip_cons_cons, Src.dump_field.loop3, dumpEntries_cons', if_pos hm]
    simp only [serializeSingle, metaMapKey, metaMapValue, metaNumber, metaProtoType, hm', serializeSingleR_entry,
      serializeSingleR_keyty S enc _ _ k _ hk,
      serializeSingleR_rec S enc 2 f.mapV v false noWraps (by simpa [noWraps] using hv) (hav v List.mem_cons_self),
      ih, appR_bind, Res.ofR_bind, Res.ofR_ok, Res.bind_assoc, Res.ok_bind, List.append_assoc]

/-- the values the loop body may hand to `enc`: the attribute value itself, the items of a list, the values of a dict
    (not its keys: under `dynOk` a Message instance is a key only where `_preprocess_single` does not call `bytes(key)`) -/
def _root_.Bp.SrcTieMsg.subs (v : Val) : List Val :=
  v :: (listItems v ++ (dictItems v).map Prod.snd)

/-- the loop body gets past the default test for a Message instance (`value == default and not
    (selected_in_group or serialize_empty or include_default_value_for_oneof)` is false); for any
    other value `enc` is only reached through the items, which are covered anyway -/
def _root_.Bp.SrcTieMsg.needed (f : FieldD) (incl : Bool) (v : Val) : Bool :=
  !(isMsgVal v && eqDefault S f.defKind v && !(f.group.isSome || f.optional || onWireOf v || incl))
open Bp.SrcTieMsg (subs needed)

/-- a default test that both sides make -/
theorem appR_guard (c : Prop) [Decidable c] (stream : Bytes) (x : Res Bytes) (r : R Bytes) (h : ¬ c → x = appR stream r) :
    (if c then .ok stream else x) = appR stream (if c then .ok [] else r) := by
  split
  · simp
  · exact h ‹_›

/-- `serialize_empty = value._serialized_on_wire` under `isinstance(value, Message)`, else False -/
theorem onWire_eq (v : Val) :
    (if isMessage v = true then (serializedOnWire v).bind fun t => Res.ok t else Res.ok false) = .ok (onWireOf v) := by
  cases v <;> rfl

theorem seOf_eq (sel : Bool) (v : Val) :
    (if (isStr v && eqEmptyStr v && sel) = true then true else onWireOf v) = seOf sel v := by
  cases v with
  | str s => cases s <;> cases sel <;> rfl
  | _ => rfl

/-- one iteration on an attribute VALUE (anything `getattr` can return: never PLACEHOLDER), for EVERY recursion
    parameter `enc` that is the model's encoder on the Message instances the body can reach -/
theorem dump_field_value (f : FieldD) (sel : Bool) (v : Val) (stream : Bytes)
    (hph : v ≠ .ph) (hok : dynOk f v = true) (hag : needed S f sel v = true → AgreeL enc (dumpVal S) (subs v)) :
    Src.dump_field S enc f (.value v) sel stream = appR stream (dumpSlot S f false sel v) := by
  -- what does not depend on the kind of value first: the body is unfolded once, its `serialize_empty` is `seOf`
  simp only [Src.dump_field, onWire_eq, seOf_eq, eqFieldDefault, truthyGroup, metaGroup, metaOptional, metaNumber,
    metaProtoType, metaWraps, wrapsOr_noWraps, res_bind_ok]
  by_cases h : isOneVal v = true
  · -- a Message instance or a scalar: `hok` is the guard on one value, and past the default test `needed` holds
    obtain ⟨h1, h2, h3, hg⟩ : isNone v = false ∧ isList v = false ∧ isDict v = false ∧ (!isMsgVal v || msgPlace f) = true := by
      cases v <;> first | exact ⟨rfl, rfl, rfl, hok⟩ | cases h
    rw [dumpSlot_one S f false sel v h]
    simp only [h1, h2, h3, Bool.false_eq_true, if_false]
    refine appR_guard _ _ _ _ fun hskip => ?_
    rw [serializeSingle, serializeSingleR_rec S enc _ _ v _ _ hg fun hm => hag (by
      rw [needed, hm, Bool.true_and, Bool.not_eq_true', ← Bool.not_eq_true]; exact hskip) _ List.mem_cons_self hm, appR_bind]
  cases v with
  | ph => exact absurd rfl hph
  | none => simp [isNone, dumpSlot]
  | list xs =>
    have ha : AgreeL enc (dumpVal S) xs := fun x hx => hag rfl x (List.mem_cons_of_mem _ (List.mem_append_left _ hx))
    rw [dumpSlot]
    simp only [isNone, isList, listItems, onWireOf, Bool.or_false, Bool.false_eq_true, if_false, if_true]
    refine appR_guard _ _ _ _ fun _ => ?_
    by_cases hp : isPacked f.ty = true
    · rw [if_pos hp, if_pos (show packedTypes.contains f.ty = true from hp), dump_loop1 S _ f hp]
      simp only [serializeSingle, serializeSingleR_packed, appR_bind, Res.ofR_bind, Res.bind_assoc, Res.ok_bind, List.nil_append]
    · rw [if_neg hp, if_neg (show ¬ packedTypes.contains f.ty = true from hp), dump_loop2 S enc f xs stream hok ha]
      exact Res.bind_ok _
  | dict ks vs =>
    have hav : AgreeL enc (dumpVal S) ((ks.zip vs).map Prod.snd) := fun x hx => hag rfl x (List.mem_cons_of_mem _ hx)
    rw [dumpSlot]
    simp only [isNone, isList, isDict, dictItems, onWireOf, Bool.or_false, Bool.false_eq_true, if_false, if_true]
    refine appR_guard _ _ _ _ fun _ => ?_
    rw [dump_loop3 S enc f ks vs stream hok hav]
    exact Res.bind_ok _
  | _ => exact absurd rfl h

/-- a message default belongs to a plain message field: `wraps` would make the default None -/
theorem msgPlace_of_defKind (f : FieldD) (c : Nat) (h : f.defKind = .msg c) : msgPlace f = true := by
  obtain ⟨ht, _, hw, _⟩ := defKind_eq_msg f c h
  simp [msgPlace, ht, hw]

theorem dynOk_default (f : FieldD) : dynOk f (defaultOf S f) = true := by
  unfold defaultOf
  cases hk : f.defKind with
  | msg c => exact msgPlace_of_defKind f c hk
  | _ => rfl

theorem getattr_set (f : FieldD) (v : Val) (hph : v ≠ .ph) : getattrField S f false v = .value v := by
  cases v with
  | ph => exact absurd rfl hph
  | _ => rfl

/-- one pass of the field loop, for every recursion parameter that is the model's encoder wherever the pass reaches it -/
theorem dump_field_rel (hS : WfSchemaOpt S) (f : FieldD) (hid sel : Bool) (v : Val) (stream : Bytes)
    (hok : dynOk f v = true)
    (hag : ∀ w, getattrField S f hid v = .value w → needed S f sel w = true → AgreeL enc (dumpVal S) (subs w)) :
    Src.dump_field S enc f (getattrField S f hid v) sel stream = appR stream (dumpSlot S f hid sel v) := by
  cases hid with
  | true => rw [hidden_empty]; simp [getattrField, Src.dump_field]
  | false =>
    by_cases hph : v = .ph
    · subst hph
      have hg : getattrField S f false .ph = .value (defaultOf S f) := rfl
      rw [hg, dump_field_value S enc f sel _ stream (defaultOf_ne_ph S f) (dynOk_default S f) (hag _ hg),
        dumpSlot_default S hS f sel]
      rw [dumpSlot]; simp
    · have hg := getattr_set S f v hph
      rw [hg]
      exact dump_field_value S enc f sel v stream hph hok (hag v hg)

theorem dump_field_eq (hS : WfSchemaOpt S) (f : FieldD) (hid sel : Bool) (v : Val) (stream : Bytes)
    (hok : dynOk f v = true) :
    Src.dump_field S (dumpVal S) f (getattrField S f hid v) sel stream = appR stream (dumpSlot S f hid sel v) :=
  dump_field_rel S (dumpVal S) hS f hid sel v stream hok fun _ _ _ _ _ _ => rfl

/- The loop body of `__len__` is a copy of the loop body of `dump` in which every
  `stream.write(x)` has become `size += len(x)`.  That is a fact about the two translated
  functions alone (any `enc`, any outcome of `getattr`, no guard), and it is stated in the form
  that goes through the loops: started with the length of the stream on top of `size`, the
  counting copy ends with the length of the final stream on top of `size`. -/

def lenOf (r : R Bytes) : R Nat := Except.map List.length r
@[simp] theorem lenOf_ok (b : Bytes) : lenOf (.ok b) = .ok b.length := rfl
@[simp] theorem lenOf_error (e : PyErr) : lenOf (.error e) = .error e := rfl

theorem lenSingle_eq (num : Nat) (t : PType) (v : Val) (se : Bool) (w : Option PType) :
    lenSingle S enc num t v se w = (serializeSingle S enc num t v se w).bind fun b => .ok (b.length : Int) := by
  unfold lenSingle serializeSingle
  rw [lenSingleR_eq]
  cases serializeSingleR S enc num t v se w <;> rfl

theorem len_loop1_eq (f : FieldD) :
    ∀ (xs : List Val) (buf : Bytes), Src.len_field.loop1 S enc f xs buf = Src.dump_field.loop1 S enc f xs buf
  | [], buf => by rw [Src.len_field.loop1, Src.dump_field.loop1]
  | x :: xs, buf => by simp only [Src.len_field.loop1, Src.dump_field.loop1, len_loop1_eq f xs]

/-- `_len_single(…) or 2` counts `_serialize_single(…) or b"\n\x00"` -/
theorem intOr_length (a : Bytes) : intOr (a.length : Int) 2 = ((bytesOr a [10, 0]).length : Int) := by
  cases a with
  | nil => rfl
  | cons a0 as =>
    have : ¬ (((a0 :: as).length : Nat) : Int) = 0 := by simp only [List.length_cons]; omega
    simp only [intOr, bytesOr, this, if_false, List.isEmpty_cons, Bool.false_eq_true]

theorem len_loop2_counts (f : FieldD) :
    ∀ (xs : List Val) (size : Int) (s : Bytes), Src.len_field.loop2 S enc f xs (size + s.length) =
      (Src.dump_field.loop2 S enc f xs s).bind fun out => .ok (size + (out.length : Int))
  | [], size, s => by rw [Src.len_field.loop2, Src.dump_field.loop2]; rfl
  | x :: xs, size, s => by
    rw [Src.len_field.loop2, Src.dump_field.loop2]
    simp only [lenSingle_eq, Res.bind_assoc, Res.ok_bind, ← len_loop2_counts f xs size, List.length_append, intOr_length,
      Nat.cast_add, Int.add_assoc]

theorem len_loop3_counts (f : FieldD) :
    ∀ (kvs : List (Val × Val)) (size : Int) (s : Bytes), Src.len_field.loop3 S enc f kvs (size + s.length) =
      (Src.dump_field.loop3 S enc f kvs s).bind fun out => .ok (size + (out.length : Int))
  | [], size, s => by rw [Src.len_field.loop3, Src.dump_field.loop3]; rfl
  | (k, v) :: kvs, size, s => by
    rw [Src.len_field.loop3, Src.dump_field.loop3, Res.ite_bind]
    refine ite_congr rfl (fun _ => ?_) fun _ => rfl
    simp only [lenSingle_eq, Res.bind_assoc, Res.ok_bind, ← len_loop3_counts f kvs size, List.length_append,
      Nat.cast_add, Int.add_assoc]

theorem len_field_counts (f : FieldD) (got : Got) (sel : Bool) (size : Int) (s : Bytes) :
    Src.len_field S enc f got sel (size + s.length) =
      (Src.dump_field S enc f got sel s).bind fun out => .ok (size + (out.length : Int)) := by
  cases got with
  | attrError => rfl
  | value v =>
    -- `size += _len_single(…)` against `stream.write(_serialize_single(…))`, and the same tests in both copies:
    -- compare branch by branch
    simp only [Src.len_field, Src.dump_field]
    rw [Res.ite_bind (isNone v = true), Res.bind_assoc]
    refine ite_congr rfl (fun _ => rfl) fun _ => Res.bind_congr fun ow _ => ?_
    simp only [Res.ite_bind, Res.bind_assoc, Res.ok_bind, Res.bind_ok, lenSingle_eq, len_loop1_eq, List.length_append,
      Nat.cast_add, Int.add_assoc]
    exact ite_congr rfl (fun _ => rfl) fun _ => ite_congr rfl
      (fun _ => ite_congr rfl (fun _ => rfl) fun _ => len_loop2_counts S enc f _ size s)
      (fun _ => ite_congr rfl (fun _ => len_loop3_counts S enc f _ size s) fun _ => rfl)

theorem len_field_dump (hS : WfSchemaOpt S) (f : FieldD) (hid sel : Bool) (v : Val) (size : Int)
    (hok : dynOk f v = true) :
    Src.len_field S (dumpVal S) f (getattrField S f hid v) sel size = addR size (lenOf (dumpSlot S f hid sel v)) := by
  have h := len_field_counts S (dumpVal S) f (getattrField S f hid v) sel size []
  rw [dump_field_eq S hS f hid sel v [] hok, List.length_nil, Nat.cast_zero, Int.add_zero] at h
  rw [h]
  cases dumpSlot S f hid sel v <;> rfl

theorem len_field_eq (hS : WfSchemaOpt S) (f : FieldD) (hid sel : Bool) (v : Val) (size : Int)
    (hok : dynOk f v = true) :
    Src.len_field S (dumpVal S) f (getattrField S f hid v) sel size = addR size (lenSlot S f hid sel v) := by
  rw [len_field_dump S hS f hid sel v size hok, lenSlot_eq]; rfl

/-- **the two copies agree, stated of the two translated functions**: whenever the iteration of
    `Message.dump` as written succeeds, the iteration of `Message.__len__` as written adds exactly
    the number of bytes it appended; when it raises, `__len__` raises the same exception -/
theorem len_field_agrees (S : Schema) (hS : WfSchemaOpt S) (f : FieldD) (hid sel : Bool) (v : Val)
    (stream : Bytes) (size : Int) (hok : dynOk f v = true) :
    Src.len_field S (dumpVal S) f (getattrField S f hid v) sel size =
      (Src.dump_field S (dumpVal S) f (getattrField S f hid v) sel stream).bind fun out =>
        .ok (size + ((out.length - stream.length : Nat) : Int)) := by
  rw [len_field_dump S hS f hid sel v size hok, dump_field_eq S hS f hid sel v stream hok]
  cases dumpSlot S f hid sel v with
  | error e => rfl
  | ok b =>
    simp only [lenOf_ok, addR_ok, appR_ok, res_bind_ok, List.length_append]
    congr 2; omega

theorem item_guard (s : Bool) (S : Schema) (f : FieldD) (p : Bool) (hp : ∀ c, msgFieldB f c = true → p = true)
    (xs : List Val) (h : itemsTypedB s S f xs = true) (x : Val) (hx : x ∈ xs) : (!isMsgVal x || p) = true := by
  have h1 := (items_iff s S f xs).mp h x hx
  cases x with
  | msg c sl ow unk cur =>
    simp only [itemsTypedB, Bool.and_eq_true] at h1
    simp [isMsgVal, hp c h1.1.1]
  | _ => rfl

/-- `slotTypedB` (the typing judgement of C17, either strictness) and `wfFieldB` (the schema
    well-formedness of C17) imply the guard of the tie -/
theorem dynOk_of_typed (s : Bool) (S : Schema) (n : Nat) (f : FieldD) (v : Val)
    (hw : wfFieldB n f = true) (ht : slotTypedB s S f v = true) : dynOk f v = true := by
  cases v with
  | msg c sl ow unk cur =>
    rw [slotTypedB] at ht
    simp only [Bool.and_eq_true, msgFieldB] at ht
    simp only [dynOk, msgPlace, Bool.and_eq_true]
    exact ⟨ht.1.2.1.1, ht.1.2.2⟩
  | list xs =>
    rw [slotTypedB, Bool.and_eq_true] at ht
    refine List.all_eq_true.mpr (item_guard s S f _ (fun c hc => ?_) xs ht.2)
    simp only [msgFieldB, Bool.and_eq_true] at hc
    simp [msgPlace, hc.1.1, hc.2]
  | dict ks vs =>
    rw [slotTypedB] at ht
    simp only [Bool.and_eq_true] at ht
    obtain ⟨⟨⟨⟨hm, _⟩, _⟩, _⟩, hvs⟩ := ht
    have hk : (f.mapK != PType.message) = true :=
      bne_iff_ne.mpr (isScalarTy_iff.mp (wfField_map hw (by simpa using hm)).1).1
    refine List.all_eq_true.mpr fun kv hkv => ?_
    have := item_guard s S (valFieldOf f) (f.mapV == PType.message) (fun c hc => by
      simp only [msgFieldB, valFieldOf, Bool.and_eq_true] at hc
      exact hc.1.1) vs hvs kv.2 (List.of_mem_zip hkv).2
    simp [hm, hk, this]
  | _ => rfl

theorem dump_field_eq_set (f : FieldD) (sel : Bool) (v : Val) (stream : Bytes)
    (hph : v ≠ .ph) (hok : dynOk f v = true) :
    Src.dump_field S (dumpVal S) f (getattrField S f false v) sel stream = appR stream (dumpSlot S f false sel v) := by
  rw [getattr_set S f v hph]; exact dump_field_value S _ f sel v stream hph hok fun _ _ _ _ => rfl

theorem plain_facts (v : Val) (hp : isPlainVal v = true) :
    isNone v = false ∧ isMsgVal v = false ∧ isList v = false ∧ isDict v = false := by
  cases v <;> simp_all [isPlainVal, isNone, isMsgVal, isList, isDict]

theorem emptyStr_eq (v : Val) (sel : Bool) :
    (isStr v && eqEmptyStr v && sel) = (match v with | .str [] => sel | _ => false) := by
  cases v with
  | str s => cases s <;> rfl
  | _ => rfl

theorem plain_ne_ph (v : Val) (hp : isPlainVal v = true) : v ≠ .ph := by
  intro h; subst h; simp [isPlainVal] at hp

theorem dynOk_plain (f : FieldD) (v : Val) (hp : isPlainVal v = true) : dynOk f v = true := by
  cases v with
  | ph | none | list _ | dict _ _ | msg _ _ _ _ _ => simp [isPlainVal] at hp
  | _ => rfl

/- the guard is not vacuous: outside it the model and the source as written part ways
   (the REAL code does what the translated source says: AssertionError) -/

def fInt : FieldD := { name := "a", num := 1, ty := .int32 }
example : dynOk fInt (.dict [.int 1] [.int 2]) = false := by decide +kernel
example : Src.dump_field [] (dumpVal []) fInt (.value (.dict [.int 1] [.int 2])) false [] = .raise .assertion := by
  decide +kernel
example : dumpSlot [] fInt false false (.dict [.int 1] [.int 2]) = .ok [8, 8, 1, 16, 2] := by decide +kernel

end Tie

end Bp.SrcTieDump
