import BpModel.All
import BpProofs.Len
/-
  C06 / C14: what a slot contributes to the encoding — an unset slot nothing, a plain value what
  `serializeScalar` writes unless it is a skipped default, and a PLACEHOLDER the same as the default
  `getattr` would materialise in its place.  Then what every later walk over values shares: one induction
  over a value and the lists in it (`val_induction`), `frame` in one normal form (`framed`), the encoder on
  one value (`dumpRec`, `ItemKind`), and the totality of a slot given that of its items.
-/
namespace Bp
open Gen

theorem dumpSlots_nil_of (S : Schema) (fs : List FieldD) (cur : List (Option Nat)) (idx : Nat) (vs : List Val)
    (h : ∀ k v f, vs[k]? = some v → fs[idx + k]? = some f →
      dumpSlot S f (hidden f (idx + k) cur) (selectedInGroup f (idx + k) cur) v = .ok []) :
    dumpSlots S fs cur idx vs = .ok [] := by
  induction vs generalizing idx with
  | nil => rw [dumpSlots]
  | cons v vs ih =>
    rw [dumpSlots]
    cases hf : fs[idx]? with
    | none => rfl
    | some f =>
      simp only []
      rw [show dumpSlot S f (hidden f idx cur) (selectedInGroup f idx cur) v = .ok [] from h 0 v f rfl hf,
        bind_ok, ih (idx + 1) fun k v' f' hv hf' => by
          rw [Nat.add_right_comm] at hf' ⊢
          exact h (k + 1) v' f' hv hf']
      rfl

/-- an unset slot (None for an optional field, else PLACEHOLDER) contributes nothing, unless
    it is the readable, hence selected, member of a oneof group -/
theorem dumpSlot_freshVal (S : Schema) (f : FieldD) (hid sel : Bool)
    (h : hid = true ∨ (f.group = Option.none ∧ sel = false)) :
    dumpSlot S f hid sel (if f.optional then Val.none else Val.ph) = .ok [] := by
  rw [dumpSlot.eq_def]
  cases ho : f.optional with
  | true => rfl
  | false =>
    rcases h with rfl | ⟨hg, rfl⟩
    · rfl
    · cases hid with
      | true => rfl
      | false =>
        unfold dumpDefault
        simp only [hg, ho, Option.isSome_none, Bool.or_self, Bool.false_eq_true, if_false]
        cases f.defKind <;> rfl

/-- the slots of a freshly constructed message contribute nothing: without a selection every
    oneof member is hidden -/
theorem dumpSlots_fresh (S : Schema) (c : Nat) :
    dumpSlots S (fieldsOf S c) (List.replicate (groupsOf S c) Option.none) 0
      ((fieldsOf S c).map fun f => if f.optional then Val.none else Val.ph) = .ok [] := by
  apply dumpSlots_nil_of
  intro k v f hv hf
  rw [Nat.zero_add] at hf ⊢
  rw [List.getElem?_map, hf] at hv
  cases hv
  apply dumpSlot_freshVal
  cases hg : f.group with
  | some g => left; rw [hidden_replicate, hg]; rfl
  | none => right; exact ⟨rfl, selected_nogroup _ _ _ hg⟩

/-- **a freshly constructed message encodes to zero bytes** -/
theorem dump_fresh (S : Schema) (c : Nat) : dumpVal S (fresh S c) = .ok [] := by
  unfold fresh
  rw [dumpVal_msg, dumpSlots_fresh]
  rfl

def isPlainVal : Val → Bool
  | .ph | .none | .list _ | .dict _ _ | .msg _ _ _ _ _ => false
  | _ => true

theorem dumpSlot_plain (S : Schema) (f : FieldD) (hid sel : Bool) (v : Val) (h : isPlainVal v = true) :
    dumpSlot S f hid sel v =
      if hid then .ok []
      else if eqDefault S f.defKind v && !((f.group.isSome || f.optional) || sel) then .ok []
      else serializeScalar S f.num f.ty v ((match v with | .str [] => sel | _ => false) || (f.group.isSome || f.optional)) f.wraps := by
  rw [dumpSlot.eq_def]
  cases v
  case ph => cases h
  case none => cases h
  case list => cases h
  case dict => cases h
  case msg => cases h
  case str s => cases s <;> rfl
  all_goals rfl

theorem eqDefault_plain_false (S : Schema) (k : DefKind) (v : Val) (hp : isPlainVal v = true)
    (hk : k = .list ∨ k = .dict ∨ k = .none) : eqDefault S k v = false := by
  rw [eqDefault.eq_def]
  cases v
  case ph => cases hp
  case none => cases hp
  case list => cases hp
  case dict => cases hp
  case msg => cases hp
  all_goals rcases hk with rfl | rfl | rfl <;> rfl

theorem dumpItems_nil (S : Schema) (f : FieldD) : dumpItems S f [] = .ok [] := rfl

theorem dumpEntries_nil_left (S : Schema) (f : FieldD) (vs : List Val) : dumpEntries S f [] vs = .ok [] := by
  cases vs <;> rfl

theorem dumpEntries_nil_right (S : Schema) (f : FieldD) (ks : List Val) : dumpEntries S f ks [] = .ok [] := by
  cases ks <;> rfl

theorem hidden_empty (S : Schema) (f : FieldD) (sel : Bool) (v : Val) : dumpSlot S f true sel v = .ok [] := by
  rw [dumpSlot.eq_def]
  cases v <;> rfl

theorem slotsEqFresh_nil_left (S : Schema) (vs : List Val) : slotsEqFresh S [] vs = true := by
  cases vs <;> rfl

theorem slotsEqFresh_nil_right (S : Schema) (fs : List FieldD) : slotsEqFresh S fs [] = true := by
  cases fs <;> rfl

/-- optional fields are singular non-map fields (what protoc guarantees for proto3 optional) -/
def WfOptional (fs : List FieldD) : Prop := ∀ f ∈ fs, f.optional = true → f.repeated = false ∧ f.ty ≠ .map

def WfSchemaOpt (S : Schema) : Prop := ∀ c, WfOptional (fieldsOf S c)

theorem slotsEqFresh_fresh (S : Schema) (fs : List FieldD) (hw : WfOptional fs) :
    slotsEqFresh S fs (fs.map fun f => if f.optional then Val.none else Val.ph) = true := by
  induction fs with
  | nil => exact slotsEqFresh_nil_left S []
  | cons f fs ih =>
    have hw' : WfOptional fs := fun x hx => hw x (by simp [hx])
    rw [List.map_cons]
    by_cases ho : f.optional = true
    · have := hw f (by simp) ho
      have hk : f.defKind = .none := defKind_none_of f this.1 this.2 (.inl ho)
      rw [if_pos ho, slotsEqFresh.eq_def]
      simp [ih hw', hk, eqDefault]
    · rw [if_neg ho, slotsEqFresh.eq_def]
      simp [ih hw']

theorem eqDefault_fresh (S : Schema) (c : Nat) (hw : WfSchemaOpt S) : eqDefault S (.msg c) (fresh S c) = true := by
  unfold fresh
  rw [eqDefault]
  simp [slotsEqFresh_fresh S _ (hw c)]

theorem eqDefault_default (S : Schema) (hw : WfSchemaOpt S) (f : FieldD) : eqDefault S f.defKind (defaultOf S f) = true := by
  unfold defaultOf
  cases hk : f.defKind with
  | msg c => exact eqDefault_fresh S c hw
  | _ => rfl

/-- **lazily materialising a default is invisible to the encoder**: a PLACEHOLDER slot and
    the default value `getattr` would store in it encode the same -/
theorem dumpSlot_default (S : Schema) (hwS : WfSchemaOpt S) (f : FieldD) (sel : Bool) :
    dumpSlot S f false sel (defaultOf S f) = dumpDefault S f sel := by
  unfold defaultOf dumpDefault
  rw [dumpSlot.eq_def]
  have he := eqDefault_defaultOfKind S f.defKind
  generalize hk : f.defKind = k at he
  cases k with
  | none => rfl
  | msg c =>
    have hf := eqDefault_fresh S c hwS
    unfold fresh at hf
    simp only [defaultOfKind, fresh, hf, dumpSlots_fresh, bind_ok, (defKind_eq_msg f c hk).2.2.1, Bool.true_and,
      Bool.false_eq_true, if_false, Bool.or_false, Bool.false_or, Option.isNone_none, Option.isSome_none,
      Bool.and_true, List.append_nil]
  | list =>
    have h1 : dumpItems S f [] = .ok [] := by rw [dumpItems]
    simp only [defaultOfKind] at he ⊢
    simp only [he nofun, Bool.true_and, Bool.false_eq_true, if_false, h1]
    rfl
  | dict =>
    simp only [defaultOfKind] at he ⊢
    simp only [he nofun, Bool.true_and, Bool.false_eq_true, if_false, dumpEntries_nil_left]
  | _ =>
    simp only [defaultOfKind] at he ⊢
    simp only [he nofun, Bool.true_and, Bool.false_eq_true, if_false, Bool.false_or]

/-- neither a list, a dict nor a message: a value that holds no value -/
def isAtom : Val → Bool
  | .list _ | .dict _ _ | .msg _ _ _ _ _ => false
  | _ => true

theorem isAtom_nonmsg (v : Val) (h : isAtom v = true) : isMsgVal v = false := by
  cases v with
  | msg => cases h
  | _ => rfl

theorem scalarOk_atom (t : PType) (v : Val) (h : scalarOk t v = true) : isAtom v = true := by
  cases v with
  | list | dict | msg => cases h
  | _ => rfl

/-- Induction over a value and the lists of values inside it, the ten constructors that hold no value taken
    together.  A walk over a Boolean domain (a function by cases on the value) is ONE statement whose `P` collects
    what is said of a value and `Q` what is said of a list; stated as a mutual block instead, each member is
    compiled as a recursion of its own, and a member that calls another on the SAME value is not structural. -/
theorem val_induction {P : Val → Prop} {Q : List Val → Prop}
    (atom : ∀ v, isAtom v = true → P v)
    (list : ∀ xs, Q xs → P (.list xs))
    (dict : ∀ ks vs, Q ks → Q vs → P (.dict ks vs))
    (msg : ∀ c sl ow unk cur, Q sl → P (.msg c sl ow unk cur))
    (nil : Q [])
    (cons : ∀ x xs, P x → Q xs → Q (x :: xs)) : (∀ v, P v) ∧ ∀ xs, Q xs := by
  have hP : ∀ v, P v :=
    @Val.rec P Q (atom _ rfl) (atom _ rfl) (fun _ => atom _ rfl) (fun _ => atom _ rfl) (fun _ => atom _ rfl)
      (fun _ => atom _ rfl) (fun _ => atom _ rfl) (fun _ => atom _ rfl) (fun _ => atom _ rfl) (fun _ => atom _ rfl)
      list dict msg nil cons
  refine ⟨hP, fun xs => ?_⟩
  induction xs with
  | nil => exact nil
  | cons x xs ih => exact cons x xs (hP x) ih

/-- `val_induction` for a statement about values only: a list is handed over item by item -/
theorem val_induction_mem {P : Val → Prop}
    (atom : ∀ v, isAtom v = true → P v)
    (list : ∀ xs, (∀ x ∈ xs, P x) → P (.list xs))
    (dict : ∀ ks vs, (∀ x ∈ ks, P x) → (∀ x ∈ vs, P x) → P (.dict ks vs))
    (msg : ∀ c sl ow unk cur, (∀ x ∈ sl, P x) → P (.msg c sl ow unk cur)) : ∀ v, P v :=
  (val_induction (Q := fun xs => ∀ x ∈ xs, P x) atom list dict msg (fun _ h => nomatch h)
    fun _ _ hx hxs => List.forall_mem_cons.mpr ⟨hx, hxs⟩).1

/-! The framing half of `_serialize_single`. -/

/-- the record of a payload: the tag, then (LEN) the length, then the payload -/
def rawRec (num wt : Nat) (pre : Bytes) : Bytes :=
  encNat (num * 8 + wt) ++ if wt = wireLenDelim then encNat pre.length ++ pre else pre

/-- what `frame` writes: that record, except that an empty LEN payload is dropped unless forced -/
def framed (num wt : Nat) (pre : Bytes) (force : Bool) : Bytes :=
  if wt = wireLenDelim ∧ pre = [] ∧ force = false then [] else rawRec num wt pre

/-- `frame` never fails, and what it writes depends on the type only through its wire type -/
theorem frame_of {t : PType} {wt : Nat} (h : wireOf t = some wt) (num : Nat) (pre : Bytes) (se w : Bool) :
    frame num t pre se w = .ok (framed num wt pre (se || w)) := by
  obtain ⟨wt', r, hw⟩ := wire_row t
  obtain rfl : wt' = wt := Option.some.inj (r.wireOf.symm.trans h)
  -- `frame` consults the four tables in the order varint, fixed32, fixed64, LEN
  unfold frame
  rw [r.varint, r.fixed32, r.fixed64, r.len]
  rcases hw with rfl | rfl | rfl | rfl <;>
    simp only [wireVarint, wireFixed32, wireFixed64, wireLenDelim, Nat.reduceEqDiff, decide_true, decide_false, if_true,
      Bool.false_eq_true, if_false, dumpVarint_nat, bind_ok, framed, rawRec, false_and, true_and, Nat.add_zero]
  cases pre <;> cases se <;> cases w <;> simp

theorem frame_eq (num : Nat) (t : PType) (pre : Bytes) (se w : Bool) :
    ∃ wt, wireOf t = some wt ∧ frame num t pre se w = .ok (framed num wt pre (se || w)) :=
  let ⟨_, r, _⟩ := wire_row t; ⟨_, r.wireOf, frame_of r.wireOf num pre se w⟩

theorem rawRec_ne_nil (num wt : Nat) (pre : Bytes) : rawRec num wt pre ≠ [] :=
  List.append_ne_nil_of_left_ne_nil (encNat_ne_nil _) _

theorem framed_eq_nil {num wt : Nat} {pre : Bytes} {force : Bool} :
    framed num wt pre force = [] ↔ wt = wireLenDelim ∧ pre = [] ∧ force = false := by
  unfold framed
  split
  · exact iff_of_true rfl ‹_›
  · exact iff_of_false (rawRec_ne_nil num wt pre) ‹_›

/-- a record that is written is the same under every flag -/
theorem framed_of_ne_nil {num wt : Nat} {pre : Bytes} {force : Bool} (h : framed num wt pre force ≠ []) :
    framed num wt pre force = rawRec num wt pre :=
  if_neg (mt framed_eq_nil.mpr h)

theorem wireOf_len (t : PType) (h : wireOf t = some wireLenDelim) :
    t = .string ∨ t = .bytes ∨ t = .message ∨ t = .map := by
  obtain ⟨w, r, _⟩ := wire_row t
  exact r.lenTy.mp (Option.some.inj (r.wireOf.symm.trans h))

theorem frame_nil_iff (num : Nat) (t : PType) (pre : Bytes) (se w : Bool) :
    frame num t pre se w = .ok [] ↔ wireOf t = some wireLenDelim ∧ pre = [] ∧ se = false ∧ w = false := by
  obtain ⟨wt, hw, e⟩ := frame_eq num t pre se w
  rw [e, Except.ok.injEq, framed_eq_nil, Bool.or_eq_false_iff, hw, Option.some.injEq]

theorem frame_ne_nil {num : Nat} {t : PType} {pre : Bytes} {se w : Bool} {a : Bytes} (h : frame num t pre se w = .ok a)
    (hne : wireOf t = some wireLenDelim → pre ≠ [] ∨ se = true ∨ w = true) : a ≠ [] := by
  rintro rfl
  obtain ⟨hl, hp, hs, hw⟩ := (frame_nil_iff num t pre se w).mp h
  rcases hne hl with h | h | h
  · exact h hp
  · rw [hs] at h; cases h
  · rw [hw] at h; cases h

/-- a record that is written is written under every larger `serialize_empty` too -/
theorem frame_se_mono {num : Nat} {t : PType} {pre : Bytes} {se se' W : Bool} {a : Bytes}
    (h : frame num t pre se W = .ok a) (hne : a ≠ []) (hse : se = true → se' = true) :
    frame num t pre se' W = .ok a := by
  obtain ⟨wt, hw, e⟩ := frame_eq num t pre se W
  rw [e, Except.ok.injEq] at h
  subst h
  have hne' : framed num wt pre (se' || W) ≠ [] := fun h0 => hne <| by
    obtain ⟨h1, h2, h3⟩ := framed_eq_nil.mp h0
    obtain ⟨h3, h4⟩ := Bool.or_eq_false_iff.mp h3
    exact framed_eq_nil.mpr ⟨h1, h2, by rw [h4, Bool.or_false]; exact Bool.eq_false_iff.mpr fun hs => by rw [hse hs] at h3; cases h3⟩
  rw [frame_of hw, framed_of_ne_nil hne, framed_of_ne_nil hne']

theorem frame_ok (num : Nat) (t : PType) (pre : Bytes) (se w : Bool) : ∃ out, frame num t pre se w = .ok out :=
  let ⟨_, _, h⟩ := frame_eq num t pre se w; ⟨_, h⟩

/-! Totality through the encoder's `if`s and `bind`s (`bind_total` is in Len). -/

theorem ok_of_ite {α : Type} (c : Prop) [Decidable c] (x y : R α) (hx : c → ∃ a, x = .ok a) (hy : ¬c → ∃ a, y = .ok a) :
    ∃ a, (if c then x else y) = .ok a := by
  by_cases h : c
  · rw [if_pos h]; exact hx h
  · rw [if_neg h]; exact hy h

/-- an early exit (a hidden slot, a value equal to its default) -/
theorem ok_of_guard {α : Type} (c : Prop) [Decidable c] (a : α) (y : R α) (hy : ∃ b, y = .ok b) :
    ∃ b, (if c then .ok a else y) = .ok b :=
  ok_of_ite c _ y (fun _ => ⟨a, rfl⟩) fun _ => hy

theorem secNanosBytes_ok (s ns : Int) (hs : -9223372036854775808 ≤ s) (hn : -9223372036854775808 ≤ ns) :
    ∃ p, secNanosBytes s ns = .ok p := by
  have hc (num : Nat) (t : PType) (v : Int) (hv : -9223372036854775808 ≤ v) :=
    ok_of_guard (v == 0) [] _ <| bind_total (dumpVarint_total v hv) fun b => frame_ok num t b false false
  exact bind_total (hc 1 .int64 s hs) fun a => bind_total (hc 2 .int32 ns hn) fun b => ⟨_, rfl⟩

/-- the default of every scalar type has a payload (a table of fifteen rows) -/
theorem prepPlain_default (S : Schema) (t : PType) (hm : t ≠ .message) (hp : t ≠ .map) :
    ∃ p, prepPlain t (defaultOfKind S (scalarDef t)) = .ok p := by
  cases t with
  | message => exact absurd rfl hm
  | map => exact absurd rfl hp
  | _ => exact ⟨_, rfl⟩

/-- the default `getattr` materialises for an unset slot has bytes, whatever the field -/
theorem dumpDefault_ok (S : Schema) (f : FieldD) (sel : Bool) : ∃ bs, dumpDefault S f sel = .ok bs := by
  unfold dumpDefault
  rcases defKind_cases f with ⟨_, h⟩ | ⟨_, _, h⟩ | ⟨_, _, _, h⟩ | ⟨_, hty, _, hw, h⟩ | ⟨_, hm, hmsg, _, hw, h⟩
  · rw [h]
    exact ok_of_guard _ _ _ <| ok_of_ite _ _ _ (fun _ => frame_ok _ _ _ _ _) fun _ => ⟨_, rfl⟩
  · rw [h]
    exact ok_of_guard _ _ _ ⟨_, rfl⟩
  · rw [h]; exact ⟨_, rfl⟩
  · -- a message-typed field: an empty record, or the epoch / the zero duration, whose payload is empty
    rw [h, hty, hw]
    cases f.kind with
    | user c => exact ok_of_guard _ _ _ (ok_of_ite _ _ _ (fun _ => frame_ok _ _ _ _ _) fun hc => absurd rfl hc)
    | timestamp | duration => exact ok_of_guard _ _ _ (bind_total ⟨[], rfl⟩ fun _ => frame_ok _ _ _ _ _)
  · rw [h, hw]
    have hs : ∀ se, ∃ bs, serializeScalar S f.num f.ty (defaultOfKind S (scalarDef f.ty)) se Option.none = .ok bs := by
      intro se
      unfold serializeScalar prepScalar
      rw [if_neg (by simpa using hmsg)]
      exact bind_total (prepPlain_default S f.ty hmsg hm) fun _ => frame_ok _ _ _ _ _
    rcases scalarDef_cases f.ty with e | e | e | e | e | e <;> rw [e] at hs ⊢ <;> exact ok_of_guard _ _ _ (hs _)

/-! The encoder on ONE value.  What one item of a field is (`ItemKind`) and how many the slot holds (nothing, one,
    a list, the values of a dict) are the two dimensions of every domain of well-typed values and of the encoder
    itself: `_serialize_single` is ONE function in the Python source, which `dumpSlot` (last two branches), `dumpItems`
    and `dumpEntries` each inline as "a message instance: its body; anything else: `serializeScalar`". -/

inductive ItemKind where
  | scalar (t : PType)
  | wrapped (w : PType)
  | time (isDur : Bool)
  | msg (c : Nat)

/-- what a field (proto type, wrapped type) has to be for its records to carry items of kind `K` -/
inductive Carries : PType → Option PType → ItemKind → Prop
  | scalar (t : PType) : isScalarType t = true → Carries t Option.none (.scalar t)
  | wrapped (w : PType) : isScalarType w = true → Carries .message (some w) (.wrapped w)
  | time (isDur : Bool) : Carries .message Option.none (.time isDur)
  | msg (c : Nat) : Carries .message Option.none (.msg c)

/-- `_serialize_single(num, t, v, serialize_empty, wraps)`: the ONE record written for ONE value -/
def dumpRec (S : Schema) (num : Nat) (t : PType) (w : Option PType) (se : Bool) : Val → R Bytes
  | .msg c sl _ unk cur =>
    (dumpSlots S (fieldsOf S c) cur 0 sl).bind fun body =>
      if t == PType.message && w.isNone then frame num t (body ++ unk) se false else .error .type
  | v => serializeScalar S num t v se w

theorem dumpRec_msg (S : Schema) (num : Nat) (w : Option PType) (se : Bool) (c : Nat) (sl : List Val) (ow : Bool)
    (unk : Bytes) (cur : List (Option Nat)) (hw : w = Option.none) :
    dumpRec S num .message w se (.msg c sl ow unk cur)
      = (dumpVal S (.msg c sl ow unk cur)).bind fun p => frame num .message p se false := by
  subst hw
  simp only [dumpRec, dumpVal_msg, beq_self_eq_true, Option.isNone_none, Bool.and_self, if_true]
  cases dumpSlots S (fieldsOf S c) cur 0 sl <;> rfl

theorem dumpRec_nonmsg (S : Schema) (num : Nat) (t : PType) (w : Option PType) (se : Bool) (v : Val)
    (h : isMsgVal v = false) : dumpRec S num t w se v = serializeScalar S num t v se w := by
  cases v with
  | msg => cases h
  | _ => rfl

theorem dumpItems_cons' (S : Schema) (f : FieldD) (x : Val) (xs : List Val) :
    dumpItems S f (x :: xs) = (dumpRec S f.num f.ty f.wraps true x).bind fun a =>
      (dumpItems S f xs).bind fun b => .ok ((if a.isEmpty then [10, 0] else a) ++ b) := by
  cases x <;> rfl

theorem dumpEntries_cons' (S : Schema) (f : FieldD) (k v : Val) (ks vs : List Val) :
    dumpEntries S f (k :: ks) (v :: vs) = (serializeScalar S 1 f.mapK k false Option.none).bind fun sk =>
      (dumpRec S 2 f.mapV Option.none false v).bind fun sv =>
      (frame f.num f.ty (sk ++ sv) true false).bind fun e =>
      (dumpEntries S f ks vs).bind fun rest => .ok (e ++ rest) := by
  cases v with
  | msg => rw [dumpEntries, dumpRec]; simp only [Option.isNone_none, Bool.and_true]
  | _ => rfl

/-- neither a sentinel nor a container: the slot of a singular field that is set -/
def isOneVal : Val → Bool
  | .ph | .none | .list _ | .dict _ _ => false
  | _ => true

/-- the `serialize_empty` a singular slot passes (before `or`-ing the field's own presence) -/
def seOf (sel : Bool) : Val → Bool
  | .str [] => sel
  | .msg _ _ ow _ _ => ow
  | _ => false

theorem dumpSlot_one (S : Schema) (f : FieldD) (hid sel : Bool) (v : Val) (h : isOneVal v = true) :
    dumpSlot S f hid sel v =
      if hid then .ok []
      else if eqDefault S f.defKind v && !((f.group.isSome || f.optional) || onWireOf v || sel) then .ok []
      else dumpRec S f.num f.ty f.wraps (seOf sel v || (f.group.isSome || f.optional)) v := by
  rw [dumpSlot.eq_def]
  cases v
  case ph | none | list | dict => cases h
  case msg => rfl
  case str s => cases s <;> (simp only [onWireOf, seOf, Bool.or_false]; rfl)
  all_goals (simp only [onWireOf, seOf, Bool.or_false]; rfl)

/-! A slot, a list of items, the entries of a dict have bytes as soon as every item has a record: whatever the
    domain of well-typed values, only "a well-typed item has a record" is left to it. -/

section
variable (S : Schema) (f : FieldD) (hid sel : Bool)

theorem dumpSlot_ph_ok (hd : ∃ bs, dumpDefault S f sel = .ok bs) : ∃ bs, dumpSlot S f hid sel Val.ph = .ok bs := by
  rw [dumpSlot]
  exact ok_of_guard _ _ _ hd

theorem dumpSlot_one_ok (v : Val) (h : isOneVal v = true)
    (hr : ∀ se, ∃ b, dumpRec S f.num f.ty f.wraps se v = .ok b) : ∃ bs, dumpSlot S f hid sel v = .ok bs := by
  rw [dumpSlot_one S f hid sel v h]
  exact ok_of_guard _ _ _ <| ok_of_guard _ _ _ (hr _)

theorem dumpSlot_list_ok (xs : List Val)
    (hp : isPacked f.ty = true → ∃ b, prepPacked S f.ty xs = .ok b)
    (hi : isPacked f.ty = false → ∃ b, dumpItems S f xs = .ok b) :
    ∃ bs, dumpSlot S f hid sel (.list xs) = .ok bs := by
  rw [dumpSlot]
  exact ok_of_guard _ _ _ <| ok_of_guard _ _ _ <|
    ok_of_ite _ _ _ (fun h => bind_total (hp h) fun _ => frame_ok _ _ _ _ _) fun h => hi (by simpa using h)

theorem dumpSlot_dict_ok (ks vs : List Val)
    (he : ∃ b, dumpEntries S f ks vs = .ok b) :
    ∃ bs, dumpSlot S f hid sel (.dict ks vs) = .ok bs := by
  rw [dumpSlot]
  exact ok_of_guard _ _ _ <| ok_of_guard _ _ _ he

theorem dumpItems_ok : ∀ xs : List Val,
    (∀ x ∈ xs, ∃ b, dumpRec S f.num f.ty f.wraps true x = .ok b) → ∃ b, dumpItems S f xs = .ok b
  | [], _ => ⟨[], rfl⟩
  | x :: xs, h => by
    rw [dumpItems_cons']
    exact bind_total (h x List.mem_cons_self) fun _ =>
      bind_total (dumpItems_ok xs fun y hy => h y (List.mem_cons_of_mem _ hy)) fun _ => ⟨_, rfl⟩

theorem dumpEntries_ok : ∀ ks vs : List Val,
    (∀ k ∈ ks, ∃ b, serializeScalar S 1 f.mapK k false Option.none = .ok b) →
    (∀ v ∈ vs, ∃ b, dumpRec S 2 f.mapV Option.none false v = .ok b) → ∃ b, dumpEntries S f ks vs = .ok b
  | [], _, _, _ => ⟨[], dumpEntries_nil_left S f _⟩
  | _ :: _, [], _, _ => ⟨[], dumpEntries_nil_right S f _⟩
  | k :: ks, v :: vs, hk, hv => by
    rw [dumpEntries_cons']
    exact bind_total (hk k List.mem_cons_self) fun _ => bind_total (hv v List.mem_cons_self) fun _ =>
      bind_total (frame_ok _ _ _ _ _) fun _ =>
      bind_total (dumpEntries_ok ks vs (fun y hy => hk y (List.mem_cons_of_mem _ hy))
        fun y hy => hv y (List.mem_cons_of_mem _ hy)) fun _ => ⟨_, rfl⟩

end

theorem dumpSlots_cons (S : Schema) (fs : List FieldD) (cur : List (Option Nat)) (i : Nat) (v : Val) (vs : List Val) :
    dumpSlots S fs cur i (v :: vs) =
      (match fs[i]? with
       | Option.none => .ok []
       | some f =>
         (dumpSlot S f (hidden f i cur) (selectedInGroup f i cur) v).bind fun a =>
         (dumpSlots S fs cur (i + 1) vs).bind fun b => .ok (a ++ b)) := by
  rw [dumpSlots]
  cases fs[i]? <;> rfl

theorem dumpSlots_ok (S : Schema) (fs : List FieldD) (cur : List (Option Nat)) : ∀ (vs : List Val) (idx : Nat),
    (∀ i f, fs[idx + i]? = some f → ∀ hid sel, ∃ b, dumpSlot S f hid sel (vs.getD i .ph) = .ok b) →
    ∃ b, dumpSlots S fs cur idx vs = .ok b
  | [], _, _ => ⟨[], by rw [dumpSlots]⟩
  | v :: vs, idx, h => by
    rw [dumpSlots_cons]
    cases hf : fs[idx]? with
    | none => exact ⟨_, rfl⟩
    | some f =>
      exact bind_total (h 0 f hf _ _) fun _ =>
        bind_total (dumpSlots_ok S fs cur vs (idx + 1) fun i g hg => h (i + 1) g (by rwa [Nat.add_right_comm] at hg)) fun _ =>
          ⟨_, rfl⟩

theorem dumpSlots_cons_inv {S : Schema} {fs : List FieldD} {cur : List (Option Nat)} {i : Nat} {f : FieldD} {v : Val}
    {vs : List Val} {out : Bytes} (hf : fs[i]? = some f) (h : dumpSlots S fs cur i (v :: vs) = .ok out) :
    ∃ a b, dumpSlot S f (hidden f i cur) (selectedInGroup f i cur) v = .ok a ∧ dumpSlots S fs cur (i + 1) vs = .ok b
      ∧ out = a ++ b := by
  rw [dumpSlots_cons, hf] at h
  obtain ⟨a, ha, h⟩ := bind_inv h
  obtain ⟨b, hb, h⟩ := bind_inv h
  cases h
  exact ⟨a, b, ha, hb, rfl⟩

theorem dumpSlots_cons_ok (S : Schema) (F : List FieldD) (cur : List (Option Nat)) (idx : Nat) (f : FieldD)
    (fs : List FieldD) (v : Val) (vs : List Val) (hF : F.drop idx = f :: fs)
    (h1 : ∀ hid sel, ∃ bs, dumpSlot S f hid sel v = .ok bs)
    (h2 : ∀ (F : List FieldD) (cur : List (Option Nat)) (idx : Nat), F.drop idx = fs →
      ∃ bs, dumpSlots S F cur idx vs = .ok bs) :
    ∃ bs, dumpSlots S F cur idx (v :: vs) = .ok bs := by
  obtain ⟨hf, hF'⟩ := drop_cons F idx f fs hF
  rw [dumpSlots, hf]
  exact bind_total (h1 _ _) fun _ => bind_total (h2 F cur (idx + 1) hF') fun _ => ⟨_, rfl⟩

end Bp
