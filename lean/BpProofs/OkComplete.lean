import BpProofs.OkSound
/-
  The converse of BpProofs/OkSound.lean: the checker `msgOkB` accepts EVERY value of the
  domain `MsgOk` of the round-trip theorem C01.  Together: `msgOkB S m = true ↔ MsgOk S m`,
  so `MsgOk S m` is decidable (by kernel evaluation of the checker).
-/
namespace Bp
open Gen

-- `flat` and `wrap` are the two rules of `SlotOk` whose value has no fixed shape

theorem slotOkB_flat (S : Schema) (f : FieldD) (v : Val) (hf : FlatField f) (hv : flatSlotOk f v = true) :
    slotOkB S f v = true := by
  have hb := (flatFieldB_iff f).2 hf
  cases v with
  | msg | ts | dur | dict => simp [flatSlotOk, scalarOk] at hv
  | _ =>
    simp only [flatSlotOk, Bool.and_eq_true, Bool.not_eq_true'] at hv
    unfold slotOkB
    simp only [hb, hv, Bool.not_false, Bool.and_self, Bool.true_or]

theorem slotOkB_wrap (S : Schema) (f : FieldD) (w : PType) (v : Val) (hf : WrapField f w) (hv : scalarOk w v = true) :
    slotOkB S f v = true := by
  have hb := (wrapFieldB_iff f w).2 hf
  cases v with
  | ph | none | msg | list | ts | dur | dict => cases hv
  | _ => unfold slotOkB; simp only [hf.wr, hb, hv, Bool.and_self, Bool.or_true]

/- One recursion over the four mutually defined predicates, one case per rule (the converse of the `mutual` block of
   BpProofs/OkSound.lean). -/
mutual
theorem slotOkB_complete (S : Schema) (f : FieldD) : ∀ (v : Val), SlotOk S f v → slotOkB S f v = true
  | _, .flat _ v hf hv => slotOkB_flat S f v hf hv
  | _, .wrap _ w v hf hv => slotOkB_wrap S f w v hf hv
  -- decided by the `optional` flag, the last premise of each of these rules
  | _, .unsetAny _ ho | _, .noneAny _ ho | _, .unsetSub _ _ _ ho | _, .noneSub _ _ _ ho | _, .unsetTime _ _ _ ho
  | _, .noneTime _ _ _ ho | _, .unsetWrap _ _ _ ho => by unfold slotOkB; simp [ho]
  | _, .noneWrap _ w hf hg => by unfold slotOkB; simp [(wrapFieldAnyB_iff f).2 ⟨w, hf⟩, hg]
  | _, .unsetMapS _ hf => by unfold slotOkB; simp [(mapFieldSB_iff f).2 hf]
  | _, .unsetMapM _ c hf => by unfold slotOkB; simp [(mapFieldMAnyB_iff f).2 ⟨c, hf⟩]
  | _, .sub _ c sl ow unk cur hf hr hm => by
    have ih := msgOkB_complete S _ hm
    unfold msgOkB at ih
    unfold slotOkB
    simp [(subFieldB_iff f c).2 hf, hr, ih]
  | _, .subs _ c xs hf hr hms => by
    unfold slotOkB
    simp [hf.kind, (subFieldB_iff f c).2 hf, hr, msgsOkB_complete S c xs hms]
  | _, .ts _ us hf hv | _, .dur _ us hf hv => by unfold slotOkB; simp [(timeFieldB_iff f _).2 hf, hv]
  | _, .tss _ xs hf hv | _, .durs _ xs hf hv => by
    unfold slotOkB
    -- (the default simp set is slow on the long disjunctions for lists and dicts)
    simp only [(timesFieldB_iff f _).2 hf, timeValOkB_eq, List.all_eq_true.2 hv, Bool.and_self, Bool.or_true,
      Bool.true_or]
  | _, .wraps _ w xs hf hv => by
    unfold slotOkB
    simp only [hf.wr, (wrapsFieldB_iff f w).2 hf, List.all_eq_true.2 hv, Bool.and_self, Bool.or_true]
  | _, .mapS _ ks vs hf hl hk hv hkd => by
    unfold slotOkB
    simp only [(mapFieldSB_iff f).2 hf, hl, List.all_eq_true.2 hk, List.all_eq_true.2 hv, (keysDistinctB_iff ks).2 hkd,
      beq_self_eq_true, Bool.and_self, Bool.true_or]
  | _, .mapM _ c ks vs hf hl hk hms hkd => by
    unfold slotOkB
    simp only [hf.vk, (mapFieldMB_iff f c).2 hf, hl, List.all_eq_true.2 hk, msgsOkB_complete S c vs hms,
      (keysDistinctB_iff ks).2 hkd, beq_self_eq_true, Bool.and_self, Bool.or_true, Bool.true_or]
  | _, .mapT _ isDur ks vs hf hl hk hv hkd => by
    have h : (mapFieldTB f isDur && ks.length == vs.length && ks.all (scalarOk f.mapK) && vs.all (timeValOkB isDur)
        && keysDistinctB ks) = true := by
      simp only [(mapFieldTB_iff f _).2 hf, hl, List.all_eq_true.2 hk, timeValOkB_eq, List.all_eq_true.2 hv,
        (keysDistinctB_iff ks).2 hkd, beq_self_eq_true, Bool.and_self]
    unfold slotOkB
    cases isDur <;> simp only [h, Bool.or_true, Bool.true_or]

theorem slotsOkB_complete (S : Schema) : ∀ (fs : List FieldD) (vs : List Val), SlotsOk S fs vs → slotsOkB S fs vs = true
  | _, _, .nil => rfl
  | _, _, .cons f v fs vs h1 h2 => by
    unfold slotsOkB
    simp only [slotOkB_complete S f v h1, slotsOkB_complete S fs vs h2, Bool.and_self]

theorem msgOkB_complete (S : Schema) : ∀ (m : Val), MsgOk S m → msgOkB S m = true
  | _, .mk c d sl ow unk cur hd h1 h2 h3 h4 h5 h6 h7 hsl hunk => by
    unfold msgOkB msgShapeB
    simp only [hd, (numsDistinctB_iff _).2 h1, (wfGroupsB_iff _ _).2 h2, (grpOptB_iff _).2 h3, h4, (curOkB_iff _ _).2 h5,
      (invB_iff _ _ _).2 h6, (selSetB_iff _ _).2 h7, (unkOkB_iff _ _).2 hunk, slotsOkB_complete S _ _ hsl,
      beq_self_eq_true, Bool.and_self]

theorem msgsOkB_complete (S : Schema) (c : Nat) : ∀ (xs : List Val), MsgsOk S c xs → msgsOkB S c xs = true
  | _, .nil _ => rfl
  | _, .cons _ sl ow unk cur xs hm hms => by
    have := msgOkB_complete S _ hm
    unfold msgOkB at this
    unfold msgsOkB
    simp only [this, msgsOkB_complete S c xs hms, beq_self_eq_true, Bool.and_self]
end

theorem msgOkB_iff (S : Schema) (m : Val) : msgOkB S m = true ↔ MsgOk S m :=
  ⟨msgOkB_sound S m, msgOkB_complete S m⟩

instance (S : Schema) (m : Val) : Decidable (MsgOk S m) := decidable_of_iff _ (msgOkB_iff S m)

/-- `MsgOk` itself can be evaluated on closed terms -/
example : MsgOk OkEx.SEx OkEx.mEx := OkEx.mEx_ok
example : ¬ MsgOk OkEx.SEx (.msg 0 [.ph, .none, .ph, .ph, .ph, .ph] false [] [some 2]) := by decide +kernel

theorem OkEx.mR_ok : MsgOk C01.SR C01.mR := by decide +kernel

/-- repeated wrapper fields: `M(a=[5, 0, -1], s=["", "x"], f=[-0.0, 1.5])` is in the domain, so
    `C01.roundtrip_equal` applies to it; `M(a=[None, 3])` (which does not round-trip,
    `C01.none_item_not_roundtrip`) is not -/
example : MsgOk C01.SR C01.mR := OkEx.mR_ok
example : ¬ MsgOk C01.SR C01.mN := by decide +kernel
example : ∃ m', parse C01.SR 0 C01.bsR = .ok m' ∧ msgEq C01.SR C01.mR m' = true ∧ msgEq C01.SR m' C01.mR = true
    ∧ dumpVal C01.SR m' = .ok C01.bsR :=
  C01.roundtrip_equal C01.SR 0 _ _ _ _ OkEx.mR_ok C01.bsR (by decide +kernel) (by decide +kernel)

end Bp

#print axioms Bp.msgOkB_complete
#print axioms Bp.msgOkB_iff
