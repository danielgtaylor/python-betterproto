import BpProofs.Gen.SrcJsonMsg
import BpProofs.SrcTieJson
/-
  THE TIE BETWEEN THE TRANSLATED WHOLE METHOD `Message.to_dict` AND THE MODEL, nested to any depth.

  `Bp.Src.json_to_dict` (BpProofs/Gen/SrcJsonMsg.lean) is regenerated from the Python AST of
  `Message.to_dict` on every run; its loop calls the translated loop body `Src.to_dict_field`
  (Gen/SrcJson.lean).  `Src.value_to_dict S E depth cs incl m` ties the recursive knot:
  `x.to_dict(casing, include_default_values)` inside the loop body is the translated `to_dict` itself,
  one nesting level down.  `C04.src_to_dict` (Props/C04SrcMsg.lean) says, for every schema and value inside the
  guard,

      Src.value_to_dict S E (k + 1) cs incl m = .ok (toDict S E cs incl m)     whenever  vOkAt S k m

  Guards:
    * `vOkAt S k m` (decidable; `k` bounds the nesting depth of Message instances in `m`): at every
      nesting level one raw slot per field and `dynOkJ f v` (the guard of `SrcTieJson.to_dict_field_eq`)
      for every slot.
    * `hD`: `DefaultOkJ S E cs incl f` for every field of every class (the guard of `to_dict_field_eq` for a
      slot that reads as the default; implied by `jsonOk` for `incl = false`).
    * `hK`: distinct fields of a class have distinct keys (`KeysInj`; implied by `jsonOk`).

  How the knot is tied: (1) the tie of one iteration (`SrcTieJson.field_value`) holds for EVERY recursion parameter `enc`
  that is the model's `toDict` on what the body hands to it — the value, the items of a list, the values of a dict — and
  asks nothing of `enc` on a Message instance that the presence test skips (`needed`); (2) the generated loop is a
  per-field loop of SrcTieJson (`json_loop`), so `Loop.eq` gives the whole method for such an `enc`
  (`value_to_dict_step`); (3) by induction on the budget, `value_to_dict (k + 1)` agrees with `toDict` on every value inside
  `vOkAt S k`, on every value that is not a Message instance, and on a fresh default instance at every budget ≥ 1
  (`value_to_dict_fresh`).
-/
namespace Bp.SrcTieJsonMsg
open Bp Bp.Py Gen Bp.SrcTieJson

theorem include_default_eq (st : MState) (idx : Nat) (f : FieldD) :
    Src.json_include_default st idx f = selectedInGroup f idx st.cur := by
  unfold Src.json_include_default selectedInGroup
  simp only [metaGroup, JsonMsg.groupCurrentGet]
  cases f.group <;> simp

theorem defaultOk_false (S : Schema) (E : Enums) (cs : KeyCase) (incl : Bool) (f : FieldD) (h : DefaultOkJ S E cs incl f) :
    DefaultOkJ S E cs false f :=
  ⟨h.1, fun c hc => ⟨rfl, (h.2 c hc).2⟩⟩

theorem hidden_replicate (f : FieldD) (i n : Nat) : hidden f i (List.replicate n Option.none) = f.group.isSome :=
  _root_.Bp.hidden_replicate f i n

section tie
variable (S : Schema) (E : Enums) (cs : KeyCase) (incl : Bool)

/-- the guard of `to_dict_field_eq` at every nesting level, one raw slot per field, and at most `k`
    nested levels of Message instances (decidable; recursion on the budget) -/
def vOkAt (S : Schema) : Nat → Val → Bool
  | 0, _ => false
  | k + 1, .msg c sl _ _ _ =>
    (fieldsOf S c).length == sl.length &&
      ((fieldsOf S c).zip sl).all fun p => dynOkJ p.1 p.2 && (subs p.2).all fun x => !isMsgVal x || vOkAt S k x
  | _ + 1, _ => false

/-- `x.to_dict(c, i)` as the loop body sees it with `k` nesting levels left -/
def encAt (k : Nat) : KeyCase → Bool → Val → JVal :=
  fun c i x => JsonMsg.toJ x (Src.value_to_dict S E k c i x)

theorem value_to_dict_msg (k c : Nat) (sl : List Val) (ow : Bool)
    (unk : Bytes) (cur : List (Option Nat)) :
    Src.value_to_dict S E (k + 1) cs incl (.msg c sl ow unk cur)
      = Src.json_to_dict S E (encAt S E k) (fieldsOf S c) { slots := sl, onWire := ow, unknown := unk, cur := cur } cs incl := by
  rw [Src.value_to_dict]; rfl

theorem encAt_nonmsg (k : Nat) (x : Val) (h : isMsgVal x = false) :
    encAt S E k cs incl x = toDict S E cs incl x := by
  rw [toDict_nonmsg S E cs incl x h]
  cases x with
  | msg c sl ow unk cur => cases h
  | _ => cases k <;> rfl

theorem slotsTieOk_of (fs : List FieldD) (cur : List (Option Nat))
    (hd : ∀ f ∈ fs, DefaultOkJ S E cs incl f) :
    ∀ (vs : List Val) (idx : Nat), (∀ j f v, fs[idx + j]? = some f → vs[j]? = some v → dynOkJ f v = true) →
      SlotsTieOk S E cs incl fs cur idx vs
  | [], _, _ => trivial
  | v :: vs, idx, h =>
    ⟨fun f hf => ⟨fun _ => h 0 f v (by simpa using hf) rfl, fun _ => hd f (List.mem_of_getElem? hf)⟩,
      slotsTieOk_of fs cur hd vs (idx + 1) (fun j f w hf hv =>
        h (j + 1) f w (by rw [show idx + (j + 1) = idx + 1 + j by omega]; exact hf) (by simpa using hv))⟩

theorem subs_default (f : FieldD) (x : Val) (h : x ∈ subs (defaultOf S f)) :
    ∃ c, f.defKind = .msg c ∧ f.optional = false ∧ defaultOf S f = fresh S c ∧ x = fresh S c := by
  unfold defaultOf at h ⊢
  cases hk : f.defKind with
  | msg c =>
    rw [hk] at h
    simp only [defaultOfKind, fresh, subs, List.mem_singleton] at h
    have ho := (defKind_eq_msg f c hk).2.1
    exact ⟨c, rfl, ho, rfl, by rw [h]; rfl⟩
  | _ =>
    rw [hk] at h
    simp [defaultOfKind, subs] at h

theorem dynOkJ_fresh_slot (f : FieldD) (hw : f.optional = true → f.repeated = false ∧ f.ty ≠ .map) :
    dynOkJ f (if f.optional then Val.none else Val.ph) = true := by
  cases ho : f.optional with
  | false => rfl
  | true =>
    obtain ⟨hr, hm⟩ := hw ho
    have hm' : (f.ty != PType.map) = true := by simpa using hm
    simp only [if_true, dynOkJ, leafOkJ, hr, hm', Bool.not_false, Bool.or_true, Bool.true_or, Bool.and_self, ite_self]

theorem slotsTieOk_get (fs : List FieldD) (cur : List (Option Nat)) :
    ∀ (vs : List Val) (idx j : Nat) (f : FieldD) (v : Val), SlotsTieOk S E cs incl fs cur idx vs →
      fs[idx + j]? = some f → vs[j]? = some v →
      (readsDefault (hidden f (idx + j) cur) v = false → dynOkJ f v = true) ∧
      (readsDefault (hidden f (idx + j) cur) v = true → DefaultOkJ S E cs incl f)
  | [], _, _, _, _, _, _, hv => by cases hv
  | w :: vs, idx, 0, f, v, h, hf, hv => by cases hv; exact h.1 f hf
  | w :: vs, idx, j + 1, f, v, h, hf, hv =>
    (show idx + 1 + j = idx + (j + 1) by omega) ▸
      slotsTieOk_get fs cur vs (idx + 1) j f v h.2 ((show idx + (j + 1) = idx + 1 + j by omega) ▸ hf) hv

/-- The generated loop of `Message.to_dict` on the state `st`, with ANY recursion parameter `enc`, as a per-field loop of
    SrcTieJson: it reads the slots of `st` from `idx` on (that is `G`'s first half), and `enc` has to be the model's
    `toDict` only where an iteration reaches it. -/
def json_loop (enc : Val → JVal) (fs : List FieldD) (st : MState) (hlen : fs.length = st.slots.length) :
    Loop (encTie S E cs incl enc) fs st.cur where
  L idx _ out := Src.json_to_dict.loop1 S E enc cs incl st (JsonMsg.itemsFrom idx (fs.drop idx)) out
  G idx vs := st.slots.drop idx = vs ∧ ∀ j f v, fs[idx + j]? = some f → vs[j]? = some v →
      (readsDefault (hidden f (idx + j) st.cur) v = false → (encTie S E cs incl enc).Ok f (selectedInGroup f (idx + j) st.cur) v) ∧
      (readsDefault (hidden f (idx + j) st.cur) v = true → (encTie S E cs incl enc).DefOk f (selectedInGroup f (idx + j) st.cur))
  L_nil idx out h := by
    have hi : fs.length ≤ idx := by
      have := congrArg List.length h.1
      simp only [List.length_drop, List.length_nil] at this
      omega
    rw [List.drop_eq_nil_of_le hi, JsonMsg.itemsFrom, Src.json_to_dict.loop1]
  L_cons idx v vs out h := by
    obtain ⟨hv, hvs⟩ := drop_cons st.slots idx v vs h.1
    have hi : idx < fs.length := by rw [hlen]; exact (List.getElem?_eq_some_iff.mp hv).1
    rw [List.drop_eq_getElem_cons hi, JsonMsg.itemsFrom, Src.json_to_dict.loop1, List.getElem?_eq_getElem hi]
    simp only [JsonMsg.getattrOf, List.getD_eq_getElem?_getD, hv, Option.getD_some, include_default_eq]
    rfl
  G_cons idx v vs h :=
    ⟨fun f hf => h.2 0 f v hf rfl, (drop_cons st.slots idx v vs h.1).2, fun j f w hf hw =>
      (show idx + 1 + j = idx + (j + 1) by omega) ▸ h.2 (j + 1) f w ((show idx + (j + 1) = idx + 1 + j by omega) ▸ hf) hw⟩

theorem value_to_dict_step (k c : Nat) (sl : List Val) (ow : Bool) (unk : Bytes) (cur : List (Option Nat))
    (hlen : (fieldsOf S c).length = sl.length) (hK : KeysInj cs (fieldsOf S c))
    (hok : SlotsTieOk S E cs incl (fieldsOf S c) cur 0 sl)
    (hsub : ∀ i f w, (fieldsOf S c)[i]? = some f → sl[i]? = some w → ∀ x,
      x ∈ subs (if readsDefault (hidden f i cur) w then defaultOf S f else w) → isMsgVal x = true →
      needed S incl f (selectedInGroup f i cur) (if readsDefault (hidden f i cur) w then defaultOf S f else w) = true →
      encAt S E k cs incl x = toDict S E cs incl x) :
    Src.value_to_dict S E (k + 1) cs incl (.msg c sl ow unk cur) = .ok (toDict S E cs incl (.msg c sl ow unk cur)) := by
  have hloop := (json_loop S E cs incl (encAt S E k cs incl) (fieldsOf S c)
      { slots := sl, onWire := ow, unknown := unk, cur := cur } hlen).eq hK sl 0 [] ⟨rfl, fun j f v hf hv => ?_⟩ (by simp)
  · rw [value_to_dict_msg, toDict_msg]
    unfold Src.json_to_dict
    exact congrArg (fun r => r.bind fun o => Res.ok (objJ o)) hloop
  · rw [Nat.zero_add] at hf ⊢
    obtain ⟨h1, h2⟩ := slotsTieOk_get S E cs incl _ cur sl 0 j f v hok (by rwa [Nat.zero_add]) hv
    rw [Nat.zero_add] at h1 h2
    have he := hsub j f v hf hv
    -- what is not a Message instance is never a matter of the budget
    have hall : ∀ w, (∀ x, x ∈ subs w → isMsgVal x = true → needed S incl f (selectedInGroup f j cur) w = true →
        encAt S E k cs incl x = toDict S E cs incl x) →
        needed S incl f (selectedInGroup f j cur) w = true → AgreeL (encAt S E k cs incl) (toDict S E cs incl) (subs w) :=
      fun w hw hn x hx => by
        cases hm : isMsgVal x with
        | true => exact hw x hx hm hn
        | false => exact encAt_nonmsg S E cs incl k x hm
    refine ⟨fun hr => ⟨h1 hr, hall v ?_⟩, fun hr => ⟨h2 hr, hall _ ?_⟩⟩
    · simpa only [show readsDefault (hidden f j cur) v = false from hr, Bool.false_eq_true, if_false] using he
    · simpa only [show readsDefault (hidden f j cur) v = true from hr, if_true] using he

/-- **`<fresh instance>.to_dict(casing)` as written is the model's** at every nesting budget ≥ 1, whatever
    the nested calls would return: every slot is None, hidden, or a default that the presence test skips -/
theorem value_to_dict_fresh (hW : WfSchemaOpt S) (hD : ∀ c, ∀ f ∈ fieldsOf S c, DefaultOkJ S E cs false f)
    (hK : ∀ c, KeysInj cs (fieldsOf S c)) (k c : Nat) :
    Src.value_to_dict S E (k + 1) cs false (fresh S c) = .ok (toDict S E cs false (fresh S c)) := by
  have hslot : ∀ (j : Nat) (f : FieldD) (v : Val), (fieldsOf S c)[j]? = some f →
      ((fieldsOf S c).map fun (f : FieldD) => if f.optional then Val.none else Val.ph)[j]? = some v →
      v = if f.optional then Val.none else Val.ph := by
    intro j f v hf hv
    simp only [List.getElem?_map, hf, Option.map_some, Option.some.injEq] at hv
    exact hv.symm
  unfold fresh
  refine value_to_dict_step S E cs false k c _ false [] _ (by simp) (hK c)
    (slotsTieOk_of S E cs false _ _ (hD c) _ 0 (fun j f v hf hv => by
      rw [hslot j f v (by simpa using hf) hv]
      exact dynOkJ_fresh_slot f (hW c f (List.mem_of_getElem? (by simpa using hf))))) ?_
  intro i f w hf hw x hx hm hneed
  have hw' := hslot i f w hf hw
  subst hw'
  rw [selected_none] at hneed
  by_cases hrd : readsDefault (hidden f i (List.replicate (groupsOf S c) Option.none))
      (if f.optional then Val.none else Val.ph) = true
  · rw [if_pos hrd] at hx hneed
    obtain ⟨c', hk, ho, hdef, hx'⟩ := subs_default S f x hx
    have he := ((hD c f (List.mem_of_getElem? hf)).2 c' hk).2.1
    have h1 : isMsgVal (fresh S c') = true := rfl
    have h2 : onWireOf (fresh S c') = false := rfl
    rw [hdef] at hneed
    simp [needed, hk, he, ho, h1, h2] at hneed
  · rw [if_neg hrd] at hx
    cases ho : f.optional with
    | true => simp [ho, subs] at hx
    | false => simp [ho, readsDefault] at hrd

end tie

theorem guards_of_jsonOk (S : Schema) (E : Enums) (cs : KeyCase) (h : jsonOk S E cs = true) :
    WfSchemaOpt S ∧ (∀ c, ∀ f ∈ fieldsOf S c, DefaultOkJ S E cs false f) ∧ (∀ c, KeysInj cs (fieldsOf S c)) := by
  have hS := fieldJsonOk_of_jsonOk S E cs h
  exact ⟨wfSchemaOpt_of S hS, fun c f hf => defaultOkJ_of_schema S E cs f hS (hS c f hf),
    fun c => keysInj_of_namesOk cs _ (namesOk_of_jsonOk S E cs h c)⟩

end Bp.SrcTieJsonMsg
