import BpModel.All
import BpModel.Spec
import BpProofs.Load
/-
  C02: records the receiving class does not know do nothing to the decoded message (`core`, the
  state without its retained unknown bytes): the reading of `foldFields_unknown_split` modulo `core`.
-/
namespace Bp
open Gen

section Known
variable (S : Schema) (rec : Loader) (d : MsgD)

theorem foldFields_core_filter (pfs : List PField) (st : MState) :
    (foldFields S rec d st pfs).map core
      = (foldFields S rec d (core st) (pfs.filter fun pf => !isUnknownField d pf)).map core := by
  rw [foldFields_unknown_split S rec d pfs st]
  cases foldFields S rec d (core st) (pfs.filter fun pf => !isUnknownField d pf) <;> rfl

end Known

end Bp
