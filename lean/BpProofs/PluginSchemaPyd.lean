import BpProofs.PluginSchemaPkg
/-
  The pydantic variant (`PydanticOneOfFieldCompiler`): what `optional=True` + `Optional[...]` on a
  oneof member change in the runtime schema.  Statements: Props/C18Plugin.lean.
-/
namespace Bp.Plugin
open Bp Bp.Gen.Plugin

/-- the metadata + hint the pydantic variant's line evaluates to -/
def pydMeta (mt : Meta) : Meta :=
  if mt.group.isSome then
    { mt with optional := true, hint := match mt.hint with | .plain t => .optional t | a => a }
  else mt

theorem pydHint (a : Ann) : hintElem (match a with | .plain t => .optional t | a => a) = hintElem a
    ∧ hintIsList (match a with | .plain t => .optional t | a => a) = hintIsList a := by
  cases a <;> exact ⟨rfl, rfl⟩

/-- `metaFieldD` reads the hint through `hintElem` and `hintIsList` only, which `pydMeta` leaves alone; what is left
    of the change is the `optional` flag of a field that is in a group -/
theorem metaFieldD_pydantic (env : Env) (gs : List Name) (n : Name) (mt : Meta) :
    metaFieldD env gs n (pydMeta mt) = (metaFieldD env gs n mt).map markOptionalMember := by
  unfold pydMeta
  cases hg : mt.group with
  | none =>
    simp only [Option.isSome_none, Bool.false_eq_true, if_false]
    unfold metaFieldD
    rw [hg]
    simp only [groupIdx]
    -- the four lookups of `metaFieldD` all succeed (`h1`: what the group lookup gave) or the result is `none`
    split
    · rename_i h1 _ _ _; cases h1; rfl
    · rfl
  | some g =>
    simp only [Option.isSome_some, if_true]
    unfold metaFieldD
    simp only [(pydHint mt.hint).1, (pydHint mt.hint).2, hg, groupIdx]
    cases idxOf g gs with
    | none => rfl
    | some i =>
      simp only [Option.map_some]
      split
      · rename_i h1 _ _ _; cases h1; rfl
      · rfl

def OkOpt (c : CField) : Prop := c.group.isSome = true → ctorsWithOptional.contains c.ctor = true

theorem readBack_pydantic (c : CField) (h : OkOpt c) :
    readBack (pydanticField c) = (readBack c).map pydMeta := by
  have hk : kwBad (pydanticField c) = kwBad c := by
    unfold pydanticField
    split
    · rename_i hg
      simp only [kwBad, h hg, Bool.not_true, Bool.and_false]
    · rfl
  have e : ∀ pt m w, metaOf (pydanticField c) pt m w = pydMeta (metaOf c pt m w) := by
    intro pt m w; unfold pydanticField pydMeta metaOf; dsimp only; split <;> rfl
  have e1 : (pydanticField c).ctor = c.ctor ∧ (pydanticField c).mapTypes = c.mapTypes ∧ (pydanticField c).wraps = c.wraps := by
    unfold pydanticField; split <;> exact ⟨rfl, rfl, rfl⟩
  rw [readBack_eq, readBack_eq, hk, e1.1, e1.2.1, e1.2.2]
  cases lookup? c.ctor fieldCtors <;> simp only [Option.bind_none, Option.bind_some, Option.map_none]
  split
  · rfl
  · cases mapBack _ c.mapTypes <;> cases wrapsBack c.wraps <;> simp only [Option.bind_some, Option.bind_none, Option.map_some, Option.map_none, e]

theorem optional_ok_table : ∀ p ∈ fieldTypeStr,
    ((lookupN? p.1 scalarPyType).isSome || messageTypes.contains p.1) = true → ctorsWithOptional.contains p.2 = true := by
  decide

theorem compileField_optional_ok {nm : Naming} {m : MsgP} {f : FieldP} {c : CField}
    (h : compileField nm m f = some c) : OkOpt c := by
  rcases compileField_cases h with ⟨_, _, _, _, _, _, _, _, -, -, -, -, -, -, rfl⟩ | ⟨ctor, py, g, -, hct, hpy, -, rfl⟩
  · -- a map line has no group
    intro hg; cases hg
  · intro _
    refine optional_ok_table (f.type, ctor) (lookupN?_mem hct) ?_
    unfold pyTypeOf at hpy
    cases hs : lookupN? f.type scalarPyType with
    | some n => rfl
    | none =>
      simp only [hs] at hpy
      split at hpy
      · rename_i hm
        simp only [Option.isSome_none, Bool.false_or]; exact hm
      · cases hpy

theorem cfieldD_pydantic (env : Env) (gs : List Name) (c : CField) (h : OkOpt c) :
    cfieldD env gs (pydanticField c) = (cfieldD env gs c).map markOptionalMember := by
  have hn : (pydanticField c).pyName = c.pyName := by unfold pydanticField; split <;> rfl
  unfold cfieldD
  rw [readBack_pydantic c h, hn]
  cases readBack c with
  | none => rfl
  | some mt => exact metaFieldD_pydantic env gs c.pyName mt

theorem pydanticField_group (c : CField) : (pydanticField c).group = c.group := by
  unfold pydanticField; split <;> rfl

/-- the class description the pydantic variant yields: oneof members marked optional -/
def markMsg (d : MsgD) : MsgD := { d with fields := d.fields.map markOptionalMember }

theorem classD_pydantic (env : Env) (cs : List CField) (h : ∀ c ∈ cs, OkOpt c) :
    classD env (cs.map pydanticField) = (classD env cs).map markMsg := by
  unfold classD
  have hg : (cs.map pydanticField).map (·.group) = cs.map (·.group) := by
    simp [List.map_map, Function.comp_def, pydanticField_group]
  rw [hg]
  dsimp only
  rw [mapMOpt_map _ _ _ _ cs fun c hc => cfieldD_pydantic env _ c (h c hc)]
  cases mapMOpt (cfieldD env (groupNames (cs.map (·.group)))) cs <;> rfl

theorem msgClasses_pyd : ∀ cs : List Class,
    msgClasses (cs.map pydanticClass) = (msgClasses cs).map fun p => (p.1, p.2.map pydanticField)
  | [] => rfl
  | .message _ _ :: r => by simp [pydanticClass, msgClasses, msgClasses_pyd r]
  | .enum _ _ :: r => by simp [pydanticClass, msgClasses, msgClasses_pyd r]

theorem enumClasses_pyd : ∀ cs : List Class, enumClasses (cs.map pydanticClass) = enumClasses cs
  | [] => rfl
  | .message _ _ :: r => by simp [pydanticClass, enumClasses, enumClasses_pyd r]
  | .enum _ _ :: r => by simp [pydanticClass, enumClasses, enumClasses_pyd r]

theorem envOf_pyd (nm : Naming) (pkg : Name) (cs : List Class) :
    envOf nm pkg (cs.map pydanticClass) = envOf nm pkg cs := by
  unfold envOf
  rw [msgClasses_pyd, enumClasses_pyd]
  simp [List.map_map, Function.comp_def]

theorem toSchema_pydantic (nm : Naming) (pkg : Name) (cs : List Class)
    (h : ∀ p ∈ msgClasses cs, ∀ c ∈ p.2, OkOpt c) :
    toSchema nm pkg (cs.map pydanticClass) = (toSchema nm pkg cs).map (List.map markMsg) := by
  unfold toSchema
  rw [envOf_pyd, msgClasses_pyd]
  exact mapMOpt_map _ _ _ _ _ fun p hp => classD_pydantic _ p.2 (h p hp)

theorem compileFields_okOpt (nm : Naming) (m : MsgP) (cs : List CField)
    (h : compileFields nm m m.fields = some cs) : ∀ c ∈ cs, OkOpt c := fun c hc =>
  let ⟨_, _, hf⟩ := List.mem_map.1 (compileFields_iff.1 h ▸ List.mem_map.2 ⟨c, hc, rfl⟩)
  compileField_optional_ok hf

theorem compilePackage_okOpt (nm : Naming) (files : List FileP) (cs : List Class)
    (h : compilePackage nm files = some cs) : ∀ p ∈ msgClasses cs, ∀ c ∈ p.2, OkOpt c := fun p hp =>
  let ⟨q, _, hq⟩ := List.mem_map.1 (compilePackage_msgs nm files cs h ▸ List.mem_map.2 ⟨p, hp, rfl⟩)
  compileFields_okOpt nm q.2 p.2 hq

end Bp.Plugin
