import BpProofs.ChanInv
/-
  Preservation of the invariant by each kind of atomic action.  The structural half of every lemma rewrites the record
  of the task through `sinv_frame`; `inv_put` and `inv_take`, which also move the queue and a log, do so on `s.setTask t x'`
  and re-establish `fifo` (for a data item put, `uniq` and `ord`) on top.  The arithmetic half has the same shape
  everywhere: `tsum_set_eq` rewrites `abs` of the new state into `abs s` with each count moved by the measures of the old
  and the new record of the task; with these evaluated, one of the `NumInv` lemmas of ChanInv.lean applies.
-/
namespace Bp.Chan

attribute [local simp] mPend mWok mInGet mOwed mRecvDone mCanc Wait.inGet Wait.isCancelled

theorem sinv_frame {s s' : Sys} {t : Nat} {x x' : Task} (h : SInv s) (hx : s.tasks[t]? = some x)
    (htasks : s'.tasks = s.tasks.set t x') (hq : s'.queue = s.queue) (hpl : s'.putLog = s.putLog)
    (hrl : s'.recvLog = s.recvLog) (hcl : s'.closed = s.closed) (hpc : s'.preClose = s.preClose)
    (hnext : x.code.nextSeq ≤ x'.code.nextSeq)
    (hgr : x'.wait.inGet = true → x'.code.isReceiver = true)
    (hfl : x'.code.isFlusher = true → mCanc x' = 0 ∧ s.closed = true)
    (hdq : ∀ g u, u ≠ t → u ∈ s.dq g → u ∈ s'.dq g)
    (hself : ∀ g, x'.wait = .blocked g .pending → t ∈ s'.dq g) : SInv s' := by
  refine ⟨by rw [hpl, hrl, hq]; exact h.fifo, ?_, by rw [hpl]; exact h.ord, ?_,
    by rw [hcl, hpc]; exact h.preCl, by rw [htasks]; exact forall_set h.getRecv hgr,
    by rw [htasks, hcl]; exact forall_set h.fl hfl⟩
  · rw [hpl, htasks]
    exact fun a b hab => Nat.lt_of_lt_of_le (h.uniq a b hab) (nextAt_set_le hx hnext a)
  · intro g u y hy hw
    rw [htasks] at hy
    rcases getElem?_set_cases hy with ⟨rfl, rfl⟩ | ⟨hut, hy⟩
    · exact hself g hw
    · exact hdq g u hut (h.g1 g u y hy hw)

theorem fl_keep {s : Sys} {t : Nat} {x x' : Task} (h : SInv s) (hx : s.tasks[t]? = some x)
    (hf' : x'.code.isFlusher = x.code.isFlusher) (hc : mCanc x' ≤ mCanc x) :
    x'.code.isFlusher = true → mCanc x' = 0 ∧ s.closed = true := fun hf => by
  have := h.fl t x hx (hf' ▸ hf)
  exact ⟨Nat.le_zero.mp (this.1 ▸ hc), this.2⟩

theorem sinv_wake {s : Sys} (g : Bool) (h : SInv s) : SInv (wake g s) := by
  have e := wake_eff g s h.g1
  refine ⟨by simpa using h.fifo, ?_, by simpa using h.ord, e.g1, by simpa using h.preCl, ?_, ?_⟩
  · intro a b hab
    rw [e.next a]
    exact h.uniq a b (by simpa using hab)
  · exact forall_wake h.getRecv (fun z hp hz hi => hz (by simpa [hp, -Wait.inGet] using hi))
  · rw [wake_closed]
    exact forall_wake h.fl (fun z hp hz hf => by simpa [hp] using hz hf)

theorem mem_dq_same {t : Nat} (s s' : Sys) (hg : s'.getters = s.getters) (hp : s'.putters = s.putters) :
    ∀ (g : Bool) (u : Nat), u ≠ t → u ∈ s.dq g → u ∈ s'.dq g := by
  intro g u _ hu; cases g <;> simp [Sys.dq, hg, hp] at hu ⊢ <;> exact hu

theorem inv_finish {s : Sys} {t : Nat} {x x' : Task} (h : Inv s) (hx : s.tasks[t]? = some x)
    (hw : x.wait = .ready) (hw' : x'.wait = .done) (hc' : x'.code = x.code) (hm' : x'.mustCancel = x.mustCancel)
    (hfresh : mFresh x = 0 ∨ ind s.flushed = 1) (howed : owedOf x.code = 0)
    (hrecv : x.code.isReceiver = true → s.cancels = 0 → ind s.closed = 1 ∧ s.queue.length ≤ s.waiting) :
    Inv (s.setTask t x') := by
  constructor
  · refine sinv_frame h.st hx rfl rfl rfl rfl rfl rfl (Nat.le_of_eq (congrArg _ hc'.symm)) (by simp [hw']) ?_ ?_ ?_
    · exact fl_keep h.st hx (congrArg _ hc') (by simp [hw, hw', hm'])
    · exact mem_dq_same _ _ rfl rfl
    · intro g hg; rw [hw'] at hg; cases hg
  · simp only [abs, Sys.setTask, tsum_set_eq _ hx]
    simp [-mRecvDone, hw, hw', hm', howed]
    refine h.nm.finish (abs_facts s).1 (hfresh.imp (fun e => by rw [e]; simp [abs, mFresh, hw']) id) ?_
    cases hrc : x.code.isReceiver
    · left; simp [abs, hw, hw', hc', hrc]
    · exact Or.inr (hrecv hrc)

theorem inv_finish' {s : Sys} {t : Nat} {x : Task} (h : Inv s) (hx : s.tasks[t]? = some x) (hw : x.wait = .ready)
    (o : Outcome) (hfresh : mFresh x = 0 ∨ ind s.flushed = 1) (howed : owedOf x.code = 0)
    (hrecv : x.code.isReceiver = true → s.cancels = 0 → ind s.closed = 1 ∧ s.queue.length ≤ s.waiting) :
    Inv (finish s t x o) :=
  inv_finish (x' := { x with wait := .done, out := o }) h hx hw rfl rfl rfl hfresh howed hrecv

/-- one deque changes, and only at `t`: the other tasks stay where they wait -/
theorem mem_dq_at (s s' : Sys) (g0 : Bool) (t : Nat) (hg : ∀ u, u ≠ t → u ∈ s.dq g0 → u ∈ s'.dq g0)
    (ho : s'.dq (!g0) = s.dq (!g0)) : ∀ (g : Bool) (u : Nat), u ≠ t → u ∈ s.dq g → u ∈ s'.dq g := by
  intro g u hu hmem
  by_cases hgg : g = g0
  · subst hgg; exact hg u hu hmem
  · have : g = !g0 := Bool.eq_not_of_ne hgg
    subst this; rw [ho]; exact hmem

theorem inv_close {s : Sys} (h : Inv s) : Inv (doClose s) := by
  have hpc := h.st.preCl
  constructor
  · refine ⟨h.st.fifo, ?_, h.st.ord, ?_, ?_, ?_, ?_⟩
    · exact fun a b hab => Nat.lt_of_lt_of_le (h.st.uniq a b hab) (nextAt_append_le _ _ a)
    · intro g u y hy hw
      rcases getElem?_snoc hy with hy | rfl
      · have := h.st.g1 g u y hy hw
        cases g <;> simpa [Sys.dq, doClose] using this
      · cases hw
    · simp only [doClose]
      cases hp : s.preClose <;> simp
    · intro u y hy hf
      rcases getElem?_snoc hy with hy | rfl
      · exact h.st.getRecv u y hy hf
      · cases hf
    · intro u y hy hf
      rcases getElem?_snoc hy with hy | rfl
      · exact ⟨(h.st.fl u y hy hf).1, rfl⟩
      · exact ⟨rfl, rfl⟩
  · have hdq : s.putLog.length ≤ s.recvLog.length + s.queue.length := by
      have := fifo_len h.st; have := (abs_facts s).2; simp only [abs] at *; omega
    -- the first `close()` records the put count, a later one keeps it
    have hpn : (ind s.closed = 0 → (doClose s).preClose.getD 0 = s.putLog.length) ∧
        (ind s.closed = 1 → (doClose s).preClose.getD 0 = s.preClose.getD 0) := by
      cases hcl : s.closed <;> cases hp : s.preClose <;> simp [doClose, hcl, hp] at hpc ⊢
    simp [abs, doClose, tsum_append, tsum, owedOf, mFresh, Code.isReceiver, flusherTask]
    exact h.nm.close hdq hpn.1 hpn.2

/-- a fresh receiver finds the queue empty and suspends on a new getter -/
theorem inv_block_get {s : Sys} {t : Nat} {x x' : Task} (h : Inv s) (hx : s.tasks[t]? = some x)
    (hw : x.wait = .ready) (hw' : x'.wait = .blocked true .pending) (hc' : x'.code = x.code)
    (hm' : x'.mustCancel = x.mustCancel) (hmc : x.mustCancel = false) (hrc : x.code.isReceiver = true)
    (hq : s.queue = []) (hnd : ind s.closed = 1 → s.waiting < s.queue.length) :
    Inv { s.setTask t x' with getters := s.getters ++ [t], waiting := s.waiting + 1 } := by
  obtain ⟨tm, hc⟩ := receiver_of hrc
  constructor
  · refine sinv_frame h.st hx rfl rfl rfl rfl rfl rfl (Nat.le_of_eq (congrArg _ hc'.symm)) (by intro _; rw [hc']; exact hrc) ?_ ?_ ?_
    · intro hf; rw [hc', hc] at hf; cases hf
    · exact mem_dq_at _ _ true t (fun _ _ => List.mem_append_left _) rfl
    · intro g hg; rw [hw'] at hg; cases hg; simp [Sys.dq]
  · simp only [abs, Sys.setTask, tsum_set_eq _ hx]
    simp [mFresh, hw, hw', hc', hm', hmc, hc]
    exact h.nm.enterGet (congrArg List.length hq) hnd _

/-- a sender / flusher that is ready, or was woken from a putter, finds the queue full and suspends on a new putter -/
theorem inv_wait_put {s : Sys} {t : Nat} {x x' : Task} (h : Inv s) (hx : s.tasks[t]? = some x)
    (hwx : x.wait = .ready ∨ x.wait = .blocked false .woken) (hw' : x'.wait = .blocked false .pending)
    (hn' : x'.code.nextSeq = x.code.nextSeq) (ho' : owedOf x'.code = owedOf x.code)
    (hf' : x'.code.isFlusher = x.code.isFlusher) (hm' : x'.mustCancel = x.mustCancel) (hfr : mFresh x = 0)
    (hfull : 0 < s.maxsize ∧ s.maxsize ≤ s.queue.length) :
    Inv { s.setTask t x' with putters := s.putters ++ [t] } := by
  constructor
  · refine sinv_frame h.st hx rfl rfl rfl rfl rfl rfl (Nat.le_of_eq hn'.symm) (by simp [hw']) ?_ ?_ ?_
    · exact fl_keep h.st hx hf' (by rcases hwx with hw | hw <;> simp [hw, hw', hm'])
    · exact mem_dq_at _ _ false t (fun _ _ => List.mem_append_left _) rfl
    · intro g hg; rw [hw'] at hg; cases hg; simp [Sys.dq]
  · have m1 : mFresh x' = 0 := by simp [mFresh, hw']
    simp only [abs, Sys.setTask, tsum_set_eq _ hx, hfr, m1]
    rcases hwx with hw | hw <;> simp [hw, hw', ho', hm'] <;> exact h.nm.putters hfull.1 hfull.2 _ _

/-- a woken waiter finds the queue empty (getter) / full (putter) again and suspends on a new future -/
theorem inv_reblock {s : Sys} {t : Nat} {x x' : Task} (g0 : Bool) (h : Inv s) (hx : s.tasks[t]? = some x)
    (hw : x.wait = .blocked g0 .woken) (hw' : x'.wait = .blocked g0 .pending)
    (hn' : x'.code.nextSeq = x.code.nextSeq) (ho' : owedOf x'.code = owedOf x.code)
    (hf' : x'.code.isFlusher = x.code.isFlusher) (hr' : x'.code.isReceiver = x.code.isReceiver)
    (hm' : x'.mustCancel = x.mustCancel)
    (hq : if g0 then s.queue = [] else (0 < s.maxsize ∧ s.maxsize ≤ s.queue.length)) :
    Inv ((s.setTask t x').setDq g0 (s.dq g0 ++ [t])) := by
  cases g0
  · exact inv_wait_put h hx (Or.inr hw) hw' hn' ho' hf' hm' (by simp [mFresh, hw]) (by simpa using hq)
  have hq : s.queue = [] := by simpa using hq
  constructor
  · refine sinv_frame h.st hx rfl rfl rfl rfl rfl rfl (Nat.le_of_eq hn'.symm)
      (by intro _; rw [hr']; exact h.st.getRecv t x hx (by rw [hw]; rfl)) ?_ ?_ ?_
    · exact fl_keep h.st hx hf' (by simp [hw, hw', hm'])
    · exact mem_dq_at _ _ true t (fun _ _ => List.mem_append_left _) rfl
    · intro g hg; rw [hw'] at hg; cases hg; simp [Sys.dq, Sys.setDq]
  · simp only [Sys.setDq, if_true, abs, Sys.setTask, tsum_set_eq _ hx]
    simp [mFresh, hw, hw', ho', hm']
    exact h.nm.getters (congrArg List.length hq) _ _

/-- a sender / flusher finds the queue full and suspends on a new putter -/
theorem inv_block_put {s : Sys} {t : Nat} {x x' : Task} (h : Inv s) (hx : s.tasks[t]? = some x)
    (hw : x.wait = .ready) (hw' : x'.wait = .blocked false .pending)
    (hn' : x'.code.nextSeq = x.code.nextSeq) (ho' : owedOf x'.code = owedOf x.code)
    (hf' : x'.code.isFlusher = x.code.isFlusher) (hm' : x'.mustCancel = x.mustCancel) (hfr : mFresh x = 0)
    (hfull : 0 < s.maxsize ∧ s.maxsize ≤ s.queue.length) :
    Inv { s.setTask t x' with putters := s.putters ++ [t] } :=
  inv_wait_put h hx (Or.inl hw) hw' hn' ho' hf' hm' hfr hfull

/-- `_flush_queue` starts: `_flushed = True`, `max(0, waiting - qsize)` sentinels to put -/
theorem inv_flush_compute {s : Sys} {t : Nat} {x x' : Task} (h : Inv s) (hx : s.tasks[t]? = some x)
    (hw : x.wait = .ready) (hc : x.code = .flusher none) (hmc : x.mustCancel = false)
    (hw' : x'.wait = .ready) (hc' : x'.code = .flusher (some (s.waiting - s.queue.length)))
    (hm' : x'.mustCancel = false) : Inv { s.setTask t x' with flushed := true } := by
  have hcl := (h.st.fl t x hx (by rw [hc]; rfl)).2
  constructor
  · refine sinv_frame h.st hx rfl rfl rfl rfl rfl rfl (by rw [hc, hc']; exact Nat.le_refl _) (by simp [hw']) ?_ ?_ ?_
    · intro _; exact ⟨by simp [hw', hm'], hcl⟩
    · exact mem_dq_same _ _ rfl rfl
    · intro g hg; rw [hw'] at hg; cases hg
  · simp only [abs, Sys.setTask, ind_true, tsum_set_eq _ hx]
    simp [hw, hw', hc, hc', hmc, hm', owedOf, Code.isReceiver]
    exact h.nm.flush (congrArg ind hcl) _

/-- one pending waiter, if there is any, becomes a woken one -/
theorem abs_wake (g : Bool) (s : Sys) (hG : G1 s) : abs (wake g s) =
    match g with
    | true => { abs s with pG := (abs s).pG - 1, wG := (abs s).wG + min 1 (abs s).pG }
    | false => { abs s with pP := (abs s).pP - 1, wP := (abs s).wP + min 1 (abs s).pP } := by
  have e := wake_eff g s hG
  have e1 := e.sumPW; have e2 := e.wokUp; have e3 := e.wokLe
  have hp : tsum (mPend g) (wake g s).tasks = tsum (mPend g) s.tasks - 1 := by omega
  have hw : tsum (mWok g) (wake g s).tasks = tsum (mWok g) s.tasks + min 1 (tsum (mPend g) s.tasks) := by omega
  obtain ⟨o1, o2, o3, o4, o5, o6, o7⟩ := e.others
  cases g <;>
    simp only [Bool.not_false, Bool.not_true] at o1 o2 <;>
    simp only [abs, wake_queue, wake_maxsize, wake_unfinished, wake_closed, wake_flushed, wake_waiting, wake_putLog,
      wake_recvLog, wake_preClose, wake_cancels, hp, hw, o1, o2, o3, o4, o5, o6, o7]

/-- `put_nowait(item)` by a sender / flusher that found room -/
theorem inv_put {s : Sys} {t : Nat} {x x' : Task} {it : Item} (h : Inv s) (hx : s.tasks[t]? = some x)
    (hwx : x.wait = .ready ∨ x.wait = .blocked false .woken) (hw' : x'.wait = .ready)
    (hm' : x'.mustCancel = x.mustCancel) (hfr : mFresh x = 0) (hnf' : x'.code ≠ .flusher none)
    (hf' : x'.code.isFlusher = x.code.isFlusher)
    (hnext : x.code.nextSeq ≤ x'.code.nextSeq)
    (hdata : ∀ a b, it = .data a b → a = t ∧ b = x.code.nextSeq ∧ x'.code.nextSeq = b + 1 ∧
      owedOf x.code = 0 ∧ owedOf x'.code = 0)
    (hflush : it = .flush → owedOf x.code = owedOf x'.code + 1) :
    Inv (putNowait (s.setTask t x') it) := by
  have hge := tsum_ge (f := mOwed) hx
  have hfr' : mFresh x' = 0 := by simp [mFresh, hnf']
  have hs0 : SInv (s.setTask t x') := sinv_frame h.st hx rfl rfl rfl rfl rfl rfl hnext (by simp [hw'])
    (fl_keep h.st hx hf' (by rcases hwx with hw | hw <;> simp [hw, hw', hm']))
    (mem_dq_same _ _ rfl rfl) (by intro g hg; rw [hw'] at hg; cases hg)
  have hql : (s.queue ++ [it]).length = s.queue.length + 1 := by simp
  obtain ⟨t1, t2, _⟩ := takeWhile_append_len Item.isData s.queue it
  have hns := h.nm.noSent
  simp only [abs] at hns
  unfold putNowait
  cases it with
  | flush =>
    -- a sentinel leaves the put log alone
    refine ⟨sinv_wake true { hs0 with fifo := by simp [Sys.setTask, h.st.fifo, Item.isData] }, ?_⟩
    rw [abs_wake true _ (by exact hs0.g1)]
    simp only [abs, Sys.setTask, tsum_set_eq _ hx, hql, hfr, hfr']
    have hfo := hflush rfl
    -- the task was ready, or a woken putter: the same steps
    rcases hwx with hw | hw
    · simp [hw, hw', hm', Item.isData] at hge ⊢
      exact h.nm.put _ (Nat.le_succ _) t1 (Nat.le_refl _) (fun e => by have := (hns e).1; omega)
        (show tsum mOwed s.tasks ≤ _ by omega)
    · simp [hw, hw', hm', Item.isData] at hge ⊢
      exact h.nm.put _ (show tsum (mWok false) s.tasks ≤ _ by omega) t1 (Nat.le_refl _) (fun e => by have := (hns e).1; omega)
        (show tsum mOwed s.tasks ≤ _ by omega)
  | data a b =>
    obtain ⟨rfl, e2, e3, ho1, ho2⟩ := hdata a b rfl
    -- a data item is the sender's next: above its entries in the log, below its new `nextSeq`
    refine ⟨sinv_wake true { hs0 with fifo := by simp [Sys.setTask, h.st.fifo, Item.isData, List.filter],
                                      uniq := ?_, ord := ?_ }, ?_⟩
    · intro c d hcd
      rcases List.mem_append.mp hcd with hcd | hcd
      · exact hs0.uniq c d hcd
      · cases List.mem_singleton.mp hcd
        exact (nextAt_set_self x' hx).symm ▸ e3 ▸ Nat.lt_succ_self b
    · refine List.pairwise_append.mpr ⟨h.st.ord, by simp, fun y hy z hz => ?_⟩
      cases List.mem_singleton.mp hz
      cases y with
      | flush => trivial
      | data c d =>
        intro hca
        subst hca
        have := h.st.uniq c d hy
        simp only [nextAt, hx] at this
        omega
    rw [abs_wake true _ (by exact hs0.g1)]
    simp only [abs, Sys.setTask, tsum_set_eq _ hx, hql, hfr, hfr']
    rcases hwx with hw | hw
    · simp [hw, hw', hm', ho1, ho2, Item.isData]
      exact h.nm.put _ (Nat.le_succ _) t1 (Nat.le_succ _) (fun e => ⟨(hns e).1, t2 (hns e).2 rfl⟩) (Nat.le_succ _)
    · simp [hw, hw', hm', ho1, ho2, Item.isData]
      exact h.nm.put _ (show tsum (mWok false) s.tasks ≤ _ by omega) t1 (Nat.le_succ _) (fun e => ⟨(hns e).1, t2 (hns e).2 rfl⟩)
        (Nat.le_succ _)

/-- a receiver takes the head of the queue (`get_nowait` + `task_done` + sentinel test) -/
theorem inv_take {s : Sys} {t : Nat} {x x' : Task} {it : Item} {rest : List Item} {rl' : List (Nat × Item)}
    (counted : Bool) (h : Inv s) (hx : s.tasks[t]? = some x)
    (hwx : x.wait = if counted then .blocked true .woken else .ready)
    (hq : s.queue = it :: rest) (hc' : x'.code = x.code) (hm' : x'.mustCancel = x.mustCancel)
    (hrc : x.code.isReceiver = true)
    (hfl : it = .flush → x'.wait = .done ∧ rl' = s.recvLog)
    (hdt : ∀ a b, it = .data a b → x'.wait = .ready ∧ rl' = s.recvLog ++ [(t, it)])
    (hnd : counted = false → ind s.closed = 1 → s.waiting < s.queue.length) :
    Inv (wake false { s.setTask t x' with queue := rest, waiting := if counted then s.waiting - 1 else s.waiting, unfinished := s.unfinished - 1, recvLog := rl' }) := by
  obtain ⟨tm, hc⟩ := receiver_of hrc
  have hw'np : ∀ g, x'.wait ≠ .blocked g .pending := by
    intro g hg
    cases it with
    | flush => rw [(hfl rfl).1] at hg; cases hg
    | data a b => rw [(hdt a b rfl).1] at hg; cases hg
  have hs0 : SInv (s.setTask t x') := sinv_frame h.st hx rfl rfl rfl rfl rfl rfl (Nat.le_of_eq (congrArg _ hc'.symm))
    (by intro _; rw [hc']; exact hrc) (by intro hf; rw [hc', hc] at hf; cases hf) (mem_dq_same _ _ rfl rfl)
    (fun g hg => absurd hg (hw'np g))
  refine ⟨sinv_wake false { hs0 with fifo := ?_ }, ?_⟩
  · show s.putLog = List.map Prod.snd rl' ++ List.filter Item.isData rest
    rw [h.st.fifo, hq]
    cases it with
    | flush => rw [(hfl rfl).2]; simp [List.filter, Item.isData]
    | data a b => rw [(hdt a b rfl).2]; simp [List.filter, Item.isData]
  rw [abs_wake false _ (by exact hs0.g1)]
  have hql : s.queue.length = rest.length + 1 := congrArg List.length hq
  have htwr := (List.takeWhile_sublist Item.isData (l := rest)).length_le
  simp only [abs, Sys.setTask, tsum_set_eq _ hx]
  cases it with
  | flush =>
    obtain ⟨hw', hrl⟩ := hfl rfl
    subst hrl
    have htw : (List.takeWhile Item.isData s.queue).length = 0 := by rw [hq]; rfl
    cases counted with
    | false =>
      simp [mFresh, hwx, hw', hc', hm', hc, owedOf, Code.isReceiver]
      exact h.nm.take hql htwr _ (c := 0) (k := 0) (Nat.zero_le _) (Nat.zero_le _) (fun e => by cases e)
        (fun _ => htw) (fun _ => hnd rfl)
    | true =>
      simp [mFresh, hwx, hw', hc', hm', hc, owedOf, Code.isReceiver]
      exact h.nm.take hql htwr _ (c := 1) (k := 0) (Nat.le_refl _) (Nat.zero_le _) (fun e => by cases e)
        (fun _ => htw) (fun e => by cases e)
  | data a b =>
    obtain ⟨hw', hrl⟩ := hdt a b rfl
    subst hrl
    have htw : (List.takeWhile Item.isData s.queue).length = (List.takeWhile Item.isData rest).length + 1 := by
      rw [hq]; rfl
    cases counted with
    | false =>
      simp [mFresh, hwx, hw', hc', hm', hc, owedOf, Code.isReceiver]
      exact h.nm.take hql htwr _ (c := 0) (k := 1) (Nat.zero_le _) (Nat.le_refl _) (fun _ => htw)
        (fun e => by cases e) (fun _ => hnd rfl)
    | true =>
      simp [mFresh, hwx, hw', hc', hm', hc, owedOf, Code.isReceiver]
      exact h.nm.take hql htwr _ (c := 1) (k := 1) (Nat.le_refl _) (Nat.le_refl _) (fun _ => htw)
        (fun e => by cases e) (fun e => by cases e)

/-- a task with a cancellation in flight is not a `_flush_queue` task, and some `cancel()` / timer has hit -/
theorem canc_facts {s : Sys} {t : Nat} {x : Task} (h : Inv s) (hx : s.tasks[t]? = some x) (hc : mCanc x = 1) :
    x.code.isFlusher = false ∧ owedOf x.code = 0 ∧ s.cancels ≠ 0 := by
  have hnfl : x.code.isFlusher = false := by
    cases hfl : x.code.isFlusher
    · rfl
    · have := (h.st.fl t x hx hfl).1; omega
  refine ⟨hnfl, by cases hcode : x.code <;> simp [hcode, owedOf, Code.isFlusher] at hnfl ⊢, fun h0 => ?_⟩
  have := h.nm.noCanc h0
  have h2 := tsum_ge (f := mCanc) hx
  simp only [abs] at this
  omega

/-- `task.cancel()` / the `wait_for` timer firing -/
theorem inv_cancel_task {s : Sys} (h : Inv s) (tgt : Nat) (timer : Bool) : Inv (cancelTask s tgt timer) := by
  unfold cancelTask
  cases hy : s.tasks[tgt]? with
  | none => exact h
  | some y =>
    simp only
    cases hf : y.code.isFlusher with
    | true => simpa using h
    | false =>
      simp only [Bool.false_eq_true, if_false]
      have hnf : y.code ≠ .flusher none := by intro e; rw [e] at hf; simp [Code.isFlusher] at hf
      -- the new record: no pending future is added, and no other count but `canc` sees the change
      have marked : ∀ (x' : Task), x'.code = y.code → (∀ g, x'.wait ≠ .blocked g .pending) →
          (x'.wait.inGet = true → y.wait.inGet = true) →
          ((∀ g, mPend g x' ≤ mPend g y) ∧ (∀ g, mWok g x' = mWok g y) ∧ mInGet x' = mInGet y ∧
            mOwed x' = mOwed y ∧ mFresh x' = mFresh y) →
          Inv { s.setTask tgt x' with cancels := s.cancels + 1 } := by
        intro x' hc' hnp hig e
        constructor
        · exact sinv_frame h.st hy rfl rfl rfl rfl rfl rfl (Nat.le_of_eq (congrArg _ hc'.symm))
            (fun hi => hc' ▸ h.st.getRecv tgt y hy (hig hi)) (by intro hf'; rw [hc', hf] at hf'; cases hf')
            (mem_dq_same _ _ rfl rfl) (fun g hg => absurd hg (hnp g))
        · simp only [abs, Sys.setTask, tsum_set_same _ hy (e.2.1 true), tsum_set_same _ hy (e.2.1 false),
            tsum_set_same _ hy e.2.2.1, tsum_set_same _ hy e.2.2.2.1, tsum_set_same _ hy e.2.2.2.2]
          exact (h.nm.lessPending (tsum_set_le _ hy (e.1 true)) (tsum_set_le _ hy (e.1 false))).cancelled
            (Nat.succ_ne_zero _) _ _
      split
      · exact h
      · rename_i g hw
        exact marked _ rfl (by intro g' hg; cases hg) (by simp [hw, -Wait.inGet]) (by cases g <;> simp [mFresh, hw, hnf])
      · rename_i _ hnp
        exact marked _ rfl hnp id (by simp [mFresh, hnf])

end Bp.Chan
