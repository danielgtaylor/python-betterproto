import BpModel.Typing
/-
  The annotation parser (`pAnn` / `pAtom`) on the text the typing compilers produce.  The parser is proved right once
  on its own grammar (`Form`, `parse_form`: one combinator of `Chain` per production); a compiler is described by the
  term it writes (`formT c` for the `typing`-style compilers, `form310` inside the quotes of the 3.10 compiler), and
  `render_form` says that `render c e` is the text of that term.  Between the two stands the table of what each method
  writes and what each head means (`*_typing`, `*_310`, `app1_*`, `heads_pre`): only there are string constants
  compared, and text, shape and well-formedness of the terms are each an induction whose cases are rows of it.
-/
namespace Bp.Typing

/-- what may follow an atom: not a name character (the name would go on) and not `[` -/
def AtomEnd (r : Str) : Prop := ∀ ch r', r = ch :: r' → isNameChar ch = false ∧ ch ≠ '['

/-- what may follow a whole annotation: an atom end that does not continue a union -/
def ChainEnd (r : Str) : Prop := AtomEnd r ∧ stripPrefix " | ".toList r = none

theorem isNameChar_dq : isNameChar dq = false := by decide

theorem ne_dq_of_name {ch : Char} (h : isNameChar ch = true) : (ch == dq) = false := by
  cases hc : ch == dq
  · rfl
  · have : ch = dq := by simpa using hc
    subst this
    rw [isNameChar_dq] at h
    cases h

theorem spanName_append (n r : Str) (hn : n.all isNameChar = true)
    (hr : ∀ ch r', r = ch :: r' → isNameChar ch = false) : spanName (n ++ r) = (n, r) := by
  induction n with
  | nil =>
    cases r with
    | nil => rfl
    | cons ch r' => simp [spanName, hr ch r' rfl]
  | cons a n ih =>
    simp only [List.all_cons, Bool.and_eq_true] at hn
    simp [spanName, hn.1, ih hn.2]

theorem stripPrefix_append (p r : Str) : stripPrefix p (p ++ r) = some r := by
  induction p with
  | nil => cases r <;> rfl
  | cons a p ih => simp [stripPrefix, ih]

theorem atomEnd_nil : AtomEnd [] := by intro ch r' h; cases h

theorem atomEnd_cons {ch : Char} {r : Str} (h1 : isNameChar ch = false) (h2 : ch ≠ '[') : AtomEnd (ch :: r) := by
  intro c r' h
  cases h
  exact ⟨h1, h2⟩

theorem chainEnd_nil : ChainEnd [] := ⟨atomEnd_nil, rfl⟩

/-- a chain ends before every character that neither goes on with a name, opens a bracket nor is a blank -/
theorem chainEnd_cons {ch : Char} (r : Str) (h : (isNameChar ch || ch == '[' || ch == ' ') = false) :
    ChainEnd (ch :: r) := by
  simp only [Bool.or_eq_false_iff, beq_eq_false_iff_ne] at h
  exact ⟨atomEnd_cons h.1.1 h.1.2, by simp [stripPrefix, Ne.symm h.2]⟩

theorem ae_space (r : Str) : AtomEnd (' ' :: r) := atomEnd_cons (by decide) (by decide)

theorem ne_nil_of_valid (n : Str) (h : validName n = true) : n ≠ [] := by
  intro e; subst e; simp [validName] at h

/-- the lexer on a name followed by what is no name character: the name is not a literal and is read to its end -/
theorem lex_name {n r : Str} (hv : validName n = true) (hr : ∀ ch r', r = ch :: r' → isNameChar ch = false) :
    ∃ a n', n = a :: n' ∧ (a == dq) = false ∧ spanName (a :: (n' ++ r)) = (a :: n', r) := by
  cases n with
  | nil => simp [validName] at hv
  | cons a n =>
    simp only [validName, List.all_cons, Bool.and_eq_true] at hv
    exact ⟨a, n, rfl, ne_dq_of_name hv.2.1, spanName_append (a :: n) r (by simp [hv.2.1, hv.2.2]) hr⟩

theorem pAtom_name (f : Nat) (q : Bool) (n r : Str) (hv : validName n = true) (hr : AtomEnd r) :
    pAtom (f + 1) q (n ++ r) = some (.nm n, r) := by
  obtain ⟨a, n, rfl, ha, hs⟩ := lex_name hv fun ch r' h => (hr ch r' h).1
  rw [List.cons_append]
  unfold pAtom
  simp only [ha, hs]
  cases r with
  | nil => simp
  | cons c r' =>
    have := (hr c r' rfl).2
    simp [this]

theorem pAnn_end {f : Nat} {q : Bool} {s r : Str} {a : Shape} (h : pAtom f q s = some (a, r))
    (hr : stripPrefix " | ".toList r = none) : pAnn (f + 1) q s = some (a, r) := by
  unfold pAnn
  simp only [h, hr]

theorem pAnn_or {f : Nat} {q : Bool} {s t r' : Str} {a b : Shape}
    (h : pAtom f q s = some (a, " | ".toList ++ t)) (ht : pAnn f q t = some (b, r')) :
    pAnn (f + 1) q s = some (mkOr a b, r') := by
  unfold pAnn
  simp only [h, stripPrefix_append, ht]

theorem pAtom_app1 (f : Nat) (q : Bool) (h X r : Str) (a : Shape) (hv : validName h = true)
    (hX : pAnn f q (X ++ ']' :: r) = some (a, ']' :: r)) :
    pAtom (f + 1) q (h ++ '[' :: (X ++ ']' :: r)) = some (mkApp1 h a, r) := by
  obtain ⟨c, h, rfl, hc, hs⟩ := lex_name hv (r := '[' :: (X ++ ']' :: r)) fun ch r' e => by cases e; decide
  rw [List.cons_append]
  unfold pAtom
  simp only [hc, hs, hX]
  simp

theorem pAtom_app2 (f : Nat) (q : Bool) (h X Y r : Str) (a b : Shape) (hv : validName h = true)
    (hX : pAnn f q (X ++ ',' :: ' ' :: (Y ++ ']' :: r)) = some (a, ',' :: ' ' :: (Y ++ ']' :: r)))
    (hY : pAnn f q (Y ++ ']' :: r) = some (b, ']' :: r)) :
    pAtom (f + 1) q (h ++ '[' :: (X ++ ',' :: ' ' :: (Y ++ ']' :: r))) = some (mkApp2 h a b, r) := by
  obtain ⟨c, h, rfl, hc, hs⟩ :=
    lex_name hv (r := '[' :: (X ++ ',' :: ' ' :: (Y ++ ']' :: r))) fun ch r' e => by cases e; decide
  rw [List.cons_append]
  unfold pAtom
  simp only [hc, hs, hX]
  have : stripPrefix [',', ' '] (',' :: ' ' :: (Y ++ ']' :: r)) = some (Y ++ ']' :: r) := by
    simp [stripPrefix]
  simp [this, hY]

theorem pAtom_lit (f : Nat) (X r : Str) (a : Shape)
    (hX : pAnn f true (X ++ dq :: r) = some (a, dq :: r)) :
    pAtom (f + 1) false (dq :: (X ++ dq :: r)) = some (a, r) := by
  unfold pAtom
  simp [hX]

theorem mkOr_assoc (a b c : Shape) : mkOr (mkOr a b) c = mkOr a (mkOr b c) := by
  induction a with
  | or x y _ ihy => simp only [mkOr, ihy]
  | nm n => simp only [mkOr]
  | app1 h x _ => simp only [mkOr]
  | app2 h x y _ _ => simp only [mkOr]

theorem bar_eq (tail : Str) : " | ".toList ++ tail = ' ' :: ('|' :: ' ' :: tail) := by simp

/-- The grammar the model's comment spells out above `pAnn` (`ann := atom (" | " atom)*`, `atom := '"' ann '"' | name |
    name[ann] | name[ann, ann]`), as a datatype: what a compiler writes is the `text` of such a term. -/
inductive Form
  | nm (n : Str)
  | lit (X : Form)
  | app1 (h : Str) (X : Form)
  | app2 (h : Str) (X Y : Form)
  | bar (X Y : Form)

namespace Form

def text : Form → Str
  | nm n => n
  | lit X => quoted X.text
  | app1 h X => h ++ '[' :: (X.text ++ [']'])
  | app2 h X Y => h ++ '[' :: (X.text ++ ',' :: ' ' :: (Y.text ++ [']']))
  | bar X Y => X.text ++ (" | ".toList ++ Y.text)

def shape : Form → Shape
  | nm n => .nm n
  | lit X => X.shape
  | app1 h X => mkApp1 h X.shape
  | app2 h X Y => mkApp2 h X.shape Y.shape
  | bar X Y => mkOr X.shape Y.shape

/-- well formed at a position inside (`q`) or outside a string literal: names are names, no literal inside a literal -/
def ok (q : Bool) : Form → Bool
  | nm n => validName n
  | lit X => !q && X.ok true
  | app1 h X => validName h && X.ok q
  | app2 h X Y => validName h && X.ok q && Y.ok q
  | bar X Y => X.ok q && Y.ok q

theorem text_ne_nil (F : Form) (q : Bool) (h : F.ok q = true) : F.text ≠ [] := by
  induction F with
  | nm n => exact ne_nil_of_valid n h
  | lit X _ => simp [text, quoted]
  | app1 hd X _ =>
    simp only [ok, Bool.and_eq_true] at h
    simp [text, ne_nil_of_valid hd h.1]
  | app2 hd X Y _ _ =>
    simp only [ok, Bool.and_eq_true] at h
    simp [text, ne_nil_of_valid hd h.1.1]
  | bar X Y ihx _ =>
    simp only [ok, Bool.and_eq_true] at h
    simp [text, ihx h.1]

end Form

/-- `T` is a chain of `n` atoms joined by ` | ` that denotes `s`: followed by an end it parses to `s`, followed by
    ` | ` and more it prepends its alternatives.  `k` is fuel enough; that twice the length bounds it is part of the
    notion because it composes through every production, so no fuel function is needed. -/
def Chain (q : Bool) (T : Str) (s : Shape) : Prop :=
  ∃ k n, n + 1 ≤ k ∧ k ≤ 2 * T.length + 1 ∧
    (∀ f r, k ≤ f → ChainEnd r → pAnn f q (T ++ r) = some (s, r)) ∧
    (∀ g tail b r', k ≤ g + n → pAnn g q tail = some (b, r') →
      pAnn (g + n) q (T ++ (" | ".toList ++ tail)) = some (mkOr s b, r'))

namespace Chain

/-- an atom is a chain of one: it takes one unit of fuel more than its parts, and the chain one more than the atom -/
theorem of_atom {q : Bool} {A : Str} {s : Shape} (k : Nat) (hb : k + 1 ≤ 2 * A.length)
    (hA : ∀ g r, k ≤ g → AtomEnd r → pAtom (g + 1) q (A ++ r) = some (s, r)) : Chain q A s := by
  refine ⟨k + 2, 1, by omega, by omega, fun f r hf hr => ?_, fun f tail b r' hf ht => ?_⟩
  · obtain ⟨g, rfl⟩ : ∃ g, f = g + 1 + 1 := ⟨f - 2, by omega⟩
    exact pAnn_end (hA g r (by omega) hr.1) hr.2
  · obtain ⟨g, rfl⟩ : ∃ g, f = g + 1 := ⟨f - 1, by omega⟩
    exact pAnn_or (hA g (" | ".toList ++ tail) (by omega) (by rw [bar_eq]; exact ae_space _)) ht

theorem name (q : Bool) (n : Str) (hv : validName n = true) : Chain q n (.nm n) :=
  have hne := List.length_pos_iff.2 (ne_nil_of_valid n hv)
  of_atom 0 (by omega) fun g r _ hr => pAtom_name g q n r hv hr

theorem app1 {q : Bool} {X : Str} {a : Shape} (h : Str) (hv : validName h = true) (hX : Chain q X a) :
    Chain q (h ++ '[' :: (X ++ [']'])) (mkApp1 h a) := by
  obtain ⟨k, n, _, hb, h1, _⟩ := hX
  refine of_atom k (by simp only [List.length_append, List.length_cons]; omega) fun g r hg hr => ?_
  have := pAtom_app1 g q h X r a hv (h1 g (']' :: r) hg (chainEnd_cons r (by decide)))
  simpa only [List.append_assoc, List.cons_append, List.nil_append] using this

theorem app2 {q : Bool} {X Y : Str} {a b : Shape} (h : Str) (hv : validName h = true)
    (hX : Chain q X a) (hY : Chain q Y b) :
    Chain q (h ++ '[' :: (X ++ ',' :: ' ' :: (Y ++ [']']))) (mkApp2 h a b) := by
  obtain ⟨kx, _, _, hbx, x1, _⟩ := hX
  obtain ⟨ky, _, _, hby, y1, _⟩ := hY
  refine of_atom (kx + ky) (by simp only [List.length_append, List.length_cons]; omega) fun g r hg hr => ?_
  have := pAtom_app2 g q h X Y r a b hv (x1 g _ (by omega) (chainEnd_cons _ (by decide)))
    (y1 g (']' :: r) (by omega) (chainEnd_cons r (by decide)))
  simpa only [List.append_assoc, List.cons_append, List.nil_append] using this

/-- a chain inside a literal, with its quotes, is an atom outside -/
theorem lit {X : Str} {a : Shape} (hX : Chain true X a) : Chain false (quoted X) a := by
  obtain ⟨k, n, _, hb, h1, _⟩ := hX
  refine of_atom k (by simp only [quoted, List.length_append, List.length_cons]; omega) fun g r hg hr => ?_
  have := pAtom_lit g X r a (h1 g (dq :: r) hg (chainEnd_cons r (by decide)))
  simpa only [quoted, List.append_assoc, List.cons_append, List.nil_append] using this

theorem bar {q : Bool} {X Y : Str} {a b : Shape} (hX : Chain q X a) (hY : Chain q Y b) :
    Chain q (X ++ (" | ".toList ++ Y)) (mkOr a b) := by
  obtain ⟨kx, nx, hnx, hbx, _, x2⟩ := hX
  obtain ⟨ky, ny, hny, hby, y1, y2⟩ := hY
  have h3 : " | ".toList.length = 3 := by decide +kernel
  refine ⟨kx + ky, nx + ny, by omega, by simp only [List.length_append, h3]; omega, fun f r hf hr => ?_,
    fun g tail c r' hg ht => ?_⟩
  · obtain ⟨g, rfl⟩ : ∃ g, f = g + nx := ⟨f - nx, by omega⟩
    have := x2 g (Y ++ r) b r (by omega) (y1 g r (by omega) hr)
    simpa only [List.append_assoc] using this
  · have hb := y2 g tail c r' (by omega) ht
    have := x2 (g + ny) (Y ++ (" | ".toList ++ tail)) _ r' (by omega) hb
    rw [show g + (nx + ny) = g + ny + nx by omega]
    simpa only [mkOr_assoc, List.append_assoc] using this

theorem denote {T : Str} {s : Shape} (h : Chain false T s) : Typing.denote T = some s := by
  obtain ⟨k, _, _, hb, h1, _⟩ := h
  have := h1 (2 * T.length + 2) [] (by omega) chainEnd_nil
  simp only [List.append_nil] at this
  unfold Typing.denote denoteWith
  simp only [this]

end Chain

/-- the parser accepts its grammar -/
theorem parse_form (F : Form) (q : Bool) (h : F.ok q = true) : Chain q F.text F.shape := by
  induction F generalizing q with
  | nm n => exact Chain.name q n h
  | lit X ih =>
    simp only [Form.ok, Bool.and_eq_true, Bool.not_eq_true'] at h
    rw [h.1]
    exact Chain.lit (ih true h.2)
  | app1 hd X ih =>
    simp only [Form.ok, Bool.and_eq_true] at h
    exact Chain.app1 hd h.1 (ih q h.2)
  | app2 hd X Y ihx ihy =>
    simp only [Form.ok, Bool.and_eq_true] at h
    exact Chain.app2 hd h.1.1 (ihx q h.1.2) (ihy q h.2)
  | bar X Y ihx ihy =>
    simp only [Form.ok, Bool.and_eq_true] at h
    exact Chain.bar (ihx q h.1) (ihy q h.2)

theorem denote_form (F : Form) (h : F.ok false = true) : denote F.text = some F.shape :=
  (parse_form F false h).denote

/-- the heads the `typing`-style compilers write after their prefix (the 3.10 compiler writes three of them too) -/
def typingHeads : List String :=
  ["Optional", "List", "Dict", "Union", "Iterable", "AsyncIterable", "AsyncIterator"]

theorem mem_all (c : Compiler) : c ∈ Compiler.all := by cases c <;> decide

theorem heads_pre : ∀ c ∈ Compiler.all, ∀ h ∈ typingHeads,
    validName (pre c ++ h.toList) = true ∧ normHead (pre c ++ h.toList) = normHead h.toList := by decide +kernel

theorem app1_Optional (a : Shape) : mkApp1 "Optional".toList a = mkOr a noneShape := by rfl
theorem app1_List (a : Shape) : mkApp1 "List".toList a = .app1 hList a := by rfl
theorem app1_list (a : Shape) : mkApp1 "list".toList a = .app1 hList a := by rfl
theorem app1_Iterable (a : Shape) : mkApp1 "Iterable".toList a = .app1 hIterable a := by rfl
theorem app1_AsyncIterable (a : Shape) : mkApp1 "AsyncIterable".toList a = .app1 hAsyncIterable a := by rfl
theorem app1_AsyncIterator (a : Shape) : mkApp1 "AsyncIterator".toList a = .app1 hAsyncIterator a := by rfl
theorem app2_Dict (a b : Shape) : mkApp2 "Dict".toList a b = .app2 hDict a b := by rfl
theorem app2_dict (a b : Shape) : mkApp2 "dict".toList a b = .app2 hDict a b := by rfl
theorem app2_Union (a b : Shape) : mkApp2 "Union".toList a b = mkOr a b := by rfl

theorem mkApp1_pre (c : Compiler) {h : String} (hh : h ∈ typingHeads) (a : Shape) :
    mkApp1 (pre c ++ h.toList) a = mkApp1 h.toList a := by
  unfold mkApp1; rw [(heads_pre c (mem_all c) h hh).2]

theorem mkApp2_pre (c : Compiler) {h : String} (hh : h ∈ typingHeads) (a b : Shape) :
    mkApp2 (pre c ++ h.toList) a b = mkApp2 h.toList a b := by
  unfold mkApp2; rw [(heads_pre c (mem_all c) h hh).2]

theorem ok_head (c : Compiler) {h : String} (hh : h ∈ typingHeads) : validName (pre c ++ h.toList) = true :=
  (heads_pre c (mem_all c) h hh).1

theorem names310 : validName "None".toList = true ∧ validName "list".toList = true ∧ validName "dict".toList = true
    ∧ validName "Iterable".toList = true ∧ validName "AsyncIterable".toList = true
    ∧ validName "AsyncIterator".toList = true := by decide +kernel

theorem and_true_of {a b : Bool} (ha : a = true) (hb : b = true) : (a && b) = true := by rw [ha, hb]; rfl

section typingStyle
variable {c : Compiler} (hc : c ≠ .c310)
include hc

/-- What a `typing`-style compiler writes, with the head and the opening bracket apart (the form the head lemmas
    take).  `hc` is what `simp` needs to pass the 3.10 case of each method. -/
theorem optional_typing (t : Str) : optional c t = pre c ++ "Optional".toList ++ '[' :: (t ++ [']']) := by
  simp [optional]
theorem list_typing (t : Str) : list c t = pre c ++ "List".toList ++ '[' :: (t ++ [']']) := by simp [list]
theorem dict_typing (k v : Str) : dict c k v = pre c ++ "Dict".toList ++ '[' :: (k ++ ',' :: ' ' :: (v ++ [']'])) := by
  simp [dict]
theorem union2_typing (a b : Str) :
    union c [a, b] = pre c ++ "Union".toList ++ '[' :: (a ++ ',' :: ' ' :: (b ++ [']'])) := by simp [union, joinSep]
theorem iterable_typing (t : Str) : iterable c t = pre c ++ "Iterable".toList ++ '[' :: (t ++ [']']) := by
  simp [iterable]
theorem asyncIterable_typing (t : Str) :
    asyncIterable c t = pre c ++ "AsyncIterable".toList ++ '[' :: (t ++ [']']) := by simp [asyncIterable]
theorem asyncIterator_typing (t : Str) :
    asyncIterator c t = pre c ++ "AsyncIterator".toList ++ '[' :: (t ++ [']']) := by simp [asyncIterator]

end typingStyle

def iOpt (x : Str) : Str := x ++ " | None".toList
def iList (x : Str) : Str := "list[".toList ++ x ++ "]".toList
def iDict (k x : Str) : Str := "dict[".toList ++ k ++ ", ".toList ++ x ++ "]".toList
def Ty.isName : Ty → Bool
  | .name _ => true
  | _ => false

theorem fmt_name (n : Str) (hv : validName n = true) : fmt n = n := by
  cases n with
  | nil => rfl
  | cons a n =>
    simp only [validName, List.all_cons, Bool.and_eq_true] at hv
    have := ne_dq_of_name hv.2.1
    unfold fmt
    split
    · rename_i h; cases h; simp [dq] at this
    · rfl

theorem fmt_quoted (s : Str) : fmt (quoted s) = s := by
  simp [fmt, quoted, dq]

theorem optional_310 (t : Str) : optional .c310 t = quoted (iOpt (fmt t)) := rfl
theorem list_310 (t : Str) : list .c310 t = quoted (iList (fmt t)) := rfl
theorem dict_310 (k v : Str) : dict .c310 k v = quoted (iDict k (fmt v)) := rfl
theorem union2_310 (a b : Str) : union .c310 [a, b] = quoted (fmt a ++ (" | ".toList ++ fmt b)) := by
  simp [union, joinSep]
theorem iterable_310 (t : Str) : iterable .c310 t = quoted ("Iterable".toList ++ '[' :: (t ++ [']'])) := by
  simp [iterable]
theorem asyncIterable_310 (t : Str) :
    asyncIterable .c310 t = quoted ("AsyncIterable".toList ++ '[' :: (t ++ [']'])) := by simp [asyncIterable]
theorem asyncIterator_310 (t : Str) :
    asyncIterator .c310 t = quoted ("AsyncIterator".toList ++ '[' :: (t ++ [']'])) := by simp [asyncIterator]

theorem bar_none : " | None".toList = " | ".toList ++ "None".toList := by decide +kernel

/-- the three fixed pieces of the 3.10 compiler's text, head and bracket apart as `Form.text` writes them -/
theorem iOpt_eq (x : Str) : iOpt x = x ++ (" | ".toList ++ "None".toList) := by rw [iOpt, bar_none]
theorem iList_eq (x : Str) : iList x = "list".toList ++ '[' :: (x ++ [']']) := by unfold iList; simp
theorem iDict_eq (k x : Str) : iDict k x = "dict".toList ++ '[' :: (k ++ ',' :: ' ' :: (x ++ [']'])) := by
  unfold iDict; simp

/-- the term a `typing`-style compiler writes: every constructor an application of a prefixed head, a forward
    reference a literal of its own -/
def formT (c : Compiler) : Ty → Form
  | .name n => .nm n
  | .ref n => .lit (.nm n)
  | .optional t => .app1 (pre c ++ "Optional".toList) (formT c t)
  | .list t => .app1 (pre c ++ "List".toList) (formT c t)
  | .dict k v => .app2 (pre c ++ "Dict".toList) (.nm k) (formT c v)
  | .union a b => .app2 (pre c ++ "Union".toList) (formT c a) (formT c b)
  | .iterable n => .app1 (pre c ++ "Iterable".toList) (.nm n)
  | .asyncIterable n => .app1 (pre c ++ "AsyncIterable".toList) (.nm n)
  | .asyncIterator n => .app1 (pre c ++ "AsyncIterator".toList) (.nm n)

/-- the term the 3.10 compiler writes between its one pair of quotes: `optional` and `union` are ` | ` chains,
    a forward reference is a bare name -/
def form310 : Ty → Form
  | .name n => .nm n
  | .ref n => .nm n
  | .optional t => .bar (form310 t) (.nm "None".toList)
  | .list t => .app1 "list".toList (form310 t)
  | .dict k v => .app2 "dict".toList (.nm k) (form310 v)
  | .union a b => .bar (form310 a) (form310 b)
  | .iterable n => .app1 "Iterable".toList (.nm n)
  | .asyncIterable n => .app1 "AsyncIterable".toList (.nm n)
  | .asyncIterator n => .app1 "AsyncIterator".toList (.nm n)

/-- Text, shape and well-formedness of the term are three independent readings of it, each by induction with one
    row of the table per constructor (the side condition `h ∈ typingHeads` by unfolding the list). -/
theorem formT_text {c : Compiler} (hc : c ≠ .c310) (e : Ty) : (formT c e).text = render c e := by
  induction e <;>
    simp only [formT, Form.text, render, optional_typing hc, list_typing hc, dict_typing hc, union2_typing hc,
      iterable_typing hc, asyncIterable_typing hc, asyncIterator_typing hc, *]

theorem formT_shape (c : Compiler) (e : Ty) : (formT c e).shape = shapeOf e := by
  induction e <;>
    simp (disch := (unfold typingHeads; simp)) only [formT, Form.shape, shapeOf, mkApp1_pre, mkApp2_pre, app1_Optional,
      app1_List, app2_Dict, app2_Union, app1_Iterable, app1_AsyncIterable, app1_AsyncIterator, *]

theorem formT_ok (c : Compiler) (e : Ty) : (formT c e).ok false = e.valid := by
  induction e <;>
    simp (disch := (unfold typingHeads; simp)) only [formT, Form.ok, Ty.valid, ok_head, Bool.true_and, Bool.not_false, *]

/-- no forward reference anywhere: what the templates pass to the compilers at the streaming sites -/
def Ty.refFree : Ty → Bool
  | .ref _ => false
  | .optional t | .list t | .dict _ t => t.refFree
  | .union a b => a.refFree && b.refFree
  | _ => true

/-- without a forward reference (which is a literal of its own) the term may stand inside a literal too -/
theorem formT_ok_in (c : Compiler) (e : Ty) (h : (formT c e).ok false = true) (hf : e.refFree = true) :
    (formT c e).ok true = true := by
  induction e <;> simp_all only [formT, Form.ok, Ty.refFree, Bool.and_eq_true, Bool.false_eq_true, and_self]

/-- `_fmt` gives back the text of the term: it takes off the quotes the compiler put around it, and leaves a bare name
    as it is; so each method, which applies `_fmt` to its arguments, embeds the text of the term for each. -/
theorem fmt_render310 (e : Ty) (hv : e.valid = true) : fmt (render .c310 e) = (form310 e).text := by
  induction e <;>
    simp_all only [Ty.valid, Bool.and_eq_true, render, optional_310, list_310, dict_310, union2_310, iterable_310,
      asyncIterable_310, asyncIterator_310, iOpt_eq, iList_eq, iDict_eq, fmt_quoted, fmt_name, form310, Form.text]

/-- the 3.10 compiler writes the text of `form310 e`, bare if it is a name and in one pair of quotes otherwise -/
theorem render310 (e : Ty) (hv : e.valid = true) :
    render .c310 e = if e.isName then (form310 e).text else quoted (form310 e).text := by
  rw [← fmt_render310 e hv]
  cases e <;>
    simp only [render, optional_310, list_310, dict_310, union2_310, iterable_310, asyncIterable_310,
      asyncIterator_310, fmt_quoted, Ty.isName, Bool.false_eq_true, if_false, if_true]
  exact (fmt_name _ hv).symm

theorem form310_shape (e : Ty) : (form310 e).shape = shapeOf e := by
  induction e <;>
    simp only [form310, Form.shape, shapeOf, noneShape, app1_list, app2_dict, app1_Iterable, app1_AsyncIterable,
      app1_AsyncIterator, *]

theorem form310_ok (e : Ty) : (form310 e).ok true = e.valid := by
  induction e <;> simp only [form310, Form.ok, Ty.valid, names310, Bool.true_and, Bool.and_true, *]

/-- every compiler renders a valid type expression to the text of a well-formed term of its shape: a name as
    itself, otherwise `formT c e`, or for the 3.10 compiler `form310 e` in its pair of quotes -/
theorem render_form (c : Compiler) (e : Ty) (hv : e.valid = true) :
    ∃ F : Form, F.ok false = true ∧ F.text = render c e ∧ F.shape = shapeOf e := by
  by_cases hc : c = .c310
  · subst hc
    have h3 := (form310_ok e).trans hv
    by_cases hn : e.isName = true
    · -- a bare name stands outside the quotes; `h3` (inside) serves, since `ok` of a name does not look at the position
      exact ⟨form310 e, by cases e <;> simp [Ty.isName] at hn; exact h3,
        by rw [render310 e hv, if_pos hn], form310_shape e⟩
    · exact ⟨.lit (form310 e), and_true_of rfl h3, by rw [render310 e hv, if_neg hn, Form.text], form310_shape e⟩
  · exact ⟨formT c e, (formT_ok c e).trans hv, formT_text hc e, formT_shape c e⟩

end Bp.Typing
