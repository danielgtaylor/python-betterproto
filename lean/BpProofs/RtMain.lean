import BpModel.All
import BpProofs.RtNested
import BpProofs.RtTime
import BpProofs.RtWrap
import BpProofs.RtMap
import BpProofs.RtTimes
import BpProofs.RtWraps
import BpProofs.OkView
/-
  C01, the main induction: the round trip for every well-typed message value (`MsgOk`), for a loader that reads
  nested payloads with itself (`Unfolds S rec rec`; BpProofs/LoadFuel.lean shows that the loader `parse` uses is
  one). The walk over `MsgOk` (BpProofs/OkView.lean) hands over every slot as one of five shapes holding items of
  one of four kinds. A slot is a step (`SlotStep`) by the theorem of its SHAPE — `slotStep_one`, `slotStep_many`
  (or, packed, `slotStep_repeated`), `slotStep_map` — given the codec of its items, which is the theorem of their
  KIND (`itemRt_of_ok`: `itemRt_scalar`, `itemRt_wrap`, `itemRt_time`, `itemRt_msg`, the last from the round trip
  of the message inside); the message is then the fold over its slots (`fold_of_steps`).
-/
namespace Bp
open Gen

theorem valEqv_wrapNorm (S : Schema) (w : PType) (v : Val) (hv : scalarOk w v = true) :
    ValEqv S v (wrapNorm S w v) := by
  by_cases hs : wrapStable v = true
  · rw [wrapNorm_stable S w v hv hs]; exact ValEqv.refl v
  -- the two negative zeros: written as nothing, read back as `+0.0`
  cases v with
  | f32 b =>
    simp [wrapStable] at hs; subst hs
    obtain rfl : w = .float := by simp [scalarOk] at hv; exact hv.1
    exact ValEqv.negZero32
  | f64 b =>
    simp [wrapStable] at hs; subst hs
    obtain rfl : w = .double := by simp [scalarOk] at hv; exact hv
    exact ValEqv.negZero64
  | _ => exact absurd rfl hs

/-- what the decoder has to know of a field to read items of kind `K` from its records -/
inductive ItemField (f : FieldD) : ItemKind → Prop
  | scalar : FlatField f → ItemField f (.scalar f.ty)
  | wrapped (w : PType) : f.ty = PType.message → f.wraps = some w → (∃ c, f.kind = MsgKind.user c) →
      numOk f.num = true → isScalarType w = true → ItemField f (.wrapped w)
  | time (isDur : Bool) : f.ty = PType.message → f.wraps = Option.none → numOk f.num = true →
      f.kind = (if isDur then MsgKind.duration else MsgKind.timestamp) → ItemField f (.time isDur)
  | msg (c : Nat) : SubField f c → ItemField f (.msg c)

theorem OneField.item {f : FieldD} {K : ItemKind} (h : OneField f K) : ItemField f K := by
  cases h with
  | scalar hf _ => exact .scalar hf
  | wrapped w hf => exact .wrapped w hf.ty hf.wr hf.kind hf.num hf.wty
  | time b hf => exact .time b hf.ty hf.nw hf.num hf.kind
  | msg c hf _ => exact .msg c hf

theorem ManyField.item {f : FieldD} {K : ItemKind} (h : ManyField f K) : ItemField f K := by
  cases h with
  | scalar hf _ => exact .scalar hf
  | wrapped w hf => exact .wrapped w hf.ty hf.wr hf.kind hf.num hf.wty
  | time b hf => exact .time b hf.ty hf.nw hf.num hf.kind
  | msg c hf _ => exact .msg c hf

theorem MapField.item {f : FieldD} {K : ItemKind} (h : MapField f K) : ItemField (entryValF f) K := by
  cases h with
  | scalar hf => exact .scalar (entry_value_flat f hf.vty)
  | time b hf => exact .time b hf.vty rfl rfl hf.vk
  | msg c hf => exact .msg c (entry_value_sub f c hf.vty hf.vk)

theorem ManyField.plain {f : FieldD} {K : ItemKind} (h : ManyField f K) :
    (f.ty == PType.map) = false ∧ f.repeated = true ∧ f.optional = false ∧ f.group = Option.none := by
  cases h with
  | scalar hf hr => exact ⟨flat_notmap f hf, hr, hf.rep hr⟩
  | wrapped w hf => exact ⟨by rw [hf.ty]; rfl, hf.rep, hf.opt, hf.grp⟩
  | time b hf => exact ⟨by rw [hf.ty]; rfl, hf.rep, hf.opt, hf.grp⟩
  | msg c hf hr => exact ⟨by rw [hf.ty]; rfl, hr, hf.rep hr⟩

theorem ManyField.packed {f : FieldD} {K : ItemKind} (h : ManyField f K) (hp : isPacked f.ty = true) :
    FlatField f ∧ ∀ (S : Schema) (P : Val → Prop) (x : Val), ItemOk S P K x → scalarOk f.ty x = true := by
  cases h with
  | scalar hf _ => exact ⟨hf, fun _ _ x hx => by cases hx; assumption⟩
  | wrapped w hf => rw [hf.ty] at hp; cases hp
  | time b hf => rw [hf.ty] at hp; cases hp
  | msg c hf _ => rw [hf.ty] at hp; cases hp

theorem MapField.plain {f : FieldD} {K : ItemKind} (h : MapField f K) :
    numOk f.num = true ∧ f.repeated = false ∧ f.optional = false ∧ f.group = Option.none := by
  cases h with
  | scalar hf => exact ⟨hf.num, hf.rep, hf.opt, hf.grp⟩
  | time b hf => exact ⟨hf.num, hf.rep, hf.opt, hf.grp⟩
  | msg c hf => exact ⟨hf.num, hf.rep, hf.opt, hf.grp⟩

theorem MapField.value_notmap {f : FieldD} {K : ItemKind} (h : MapField f K) : (f.mapV == PType.map) = false := by
  cases h with
  | scalar hf => exact flat_notmap _ (entry_value_flat f hf.vty)
  | time b hf => rw [hf.vty]; rfl
  | msg c hf => rw [hf.vty]; rfl

theorem slotOk_selected_emits (S : Schema) (f : FieldD) (v : Val) (g : Nat) (b : Bytes)
    (hso : SlotOk S f v) (hne : v ≠ Val.ph) (hg : f.group = some g) (hgo : f.optional = false)
    (hb : dumpSlot S f false true v = .ok b) : b ≠ [] := by
  have hng : f.group ≠ Option.none := by rw [hg]; exact Option.some_ne_none g
  cases SlotOk.shape S (P := fun _ => True) (fun _ _ => trivial) f v hso with
  | unset => exact absurd rfl hne
  | none h =>
    rcases h with ho | ⟨hgn, _⟩
    · rw [hgo] at ho; cases ho
    · exact absurd hgn hng
  | one K _ _ hv => exact one_selected_emits S f v b (itemOk_oneVal S _ K v hv) (by rw [hg]; rfl) hb
  -- repeated and map fields are not members of a oneof
  | many K xs hK => exact absurd hK.plain.2.2.2 hng
  | map K ks vs hK => exact absurd hK.plain.2.2.2 hng

/-- what `fold_of_steps` asks of the message (`MsgShape`, Rt.lean) holds of every well-typed one -/
theorem msgShape_of_ok (S : Schema) (c : Nat) (d : MsgD) (sl : List Val) (ow : Bool) (unk : Bytes)
    (cur : List (Option Nat)) (h : MsgOk S (.msg c sl ow unk cur)) (hd : S[c]? = some d) : MsgShape S d sl cur := by
  cases h with
  | mk _ d' _ _ _ _ hd' _ hwfg hgrpopt hcurlen hcurok _ hselset hslots _ =>
  rw [hd] at hd'; injection hd' with hd'; subst hd'
  refine ⟨slotsOk_len S _ _ hslots, hcurlen, hwfg, hcurok, hgrpopt, ?_⟩
  intro i f b hf hs hb
  obtain ⟨g, hg, hcg, hh⟩ := selected_member f i cur hs
  rw [hh] at hb
  exact slotOk_selected_emits S f _ g b (slotsOk_getD S _ _ hslots i f hf) (hselset g i hcg) hg
    (hgrpopt f (List.mem_of_getElem? hf) (by rw [hg]; rfl)) hb

/-- what the induction proves of a well-typed slot: wherever it stands, decoding its bytes restores it -/
def StepAnywhere (S : Schema) (rec : Loader) (f : FieldD) (v : Val) : Prop :=
  ∀ (d : MsgD) (k : Nat) (cur : List (Option Nat)), NumsDistinct d.fields → d.fields[k]? = some f →
    (v = Val.ph → ∀ g, f.group = some g → cur.getD g Option.none ≠ some k) →
    SlotStep S rec d (fun _ v v' => ValEqv S v v') k f (hidden f k cur) (selectedInGroup f k cur) v

/-- one message, given its slots: `fold_of_steps` under one unfolding of the loader -/
theorem roundTrips_of_steps (S : Schema) (rec rec' : Loader) (hu : Unfolds S rec rec')
    (c : Nat) (sl : List Val) (ow : Bool) (unk : Bytes) (cur : List (Option Nat))
    (hmsg : MsgOk S (.msg c sl ow unk cur))
    (hsl : ∀ d : MsgD, S[c]? = some d → ∀ (i : Nat) (f : FieldD) (v : Val), d.fields[i]? = some f → sl[i]? = some v →
      StepAnywhere S rec' f v) :
    RoundTrips64 S rec (.msg c sl ow unk cur) := by
  intro bs hdump hbl c' d sl0 ow0 unk0 cur0 bs0 he hd hdump0
  injection he with e1 e2 e3 e4 e5; subst e1 e2 e3 e4 e5
  rw [hdump] at hdump0; injection hdump0 with e; subst e
  have hshape := msgShape_of_ok S c d sl ow unk cur hmsg hd
  cases hmsg with
  | mk _ d' _ _ _ _ hd' hdist _ _ _ _ _ hselset hslots hunk =>
  rw [hd] at hd'; injection hd' with hd'; subst hd'
  have hfo : fieldsOf S c = d.fields := fieldsOf_some S c d hd
  have hsteps : ∀ k f v, d.fields[k]? = some f → sl[k]? = some v →
      SlotStep S rec' d (fun _ v v' => ValEqv S v v') k f (hidden f k cur) (selectedInGroup f k cur) v :=
    fun k f v hf hv => hsl d hd k f v hf hv d k cur hdist hf
      fun hvp g _ hc => hselset g k hc (by simp [List.getD_eq_getElem?_getD, hv, hvp])
  obtain ⟨sl', h1, h2, h3, h4⟩ :=
    fold_of_steps S rec' c d hd sl ow unk cur _ hshape hunk bs hdump hbl hsteps
  refine ⟨sl', by rw [hu]; exact h1, ?_, h4⟩
  apply ValEqv.msg
  rw [hfo]
  apply slotsEqv_of_index S d.fields cur 0 sl sl' h2
  · intro j f hf _
    simp only [Nat.zero_add] at hf ⊢
    exact h3 j f hf
  · rw [slotsOk_len S _ _ hslots]; omega

/-- the codec of a well-typed item of kind `K` in a field that carries that kind; of a message inside, the round
    trip is known -/
theorem itemRt_of_ok (S : Schema) (rec : Loader) (hu : Unfolds S rec rec) (f : FieldD) (K : ItemKind) (x : Val)
    (hf : ItemField f K) (hx : ItemOk S (RoundTrips64 S rec) K x) : ItemRt S rec f (ValEqv S) x := by
  cases hf with
  | scalar hff => cases hx with | scalar _ _ hv => exact (itemRt_scalar S rec f x hff hv).mono fun _ e => e ▸ ValEqv.refl x
  | wrapped w hty hwr hk hnum hw =>
    cases hx with
    | wrapped _ _ hv =>
      exact (itemRt_wrap S rec rec hu f w x hty hwr hk hnum hw hv).mono fun _ e => e ▸ valEqv_wrapNorm S w x hv
  | time b hty hnw hnum hkind =>
    cases hx with
    | time _ _ hv => exact (itemRt_time S rec rec hu f b x hty hnw hnum hkind hv).mono fun _ e => e ▸ ValEqv.refl x
  | msg c hsf =>
    cases hx with
    | msg _ sl ow unk cur hm hp =>
      obtain ⟨dc, hdc⟩ := msgOk_desc S c sl ow unk cur hm
      exact itemRt_msg S rec f c dc _ hsf hdc ⟨sl, ow, unk, cur, rfl⟩ hp

/-- … and of a map value: besides, a value that is not written is as good as the default of the value field -/
theorem mapValue_of_ok (S : Schema) (rec : Loader) (hu : Unfolds S rec rec) (f : FieldD) (K : ItemKind) (x : Val)
    (hf : MapField f K) (hx : ItemOk S (RoundTrips64 S rec) K x) :
    EntryRt S rec (entryValF f) (ValEqv S) x := by
  cases hf with
  | scalar hmf =>
    cases hx with
    | scalar _ _ hv =>
      exact (entryRt_scalar S rec _ x (entry_value_flat f hmf.vty) rfl rfl hv).mono fun _ e => e ▸ ValEqv.refl x
  | time b hmf =>
    cases hx with
    | time _ _ hv => exact (mapValue_time S rec rec hu f b x hmf.vty hmf.vk hv).mono fun _ e => e ▸ ValEqv.refl x
  | msg c hmf =>
    cases hx with
    | msg _ sl ow unk cur hm hp =>
      exact entryRt_msg S rec _ c _ (entry_value_sub f c hmf.vty hmf.vk) rfl rfl (msgOk_desc S c sl ow unk cur hm)
        ⟨sl, ow, unk, cur, rfl⟩ hp

/-- **a well-typed slot is a step**, by its shape -/
theorem SlotShape.step (S : Schema) (rec : Loader) (hu : Unfolds S rec rec) (f : FieldD) (v : Val)
    (h : SlotShape S (RoundTrips64 S rec) f v) : StepAnywhere S rec f v := by
  intro d k cur hdist hf hsel
  cases h with
  | unset ho => exact slotStep_ph S _ d _ k f cur ho (hsel rfl)
  | none => exact slotStep_none S _ d _ k f _ _
  | one K _ hK hv =>
    exact slotStep_one S rec d _ (ValEqv S) k f _ _ v hdist hf hK.plain.1 hK.plain.2 (itemOk_oneVal S _ K v hv)
      (itemRt_of_ok S rec hu f K v hK.item hv) fun _ h => h
  | many K xs hK hxs =>
    obtain ⟨hmap, hr, ho, hg⟩ := hK.plain
    rw [hidden_nogroup f k cur hg, selected_nogroup f k cur hg]
    by_cases hp : isPacked f.ty = true
    · -- one record for the whole list: only scalars are packed
      obtain ⟨hff, hsc⟩ := hK.packed hp
      exact slotStep_repeated S rec d k f false xs hdist hf hff hr (fun x hx => hsc S _ x (hxs x hx)) rfl _
        fun _ v => ValEqv.refl v
    · exact slotStep_many S rec d k f false xs (ValEqv S) _ hdist hf hmap (by simpa using hp) hr ho hg rfl
        (fun x hx => itemRt_of_ok S rec hu f K x hK.item (hxs x hx))
        fun ys h => ValEqv.list xs ys (listEqv_of_forall₂ S xs ys h)
  | map K ks vs hK hl hks hvs hkd =>
    obtain ⟨hnum, hr, ho, hg⟩ := hK.plain
    obtain ⟨_, hty, hkty⟩ := hK.carries
    rw [hidden_nogroup f k cur hg, selected_nogroup f k cur hg]
    exact slotStep_map S rec rec hu d k f false ks vs (ValEqv S) _ hdist hf hty hkty hK.value_notmap hnum hr ho hg hl hks
      (fun x hx => mapValue_of_ok S rec hu f K x hK (hvs x hx)) hkd rfl
      fun vs' h => ValEqv.dict ks vs vs' (listEqv_of_forall₂ S vs vs' h)

/-- **decode ∘ encode for every well-typed message value, nested or recursive**, for any loader that reads nested
    payloads with itself: the walk over `MsgOk` — a message round-trips because its slots are steps
    (`roundTrips_of_steps`), a slot is a step because the messages inside it round-trip (`SlotShape.step`) -/
theorem msgOk_roundTrips (S : Schema) (rec : Loader) (hu : Unfolds S rec rec) (m : Val) (h : MsgOk S m) :
    RoundTrips64 S rec m := by
  refine MsgOk.walk S (P := RoundTrips64 S rec) (fun c d sl ow unk cur hd hm hsl => ?_) m h
  refine roundTrips_of_steps S rec rec hu c sl ow unk cur hm fun d' hd' i f v hf hv => ?_
  rw [hd] at hd'; injection hd' with hd'; subst hd'
  exact SlotShape.step S rec hu f v (forall₂_get hsl i f v hf hv)

/-- … for the loader with any nesting fuel above the length of the encoding (which is what `parse` supplies):
    there the fuel does not matter (`loadInto_fuel`) -/
theorem nested_fuel (S : Schema) : ∀ (fuel : Nat) (c : Nat) (d : MsgD) (sl : List Val) (ow : Bool) (unk : Bytes)
    (cur : List (Option Nat)) (bs : Bytes),
    MsgOk S (.msg c sl ow unk cur) → S[c]? = some d → dumpVal S (.msg c sl ow unk cur) = .ok bs →
    bs.length < 2 ^ 64 → bs.length < fuel →
    ∃ sl', loadInto S fuel d (freshState d) bs = .ok { slots := sl', onWire := true, unknown := unk, cur := cur }
      ∧ ValEqv S (.msg c sl ow unk cur) (.msg c sl' true unk cur)
      ∧ dumpVal S (.msg c sl' true unk cur) = .ok bs := by
  intro fuel c d sl ow unk cur bs hm hd hdump hbl hf
  rw [loadInto_eq_full S fuel d _ bs hf]
  exact msgOk_roundTrips S (loadFull S) (unfolds_full S) _ hm bs hdump hbl c d sl ow unk cur bs rfl hd hdump

end Bp
