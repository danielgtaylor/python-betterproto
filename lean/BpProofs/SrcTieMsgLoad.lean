import BpProofs.SrcTieMsg
import BpProofs.LoadFuel
/-
  THE TIE BETWEEN THE TRANSLATED WHOLE METHODS AND THE HAND-WRITTEN MODEL, decoder side.

  `Bp.Src.msg_load`, `msg_parse`, `msg_setstate`, `class_from_string` (BpProofs/Gen/SrcMsg.lean) are
  regenerated from the Python AST of `Message.load`, `parse`, `__setstate__`, `FromString` on every
  run; the record loop of `load` calls the translated loop body `Src.load_record` (Gen/SrcLoad.lean)
  on the records the translated `load_fields` (Gen/SrcCodec.lean) yields.  `Src.class_parse fuel S
  depth` ties the recursive knot: `<Cls>().parse(<bytes>)` inside `_postprocess_single` is the
  translated `parse` itself, one nesting level down.  The theorems below say, for every schema,
  every class, every receiver state and every input made of bytes,

      Msg.toR (Src.class_parse fuel S depth d st bs) = loadInto S depth d st bs     (EVERY depth)
      Src.value_parse fuel S bs.length m bs           = Py.ofR (parseInto S m bs)
      Src.value_from_string fuel S bs.length c bs     = Py.ofR (parse S c bs)
      Src.value_load fuel S depth m bs SIZE_DELIMITED = Py.ofR (loadDelimited S m bs)   (depth = size of the frame)

  Guards: `WfBytes bs` (the input consists of bytes) and `bs.length + 12 ≤ fuel` (the `while` loops of
  `load_varint` / `load_fields` / the packed decoder get enough fuel).  No typing guard: the receiver
  state is arbitrary.

  How the knot is tied: the model's own `loadInto` is fuel-recursive on the nesting depth and reports
  an exhausted budget as AssertionError, which is what `Msg.toR` maps `.diverge` to; so the two
  agree at EVERY depth, by induction on the depth, using `load_fields_eq` (framing), `loadLoop_eq`
  (the record loop, from `load_record_eq`), `loadFields_payload_wf` (every record of an input made of bytes
  is inside the guard of `load_record_eq`) and the fact that `applyField` hands `rec` only the
  payload of the record (`Bp.foldFields_congr`, over `applyField_congr`, LoadFuel.lean).
-/
namespace Bp.SrcTieMsg
open Bp Bp.Py Gen Bp.SrcTieDump Bp.SrcTieLoad

section Tie
-- every lemma below whose statement mentions `fuel` and `S` takes them first; a theorem that binds them itself is as it reads
variable (fuel : Nat) (S : Schema)

theorem load_loop_eq (rec : Loader) (d : MsgD) : ∀ (pfs : List PField) (st : MState),
    Src.msg_load.loop1 fuel S rec d pfs st = loadLoop fuel S rec d st pfs
  | [], st => by rw [Src.msg_load.loop1, loadLoop]
  | pf :: pfs, st => by
    rw [Src.msg_load.loop1, loadLoop]
    simp only [load_loop_eq rec d pfs]

/-- what `load` does once the stream to read to its end is fixed: `_serialized_on_wire = True`, the
    framing, the record loop -/
def loadBody (S : Schema) (rec : Loader) (d : MsgD) (st : MState) (bs : Bytes) : R MState :=
  (loadFields bs).bind fun pfs => foldFields S rec d { st with onWire := true } pfs

theorem recOk_mono (pf : PField) (n fuel : Nat) (h : RecOk n pf) (hn : n ≤ fuel) : RecOk fuel pf :=
  ⟨h.1, by have := h.2; omega⟩

/-- the tail of `Message.load` as written (everything from `self._serialized_on_wire = True` on);
    `g` = what is handed back as the caller's stream, given the unread rest of the stream that was parsed -/
theorem load_tail_eq (rec : Loader) (d : MsgD) (st : MState) (bs : Bytes) (g : Bytes → Bytes)
    (hw : WfBytes bs) (hf : bs.length + 12 ≤ fuel) :
    ((Src.load_fields fuel bs).bind fun (records, stream) =>
      (Src.msg_load.loop1 fuel S rec d records (Msg.setSerializedOnWire st true)).bind fun self =>
        (.ok (self, g stream) : Res (MState × Bytes)))
      = (ofR (loadBody S rec d st bs)).bind fun st' => .ok (st', g []) := by
  rw [SrcTie.load_fields_eq bs hw fuel (by omega)]
  unfold loadBody
  cases hl : loadFields bs with
  | error e => rfl
  | ok pfs =>
    have hall : ∀ pf ∈ pfs, RecOk fuel pf := fun pf hpf =>
      recOk_mono pf _ fuel (loadFields_payload_wf bs hw pfs hl pf hpf).1 hf
    simp only [res_bind_ok, Bp.bind_ok, load_loop_eq, loadLoop_eq S rec d fuel pfs hall, Msg.setSerializedOnWire]

theorem msg_load_eq (rec : Loader) (d : MsgD) (st : MState) (bs : Bytes)
    (hw : WfBytes bs) (hf : bs.length + 12 ≤ fuel) :
    Src.msg_load fuel S rec d st bs Option.none = (ofR (loadBody S rec d st bs)).bind fun st' => .ok (st', []) := by
  unfold Src.msg_load
  have h0 : ((Option.none : Option Int) == some (-1 : Int)) = false := rfl
  simp only [h0, Bool.false_eq_true, if_false]
  exact load_tail_eq fuel S rec d st bs (fun s => s) hw hf

theorem msg_parse_eq (rec : Loader) (d : MsgD) (st : MState) (bs : Bytes)
    (hw : WfBytes bs) (hf : bs.length + 12 ≤ fuel) :
    Src.msg_parse fuel S rec d st bs = ofR (loadBody S rec d st bs) := by
  unfold Src.msg_parse
  simp only [msg_load_eq fuel S rec d st bs hw hf, Res.bind_assoc, Res.ok_bind, Res.bind_ok]

theorem loadInto_succ' (k : Nat) (d : MsgD) (st : MState) (bs : Bytes) :
    loadInto S (k + 1) d st bs = loadBody S (loadInto S k) d st bs := by
  rw [loadInto]; rfl

/-- at every nesting budget, 0 included: the model reports an exhausted budget as AssertionError; so does `Msg.toR` -/
theorem class_parse_eq : ∀ (depth : Nat) (d : MsgD) (st : MState) (bs : Bytes),
    WfBytes bs → bs.length + 12 ≤ fuel → Msg.toR (Src.class_parse fuel S depth d st bs) = loadInto S depth d st bs
  | 0, d, st, bs, _, _ => by rw [Src.class_parse, loadInto]; rfl
  | k + 1, d, st, bs, hw, hf => by
    rw [Src.class_parse, loadInto_succ']
    rw [msg_parse_eq fuel S _ d st bs hw hf, toR_ofR]
    unfold loadBody
    cases hl : loadFields bs with
    | error e => rfl
    | ok pfs =>
      simp only [Bp.bind_ok]
      apply foldFields_congr
      intro pf hpf d' st'
      obtain ⟨⟨h1, h2⟩, _⟩ := loadFields_payload_wf bs hw pfs hl pf hpf
      exact class_parse_eq k d' st' pf.payload h1 (by omega)

theorem recAt_eq (depth : Nat) (d : MsgD) (st : MState) (bs : Bytes)
    (hw : WfBytes bs) (hf : bs.length + 12 ≤ fuel) :
    loadBody S (fun d' self' data' => Msg.toR (Src.class_parse fuel S depth d' self' data')) d st bs = loadInto S (depth + 1) d st bs := by
  have h := class_parse_eq fuel S (depth + 1) d st bs hw hf
  rwa [Src.class_parse, msg_parse_eq fuel S _ d st bs hw hf, toR_ofR] at h

/-- `m.parse(data)` of the model with an explicit nesting budget (`parseInto` uses `data.length + 1`) -/
def parseIntoAt (S : Schema) (n : Nat) (m : Val) (bs : Bytes) : R Val :=
  match m with
  | .msg c slots ow unk cur =>
    match S[c]? with
    | Option.none => .error .key
    | some d => (loadInto S n d { slots := slots, onWire := ow, unknown := unk, cur := cur } bs).bind fun st => .ok (st.toVal c)
  | _ => .error .type

theorem parseIntoAt_length (m : Val) (bs : Bytes) : parseIntoAt S (bs.length + 1) m bs = parseInto S m bs := by
  cases m <;> rfl

theorem value_parse_at (depth : Nat) (m : Val) (bs : Bytes)
    (hw : WfBytes bs) (hf : bs.length + 12 ≤ fuel) :
    Src.value_parse fuel S depth m bs = ofR (parseIntoAt S (depth + 1) m bs) := by
  unfold Src.value_parse Msg.onInstance parseIntoAt
  cases m with
  | msg c sl ow unk cur =>
    simp only []
    cases hc : S[c]? with
    | none => rfl
    | some d =>
      simp only []
      rw [msg_parse_eq fuel S _ d _ bs hw hf, recAt_eq fuel S depth d _ bs hw hf]
      cases loadInto S (depth + 1) d _ bs <;> rfl
  | _ => rfl

theorem value_parse_eq (m : Val) (bs : Bytes) (hw : WfBytes bs) (hf : bs.length + 12 ≤ fuel) :
    Src.value_parse fuel S bs.length m bs = ofR (parseInto S m bs) := by
  rw [value_parse_at fuel S bs.length m bs hw hf, parseIntoAt_length]

/-- `m.__setstate__(data)` as written is `m.parse(data)` -/
theorem value_setstate_eq (fuel : Nat) (S : Schema) (depth : Nat) (m : Val) (bs : Bytes) :
    Src.value_setstate fuel S depth m bs = Src.value_parse fuel S depth m bs := by
  unfold Src.value_setstate Src.value_parse Src.msg_setstate
  congr 1
  funext d self
  simp only [Res.bind_ok]

/-- `Cls.FromString(data)` as written is `Cls().parse(data)` -/
theorem value_from_string_parse (depth c : Nat) (bs : Bytes) :
    Src.value_from_string fuel S depth c bs = Src.value_parse fuel S depth (fresh S c) bs := by
  unfold Src.value_from_string Src.value_parse fresh Msg.onInstance Src.class_from_string
  simp only []
  cases hc : S[c]? with
  | none => rfl
  | some d =>
    have hfo : fieldsOf S c = d.fields := fieldsOf_some S c d hc
    have hgo : groupsOf S c = d.nGroups := by simp [groupsOf, hc]
    simp only [hfo, hgo]
    simp only [Msg.newInstance, freshState]
    cases Src.msg_parse fuel S _ d _ bs <;> rfl

theorem value_from_string_eq (c : Nat) (bs : Bytes) (hw : WfBytes bs) (hf : bs.length + 12 ≤ fuel) :
    Src.value_from_string fuel S bs.length c bs = ofR (parse S c bs) := by
  rw [value_from_string_parse, value_parse_eq fuel S _ bs hw hf]; rfl

/-- `self.load(stream, SIZE_DELIMITED)`: the varint, exactly that many bytes, the length check, then the records of
    those bytes; the caller's stream is left after the frame -/
theorem msg_load_delimited_eq (rec : Loader) (d : MsgD) (st : MState) (bs : Bytes)
    (hw : WfBytes bs) (hf : bs.length + 12 ≤ fuel) :
    Src.msg_load fuel S rec d st bs (some (-1)) =
      match loadVarint bs with
      | .error e => .raise e
      | .ok (size, k) =>
        if (bs.drop k).length < size then .raise .value
        else (ofR (loadBody S rec d st ((bs.drop k).take size))).bind fun st' => .ok (st', (bs.drop k).drop size) := by
  unfold Src.msg_load
  have h1 : ((some (-1 : Int)) == some (-1 : Int)) = true := rfl
  simp only [h1, if_true]
  rw [SrcTie.load_varint_eq bs hw fuel (by omega)]
  cases hv : loadVarint bs with
  | error e => rfl
  | ok p =>
    obtain ⟨size, k⟩ := p
    have hw' : WfBytes ((bs.drop k).take size) := fun b hb => hw b (List.mem_of_mem_drop (List.mem_of_mem_take hb))
    have hf' : ((bs.drop k).take size).length + 12 ≤ fuel := by
      simp only [List.length_take, List.length_drop]; omega
    have htail := load_tail_eq fuel S rec d st _ (fun _ => (bs.drop k).drop size) hw' hf'
    have ht : Py.take (bs.drop k) (size : Int) = (bs.drop k).take size := by rfl
    have hd : Py.drop (bs.drop k) (size : Int) = (bs.drop k).drop size := by rfl
    simp only [res_bind_ok, ht, hd]
    by_cases hlt : (bs.drop k).length < size
    · have hne : Py.len ((bs.drop k).take size) ≠ (size : Int) := by
        simp only [Py.len, List.length_take]; omega
      simp only [hne, ne_eq, not_false_eq_true, decide_true, if_true, hlt]
    · have heq : Py.len ((bs.drop k).take size) = (size : Int) := by
        simp only [Py.len, List.length_take]; omega
      simp only [heq, ne_eq, not_true_eq_false, decide_false, Bool.false_eq_true, if_false, hlt]
      exact htail

/-- the model's `loadDelimited` with an explicit nesting budget for the body -/
def loadDelimitedAt (S : Schema) (n : Nat) (m : Val) (bs : Bytes) : R (Val × Bytes) :=
  match loadVarint bs with
  | .error e => .error e
  | .ok (size, k) =>
    let rest := bs.drop k
    if rest.length < size then .error .value
    else (parseIntoAt S n m (rest.take size)).bind fun v => .ok (v, rest.drop size)

/-- `loadDelimited` uses the budget `size + 1` for a frame that is completely there -/
theorem loadDelimitedAt_frame (m : Val) (bs : Bytes) (size k : Nat) (hv : loadVarint bs = .ok (size, k))
    (hlen : size ≤ (bs.drop k).length) : loadDelimitedAt S (size + 1) m bs = loadDelimited S m bs := by
  unfold loadDelimitedAt loadDelimited
  rw [hv]
  have : ¬ (bs.drop k).length < size := by omega
  simp only [this, if_false]
  have hl : ((bs.drop k).take size).length = size := by rw [List.length_take]; omega
  rw [← parseIntoAt_length, hl]

theorem loadDelimitedAt_short (m : Val) (bs : Bytes) (n : Nat)
    (h : ∀ size k, loadVarint bs = .ok (size, k) → (bs.drop k).length < size) :
    loadDelimitedAt S n m bs = loadDelimited S m bs := by
  unfold loadDelimitedAt loadDelimited
  cases hv : loadVarint bs with
  | error e => rfl
  | ok p => obtain ⟨size, k⟩ := p; simp only [h size k hv, if_true]

theorem value_load_delimited_at (depth c : Nat) (d : MsgD) (hc : S[c]? = some d)
    (sl : List Val) (ow : Bool) (unk : Bytes) (cur : List (Option Nat)) (bs : Bytes)
    (hw : WfBytes bs) (hf : bs.length + 12 ≤ fuel) :
    Src.value_load fuel S depth (.msg c sl ow unk cur) bs (some (-1))
      = ofR (loadDelimitedAt S (depth + 1) (.msg c sl ow unk cur) bs) := by
  unfold Src.value_load Msg.onInstanceS loadDelimitedAt parseIntoAt
  simp only [hc]
  rw [msg_load_delimited_eq fuel S _ d _ bs hw hf]
  cases hv : loadVarint bs with
  | error e => rfl
  | ok p =>
    obtain ⟨size, k⟩ := p
    simp only []
    by_cases hlt : (bs.drop k).length < size
    · simp only [hlt, if_true]; rfl
    · simp only [hlt, if_false]
      have hw' : WfBytes ((bs.drop k).take size) := fun b hb => hw b (List.mem_of_mem_drop (List.mem_of_mem_take hb))
      have hf' : ((bs.drop k).take size).length + 12 ≤ fuel := by
        simp only [List.length_take, List.length_drop]; omega
      rw [recAt_eq fuel S depth d _ _ hw' hf']
      cases loadInto S (depth + 1) d _ ((bs.drop k).take size) <;> rfl

end Tie

end Bp.SrcTieMsg
