import BpModel.All
import BpProofs.Load
/-
  The nesting fuel of `loadInto` does not matter once it exceeds the length of the input: the decoder hands the
  nested loader nothing but the payload of the record at hand, and a payload is shorter than the bytes it was cut
  from. Hence `loadFull`, the loader with the fuel `parse` supplies, satisfies the loader equation with itself
  below; proofs about nested messages are stated for any pair of loaders related by that equation (`Unfolds`).
-/
namespace Bp
open Gen

theorem loadFields_payload_lt {bs : Bytes} {pfs : List PField} (h : loadFields bs = .ok pfs) :
    ∀ pf ∈ pfs, pf.payload.length < bs.length := fun _ hpf => (loadFields_payload h hpf).2

theorem applyField_congr (S : Schema) (r1 r2 : Loader) (d : MsgD) (st : MState) (pf : PField)
    (h : ∀ d' st', r1 d' st' pf.payload = r2 d' st' pf.payload) :
    applyField S r1 d st pf = applyField S r2 d st pf := by
  unfold applyField decodeValue postLen
  simp only [h]

theorem foldFields_congr (S : Schema) (r1 r2 : Loader) (d : MsgD) (pfs : List PField) :
    ∀ st, (∀ pf ∈ pfs, ∀ d' st', r1 d' st' pf.payload = r2 d' st' pf.payload) →
      foldFields S r1 d st pfs = foldFields S r2 d st pfs := by
  induction pfs with
  | nil => intro _ _; rfl
  | cons pf pfs ih =>
    intro st h
    rw [foldFields, foldFields, applyField_congr S r1 r2 d st pf (h pf List.mem_cons_self)]
    cases applyField S r2 d st pf with
    | error e => rfl
    | ok s => exact ih s fun q hq => h q (List.mem_cons_of_mem _ hq)

theorem loadInto_fuel (S : Schema) : ∀ (n m : Nat) (d : MsgD) (st : MState) (bs : Bytes),
    bs.length < n → bs.length < m → loadInto S n d st bs = loadInto S m d st bs := by
  intro n
  induction n with
  | zero => intro m d st bs h; omega
  | succ n ih =>
    intro m d st bs hn hm
    obtain ⟨m, rfl⟩ : ∃ k, m = k + 1 := ⟨m - 1, by omega⟩
    rw [loadInto_succ, loadInto_succ]
    cases hp : loadFields bs with
    | error e => rfl
    | ok pfs =>
      simp only [bind_ok]
      apply foldFields_congr
      intro pf hpf d' st'
      have := loadFields_payload_lt hp pf hpf
      exact ih m d' st' pf.payload (by omega) (by omega)

/-- the loader with the fuel `parse` gives it -/
def loadFull (S : Schema) : Loader := fun d st bs => loadInto S (bs.length + 1) d st bs

theorem loadInto_eq_full (S : Schema) (n : Nat) (d : MsgD) (st : MState) (bs : Bytes) (h : bs.length < n) :
    loadInto S n d st bs = loadFull S d st bs :=
  loadInto_fuel S n _ d st bs h (Nat.lt_succ_self _)

/-- `rec` reads one level of records and hands nested payloads to `rec'` -/
def Unfolds (S : Schema) (rec rec' : Loader) : Prop :=
  ∀ d st bs, rec d st bs = (loadFields bs).bind fun pfs => foldFields S rec' d { st with onWire := true } pfs

theorem unfolds_succ (S : Schema) (n : Nat) : Unfolds S (loadInto S (n + 1)) (loadInto S n) := loadInto_succ S n

theorem unfolds_full (S : Schema) : Unfolds S (loadFull S) (loadFull S) := by
  intro d st bs
  unfold loadFull
  rw [loadInto_succ]
  cases hp : loadFields bs with
  | error e => rfl
  | ok pfs =>
    simp only [bind_ok]
    apply foldFields_congr
    intro pf hpf d' st'
    have := loadFields_payload_lt hp pf hpf
    exact loadInto_fuel S _ _ d' st' pf.payload (by omega) (by omega)

end Bp

#print axioms Bp.loadInto_fuel
#print axioms Bp.unfolds_full
