import BpProofs.Gen.SrcCodec
import BpProofs.ResCalc
import BpProofs.Varint
import BpProofs.Fields
import BpModel.Dump
import BpModel.Len
/-
  `Bp.Src.*` (BpProofs/Gen/SrcCodec.lean) is regenerated from the Python AST of
  src/betterproto/__init__.py on every run.  The theorems below say that each translated
  function computes exactly what the model function (BpModel/Varint.lean, Fields.lean, Dump.lean,
  Len.lean) computes, for every argument and every sufficient amount of loop fuel.  The property
  theorems (Props/*) are about the model functions, so together: they hold of the code as written
  today, up to the semantics of the Python primitives fixed in BpProofs/PyPrelude.lean.
-/
namespace Bp.SrcTie
open Bp Bp.Py

theorem and_nat (a b : Nat) : Py.and (a : Int) (b : Int) = ((a &&& b : Nat) : Int) := rfl
theorem or_nat (a b : Nat) : Py.or (a : Int) (b : Int) = ((a ||| b : Nat) : Int) := rfl
theorem xor_nat (a b : Nat) : Py.xor (a : Int) (b : Int) = ((a ^^^ b : Nat) : Int) := rfl

theorem and_mask (n k : Nat) : Py.and (n : Int) ((2 ^ k - 1 : Nat) : Int) = ((n % 2 ^ k : Nat) : Int) := by
  rw [and_nat, Nat.and_two_pow_sub_one_eq_mod]

theorem and_127 (n : Nat) : Py.and (n : Int) 127 = ((n % 128 : Nat) : Int) := and_mask n 7
theorem and_128 (n : Nat) : Py.and (n : Int) 128 = ((n &&& 128 : Nat) : Int) := and_nat n 128
theorem and_7 (n : Nat) : Py.and (n : Int) 7 = ((n % 8 : Nat) : Int) := and_mask n 3
theorem and_1 (n : Nat) : Py.and (n : Int) 1 = ((n % 2 : Nat) : Int) := and_mask n 1
theorem and_u64 (n : Nat) : Py.and (n : Int) 18446744073709551615 = ((n % 18446744073709551616 : Nat) : Int) :=
  and_mask n 64
theorem and_u32 (n : Nat) : Py.and (n : Int) 4294967295 = ((n % 4294967296 : Nat) : Int) := and_mask n 32

theorem shr_nat (n k : Nat) : Py.shr (n : Int) (k : Int) = ((n / 2 ^ k : Nat) : Int) := by
  unfold Py.shr
  rfl

theorem shr_7 (n : Nat) : Py.shr (n : Int) 7 = ((n / 128 : Nat) : Int) := shr_nat n 7
theorem shr_3 (n : Nat) : Py.shr (n : Int) 3 = ((n / 8 : Nat) : Int) := shr_nat n 3

theorem shl_nat (n k : Nat) : Py.shl (n : Int) (k : Int) = ((n * 2 ^ k : Nat) : Int) := by
  unfold Py.shl
  rfl

theorem shl_int (v : Int) (k : Nat) : Py.shl v (k : Int) = v * 2 ^ k := by
  unfold Py.shl
  rfl

/-- `|` is `+` on disjoint bits: the continuation bit of a byte, a 7-bit group above the accumulator, the wire
    type under the field number -/
theorem or_add (a b k : Nat) (h : b < 2 ^ k) :
    Py.or ((a * 2 ^ k : Nat) : Int) (b : Int) = ((a * 2 ^ k + b : Nat) : Int) := by
  rw [or_nat, ← Nat.shiftLeft_eq, Nat.shiftLeft_add_eq_or_of_lt h]

theorem or_128 (b : Nat) (h : b < 128) : Py.or 128 (b : Int) = ((128 + b : Nat) : Int) := or_add 1 b 7 h

theorem toBytes1_nat (n : Nat) (h : n < 256) : Py.toBytes1 (n : Int) = .ok [n] := by
  unfold Py.toBytes1
  have : (0 : Int) ≤ (n : Int) ∧ (n : Int) < 256 := by omega
  simp only [this, and_self, if_true, Int.toNat_natCast]

/-- the `while value:` loop of `dump_varint` with the last write after it.  The loop keeps `value = n >> 7`,
    `bits = n & 0x7f` for the `n` still to be written, so one round is one step of `encNat` -/
theorem dump_nat (n : Nat) (s : Bytes) (fuel : Nat) (hf : n / 128 < fuel) :
    ((Src.dump_varint.loop1 fuel (Py.shr (n : Int) 7) s (Py.and (n : Int) 127)).bind fun c =>
      match c with
      | .ret r => .ok r
      | .next (_, stream, bits) => (Py.toBytes1 bits).bind fun t2 => .ok (stream ++ t2)) = .ok (s ++ encNat n) := by
  induction fuel generalizing n s with
  | zero => omega
  | succ fuel ih =>
    rw [shr_7, and_127]
    unfold Src.dump_varint.loop1
    by_cases hq : n / 128 = 0
    · rw [hq, if_neg (by decide), Res.ok_bind, show n % 128 = n by omega]
      simp only [toBytes1_nat n (by omega), Res.ok_bind, encNat_lt n (by omega)]
    · have hq' : ((n / 128 : Nat) : Int) ≠ 0 := by exact_mod_cast hq
      rw [if_pos (decide_eq_true hq'), or_128 _ (Nat.mod_lt _ (by decide)), toBytes1_nat _ (by omega), Res.ok_bind,
        ih (n / 128) _ (by omega), encNat_ge n (by omega), List.append_assoc, List.singleton_append]

-- fuel: `dump_nat` allows one round per unit of `value`; the value written is below `v.natAbs + 2 ^ 64`
theorem dump_varint_eq (v : Int) (s : Bytes) (fuel : Nat) (hf : v.natAbs + 2 ^ 64 < fuel) :
    Src.dump_varint fuel v s = (Py.ofR (dumpVarint v)).bind fun bs => .ok (s ++ bs) := by
  unfold Src.dump_varint dumpVarint
  have h63 : Py.shl 1 63 = 9223372036854775808 := by decide
  have h64 : Py.shl 1 64 = 18446744073709551616 := by decide
  simp only [h63, h64, two63, two64]
  by_cases h1 : v < -9223372036854775808
  · simp [h1, Py.ofR, Res.bind]
  · simp only [h1, decide_false, if_false, Bool.false_eq_true]
    -- the non-negative number that is written: `v + 2 ^ 64` for a negative `v`, else `v`
    by_cases h2 : v < 0
    · obtain ⟨n, hn⟩ : ∃ n : Nat, v + 18446744073709551616 = (n : Int) := ⟨_, (Int.toNat_of_nonneg (by omega)).symm⟩
      simp only [h2, decide_true, if_true, hn, Int.toNat_natCast]
      exact dump_nat n s fuel (by omega)
    · obtain ⟨n, rfl⟩ : ∃ n : Nat, v = (n : Int) := ⟨_, (Int.toNat_of_nonneg (by omega)).symm⟩
      simp only [h2, decide_false, Bool.false_eq_true, if_false, Int.toNat_natCast]
      exact dump_nat n s fuel (by omega)

theorem encode_varint_eq (v : Int) (fuel : Nat) (hf : v.natAbs + 2 ^ 64 < fuel) :
    Src.encode_varint fuel v = Py.ofR (dumpVarint v) := by
  unfold Src.encode_varint
  simp only [dump_varint_eq v [] fuel hf]
  cases dumpVarint v <;> rfl


theorem ceilDiv_bitLength (n : Nat) : Py.ceilDiv (Py.bitLength (n : Int)) 7 = (((bitLen n + 6) / 7 : Nat) : Int) := by
  unfold Py.ceilDiv Py.bitLength
  simp only [Int.natAbs_natCast]
  omega

theorem size_varint_eq (v : Int) (fuel : Nat) :
    Src.size_varint fuel v = Py.ofR ((sizeVarint v).map fun (n : Nat) => (n : Int)) := by
  unfold Src.size_varint sizeVarint
  have h63 : Py.shl 1 63 = 9223372036854775808 := by decide
  simp only [h63, two63]
  by_cases h1 : v < -9223372036854775808
  · simp [h1, Py.ofR, Except.map]
  · by_cases h2 : v < 0
    · simp [h1, h2, Py.ofR, Except.map]
    · by_cases h3 : v = 0
      · simp [h3, Py.ofR, Except.map]
      · obtain ⟨n, rfl⟩ : ∃ n : Nat, v = (n : Int) := ⟨v.toNat, by omega⟩
        simp only [h1, h2, h3, decide_false, Bool.false_eq_true, if_false, ceilDiv_bitLength, Py.ofR, Except.map,
          Int.toNat_natCast]

theorem or_shl_add (res c s : Nat) (h : res < 2 ^ s) :
    Py.or (res : Int) (Py.shl (c : Int) (s : Int)) = ((res + c * 2 ^ s : Nat) : Int) := by
  rw [shl_nat, or_nat, Nat.or_comm, ← or_nat, or_add c res s h, Nat.add_comm]

theorem fromBytesLE_one (b : Nat) : Py.fromBytesLE [b] = (b : Int) := by
  rfl

theorem and_128_ne (b : Nat) (hb : b < 256) : (Py.and (b : Int) 128 ≠ 0) ↔ ¬ b < 128 := by
  have ht : b.testBit 7 = decide (¬ b < 128) := by
    rw [Nat.testBit_eq_decide_div_mod_eq]; congr 1; simp only [Nat.reducePow]; apply propext; omega
  rw [and_128, show (128 : Nat) = 2 ^ 7 from rfl, Nat.and_two_pow, ht]
  by_cases h : b < 128 <;> simp [h]

theorem acc_lt (res c j : Nat) (hres : res < 2 ^ (7 * j)) (hc : c < 128) :
    res + c * 2 ^ (7 * j) < 2 ^ (7 * (j + 1)) := by
  have e : 2 ^ (7 * (j + 1)) = 128 * 2 ^ (7 * j) := by
    rw [show 7 * (j + 1) = 7 + 7 * j by omega, Nat.pow_add]
  rw [e]
  have h1 := Nat.mul_le_mul_right (2 ^ (7 * j)) (Nat.le_of_lt_succ hc)
  generalize c * 2 ^ (7 * j) = X at h1 ⊢
  generalize 2 ^ (7 * j) = P at *
  omega

/-- one round of the `while True:` loop of `load_varint` is the equation of `loadVarintAux` -/
theorem load_step (fuel : Nat) (bs : Bytes) (hw : WfBytes bs) (res j : Nat) (raw : Bytes) (hres : res < 2 ^ (7 * j)) :
    Src.load_varint.loop1 (fuel + 1) bs [] (res : Int) raw ((7 * j : Nat) : Int) =
      if 7 * j ≥ 64 then .raise .value else
      match bs with
      | [] => .raise .eof
      | b :: rest =>
        if b < 128 then .ok (((((res + b % 128 * 2 ^ (7 * j)) % 18446744073709551616 : Nat) : Int), raw ++ [b]), rest)
        else Src.load_varint.loop1 fuel rest [] ((res + b % 128 * 2 ^ (7 * j) : Nat) : Int) (raw ++ [b]) ((7 * (j + 1) : Nat) : Int) := by
  conv => lhs; unfold Src.load_varint.loop1
  by_cases hs : 7 * j ≥ 64
  · rw [if_pos hs, if_pos (decide_eq_true (by omega))]
  · rw [if_neg hs, if_neg (by simp only [decide_eq_true_eq]; omega)]
    cases bs with
    | nil => rfl
    | cons b rest =>
      have htake : Py.take (b :: rest) 1 = [b] := rfl
      have hdrop : Py.drop (b :: rest) 1 = rest := rfl
      have hsh : ((7 * j : Nat) : Int) + 7 = ((7 * (j + 1) : Nat) : Int) := by omega
      simp only [List.isEmpty_nil, Bool.not_true, htake, hdrop, Bool.false_eq_true, if_false,
        List.isEmpty_cons, Bool.not_false, fromBytesLE_one, and_127, or_shl_add res (b % 128) (7 * j) hres, hsh, and_u64]
      have hne := and_128_ne b (hw b (by simp))
      by_cases hlt : b < 128
      · rw [if_pos hlt, if_pos (by simpa using fun h => hne.mp h hlt)]
      · rw [if_neg hlt, if_neg (by simpa using hne.mpr hlt)]

theorem load_loop (bs : Bytes) (hw : WfBytes bs) (fuel j res : Nat) (raw : Bytes)
    (hres : res < 2 ^ (7 * j)) (hj : j ≤ 10) (hf : 10 < fuel + j) :
    Src.load_varint.loop1 fuel bs [] (res : Int) raw ((7 * j : Nat) : Int) =
      match loadVarintAux (7 * j) res raw.length bs with
      | .ok (v, k') => .ok ((((v % 18446744073709551616 : Nat) : Int), raw ++ bs.take (k' - raw.length)), bs.drop (k' - raw.length))
      | .error e => .raise e := by
  induction fuel generalizing bs j res raw with
  | zero => omega
  | succ fuel ih =>
    rw [load_step fuel bs hw res j raw hres]
    by_cases hs : 7 * j ≥ 64
    · cases bs <;> simp only [loadVarintAux, hs, if_true]
    · cases bs with
      | nil => simp only [loadVarintAux, hs, if_false]
      | cons b rest =>
        have hw' : WfBytes rest := fun x hx => hw x (by simp [hx])
        rw [if_neg hs, loadVarintAux, if_neg hs]
        by_cases hlt : b < 128
        · simp only [hlt, if_true, Nat.add_sub_cancel_left, List.take_succ_cons, List.take_zero, List.drop_succ_cons, List.drop_zero]
        · simp only [hlt, if_false]
          rw [ih rest hw' (j + 1) _ (raw ++ [b]) (acc_lt res _ j hres (Nat.mod_lt _ (by decide))) (by omega) (by omega),
            List.length_append, List.length_singleton, show 7 * j + 7 = 7 * (j + 1) by omega]
          cases hres2 : loadVarintAux (7 * (j + 1)) (res + b % 128 * 2 ^ (7 * j)) (raw.length + 1) rest with
          | error e => rfl
          | ok p =>
            have hk := (loadVarintAux_consumed _ _ _ _ _ _ hres2).1
            simp only
            rw [show p.2 - raw.length = (p.2 - (raw.length + 1)) + 1 by omega, List.take_succ_cons, List.drop_succ_cons,
              List.append_assoc, List.singleton_append]

-- fuel: the loop raises at 64 bits of shift, that is after at most ten groups of 7 bits (`j ≤ 10` in `load_loop`)
theorem load_varint_eq (bs : Bytes) (hw : WfBytes bs) (fuel : Nat) (hf : 10 < fuel) :
    Src.load_varint fuel bs [] =
      match loadVarint bs with
      | .ok (v, k) => .ok (((v : Int), bs.take k), bs.drop k)
      | .error e => .raise e := by
  unfold Src.load_varint loadVarint
  have := load_loop bs hw fuel 0 0 [] (by simp) (by omega) (by omega)
  simp only [Nat.mul_zero, Nat.cast_zero, List.length_nil, Nat.sub_zero, List.nil_append] at this
  rw [this]
  cases loadVarintAux 0 0 0 bs with
  | error e => rfl
  | ok p => obtain ⟨v, k⟩ := p; rfl

theorem load_varint_bind {β : Type} (bs : Bytes) (hw : WfBytes bs) (fuel : Nat) (hf : 10 < fuel)
    (g : (Int × Bytes) × Bytes → Res β) :
    (Src.load_varint fuel bs []).bind g =
      match loadVarint bs with
      | .ok (v, k) => g (((v : Int), bs.take k), bs.drop k)
      | .error e => .raise e := by
  rw [load_varint_eq bs hw fuel hf]
  cases loadVarint bs <;> rfl

/-- `load_varint` with the first byte already taken from the stream by the caller
    (`load_fields` does that to detect a clean end of input) -/
theorem load_varint_first_eq (b0 : Nat) (bs : Bytes) (hw : WfBytes (b0 :: bs)) (fuel : Nat) (hf : 10 < fuel) :
    Src.load_varint fuel bs [b0] =
      match loadVarint (b0 :: bs) with
      | .ok (v, k) => .ok (((v : Int), (b0 :: bs).take k), (b0 :: bs).drop k)
      | .error e => .raise e := by
  -- a pending `first` byte is read exactly like the head of the stream
  obtain ⟨fuel, rfl⟩ : ∃ f, fuel = f + 1 := ⟨fuel - 1, by omega⟩
  have h := load_varint_eq (b0 :: bs) hw (fuel + 1) hf
  unfold Src.load_varint Src.load_varint.loop1 at h ⊢
  exact h

theorem wf_drop (bs : Bytes) (hw : WfBytes bs) (k : Nat) : WfBytes (bs.drop k) :=
  fun x hx => hw x (List.mem_of_mem_drop hx)

theorem decode_varint_eq (buf : Bytes) (hw : WfBytes buf) (pos fuel : Nat) (hf : 10 < fuel) :
    Src.decode_varint fuel buf (pos : Int) =
      match decodeVarint buf pos with
      | .ok (v, p) => .ok ((v : Int), (p : Int))
      | .error e => .raise e := by
  unfold Src.decode_varint decodeVarint
  show (Src.load_varint fuel (buf.drop pos) []).bind _ = _
  rw [load_varint_bind _ (wf_drop buf hw pos) fuel hf]
  cases h : loadVarint (buf.drop pos) with
  | error e => rfl
  | ok p =>
    -- `len(raw)` is the count the model returns: the varint lies inside the buffer
    show Res.ok (_, (pos : Int) + (((buf.drop pos).take p.2).length : Nat)) = _
    rw [List.length_take, Nat.min_eq_left (loadVarint_consumed _ _ _ h).2]
    rfl

theorem xor_neg_one (x : Int) : Py.xor x (-1) = -x - 1 := by
  unfold Py.xor
  cases x with
  | ofNat m =>
    show Int.xor (Int.ofNat m) (Int.negSucc 0) = _
    simp only [Int.xor, Nat.xor_zero, Int.ofNat_eq_natCast, Int.negSucc_eq]
    omega
  | negSucc m =>
    show Int.xor (Int.negSucc m) (Int.negSucc 0) = _
    simp only [Int.xor, Nat.xor_zero, Int.negSucc_eq]
    omega

/-- the zig-zag expression `value << 1 if value >= 0 else (value << 1) ^ (~0)` is `zig` -/
theorem zig_expr (v : Int) :
    (if decide (v ≥ 0) then Py.shl v 1 else Py.xor (Py.shl v 1) (Py.inv 0)) = zig v := by
  have h1 : Py.shl v 1 = v * 2 := by have := shl_int v 1; simpa using this
  have h2 : Py.inv 0 = -1 := by decide
  unfold zig
  by_cases h : v ≥ 0
  · simp only [h, decide_true, if_true, h1]; omega
  · simp only [h, decide_false, Bool.false_eq_true, if_false, h1, h2, xor_neg_one]; omega

theorem preprocess_varint_eq (v : Int) (fuel : Nat) (hf : v.natAbs + 2 ^ 64 < fuel) :
    Src.preprocess_varint fuel v = Py.ofR (dumpVarint v) := by
  rw [Src.preprocess_varint, encode_varint_eq _ _ hf]; exact Res.bind_ok _

theorem len_preprocessed_sint_eq (v : Int) (fuel : Nat) :
    Src.len_preprocessed_sint fuel v = Py.ofR ((sizeVarint (zig v)).map fun (n : Nat) => (n : Int)) := by
  rw [Src.len_preprocessed_sint, zig_expr, size_varint_eq]; exact Res.bind_ok _

theorem len_preprocessed_varint_eq (v : Int) (fuel : Nat) :
    Src.len_preprocessed_varint fuel v = Py.ofR ((sizeVarint v).map fun (n : Nat) => (n : Int)) := by
  rw [Src.len_preprocessed_varint, size_varint_eq]; exact Res.bind_ok _

/-- `(m ^ 2 ^ k) - 2 ^ k` reads `m < 2 ^ (k + 1)` as a signed number of `k + 1` bits: `^^^ 2 ^ k` flips bit `k`,
    that is, of quotient and remainder by `2 ^ k` the quotient (0 or 1) is flipped -/
theorem xor_sub_two_pow (m k : Nat) (h : m < 2 ^ (k + 1)) :
    ((m ^^^ 2 ^ k : Nat) : Int) - ((2 ^ k : Nat) : Int) =
      if m < 2 ^ k then (m : Int) else (m : Int) - ((2 ^ (k + 1) : Nat) : Int) := by
  have hp := Nat.two_pow_pos k
  have hx := Nat.div_add_mod (m ^^^ 2 ^ k) (2 ^ k)
  have hm := Nat.div_add_mod m (2 ^ k)
  have hr := Nat.mod_lt m hp
  rw [Nat.xor_div_two_pow, Nat.xor_mod_two_pow, Nat.div_self hp, Nat.mod_self, Nat.xor_zero] at hx
  rw [Nat.pow_succ] at h ⊢
  have hd : m / 2 ^ k < 2 := (Nat.div_lt_iff_lt_mul hp).2 (by omega)
  obtain hq | hq := Nat.le_one_iff_eq_zero_or_eq_one.mp (Nat.le_of_lt_succ hd)
  all_goals
    rw [hq] at hx hm
    simp only [Nat.zero_xor, Nat.xor_self, Nat.mul_one, Nat.mul_zero] at hx hm
    split <;> omega

/-- sign recovery `value &= (1 << bits) - 1; (value ^ signbit) - signbit` is `signRecover` -/
theorem postprocess_int_eq (n bits : Nat) (hb : 1 ≤ bits) (fuel : Nat) :
    Src.postprocess_int fuel (n : Int) (bits : Int) = .ok (signRecover bits n) := by
  unfold Src.postprocess_int signRecover
  obtain ⟨k, rfl⟩ : ∃ k, bits = k + 1 := ⟨bits - 1, by omega⟩
  have shl_one : ∀ j : Nat, Py.shl 1 (j : Int) = ((2 ^ j : Nat) : Int) := fun j => by simpa using shl_nat 1 j
  have h1 : Py.shl 1 ((k + 1 : Nat) : Int) - 1 = ((2 ^ (k + 1) - 1 : Nat) : Int) := by
    have := Nat.one_le_two_pow (n := k + 1)
    rw [shl_one]; omega
  have h2 : Py.shl 1 (((k + 1 : Nat) : Int) - 1) = ((2 ^ k : Nat) : Int) := by
    rw [show ((k + 1 : Nat) : Int) - 1 = (k : Int) by omega, shl_one]
  simp only [h1, and_mask, h2, xor_nat, Nat.add_sub_cancel]
  exact congrArg _ (xor_sub_two_pow _ _ (Nat.mod_lt _ (Nat.two_pow_pos _)))

-- the 32-bit case, with `1 << 32` and `1 << 31` written out
theorem postprocess_enum_eq (n : Nat) (fuel : Nat) :
    Src.postprocess_enum fuel (n : Int) = .ok (signRecover 32 n) := postprocess_int_eq n 32 (by decide) fuel

/-- `(value >> 1) ^ (-(value & 1))` is `unzig` -/
theorem postprocess_sint_eq (n : Nat) (fuel : Nat) :
    Src.postprocess_sint fuel (n : Int) = .ok (unzig n) := by
  unfold Src.postprocess_sint unzig
  have hsh : Py.shr (n : Int) 1 = ((n / 2 : Nat) : Int) := by have := shr_nat n 1; simpa using this
  simp only [hsh, and_1]
  congr 1
  by_cases h : n % 2 = 0
  · simp only [h, if_true, Nat.cast_zero, neg_zero]
    have := xor_nat (n / 2) 0
    simpa using this
  · have h1 : n % 2 = 1 := by omega
    simp only [h1, Nat.cast_one, xor_neg_one, one_ne_zero, if_false]

theorem key_shl (num : Nat) : Py.shl (num : Int) 3 = ((num * 8 : Nat) : Int) := shl_nat num 3

-- `(field_number << 3) | wire_type`, after `key_shl`
theorem key_or5 (num : Nat) : Py.or ((num * 8 : Nat) : Int) 5 = ((num * 8 + 5 : Nat) : Int) := or_add num 5 3 (by decide)
theorem key_or1 (num : Nat) : Py.or ((num * 8 : Nat) : Int) 1 = ((num * 8 + 1 : Nat) : Int) := or_add num 1 3 (by decide)
theorem key_or2 (num : Nat) : Py.or ((num * 8 : Nat) : Int) 2 = ((num * 8 + 2 : Nat) : Int) := or_add num 2 3 (by decide)

theorem encode_nat (n fuel : Nat) (hf : n + 2 ^ 64 < fuel) : Src.encode_varint fuel (n : Int) = Py.ofR (dumpVarint (n : Int)) :=
  encode_varint_eq _ _ (by rw [Int.natAbs_natCast]; exact hf)

theorem serialize_key_varint_eq (num fuel : Nat) (hf : num * 8 + 2 ^ 64 < fuel) :
    Src.serialize_key_varint fuel (num : Int) = Py.ofR (dumpVarint ((num * 8 : Nat) : Int)) := by
  rw [Src.serialize_key_varint, key_shl, encode_nat _ _ hf]; exact Res.bind_ok _

theorem serialize_key_fixed32_eq (num fuel : Nat) (hf : num * 8 + 5 + 2 ^ 64 < fuel) :
    Src.serialize_key_fixed32 fuel (num : Int) = Py.ofR (dumpVarint ((num * 8 + 5 : Nat) : Int)) := by
  rw [Src.serialize_key_fixed32, key_shl, key_or5, encode_nat _ _ hf]; exact Res.bind_ok _

theorem serialize_key_fixed64_eq (num fuel : Nat) (hf : num * 8 + 1 + 2 ^ 64 < fuel) :
    Src.serialize_key_fixed64 fuel (num : Int) = Py.ofR (dumpVarint ((num * 8 + 1 : Nat) : Int)) := by
  rw [Src.serialize_key_fixed64, key_shl, key_or1, encode_nat _ _ hf]; exact Res.bind_ok _

theorem serialize_lendelim_eq (num fuel : Nat) (value output : Bytes)
    (hf : num * 8 + 2 + value.length + 2 ^ 64 < fuel) :
    Src.serialize_lendelim fuel (num : Int) value output =
      Py.ofR ((dumpVarint ((num * 8 + 2 : Nat) : Int)).bind fun k =>
        (dumpVarint (value.length : Int)).bind fun l => .ok (output ++ (k ++ l ++ value))) := by
  rw [Src.serialize_lendelim, key_shl, key_or2, encode_nat _ _ (by omega), show Py.len value = ((value.length : Nat) : Int) from rfl,
    encode_nat _ _ (by omega)]
  simp only [Res.ofR_bind, Res.ofR_ok]

/-- `number = num_wire >> 3; wire_type = num_wire & 0x7` -/
theorem fields_tag_split_eq (nw fuel : Nat) :
    Src.fields_tag_split fuel (nw : Int) = .ok (((nw / 8 : Nat) : Int), ((nw % 8 : Nat) : Int)) := by
  unfold Src.fields_tag_split
  simp only [shr_3, and_7]

theorem len_key_varint_eq (num fuel : Nat) (size : Int) :
    Src.len_key_varint fuel (num : Int) size =
      Py.ofR ((sizeVarint ((num * 8 : Nat) : Int)).map fun (n : Nat) => size + (n : Int)) := by
  rw [Src.len_key_varint, key_shl, size_varint_eq]; simp only [Res.ofR_map, Res.bind_assoc, Res.ok_bind]

theorem len_key_fixed32_eq (num fuel : Nat) (size : Int) :
    Src.len_key_fixed32 fuel (num : Int) size =
      Py.ofR ((sizeVarint ((num * 8 + 5 : Nat) : Int)).map fun (n : Nat) => size + (n : Int)) := by
  rw [Src.len_key_fixed32, key_shl, key_or5, size_varint_eq]; simp only [Res.ofR_map, Res.bind_assoc, Res.ok_bind]

theorem len_key_fixed64_eq (num fuel : Nat) (size : Int) :
    Src.len_key_fixed64 fuel (num : Int) size =
      Py.ofR ((sizeVarint ((num * 8 + 1 : Nat) : Int)).map fun (n : Nat) => size + (n : Int)) := by
  rw [Src.len_key_fixed64, key_shl, key_or1, size_varint_eq]; simp only [Res.ofR_map, Res.bind_assoc, Res.ok_bind]

theorem len_lendelim_eq (num fuel : Nat) (size : Int) :
    Src.len_lendelim fuel (num : Int) size =
      Py.ofR ((sizeVarint ((num * 8 + 2 : Nat) : Int)).bind fun (k : Nat) =>
        (sizeVarint size).bind fun (l : Nat) => .ok (size + ((k : Int) + (l : Int)))) := by
  rw [Src.len_lendelim, key_shl, key_or2, size_varint_eq, size_varint_eq]
  simp only [Res.ofR_map, Res.ofR_bind, Res.ofR_ok, Res.bind_assoc, Res.ok_bind]

/-- `Src.serialize_frame` is everything `_serialize_single` does after the call of `_preprocess_single`: which key,
    whether a length prefix, and the emission test `len(value) or serialize_empty or wraps` of length-delimited fields -/
theorem serialize_frame_eq (num fuel : Nat) (t : PType) (value : Bytes) (se wraps : Bool)
    (hf : num * 8 + 5 + value.length + 2 ^ 64 < fuel) :
    Src.serialize_frame fuel (num : Int) t value se wraps = Py.ofR (frame num t value se wraps) := by
  have hne : (decide (((value.length : Nat) : Int) ≠ 0)) = (value.length != 0) := by
    by_cases h : value.length = 0 <;> simp [h]
  unfold Src.serialize_frame frame
  simp only [apply_ite Py.ofR, key_shl, key_or5, key_or1, key_or2, hne, show Py.len value = ((value.length : Nat) : Int) from rfl,
    List.nil_append]
  -- the same tests on both sides: compare branch by branch
  refine ite_congr rfl (fun _ => ?_) fun _ => ite_congr rfl (fun _ => ?_) fun _ => ite_congr rfl (fun _ => ?_) fun _ =>
    ite_congr rfl (fun _ => ite_congr rfl (fun _ => ?_) fun _ => rfl) fun _ => rfl
  · rw [encode_nat _ _ (by omega), Res.ofR_bind]; rfl
  · rw [encode_nat _ _ (by omega), Res.ofR_bind]; rfl
  · rw [encode_nat _ _ (by omega), Res.ofR_bind]; rfl
  · rw [encode_nat _ _ (by omega), encode_nat _ _ (by omega)]
    simp only [Res.ofR_bind, Res.ofR_ok]

theorem len_frame_eq (num fuel : Nat) (t : PType) (size : Nat) (se wraps : Bool) :
    Src.len_frame fuel (num : Int) t (size : Int) se wraps =
      Py.ofR ((lenFrame num t size se wraps).map fun (n : Nat) => (n : Int)) := by
  have hne : (decide ((size : Int) ≠ 0)) = (size != 0) := by
    by_cases h : size = 0 <;> simp [h]
  unfold Src.len_frame lenFrame
  simp only [apply_ite Py.ofR, apply_ite (Except.map _), key_shl, key_or5, key_or1, key_or2, hne, size_varint_eq]
  refine ite_congr rfl (fun _ => ?_) fun _ => ite_congr rfl (fun _ => ?_) fun _ => ite_congr rfl (fun _ => ?_) fun _ =>
    ite_congr rfl (fun _ => ite_congr rfl (fun _ => ?_) fun _ => rfl) fun _ => rfl
  all_goals simp only [Res.ofR_map, Res.ofR_bind, Res.ofR_ok, Res.bind_assoc, Res.ok_bind, Nat.cast_add]

open Gen

theorem read_exact_eq (s : Bytes) (n fuel : Nat) :
    Src._read_exact fuel s (n : Int) = if s.length < n then .raise .eof else .ok (s.take n, s.drop n) := by
  unfold Src._read_exact
  simp only [Py.take, Py.drop, Py.len, Int.toNat_natCast]
  -- `len(s[:n]) != n` exactly when the stream is shorter than `n`
  by_cases h : s.length < n <;> simp [h]

theorem read_exact_bind {β : Type} (s : Bytes) (n fuel : Nat) (g : Bytes × Bytes → Res β) :
    (Src._read_exact fuel s (n : Int)).bind g = if s.length < n then .raise .eof else g (s.take n, s.drop n) := by
  rw [read_exact_eq, Res.ite_bind]; rfl

theorem fields_step (b0 : Nat) (rest : Bytes) (acc : List PField) (fuel : Nat)
    (hw : WfBytes (b0 :: rest)) (hf : 10 < fuel) :
    Src.load_fields.loop1 (fuel + 1) (b0 :: rest) acc =
      match loadField (b0 :: rest) with
      | .error e => .raise e
      | .ok (pf, rest') => Src.load_fields.loop1 fuel rest' (acc ++ [pf]) := by
  conv => lhs; unfold Src.load_fields.loop1
  unfold loadField
  have htake : Py.take (b0 :: rest) 1 = [b0] := rfl
  have hdrop : Py.drop (b0 :: rest) 1 = rest := rfl
  simp only [htake, hdrop, List.isEmpty_cons, Bool.not_false, Bool.not_true, Bool.false_eq_true, if_false,
    load_varint_first_eq b0 rest hw fuel hf]
  generalize (b0 :: rest) = bs at *
  cases hv : loadVarint bs with
  | error e => rfl
  | ok p =>
    obtain ⟨nw, k⟩ := p
    have hws : WfBytes (bs.drop k) := wf_drop _ hw k
    have hw8 : nw % 8 < 8 := Nat.mod_lt _ (by decide)
    -- each wire type reads on from `s = bs.drop k` and adds what it consumes to `raw = bs.take k`
    simp only [Res.ok_bind, shr_3, and_7, List.take_add, ← List.drop_drop, Int.toNat_natCast]
    generalize bs.drop k = s at *
    generalize bs.take k = raw
    generalize nw % 8 = w at *
    generalize nw / 8 = num
    by_cases hz : num = 0
    · subst hz; rfl
    · have c1 : ¬ decide ((num : Int) = 0) = true := by simp only [decide_eq_true_eq]; omega
      have c2 : ¬ (num == 0) = true := by simpa using hz
      rw [if_neg c1, if_neg c2]
      match w, hw8 with
      | 0, _ =>
        rw [show loadPayload 0 _ = _ from loadPayload_varint_eq _, load_varint_bind _ hws fuel hf]
        cases loadVarint s <;> rfl
      | 1, _ =>
        show (Src._read_exact fuel s (8 : Nat)).bind _ = _
        rw [show loadPayload 1 _ = _ from loadPayload_fixed_eq (Or.inl ⟨rfl, rfl⟩) _, read_exact_bind]
        by_cases hl : s.length < 8 <;> simp only [hl, if_true, if_false]
      | 2, _ =>
        show (Src.load_varint fuel s []).bind _ = _
        rw [show loadPayload 2 _ = _ from loadPayload_lenDelim_eq _, load_varint_bind _ hws fuel hf]
        cases loadVarint s with
        | error e => rfl
        | ok q =>
          obtain ⟨len, k2⟩ := q
          simp only [read_exact_bind]
          by_cases hl : (s.drop k2).length < len <;> simp only [hl, if_true, if_false]
          rw [List.drop_drop, List.take_add, List.append_assoc]
      | 5, _ =>
        show (Src._read_exact fuel s (4 : Nat)).bind _ = _
        rw [show loadPayload 5 _ = _ from loadPayload_fixed_eq (Or.inr ⟨rfl, rfl⟩) _, read_exact_bind]
        by_cases hl : s.length < 4 <;> simp only [hl, if_true, if_false]
      | 3, _ | 4, _ | 6, _ | 7, _ => rfl
      | w + 8, h => omega

/-- the generator `load_fields` is run to its end: `acc` is what it has yielded so far.
    Fuel: every round consumes at least one byte, and the varint loops inside a round need `10 < fuel` -/
theorem load_fields_loop (n : Nat) : ∀ (bs : Bytes) (acc : List PField) (fuel : Nat), bs.length ≤ n → WfBytes bs →
    bs.length + 11 < fuel →
    Src.load_fields.loop1 fuel bs acc =
      match loadFields bs with
      | .ok pfs => .ok (acc ++ pfs, [])
      | .error e => .raise e := by
  -- induction on the fuel, as the loop runs; the bound `n` plays no part
  intro bs acc fuel hn hw hf
  clear hn
  induction fuel generalizing bs acc with
  | zero => omega
  | succ f ih =>
    cases bs with
    | nil =>
      -- at the end of the stream `read(1)` returns nothing and the generator returns
      unfold Src.load_fields.loop1
      simp [Py.take, Py.drop, loadFields_nil]
    | cons b0 rest =>
      simp only [List.length_cons] at hf
      rw [fields_step b0 rest acc f hw (by omega)]
      cases hlf : loadField (b0 :: rest) with
      | error e => rw [loadFields_cons_err _ e (by simp) hlf]
      | ok r =>
        obtain ⟨pf, rest'⟩ := r
        have ok := loadField_ok _ _ _ hlf
        have hlen : rest'.length < (b0 :: rest).length := ok.rest_lt
        simp only [List.length_cons] at hlen
        have hw' : WfBytes rest' := by
          intro x hx
          apply hw x
          rw [← ok.raw_rest]
          exact List.mem_append_right _ hx
        rw [loadFields_cons _ pf rest' (by simp) hlf]
        simp only
        rw [ih rest' (acc ++ [pf]) hw' (by omega)]
        cases loadFields rest' with
        | error e => rfl
        | ok pfs => simp [Except.bind]

theorem load_fields_eq (bs : Bytes) (hw : WfBytes bs) (fuel : Nat) (hf : bs.length + 11 < fuel) :
    Src.load_fields fuel bs =
      match loadFields bs with
      | .ok pfs => .ok (pfs, [])
      | .error e => .raise e := by
  unfold Src.load_fields
  have := load_fields_loop bs.length bs [] fuel (Nat.le_refl _) hw hf
  simpa using this

end Bp.SrcTie
