import BpProofs.Gen.SrcPlugin
import BpProofs.ResCalc
import BpProofs.PluginField
import BpProofs.ImportingParse
import BpModel.Gen.WireTables
/-
  THE TIE BETWEEN THE TRANSLATED SOURCE OF plugin/models.py AND THE HAND-WRITTEN MODEL (C03).

  `Bp.Src.Models.*` (BpProofs/Gen/SrcPlugin.lean) is regenerated from the Python AST of
  src/betterproto/plugin/models.py on every run.  The theorems below say that the field classification as
  written — `get_map_entry`, `is_map`, `is_oneof` and the properties of the four concrete field compilers —
  computes exactly what the functions of BpModel/Plugin.lean compute (`getMapEntry`, `isMap`, `isOneof`,
  `wrapsOf`, the tables `fieldTypeStr` / `scalarPyType` / `messageTypes`, the components of `compileField`'s
  `CField`), for EVERY descriptor field and parent message, with no well-formedness guard.
  What is trusted is the meaning of the Python primitives fixed in BpProofs/PyPrelude*.lean
  (PyPreludePlugin.lean for the descriptor objects).
-/
set_option linter.unusedSimpArgs false
set_option linter.unusedVariables false
namespace Bp.SrcTiePlugin
open Bp Bp.Py Bp.Importing Bp.Plugin Bp.Gen.Plugin Bp.Src.Models

theorem splitOn_ne_nil (c : Char) : ∀ s : Str, splitOn c s ≠ []
  | [] => by simp [splitOn]
  | a :: s => by
    unfold splitOn
    by_cases h : a = c
    · simp [h]
    · simp only [h, if_false]
      cases splitOn c s <;> simp

theorem takeWhile_all {α} (p : α → Bool) : ∀ l : List α, (∀ y ∈ l, p y = true) → l.takeWhile p = l
  | [], _ => rfl
  | a :: r, h => by
    simp only [List.takeWhile, h a List.mem_cons_self]
    rw [takeWhile_all p r (fun y hy => h y (List.mem_cons_of_mem _ hy))]

theorem splitOn_two (c : Char) : ∀ s : Str, c ∈ s → ∃ w w' ws, splitOn c s = w :: w' :: ws
  | a :: s, h => by
    unfold splitOn
    by_cases ha : a = c
    · rw [if_pos ha]
      cases hs : splitOn c s with
      | nil => exact absurd hs (splitOn_ne_nil c s)
      | cons w ws => exact ⟨_, _, _, rfl⟩
    · rw [if_neg ha]
      obtain ⟨w, w', ws, hs⟩ := splitOn_two c s ((List.mem_cons.1 h).resolve_left (Ne.symm ha))
      rw [hs]; exact ⟨_, _, _, rfl⟩

theorem exists_last {α : Type} (c : α) : ∀ l : List α, c ∈ l → ∃ p n, l = p ++ c :: n ∧ c ∉ n
  | a :: l, h => by
    by_cases hl : c ∈ l
    · obtain ⟨p, n, rfl, hn⟩ := exists_last c l hl
      exact ⟨a :: p, n, rfl, hn⟩
    · have : a = c := ((List.mem_cons.1 h).resolve_right hl).symm
      exact ⟨[], l, by rw [this]; rfl, hl⟩

theorem getLast_splitOn_append (c : Char) (n : Str) (hn : c ∉ n) : ∀ p : Str,
    (splitOn c (p ++ c :: n)).getLast? = some n
  | [] => by rw [List.nil_append, splitOn, if_pos rfl, splitOn_no_sep c n hn]; rfl
  | a :: p => by
    have ih := getLast_splitOn_append c n hn p
    obtain ⟨w, w', ws, hs⟩ := splitOn_two c (p ++ c :: n) (by simp)
    rw [hs, List.getLast?_cons_cons] at ih
    rw [List.cons_append, splitOn, hs]
    split <;> simpa only [List.getLast?_cons_cons] using ih

theorem lastSeg_nodot (s : Str) (h : '.' ∉ s) : lastSeg s = s := by
  unfold lastSeg
  rw [takeWhile_all, List.reverse_reverse]
  intro y hy
  have : y ≠ '.' := fun e => h (by simpa [e] using hy)
  simp [this]

/-- the last element of `s.split(".")` is the model's `lastSeg s`: both are what follows the last dot -/
theorem getLast_splitOn (s : Str) : (splitOn '.' s).getLast? = some (lastSeg s) := by
  by_cases h : '.' ∈ s
  · obtain ⟨p, n, rfl, hn⟩ := exists_last '.' s h
    rw [getLast_splitOn_append '.' n hn, lastSeg_append p n hn]
  · rw [splitOn_no_sep '.' s h, lastSeg_nodot s h]; rfl

theorem index_neg_one_getLast {α : Type} (xs : List α) (x : α) (h : xs.getLast? = some x) :
    Py.index xs (-1) = .ok x := by
  unfold Py.index
  have hne : xs ≠ [] := by intro e; subst e; cases h
  have hl : 0 < xs.length := List.length_pos_iff.mpr hne
  simp only [show ((-1 : Int) < 0) from by decide, if_true]
  have h1 : ¬ ((-1 : Int) + ((xs.length : Nat) : Int) < 0) := by omega
  have h2 : ((-1 : Int) + ((xs.length : Nat) : Int)).toNat = xs.length - 1 := by omega
  rw [if_neg h1, h2, ← List.getLast?_eq_getElem?, h]

/-- `s.split(".").pop()` never raises and is `lastSeg s` -/
theorem pop_split (s : Str) : Py.index (splitOn '.' s) (-(1 : Int)) = .ok (lastSeg s) :=
  index_neg_one_getLast _ _ (getLast_splitOn s)

theorem typeMember_message : Py.Plg.typeMember "TYPE_MESSAGE".toList = typeMessage := rfl

/-- the loop of `get_map_entry`: the first nested map-entry message with that exact name -/
theorem loop1_eq (fuel : Nat) (en : Str) : ∀ xs : List MsgP,
    get_map_entry.loop1 fuel en xs
      = .ok (match xs.find? (fun n => n.mapEntry && decide (n.name = en)) with
             | some n => .ret (some n)
             | none => .next ())
  | [] => rfl
  | n :: r => by
    unfold get_map_entry.loop1
    show (if (n.mapEntry && decide (n.name = en)) = true then _ else _) = _
    by_cases h : (n.mapEntry && decide (n.name = en)) = true
    · rw [if_pos h]
      simp only [List.find?_cons, h]
    · rw [if_neg h, loop1_eq fuel en r]
      have h' : (n.mapEntry && decide (n.name = en)) = false := by simpa using h
      simp only [List.find?_cons, h']

theorem get_map_entry_desc (fuel : Nat) (f : FieldP) (m : MsgP) :
    get_map_entry fuel f (.descriptor m) = .ok (getMapEntry f m) := by
  unfold get_map_entry getMapEntry
  simp only [Py.Plg.fType, Py.Plg.fLabel, Py.Plg.fTypeName, Py.Plg.nestedTypeOr, typeMember_message, pop_split,
    Res.bind, loop1_eq]
  by_cases h1 : f.type = typeMessage <;> by_cases h2 : f.label = Label.repeated <;>
    simp only [h1, h2, decide_true, decide_false, Bool.and_true, Bool.and_false, Bool.true_and, Bool.false_and,
      if_true, if_false, and_self, and_true, and_false, Bool.false_eq_true, reduceCtorEq]
  cases m.nested.find? (fun n => n.mapEntry && decide (n.name = lastSeg f.typeName)) <;> rfl

/-- `get_map_entry(field, <compiler object>)` as written finds nothing (the object has no `nested_type`) -/
theorem get_map_entry_compiler (fuel : Nat) (f : FieldP) :
    get_map_entry fuel f .compiler = .ok none := by
  unfold get_map_entry
  simp only [Py.Plg.nestedTypeOr, pop_split, Res.bind, loop1_eq, List.find?]
  split <;> rfl

theorem is_map_desc (fuel : Nat) (f : FieldP) (m : MsgP) : is_map fuel f (.descriptor m) = .ok (isMap f m) := by
  unfold is_map isMap
  rw [get_map_entry_desc]; rfl

theorem is_map_compiler (fuel : Nat) (f : FieldP) : is_map fuel f .compiler = .ok false := by
  unfold is_map
  rw [get_map_entry_compiler]; rfl

theorem is_oneof_eq (fuel : Nat) (f : FieldP) : is_oneof fuel f = .ok (isOneof f) := by
  unfold is_oneof isOneof Py.Plg.fProto3Optional Py.Plg.whichOneofIndex
  cases f.oneofIndex <;> simp

/-- the keys of `WRAPPER_TYPES` (regenerated from compile/importing.py) -/
def wrapperKeys : List Str := Bp.Gen.importWrappers.map (fun p => p.1.toList)

theorem inWrapperTypes_iff (x : Str) : Py.Plg.inWrapperTypes x = true ↔ x ∈ wrapperKeys := by
  unfold Py.Plg.inWrapperTypes wrapperKeys
  simp only [List.any_eq_true, List.mem_map, decide_eq_true_eq]

/-- `field_wraps` as a function of the type name -/
def srcWraps (tn : Str) : Option Str :=
  if Py.Plg.inWrapperTypes tn then
    some ("betterproto.TYPE_".toList ++ Py.Plg.upper (Py.sliceTo (lastSeg tn) (-(Py.llen "Value".toList))))
  else none

/-- the keys as characters (`Importing.Fast.wrapperTable` is the same regenerated table, written with `lit`) -/
theorem wrapperKeys_fast : wrapperKeys = Importing.Fast.wrapperTable.map Prod.fst := by
  rw [← Importing.wrapperTable_fast]
  simp only [wrapperKeys, Importing.wrapperTable, List.map_map]
  rfl

/-- On its keys `WRAPPER_TYPES` agrees with the model's table, and that table has no other keys.  One evaluation, on
    the keys as characters. -/
theorem wrapper_tables : (∀ k ∈ wrapperKeys, srcWraps k = (wrapsOf k).map ("betterproto.".toList ++ ·))
    ∧ ∀ k ∈ fieldWraps.map Prod.fst, k ∈ wrapperKeys := by
  have hin : ∀ x, Py.Plg.inWrapperTypes x = (Importing.Fast.wrapperTable.map Prod.fst).contains x := fun x => by
    rw [← wrapperKeys_fast, Bool.eq_iff_iff, inWrapperTypes_iff]; simp
  simp only [srcWraps, hin, wrapperKeys_fast]
  decide +kernel

theorem srcWraps_eq (tn : Str) : srcWraps tn = (wrapsOf tn).map ("betterproto.".toList ++ ·) := by
  by_cases h : tn ∈ wrapperKeys
  · exact wrapper_tables.1 tn h
  · have h1 : Py.Plg.inWrapperTypes tn = false := by
      rw [← Bool.not_eq_true, inWrapperTypes_iff]; exact h
    have h2 : lookup? tn fieldWraps = none := lookup?_none (fun hm => h (wrapper_tables.2 tn hm))
    unfold srcWraps wrapsOf
    simp only [h1, h2, Bool.false_eq_true, if_false, Option.map_none]

/-- `FieldCompiler.field_wraps` as written is `wrapsOf` of the type name (with the `betterproto.` prefix of the
    generated text) -/
theorem field_wraps_eq (fuel : Nat) (self : Py.Plg.Self) :
    FieldCompiler.field_wraps fuel self
      = .ok ((wrapsOf self.proto_obj.typeName).map ("betterproto.".toList ++ ·)) := by
  rw [← srcWraps_eq]
  unfold FieldCompiler.field_wraps srcWraps
  simp only [Py.Plg.fTypeName, pop_split, Res.bind]
  split <;> rfl

theorem optional_eq (fuel : Nat) (self : Py.Plg.Self) :
    FieldCompiler.optional fuel self = .ok self.proto_obj.proto3Optional := rfl

/-- `FieldCompiler.repeated` as written: the label alone — the `is_map` it asks is asked of the compiler object
    `self.parent`, which has no `nested_type`, and answers False -/
theorem repeated_eq (fuel : Nat) (self : Py.Plg.Self) :
    FieldCompiler.repeated fuel self = .ok (decide (self.proto_obj.label = Label.repeated)) := by
  unfold FieldCompiler.repeated
  simp only [is_map_compiler, Py.Plg.fLabel, Res.bind]
  by_cases h : self.proto_obj.label = Label.repeated <;> simp [h, Res.bind]

/-- The members of FieldDescriptorProtoType named in the seven tables of models.py, as numbers.  One evaluation:
    each name is looked up in `descTypeName`, which the kernel decodes once per declaration. -/
theorem typeTables :
    PROTO_PACKED_TYPES = [1, 2, 3, 4, 5, 6, 7, 8, 13, 15, 16, 17, 18]
    ∧ PROTO_FLOAT_TYPES = [1, 2] ∧ PROTO_INT_TYPES = [3, 4, 5, 6, 7, 13, 15, 16, 17, 18] ∧ PROTO_BOOL_TYPES = [8]
    ∧ PROTO_STR_TYPES = [9] ∧ PROTO_BYTES_TYPES = [12] ∧ PROTO_MESSAGE_TYPES = [11, 14] := by
  decide +kernel

theorem packedTable : PROTO_PACKED_TYPES = [1, 2, 3, 4, 5, 6, 7, 8, 13, 15, 16, 17, 18] := typeTables.1

theorem lookupN?_none_of_ge {β} (b : Nat) : ∀ (l : List (Nat × β)) (t : Nat), (∀ p ∈ l, p.1 < b) → b ≤ t → lookupN? t l = none
  | [], _, _, _ => rfl
  | (a, v) :: r, t, h, ht => by
    have ha : a < b := h (a, v) List.mem_cons_self
    have : a ≠ t := by omega
    simp only [lookupN?, this, if_false]
    exact lookupN?_none_of_ge b r t (fun p hp => h p (List.mem_cons_of_mem _ hp)) ht

theorem contains_false_of_ge (b : Nat) (l : List Nat) (t : Nat) (h : ∀ x ∈ l, x < b) (ht : b ≤ t) : l.contains t = false := by
  rw [← Bool.not_eq_true, List.contains_iff_mem]
  intro hm
  have := h t hm
  omega

theorem packed_eq (fuel : Nat) (self : Py.Plg.Self) :
    FieldCompiler.packed fuel self
      = .ok (decide (self.proto_obj.label = Label.repeated) && PROTO_PACKED_TYPES.contains self.proto_obj.type) := by
  unfold FieldCompiler.packed
  rw [repeated_eq]; rfl

/-- `.name.lower().replace("type_", "")` -/
def ctorOfName (nm : Str) : Str := Py.Plg.replace (Py.lower nm) "type_".toList "".toList

theorem fieldTypeStr_table : fieldTypeStr = descTypeName.map (fun p => (p.1, ctorOfName p.2)) := by decide +kernel

theorem lookupN?_map {β γ} (g : β → γ) (n : Nat) : ∀ l : List (Nat × β),
    lookupN? n (l.map (fun p => (p.1, g p.2))) = (lookupN? n l).map g
  | [] => rfl
  | (a, v) :: r => by
    simp only [List.map, lookupN?]
    by_cases h : a = n
    · simp [h]
    · simp only [h, if_false]; exact lookupN?_map g n r

/-- `FieldCompiler.field_type` as written is the model's constructor-name table `fieldTypeStr` (ValueError for a
    number that is no member of FieldDescriptorProtoType: the model's `none`) -/
theorem field_type_eq (fuel : Nat) (self : Py.Plg.Self) :
    FieldCompiler.field_type fuel self
      = (match lookupN? self.proto_obj.type fieldTypeStr with
         | some s => .ok s
         | none => .raise .value) := by
  unfold FieldCompiler.field_type Py.Plg.typeEnumName Py.Plg.fType
  rw [fieldTypeStr_table, lookupN?_map]
  cases lookupN? self.proto_obj.type descTypeName <;> rfl

/-- `py_type` with the result of `get_type_reference` abstracted: the shape of the model's `pyTypeOf` -/
def pyTypeVia (t : Nat) (ref : Res Str) : Res Str :=
  match lookupN? t scalarPyType with
  | some n => .ok n
  | none => if messageTypes.contains t then ref else .raise .notImpl

def srcPyType (t : Nat) (ref : Res Str) : Res Str :=
  if PROTO_FLOAT_TYPES.contains t then .ok "float".toList
  else if PROTO_INT_TYPES.contains t then .ok "int".toList
  else if PROTO_BOOL_TYPES.contains t then .ok "bool".toList
  else if PROTO_STR_TYPES.contains t then .ok "str".toList
  else if PROTO_BYTES_TYPES.contains t then .ok "bytes".toList
  else if PROTO_MESSAGE_TYPES.contains t then ref
  else .raise .notImpl

theorem srcPyType_eq (t : Nat) (ref : Res Str) : srcPyType t ref = pyTypeVia t ref := by
  obtain ⟨_, hf, hi, hb, hs, hy, hm⟩ := typeTables
  unfold srcPyType pyTypeVia
  rw [hf, hi, hb, hs, hy, hm]
  -- the nineteen numbers the tables speak of one by one, every other number by its size
  match t with
  | 0 | 1 | 2 | 3 | 4 | 5 | 6 | 7 | 8 | 9 | 10 | 11 | 12 | 13 | 14 | 15 | 16 | 17 | 18 => rfl
  | t + 19 =>
    have hge : 19 ≤ t + 19 := by omega
    rw [contains_false_of_ge 19 _ _ (by decide) hge, contains_false_of_ge 19 _ _ (by decide) hge,
      contains_false_of_ge 19 _ _ (by decide) hge, contains_false_of_ge 19 _ _ (by decide) hge,
      contains_false_of_ge 19 _ _ (by decide) hge, contains_false_of_ge 19 _ _ (by decide) hge,
      lookupN?_none_of_ge 19 _ _ (by decide) hge, contains_false_of_ge 19 messageTypes _ (by decide) hge]
    rfl

/-- the arguments after the field number of a generated line, as `CField` describes them:
    `[betterproto.<k>, betterproto.<v>] [wraps=betterproto.<w>] [optional=True] [group="<g>"]` -/
def argsOf (mt : Option (Name × Name)) (w : Option Name) (o : Bool) (g : Option Name) : List Str :=
  (match mt with | some (k, v) => ["betterproto.".toList ++ k, "betterproto.".toList ++ v] | none => [])
  ++ (match w with | some w => ["wraps=betterproto.".toList ++ w] | none => [])
  ++ (if o then ["optional=True".toList] else [])
  ++ (match g with | some g => ["group=\"".toList ++ g ++ "\"".toList] | none => [])

/-- … of a compiled field -/
def cfieldArgs (c : CField) : List Str := argsOf c.mapTypes c.wraps c.optional c.group

theorem args_core (w : Option Name) (o : Bool) :
    (let args : List Str := []
     let t1 := w.map ("betterproto.".toList ++ ·)
     if Py.Plg.truthyOptStr t1 = true then
       let args := args ++ ["wraps=".toList ++ Py.Plg.fmtOptStr t1]
       if o = true then args ++ ["optional=True".toList] else args
     else
       if o = true then args ++ ["optional=True".toList] else args) = argsOf none w o none := by
  cases w <;> cases o <;> rfl

/-- `FieldCompiler.betterproto_field_args` as written: `wraps=` from `wrapsOf`, `optional=True` from
    `proto3_optional`, nothing else -/
theorem field_args_eq (fuel : Nat) (self : Py.Plg.Self) :
    FieldCompiler.betterproto_field_args fuel self
      = .ok (argsOf none (wrapsOf self.proto_obj.typeName) self.proto_obj.proto3Optional none) := by
  unfold FieldCompiler.betterproto_field_args
  rw [field_wraps_eq, optional_eq, ← args_core]
  simp only [Res.bind]
  cases wrapsOf self.proto_obj.typeName <;> cases self.proto_obj.proto3Optional <;> rfl

theorem index_nat {α : Type} (xs : List α) (n : Nat) :
    Py.index xs ((n : Nat) : Int) = (match xs[n]? with | some x => .ok x | none => .raise .key) := by
  unfold Py.index
  have h0 : ¬ (((n : Nat) : Int) < 0) := by omega
  simp only [h0, if_false, Int.toNat_natCast]
  cases xs[n]? <;> rfl

theorem argsOf_group (w : Option Name) (o : Bool) (g : Name) :
    argsOf none w o none ++ ["group=\"".toList ++ g ++ "\"".toList] = argsOf none w o (some g) := by
  cases w <;> cases o <;> rfl

/-- `OneOfFieldCompiler.betterproto_field_args` as written: the arguments of the base class followed by
    `group="<name of parent.oneof_decl[oneof_index]>"`; IndexError when the index is dangling -/
theorem oneof_field_args_eq (fuel : Nat) (self : Py.Plg.Self) :
    OneOfFieldCompiler.betterproto_field_args fuel self
      = (match self.parent_proto_obj.oneofs[self.proto_obj.oneofIndex.getD 0]? with
         | some g => .ok (argsOf none (wrapsOf self.proto_obj.typeName) self.proto_obj.proto3Optional (some g))
         | none => .raise .key) := by
  unfold OneOfFieldCompiler.betterproto_field_args
  have h : OneOfFieldCompiler.betterproto_field_args.from_FieldCompiler fuel self
      = FieldCompiler.betterproto_field_args fuel self := rfl
  rw [h, field_args_eq]
  simp only [Res.bind, Py.Plg.oneofDeclName, Py.Plg.fOneofIndex, index_nat]
  cases self.parent_proto_obj.oneofs[self.proto_obj.oneofIndex.getD 0]? with
  | none => rfl
  | some g => simp only [argsOf_group]

/-- `PydanticOneOfFieldCompiler.betterproto_field_args` as written: as for a oneof member, with `optional=True`
    forced (the class overrides `optional`) -/
theorem pydantic_oneof_field_args_eq (fuel : Nat) (self : Py.Plg.Self) :
    PydanticOneOfFieldCompiler.betterproto_field_args fuel self
      = (match self.parent_proto_obj.oneofs[self.proto_obj.oneofIndex.getD 0]? with
         | some g => .ok (argsOf none (wrapsOf self.proto_obj.typeName) true (some g))
         | none => .raise .key) := by
  unfold PydanticOneOfFieldCompiler.betterproto_field_args
  have h : PydanticOneOfFieldCompiler.betterproto_field_args.from_FieldCompiler fuel self
      = .ok (argsOf none (wrapsOf self.proto_obj.typeName) true none) := by
    unfold PydanticOneOfFieldCompiler.betterproto_field_args.from_FieldCompiler
    have hw : PydanticOneOfFieldCompiler.field_wraps fuel self = FieldCompiler.field_wraps fuel self := rfl
    have ho : PydanticOneOfFieldCompiler.optional fuel self = .ok true := rfl
    rw [hw, ho, field_wraps_eq, ← args_core]
    simp only [Res.bind]
    cases wrapsOf self.proto_obj.typeName <;> rfl
  rw [h]
  simp only [Res.bind, Py.Plg.oneofDeclName, Py.Plg.fOneofIndex, index_nat]
  cases self.parent_proto_obj.oneofs[self.proto_obj.oneofIndex.getD 0]? with
  | none => rfl
  | some g => simp only [argsOf_group]

theorem map_field_args_eq (fuel : Nat) (self : Py.Plg.Self) :
    MapEntryCompiler.betterproto_field_args fuel self
      = .ok (argsOf (some (self.proto_k_type, self.proto_v_type)) none false none) := rfl

theorem oneof_inherits (fuel : Nat) (self : Py.Plg.Self) :
    OneOfFieldCompiler.field_wraps fuel self = FieldCompiler.field_wraps fuel self
    ∧ OneOfFieldCompiler.optional fuel self = FieldCompiler.optional fuel self
    ∧ OneOfFieldCompiler.repeated fuel self = FieldCompiler.repeated fuel self
    ∧ OneOfFieldCompiler.field_type fuel self = FieldCompiler.field_type fuel self
    ∧ OneOfFieldCompiler.packed fuel self = FieldCompiler.packed fuel self
    ∧ OneOfFieldCompiler.py_type fuel self = FieldCompiler.py_type fuel self
    ∧ OneOfFieldCompiler.py_name fuel self = FieldCompiler.py_name fuel self :=
  ⟨rfl, rfl, rfl, rfl, rfl, rfl, rfl⟩

theorem pydantic_oneof_inherits (fuel : Nat) (self : Py.Plg.Self) :
    PydanticOneOfFieldCompiler.field_wraps fuel self = FieldCompiler.field_wraps fuel self
    ∧ PydanticOneOfFieldCompiler.optional fuel self = .ok true
    ∧ PydanticOneOfFieldCompiler.repeated fuel self = FieldCompiler.repeated fuel self
    ∧ PydanticOneOfFieldCompiler.field_type fuel self = FieldCompiler.field_type fuel self
    ∧ PydanticOneOfFieldCompiler.packed fuel self = FieldCompiler.packed fuel self
    ∧ PydanticOneOfFieldCompiler.py_type fuel self = FieldCompiler.py_type fuel self
    ∧ PydanticOneOfFieldCompiler.py_name fuel self = FieldCompiler.py_name fuel self :=
  ⟨rfl, rfl, rfl, rfl, rfl, rfl, rfl⟩

theorem map_entry_overrides (fuel : Nat) (self : Py.Plg.Self) :
    MapEntryCompiler.field_type fuel self = .ok "map".toList
    ∧ MapEntryCompiler.repeated fuel self = .ok false
    ∧ MapEntryCompiler.packed fuel self = .ok false
    ∧ MapEntryCompiler.optional fuel self = FieldCompiler.optional fuel self
    ∧ MapEntryCompiler.py_name fuel self = FieldCompiler.py_name fuel self :=
  ⟨rfl, rfl, rfl, rfl, rfl⟩

theorem py_name_eq (fuel : Nat) (self : Py.Plg.Self) :
    FieldCompiler.py_name fuel self = .ok (Naming.pythonizeFieldName self.proto_obj.name)
    ∧ FieldCompiler.proto_name fuel self = .ok self.proto_obj.name := ⟨rfl, rfl⟩

/-- the object the parser builds for field `f` of message `m` -/
def selfOf (f : FieldP) (m : MsgP) (ref : Str → Res Str) : Py.Plg.Self :=
  { proto_obj := f, parent_proto_obj := m, get_type_reference := ref }

/-- a line compiled outside the map branch, in the terms the source computes: constructor name, arguments, and the
    group — the declared oneof for a member, none otherwise -/
theorem compileField_plain {nm : Naming} {m : MsgP} {f : FieldP} {c : CField}
    (hm : getMapEntry f m = none) (hc : compileField nm m f = some c) :
    lookupN? f.type fieldTypeStr = some c.ctor
    ∧ (∀ o, cfieldArgs { c with optional := o } = argsOf none (wrapsOf f.typeName) o c.group)
    ∧ c.optional = f.proto3Optional
    ∧ (isOneof f = true → ∃ g, m.oneofs[f.oneofIndex.getD 0]? = some g ∧ c.group = some g)
    ∧ (isOneof f = false → c.group = none) := by
  rcases compileField_cases hc with ⟨_, _, _, _, _, _, _, _, he, -⟩ | ⟨ctor, py, g, -, h1, -, h3, rfl⟩
  · rw [hm] at he; cases he
  · refine ⟨h1, fun _ => rfl, rfl, fun ho => ?_, fun ho => ?_⟩ <;> simp only [groupOf, ho, if_true] at h3
    · cases hi : f.oneofIndex with
      | none => simp [isOneof, hi] at ho
      | some i =>
        simp only [hi] at h3
        cases hq : m.oneofs[i]? with
        | none => rw [hq] at h3; cases h3
        | some g' => rw [hq] at h3; cases h3; exact ⟨g', hq, rfl⟩
    · simpa using h3.symm

theorem bind_pair_id {α β : Type} (r : Res (α × β)) : (r.bind fun (a, b) => Res.ok (a, b)) = r := by
  cases r <;> rfl

/-- `FieldCompiler.annotation` as written: `py_type` (prefixed `builtins.` when it shadows), wrapped by the typing
    compiler's `list` for a repeated label, else by `optional` for `proto3_optional`, else bare -/
theorem annotation_eq (fuel : Nat) (self : Py.Plg.Self) (tc : Py.Plg.TC) :
    FieldCompiler.annotation fuel self tc
      = (FieldCompiler.py_type fuel self).bind fun py =>
          let py := if self.use_builtins = true then "builtins.".toList ++ py else py
          if self.proto_obj.label = Label.repeated then TypingCompiler.list fuel tc py
          else if self.proto_obj.proto3Optional = true then TypingCompiler.optional fuel tc py
          else .ok (py, tc) := by
  unfold FieldCompiler.annotation
  refine Res.bind_congr fun py _ => ?_
  simp only [Res.bind, repeated_eq, optional_eq]
  by_cases h : self.proto_obj.label = Label.repeated
  · simp only [h, decide_true, if_true]; exact bind_pair_id _
  · simp only [h, decide_false, if_false, Bool.false_eq_true]
    cases self.proto_obj.proto3Optional
    · rfl
    · simp only [if_true]; exact bind_pair_id _

/-- the text of a typing-compiler wrapper around the model's annotation shape -/
def renderAnn (fuel : Nat) (tc : Py.Plg.TC) (ρ : PyT → Str) : Ann → Res (Str × Py.Plg.TC)
  | .plain t => .ok (ρ t, tc)
  | .list t => TypingCompiler.list fuel tc (ρ t)
  | .optional t => TypingCompiler.optional fuel tc (ρ t)
  | .dict k v => TypingCompiler.dict fuel tc (ρ k) (ρ v)

theorem joinStr_cons (sep x : Str) : ∀ r : List Str, Py.joinStr sep (x :: r) = x ++ (r.map (sep ++ ·)).flatten
  | [] => by simp [Py.joinStr]
  | y :: r => by
    rw [Py.joinStr, joinStr_cons sep y r]
    simp [List.append_assoc]

/-- one generated field line -/
def lineOf (pyName ann ctor : Str) (number : Nat) (args : List Str) : Str :=
  pyName ++ ": ".toList ++ ann ++ " = ".toList ++ "betterproto.".toList ++ ctor ++ "_field(".toList
    ++ (Nat.repr number).toList ++ (args.map (", ".toList ++ ·)).flatten ++ ")".toList

theorem field_args_text (args : List Str) :
    Py.joinStr ", ".toList (if (!args.isEmpty) = true then ["".toList] ++ args else []) = (args.map (", ".toList ++ ·)).flatten := by
  cases args with
  | nil => rfl
  | cons a r =>
    simp only [List.isEmpty_cons, Bool.not_false, if_true]
    show Py.joinStr _ ("".toList :: a :: r) = _
    rw [joinStr_cons]; rfl

end Bp.SrcTiePlugin
