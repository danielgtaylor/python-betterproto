import BpModel.All
import BpProofs.NestedDefs
import BpProofs.RtScalar
import BpProofs.RtFlat
/-
  C01, nested messages: the item codec (`ItemRt`, BpProofs/RtItem.lean) of a message-typed item, given that the
  nested loader round-trips the message it holds; hence the step of a singular message-typed slot.
-/
namespace Bp
open Gen

theorem lenT_message : LenT PType.message := ⟨.of rfl, rfl⟩

/-- `RoundTrips` for a message whose encoding a 64-bit length prefix can announce: the form in which the induction
    hypothesis about a nested message is used (the bound is read off the record that holds the payload) -/
def RoundTrips64 (S : Schema) (rec : Loader) (m : Val) : Prop :=
  ∀ p, dumpVal S m = .ok p → p.length < 2 ^ 64 → RoundTrips S rec m

/-- the codec of a sub-message: the nested loader round-trips it (`RoundTrips64`), and the decoded copy is marked
    `serialized_on_wire` -/
theorem itemRt_msg (S : Schema) (rec : Loader) (f : FieldD) (c : Nat) (dc : MsgD) (x : Val) (hsf : SubField f c)
    (hdc : S[c]? = some dc) (hx : ∃ sl ow unk cur, x = Val.msg c sl ow unk cur) (hrt : RoundTrips64 S rec x) :
    ItemRt S rec f (ValEqv S) x := by
  obtain ⟨sl, ow, unk, cur, rfl⟩ := hx
  have hdr : ∀ sl' ow' se, dumpRec S f.num f.ty f.wraps se (.msg c sl' ow' unk cur)
      = (dumpVal S (.msg c sl' ow' unk cur)).bind fun p => frame f.num f.ty p se false := by
    intro sl' ow' se
    rw [hsf.ty]
    exact dumpRec_msg S f.num f.wraps se c sl' ow' unk cur hsf.nw
  refine itemRt_of_payload S rec f _ _ (dumpVal S (.msg c sl ow unk cur)) false (by rw [hsf.ty]; exact lenT_message)
    hsf.num (hdr sl ow) fun p hp hpl => ?_
  obtain ⟨sl', hload, heqv, hdump⟩ := hrt p hp hpl c dc sl ow unk cur p rfl hdc hp
  refine ⟨.msg c sl' true unk cur, ?_, heqv, ⟨rfl, markEmpty_onWire S c sl' unk cur⟩, ⟨fun _ _ => rfl, .inl rfl⟩,
    fun se => by rw [hdr, hdump, bind_ok]⟩
  rw [postLen_eq_sub S rec f _ c dc hsf.ty hsf.kind hsf.nw hdc, hload]; rfl

end Bp

