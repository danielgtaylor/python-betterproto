import BpProofs.Gen.SrcCasing
import BpProofs.Casing
import BpProofs.CasingClass
/-
  The translated source of src/betterproto/casing.py (BpProofs/Gen/SrcCasing.lean: the two regular expressions parsed
  from the source, the `substitute_word` closures, `camel_case`, `lowercase_first`, `sanitize_name`,
  `safe_snake_case`) EQUALS the model (BpModel/Casing.lean), for every string.

  Core: under the semantics of BpProofs/PyRegex.lean, ONE match of
      ([^a-zA-Z0-9]*)([A-Z]+(?![a-z])[0-9]*|[A-Z]*[a-z]*[0-9]*)
  on a non-empty input `s` consumes `sy ++ w` with `s = sy ++ w ++ rest`, and the tokenizer satisfies
  `tokens s = emit w (tokens rest)` (`body_sim`); `w` is the `Casing.FirstWord` of what follows the symbols, and
  `word_re` matches the word group case by case on it.  What a pattern does on an input is said by `Takes` (its first
  path consumes so many characters and binds such groups, and is THE match when the rest of the pattern accepts
  there), with one lemma per constructor of the regex.  The character sets are the tokenizer's classes (`IsCls`) and
  disjoint, so the greedy first path of every `*` is the one that succeeds (`star_run`, `Takes.run`) — except for
  `[A-Z]+(?![a-z])`, where the look-ahead makes the `+` give one capital back (`Takes.plus_back`; the `up pre last` state
  of `go`) or makes WORD_UPPER fail altogether (one capital followed by a lower-case letter: the alternative WORD
  matches).  Every match before the end of the input is non-empty, so the matches tile the input; at the end there
  is one more, empty, match (allowed after a non-empty one; its word is empty and is replaced by ""), after which
  `must_advance` ends the loop (`sub_tokens`, for a variable pattern and replacement: `snake_case` and
  `pascal_case` are its two instances).
-/
namespace Bp.SrcTieCasing
open Bp Bp.Casing Bp.PyRe
open Bp.Importing (Str)

def setSym : CSet := ⟨true, [('a', 'z'), ('A', 'Z'), ('0', '9')]⟩
def setUp : CSet := ⟨false, [('A', 'Z')]⟩
def setLo : CSet := ⟨false, [('a', 'z')]⟩
def setDg : CSet := ⟨false, [('0', '9')]⟩

theorem char_le_iff (a b : Char) : a ≤ b ↔ a.toNat ≤ b.toNat := Iff.rfl

theorem rng_toNat (lo hi c : Char) :
    (decide (lo ≤ c) && decide (c ≤ hi)) = decide (lo.toNat ≤ c.toNat ∧ c.toNat ≤ hi.toNat) := by
  rw [← Bool.decide_and]
  exact decide_eq_decide.2 (and_congr (char_le_iff _ _) (char_le_iff _ _))

theorem rng_up (c : Char) : (decide ('A' ≤ c) && decide (c ≤ 'Z')) = decide (cls c = .up) :=
  (rng_toNat 'A' 'Z' c).trans (decide_eq_decide.2 (cls_iff c).1.symm)
theorem rng_lo (c : Char) : (decide ('a' ≤ c) && decide (c ≤ 'z')) = decide (cls c = .lo) :=
  (rng_toNat 'a' 'z' c).trans (decide_eq_decide.2 (cls_iff c).2.1.symm)
theorem rng_dg (c : Char) : (decide ('0' ≤ c) && decide (c ≤ '9')) = decide (cls c = .dg) :=
  (rng_toNat '0' '9' c).trans (decide_eq_decide.2 (cls_iff c).2.2.symm)

def IsCls (cs : CSet) (k : Cls) : Prop := ∀ c, cs.mem c = decide (cls c = k)

theorem IsCls.mem {cs : CSet} {k : Cls} (h : IsCls cs k) {c : Char} (hc : cls c = k) : cs.mem c = true :=
  (h c).trans (decide_eq_true hc)
theorem IsCls.not_mem {cs : CSet} {k : Cls} (h : IsCls cs k) {c : Char} (hc : cls c ≠ k) : cs.mem c = false :=
  (h c).trans (decide_eq_false hc)

theorem mem_up : IsCls setUp .up := fun c => by
  simp only [setUp, CSet.mem, List.any_cons, List.any_nil, Bool.or_false, rng_up, Bool.false_bne]

theorem mem_lo : IsCls setLo .lo := fun c => by
  simp only [setLo, CSet.mem, List.any_cons, List.any_nil, Bool.or_false, rng_lo, Bool.false_bne]

theorem mem_dg : IsCls setDg .dg := fun c => by
  simp only [setDg, CSet.mem, List.any_cons, List.any_nil, Bool.or_false, rng_dg, Bool.false_bne]

theorem mem_sym : IsCls setSym .sym := fun c => by
  simp only [setSym, CSet.mem, List.any_cons, List.any_nil, Bool.or_false, rng_up, rng_lo, rng_dg]
  cases h : cls c <;> simp

theorem star_nil (cs : CSet) (k : Nat → Str → Option Match) (pos : Nat) : starSet cs k pos [] = k pos [] := rfl
theorem star_in {cs : CSet} {c : Char} (h : cs.mem c = true) (k : Nat → Str → Option Match) (pos : Nat) (s : Str) :
    starSet cs k pos (c :: s) = (starSet cs k (pos + 1) s).orElse fun _ => k pos (c :: s) := by
  rw [starSet, if_pos h]
theorem star_out {cs : CSet} {c : Char} (h : cs.mem c = false) (k : Nat → Str → Option Match) (pos : Nat) (s : Str) :
    starSet cs k pos (c :: s) = k pos (c :: s) := by
  rw [starSet, if_neg (by simp [h])]

theorem emit_nil (r : List (List Char)) : emit [] r = r := rfl

/-- a greedy `[..]*` on members `x`: what it finds after them is the match (nothing of `x` is given back) -/
theorem star_members {cs : CSet} {x t : Str} (hx : ∀ c ∈ x, cs.mem c = true) (K : Nat → Str → Option Match) (pos : Nat)
    {r : Match} (h : starSet cs K (pos + x.length) t = some r) : starSet cs K pos (x ++ t) = some r := by
  induction x generalizing pos with
  | nil => exact h
  | cons c x ih =>
    rw [List.cons_append, star_in (hx c (List.mem_cons_self ..)),
      ih (fun d hd => hx d (List.mem_cons_of_mem _ hd)) (pos + 1) (by rw [Nat.add_right_comm]; exact h)]
    rfl

theorem star_stop {cs : CSet} {rest : Str} (hr : ∀ c ∈ rest.head?, cs.mem c = false) (K : Nat → Str → Option Match)
    (pos : Nat) : starSet cs K pos rest = K pos rest := by
  cases rest with
  | nil => rfl
  | cons c t => exact star_out (hr c rfl) K pos t

/-- greedy `[..]*` over an input whose leading run of members is `x` (the rest is empty or begins with a non-member):
    if the continuation accepts the rest, nothing is given back -/
theorem star_run {cs : CSet} {x rest : Str} (hx : ∀ c ∈ x, cs.mem c = true) (hr : ∀ c ∈ rest.head?, cs.mem c = false)
    (K : Nat → Str → Option Match) (pos : Nat) {r : Match} (hk : K (pos + x.length) rest = some r) :
    starSet cs K pos (x ++ rest) = some r :=
  star_members hx K pos (by rw [star_stop hr]; exact hk)

/-- `[A-Z]+(?![a-z])[0-9]*` -/
def wordUpper : Re := .seq (.plus setUp) (.seq (.notAhead (.set setLo)) (.star setDg))
/-- `[A-Z]*[a-z]*[0-9]*` -/
def word : Re := .seq (.star setUp) (.seq (.star setLo) (.star setDg))
/-- `([^a-zA-Z0-9]*)(WORD_UPPER|WORD)` with group numbers i, j -/
def body (i j : Nat) : Re := .seq (.group i (.star setSym)) (.group j (.alt wordUpper word))

section
variable {pos : Nat} {s t : Str} {c : Char} {caps : Caps} {K : K}

theorem m_seq (a b : Re) :
    m (.seq a b) pos s caps K = m a pos s caps fun p s' c => m b p s' c K := by simp only [m]
theorem m_alt (a b : Re) :
    m (.alt a b) pos s caps K = (m a pos s caps K).orElse fun _ => m b pos s caps K := by simp only [m]
theorem m_star (cs : CSet) :
    m (.star cs) pos s caps K = starSet cs (fun p s' => K p s' caps) pos s := by simp only [m]
theorem m_group (i : Nat) (a : Re) :
    m (.group i a) pos s caps K = m a pos s caps fun p s' c => K p s' ((i, s.take (p - pos)) :: c) := by simp only [m]
theorem m_set_nil (cs : CSet) : m (.set cs) pos [] caps K = none := by simp only [m]
theorem m_set_cons (cs : CSet) :
    m (.set cs) pos (c :: t) caps K = if cs.mem c then K (pos + 1) t caps else none := by simp only [m]

end

/-- `Takes re pos s n rest g`: the first path of `re` at position `pos` of an input that goes on with `s` consumes
    `n` characters, leaves `rest` and binds the groups `g` — it is THE path when the rest of the pattern accepts there.
    (When it does not, the matcher backtracks into `re`: `plus_back` is the one place where that happens.) -/
def Takes (re : Re) (pos : Nat) (s : Str) (n : Nat) (rest : Str) (g : Caps) : Prop :=
  ∀ (caps : Caps) (K : K) (r : Match), K (pos + n) rest (g ++ caps) = some r → m re pos s caps K = some r

namespace Takes
variable {re a b : Re} {cs : CSet} {k : Cls} {pos n n' : Nat} {s s' rest x : Str} {g g' : Caps}

theorem cast (h : Takes re pos s n rest g) (e : n = n') : Takes re pos s n' rest g := e ▸ h

theorem set {c : Char} (h : cs.mem c = true) : Takes (.set cs) pos (c :: rest) 1 rest [] :=
  fun _ _ _ hk => by rw [m_set_cons, if_pos h]; exact hk

theorem run (hcs : IsCls cs k) (hx : AllC k x) (hr : NotHead k rest) :
    Takes (.star cs) pos (x ++ rest) x.length rest [] :=
  fun _ _ _ hk => by
    rw [m_star]
    exact star_run (fun c hc => hcs.mem (hx c hc)) (fun c hc => hcs.not_mem (hr.head? c hc)) _ pos hk

theorem seq (ha : Takes a pos s n s' g) (hb : Takes b (pos + n) s' n' rest g') :
    Takes (.seq a b) pos s (n + n') rest (g' ++ g) :=
  fun _ _ _ hk => by
    rw [m_seq]
    exact ha _ _ _ (hb _ _ _ (by rw [← List.append_assoc, Nat.add_assoc]; exact hk))

theorem plus (hcs : IsCls cs k) (hx : AllC k x) (hr : NotHead k rest) (hne : x ≠ []) :
    Takes (.plus cs) pos (x ++ rest) x.length rest [] := by
  cases x with
  | nil => exact absurd rfl hne
  | cons c x => exact ((set (hcs.mem hx.head)).seq (run hcs hx.tail hr)).cast (Nat.add_comm ..)

/-- `[..]+` gives its last member back when what follows it in the pattern fails after the whole run -/
theorem plus_back (hcs : IsCls cs k) (hx : AllC k x) (hne : x ≠ []) {l : Char} (hl : cls l = k) (hr : NotHead k rest)
    (hnone : ∀ caps K, m b (pos + x.length + 1) rest caps K = none) (hb : Takes b (pos + x.length) (l :: rest) n s' g) :
    Takes (.seq (.plus cs) b) pos (x ++ l :: rest) (x.length + n) s' g := by
  cases x with
  | nil => exact absurd rfl hne
  | cons c x =>
    intro caps K r hk
    -- after the run the star goes on past `l`, where `b` fails, and gives `l` back
    have h : starSet cs (fun p s' => m b p s' caps K) (pos + 1 + x.length) (l :: rest) = some r := by
      rw [star_in (hcs.mem hl), star_stop fun a ha => hcs.not_mem (hr.head? a ha), Nat.add_right_comm pos 1,
        show m b (pos + x.length + 1 + 1) rest caps K = none from hnone ..]
      exact hb _ _ _ (by rw [← hk, Nat.add_assoc])
    rw [List.cons_append, Re.plus, m_seq, m_seq, m_set_cons, if_pos (hcs.mem hx.head), m_star,
      star_members (fun a ha => hcs.mem (hx.tail a ha)) _ _ h]

theorem group (i : Nat) (ha : Takes a pos s n rest g) : Takes (.group i a) pos s n rest ((i, s.take n) :: g) :=
  fun caps K r hk => by
    rw [m_group]
    refine ha _ _ _ ?_
    show K (pos + n) rest ((i, s.take (pos + n - pos)) :: (g ++ caps)) = some r
    rw [Nat.add_sub_cancel_left]; exact hk

theorem alt (b : Re) (ha : Takes a pos s n rest g) : Takes (.alt a b) pos s n rest g :=
  fun _ _ _ hk => by rw [m_alt, ha _ _ _ hk]; rfl

theorem alt_of_none (ha : ∀ caps K, m a pos s caps K = none) (hb : Takes b pos s n rest g) :
    Takes (.alt a b) pos s n rest g :=
  fun _ _ _ hk => by rw [m_alt, ha]; exact hb _ _ _ hk

theorem notAhead (ha : ∀ caps K, m a pos s caps K = none) : Takes (.notAhead a) pos s 0 s [] :=
  fun _ _ _ hk => by simp only [m, ha]; exact hk

/-- `(^)?` in front: group 1 takes part at position 0 only -/
theorem optBol (ha : Takes a pos s n rest g) :
    Takes (.seq (.opt (.group 1 .bol)) a) pos s n rest (g ++ if pos = 0 then [(1, [])] else []) :=
  fun caps K r hk => by
    simp only [m]
    by_cases h : pos = 0
    · rw [if_pos h] at hk ⊢
      rw [Nat.sub_self, List.take_zero, ha _ _ _ (by rw [List.append_assoc] at hk; exact hk)]; rfl
    · rw [if_neg h] at hk ⊢
      rw [Option.orElse_none]; exact ha _ _ _ (by rw [List.append_nil] at hk; exact hk)

/-- one match attempt (`must_advance` does not matter to a non-empty match) -/
theorem matchAt (h : Takes re pos s n rest g) {adv : Bool} (ha : (adv && pos + n == pos) = false) :
    matchAt re adv pos s = some ⟨pos + n, rest, g⟩ := by
  rw [PyRe.matchAt, h [] _ ⟨pos + n, rest, g⟩ (by rw [ha, List.append_nil]; rfl)]

end Takes

theorem m_set_notHead {cs : CSet} {k : Cls} (hcs : IsCls cs k) {s : Str} (h : NotHead k s)
    (pos : Nat) (caps : Caps) (K : K) : m (.set cs) pos s caps K = none := by
  cases s with
  | nil => exact m_set_nil cs
  | cons c t => rw [m_set_cons, hcs.not_mem h]; rfl

theorem m_wordUpper_notUp {pos : Nat} {s : Str} (h : NotHead .up s) (caps : Caps) (K : K) :
    m wordUpper pos s caps K = none := by
  rw [wordUpper, Re.plus, m_seq, m_seq, m_set_notHead mem_up h]

/-- WORD on capitals `u`, lower-case letters `l`, digits `d`: each star takes its whole run -/
theorem word_runs {u l d rest : Str} (hu : AllC .up u) (hl : AllC .lo l) (hd : AllC .dg d)
    (h0 : NotHead .up (l ++ (d ++ rest))) (h1 : NotHead .lo (d ++ rest)) (h2 : NotHead .dg rest) (pos : Nat) :
    Takes word pos (u ++ (l ++ (d ++ rest))) (u.length + (l.length + d.length)) rest [] :=
  (Takes.run mem_up hu h0).seq ((Takes.run mem_lo hl h1).seq (.run mem_dg hd h2))

/-- the `word` group `WORD_UPPER|WORD` matches the first word -/
theorem word_re {s w rest : Str} (h : FirstWord s w rest) (pos : Nat) :
    Takes (.alt wordUpper word) pos s w.length rest [] := by
  cases h with
  | @ld l d _ hl hd h0 h1 h2 =>
    -- WORD_UPPER fails at once
    exact (Takes.alt_of_none (m_wordUpper_notUp h0) (word_runs AllC.nil hl hd h0 h1 h2 pos)).cast (by simp)
  | @up u l d _ x hu hx hl hd h0 h1 h2 h =>
    cases l with
    | nil =>
      -- WORD_UPPER: capitals, the look-ahead passes, digits
      simp only [List.nil_append] at h0 ⊢
      rw [← List.singleton_append (l := d ++ rest), ← List.append_assoc]
      exact (Takes.alt _ <| (Takes.plus mem_up (hu.append (AllC.cons hx AllC.nil)) h0 (by simp)).seq <|
        (Takes.notAhead (m_set_notHead mem_lo h1 _)).seq (.run mem_dg hd h2)).cast (by simp; omega)
    | cons y l1 =>
      -- one capital before a lower-case letter: WORD_UPPER fails its look-ahead with nothing to give back
      have : u = [] := h.resolve_left (List.cons_ne_nil y l1)
      subst this
      refine (Takes.alt_of_none (fun caps K => ?_) (word_runs (AllC.cons hx AllC.nil) hl hd h0 h1 h2 pos)).cast
        (by simp; omega)
      rw [wordUpper, Re.plus, m_seq, m_seq, List.singleton_append, List.cons_append, m_set_cons, if_pos (mem_up.mem hx), m_star,
        star_out (mem_up.not_mem (by rw [hl.head]; decide))]
      simp only [m, mem_lo.mem hl.head, if_true]
  | @back _ t x y hu hne hx hy =>
    -- two or more: the `+` gives its last capital back
    exact Takes.alt _ <| Takes.plus_back mem_up hu hne hx (by rw [NotHead, hy]; decide)
      (fun _ _ => by simp only [m, mem_lo.mem hy, if_true]) <|
      (Takes.notAhead (m_set_notHead mem_lo (s := x :: y :: t) (by rw [NotHead, hx]; decide) _)).seq
        (.run mem_dg (x := []) AllC.nil (by rw [NotHead, hx]; decide))

/-- **one match and one tokenizer step.**  On every input `s` the pattern `([^a-zA-Z0-9]*)(WORD_UPPER|WORD)`
    consumes `sy ++ w` (symbols, word), reports them as its two groups, and `w` is the tokenizer's first word:
    `tokens s = emit w (tokens rest)`.  The match is non-empty unless `s` is empty, and the word is empty only
    when the symbols reach the end of the input. -/
theorem body_sim (s : Str) : ∃ sy w rest, s = sy ++ (w ++ rest) ∧ tokens s = emit w (tokens rest) ∧
    (w = [] → rest = []) ∧ (s ≠ [] → sy.length + w.length ≠ 0) ∧
    ∀ i j pos, Takes (body i j) pos s (sy.length + w.length) rest [(j, w), (i, sy)] := by
  obtain ⟨sy, s1, rfl, hsy, hn⟩ := run_split .sym s
  obtain ⟨w, rest, h⟩ := exists_firstWord s1
  have hs1 := h.eq
  have hw : w = [] → rest = [] := fun e => h.nil e hn
  refine ⟨sy, w, rest, by rw [hs1], by rw [tokens, tokens, go_sym_run hsy, h.go], hw, fun hne h0 => ?_, fun i j pos => ?_⟩
  · have h1 : sy = [] := List.length_eq_zero_iff.1 (by omega)
    have h2 : w = [] := List.length_eq_zero_iff.1 (by omega)
    rw [h1, hs1, h2, hw h2] at hne
    exact hne rfl
  · have := ((Takes.run (pos := pos) mem_sym hsy hn).group i).seq ((word_re h _).group j)
    rwa [List.take_left' rfl, show s1.take w.length = w by rw [hs1, List.take_left' rfl]] at this

theorem body_nil (i j : Nat) (pos : Nat) (caps : Caps) (K : K) :
    m (body i j) pos [] caps K = K pos [] ((j, []) :: (i, []) :: caps) := by
  simp only [body, m_seq, m_group, m_star, star_nil, m_alt, m_wordUpper_notUp (s := []) trivial, Option.orElse_none, word,
    List.take_nil]

/-- the pattern of `pascal_case`, as parsed from the source, is `(SYMBOLS)(WORD_UPPER|WORD)` -/
theorem pascal_pattern_eq : Src.pascal_case.pattern = body 1 2 := rfl
/-- the pattern of `snake_case`, as parsed from the source, is `(^)?(SYMBOLS)(WORD_UPPER|WORD)` -/
theorem snake_pattern_eq : Src.snake_case.pattern = .seq (.opt (.group 1 .bol)) (body 2 3) := rfl

theorem ne_self_add {pos n : Nat} (h : n ≠ 0) : (pos + n == pos) = false := by
  simp only [beq_eq_false_iff_ne, ne_eq]; omega

theorem subLoop_match {r : Re} {repl : Match → Str} {adv : Bool} {pos : Nat} {s : Str} {mt : Match} (fuel : Nat)
    (h : matchAt r adv pos s = some mt) :
    subLoop r repl (fuel + 1) adv pos s = repl mt ++ subLoop r repl fuel (mt.stop == pos) mt.stop mt.rest := by
  cases s <;> simp only [subLoop, search, h, List.nil_append, List.length_nil, Nat.add_zero]

theorem subLoop_end {r : Re} {repl : Match → Str} {adv : Bool} {pos : Nat} (fuel : Nat)
    (h : matchAt r adv pos [] = none) : subLoop r repl (fuel + 1) adv pos [] = [] := by
  simp only [subLoop, search, h]

/-- **the loop of `re.sub` over the tokenizer's words**, for a pattern `re` that matches where `body` does and a
    replacement that is nothing for an empty word and `φ` of any other (`φ` is told whether the match starts at
    position 0).  The matches tile the input; at its end there is one more, empty, match, after which
    `must_advance` ends the loop. -/
theorem sub_tokens {re : Re} {repl : Match → Str} {φ : Bool → Str → Str} (hend : ∀ pos, matchAt re true pos [] = none)
    (hstep : ∀ {s sy w rest}, (∀ i j pos, Takes (body i j) pos s (sy.length + w.length) rest [(j, w), (i, sy)]) →
      ∀ pos, ∃ g, Takes re pos s (sy.length + w.length) rest g ∧
        ∀ stop, repl ⟨stop, rest, g⟩ = if w = [] then [] else φ (pos == 0) w)
    (fuel : Nat) (s : Str) (pos : Nat) (hf : s.length + 2 ≤ fuel) :
    subLoop re repl fuel false pos s = match tokens s with
      | [] => []
      | w :: ws => φ (pos == 0) w ++ (ws.map (φ false)).flatten := by
  induction fuel generalizing s pos with
  | zero => omega
  | succ f ih =>
    obtain ⟨sy, w, rest, hsplit, htok, hw, hne, hm⟩ := body_sim s
    obtain ⟨g, hg, hr⟩ := hstep hm pos
    rw [subLoop_match f (hg.matchAt rfl), hr, htok]
    by_cases hs : s = []
    · -- the empty match at the end of the input: the next search must advance, and finds nothing
      obtain ⟨rfl, rfl, rfl⟩ : sy = [] ∧ w = [] ∧ rest = [] := by simpa [hs] using hsplit.symm
      obtain ⟨f, rfl⟩ : ∃ f', f = f' + 1 := ⟨f - 1, by simp at hf; omega⟩
      simp only [List.length_nil, Nat.add_zero, beq_self_eq_true]
      rw [subLoop_end f (hend _)]
      rfl
    · have hlen : s.length = sy.length + (w.length + rest.length) := by rw [hsplit]; simp
      have hn := hne hs
      have hp : (pos + (sy.length + w.length) == 0) = false := by rw [beq_eq_false_iff_ne]; omega
      rw [ne_self_add hn, ih rest _ (by omega), hp]
      cases w with
      | nil => rw [hw rfl]; rfl
      | cons c t => simp only [emit, reduceCtorEq, if_false]; cases tokens rest <;> rfl

theorem pascal_case_eq (s : Str) : Src.pascal_case s = pascal s := by
  rw [Src.pascal_case, pascal_pattern_eq, sub, sub_tokens (φ := fun _ => capitalize)
    (fun pos => by rw [matchAt, body_nil]; simp)
    (fun hm pos => ⟨_, hm 1 2 pos, fun _ => by
      simp [Src.pascal_case.substitute_word, Match.str, Match.group, Py.capitalize, List.lookup]
      rintro rfl; rfl⟩) _ s 0 (by omega), pascal]
  cases tokens s <;> rfl

theorem joinU_cons : ∀ (ws : List Str) (w : Str), joinU (w :: ws) = w ++ (ws.map fun x => '_' :: x).flatten := by
  intro ws
  induction ws with
  | nil => intro w; simp [joinU]
  | cons v ws ih =>
    intro w
    have e : joinU (w :: v :: ws) = w ++ '_' :: joinU (v :: ws) := rfl
    rw [e, ih v]; simp

/-- the replacement of `snake_case` for the word `w` of a match that starts at `pos` -/
theorem snake_repl (mt : Match) (w sy : Str) (pos : Nat)
    (h : mt.caps = [(3, w), (2, sy)] ++ if pos = 0 then [(1, [])] else []) :
    Src.snake_case.substitute_word (mt.str 2) (mt.str 3) (mt.group 1).isSome
      = if w = [] then [] else if (pos == 0) = true then lowerW w else '_' :: lowerW w := by
  by_cases hw : w = []
  · subst hw; simp [Src.snake_case.substitute_word, Match.str, Match.group, h]
  · by_cases hp : pos = 0 <;>
      simp [Src.snake_case.substitute_word, Match.str, Match.group, List.lookup, h, hw, hp, Py.strMul, Py.lower]

theorem snake_case_eq (s : Str) : Src.snake_case s = snake s := by
  rw [Src.snake_case, snake_pattern_eq, sub, sub_tokens (φ := fun b w => if b = true then lowerW w else '_' :: lowerW w)
    (fun pos => by simp [matchAt, m, body_nil])
    (fun hm pos => ⟨_, (hm 2 3 pos).optBol, fun _ => snake_repl _ _ _ _ rfl⟩) _ s 0 (by omega), snake]
  cases tokens s with
  | nil => rfl
  | cons w ws => rw [List.map_cons, joinU_cons, List.map_map]; rfl

theorem lowercase_first_eq (v : Str) : Src.lowercase_first v = lowerFirst v := by
  cases v with
  | nil => rfl
  | cons c t =>
    simp [Src.lowercase_first, Py.slice, Py.sliceFrom, Py.clamp, Py.lower, lowerW, lowerFirst]

theorem sanitize_name_eq (v : Str) : Src.sanitize_name v = sanitize v := by
  simp only [Src.sanitize_name, sanitize, Py.iskeyword, Py.isidentifier, kw, decide_eq_true_eq]
  by_cases h1 : v ∈ Bp.Gen.keywords.map String.toList
  · simp [h1]
  · by_cases h2 : pyIdent v = true
    · simp [h1, h2]
    · simp [h1, h2]

theorem safe_snake_case_eq (s : Str) : Src.safe_snake_case s = safeSnake s := by
  rw [Src.safe_snake_case, snake_case_eq, sanitize_name_eq]; rfl

end Bp.SrcTieCasing
