import BpModel.All
import BpProofs.NestedDefs
import BpProofs.RtSub
/-
  C01, nested / recursive messages: what the induction over `MsgOk` (BpProofs/RtMain.lean) rests on besides the
  per-kind files — inversion of the well-typedness predicates; the steps of flat, unset and `None` slots.
-/
namespace Bp
open Gen

theorem slotsOk_len (S : Schema) : ∀ (fs : List FieldD) (vs : List Val), SlotsOk S fs vs → vs.length = fs.length
  | [], _, h => by cases h; rfl
  | _ :: fs, _, h => by
    cases h with
    | cons _ v _ vs h1 h2 => simp [slotsOk_len S fs vs h2]

theorem slotsOk_get (S : Schema) : ∀ (fs : List FieldD) (vs : List Val), SlotsOk S fs vs →
    ∀ (i : Nat) (f : FieldD) (v : Val), fs[i]? = some f → vs[i]? = some v → SlotOk S f v
  | [], _, h => by cases h; intro i f v hf; cases hf
  | _ :: fs, _, h => by
    cases h with
    | cons f0 v0 _ vs h1 h2 =>
      intro i f v hf hv
      cases i with
      | zero => injection hf with hf; injection hv with hv; subst hf; subst hv; exact h1
      | succ i => exact slotsOk_get S fs vs h2 i f v hf hv

theorem slotsOk_getD (S : Schema) (fs : List FieldD) (vs : List Val) (h : SlotsOk S fs vs) (i : Nat) (f : FieldD)
    (hf : fs[i]? = some f) : SlotOk S f (vs.getD i .ph) := by
  have hil : i < vs.length := by
    rw [slotsOk_len S fs vs h]; exact (List.getElem?_eq_some_iff.mp hf).1
  exact slotsOk_get S fs vs h i f _ hf (by rw [List.getD_eq_getElem?_getD, List.getElem?_eq_getElem hil]; rfl)

theorem msgsOk_mem (S : Schema) (c : Nat) : ∀ (xs : List Val), MsgsOk S c xs →
    ∀ x ∈ xs, (∃ sl ow unk cur, x = Val.msg c sl ow unk cur) ∧ MsgOk S x
  | [], _ => by intro x hx; simp at hx
  | _ :: xs, h => by
    cases h with
    | cons _ sl ow unk cur _ h1 h2 =>
      intro x hx
      rcases List.mem_cons.mp hx with hx | hx
      · subst hx; exact ⟨⟨sl, ow, unk, cur, rfl⟩, h1⟩
      · exact msgsOk_mem S c xs h2 x hx

theorem msgOk_desc (S : Schema) (c : Nat) (sl : List Val) (ow : Bool) (unk : Bytes) (cur : List (Option Nat))
    (h : MsgOk S (.msg c sl ow unk cur)) : ∃ d, S[c]? = some d := by
  cases h with
  | mk _ d _ _ _ _ hd _ _ _ _ _ _ _ _ _ => exact ⟨d, hd⟩

theorem flatSlotOk_cases (f : FieldD) (v : Val) (h : flatSlotOk f v = true) :
    (v = .ph ∧ f.optional = false) ∨ (v = .none ∧ f.optional = true)
    ∨ (∃ xs, v = .list xs ∧ f.repeated = true ∧ ∀ x ∈ xs, scalarOk f.ty x = true)
    ∨ (f.repeated = false ∧ scalarOk f.ty v = true) := by
  cases v with
  | ph => exact .inl ⟨rfl, by simpa [flatSlotOk] using h⟩
  | none => exact .inr (.inl ⟨rfl, by simpa [flatSlotOk] using h⟩)
  | list xs => exact .inr (.inr (.inl ⟨xs, rfl, by simpa [flatSlotOk] using h⟩))
  | _ => exact .inr (.inr (.inr (by simpa [flatSlotOk] using h)))

theorem flat_selected_emits (S : Schema) (f : FieldD) (v : Val) (b : Bytes)
    (hg : f.group.isSome = true) (hv : scalarOk f.ty v = true)
    (h : dumpSlot S f false true v = .ok b) : b ≠ [] :=
  one_selected_emits S f v b (isItem_of_plain S v (scalarOk_plain f.ty v hv).1).one hg h

theorem flat_member_scalar (f : FieldD) (v : Val) (g : Nat) (hff : FlatField f) (hok : flatSlotOk f v = true)
    (hne : v ≠ Val.ph) (hgo : f.optional = false) (hg : f.group = some g) : scalarOk f.ty v = true := by
  rcases flatSlotOk_cases f v hok with ⟨rfl, _⟩ | ⟨rfl, ho⟩ | ⟨xs, rfl, hr, _⟩ | ⟨_, hv⟩
  · exact absurd rfl hne
  · rw [hgo] at ho; cases ho
  · have := (hff.rep hr).2; rw [hg] at this; cases this
  · exact hv

theorem ph_emits_nothing (S : Schema) (f : FieldD) (k : Nat) (cur : List (Option Nat)) (b : Bytes)
    (ho : f.optional = false)
    (hsel : ∀ g, f.group = some g → cur.getD g Option.none ≠ some k)
    (hb : dumpSlot S f (hidden f k cur) (selectedInGroup f k cur) Val.ph = .ok b) : b = [] := by
  -- hidden, or not a member of a oneof: the case in which the unset default emits nothing
  have hcase : hidden f k cur = true ∨ (f.group = Option.none ∧ selectedInGroup f k cur = false) := by
    cases hg : f.group with
    | none => exact .inr ⟨rfl, selected_nogroup _ _ _ hg⟩
    | some g => exact .inl (hidden_of_cur_ne f k g cur hg (hsel g hg))
  have h := dumpSlot_freshVal S f _ _ hcase
  rw [ho, if_neg Bool.false_ne_true, hb] at h
  exact Except.ok.inj h

theorem slotStep_none (S : Schema) (rec : Loader) (d : MsgD) (R : FieldD → Val → Val → Prop) (k : Nat) (f : FieldD)
    (hid sel : Bool) : SlotStep S rec d R k f hid sel Val.none :=
  slotStep_empty S rec d R k f hid sel _ fun b hb => by
    rw [dumpSlot] at hb; injection hb with hb; exact hb.symm

theorem slotStep_ph (S : Schema) (rec : Loader) (d : MsgD) (R : FieldD → Val → Val → Prop) (k : Nat) (f : FieldD)
    (cur : List (Option Nat)) (ho : f.optional = false)
    (hsel : ∀ g, f.group = some g → cur.getD g Option.none ≠ some k) :
    SlotStep S rec d R k f (hidden f k cur) (selectedInGroup f k cur) Val.ph :=
  slotStep_empty S rec d R k f _ _ _ fun b hb => ph_emits_nothing S f k cur b ho hsel hb

theorem slotStep_flat (S : Schema) (rec : Loader) (d : MsgD) (k : Nat) (f : FieldD) (cur : List (Option Nat)) (v : Val)
    (hdist : NumsDistinct d.fields) (hf : d.fields[k]? = some f) (hff : FlatField f) (hok : flatSlotOk f v = true)
    (hsel : v = Val.ph → ∀ g, f.group = some g → cur.getD g Option.none ≠ some k)
    (R : FieldD → Val → Val → Prop) (hR : ∀ f v, R f v v) :
    SlotStep S rec d R k f (hidden f k cur) (selectedInGroup f k cur) v := by
  rcases flatSlotOk_cases f v hok with ⟨rfl, ho⟩ | ⟨rfl, _⟩ | ⟨xs, rfl, hr, hxs⟩ | ⟨hr, hv⟩
  · exact slotStep_ph S rec d R k f cur ho (hsel rfl)
  · exact slotStep_none S rec d R k f _ _
  · obtain ⟨_, hg⟩ := hff.rep hr
    rw [hidden_nogroup f k cur hg]
    exact slotStep_repeated S _ d k f _ xs hdist hf hff hr hxs (selected_nogroup f k cur hg) _ hR
  · exact slotStep_scalar S _ d k f _ _ _ hdist hf hff hr hv _ hR

end Bp
