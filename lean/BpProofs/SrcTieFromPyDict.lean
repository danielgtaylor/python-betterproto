import BpProofs.Gen.SrcPyDict
import BpProofs.SrcTiePyDict
import BpProofs.SrcTieFromDict
/-
  `Bp.Src.from_pydict_key` (BpProofs/Gen/SrcPyDict.lean) is regenerated from the Python AST of the body
  of `for key in value:` of `Message.from_pydict` on every run.  With `dec := decP S` (the model's
  `v.from_pydict(d)`), one iteration as written is the model's per-key step `keyStepP` — the
  `meta_by_field_name` lookup through `safe_snake_case`, the skip of `None`, and `fromPyField`
  (BpModel/PyDict.lean): the same state, or the same exception.
  Guards (decidable): the object under the key, if it is a dict, has as many keys as values (what a
  Python dict is); for a `map<K, Message>` field the attribute value is a dict.
  The model tests the object under the key first, the source the kind of field: `fromPyField_eq` states the
  model's step in the order of the source (the kind of field, `getattr`, then what came back).
  `keyStepP` and the guards `StepOk` / `KeysTieOk` are declared in PyDictRt.lean (under this namespace), where
  `rtp_walk` establishes the guards along the round trip.
-/
namespace Bp.SrcTieFromPyDict
open Bp Bp.Py Gen Bp.SrcTieJson Bp.SrcTiePyDict

/-- the model's `v.from_pydict(d)` as the parameter `dec` of the translated step -/
def decP (S : Schema) : Nat → Val → PVal → R Val := fun _ v d => fromPyDictI S v d

section tie
-- every lemma of the section takes those of these parameters that its statement mentions, in this order, before its own; definitions bind theirs themselves
variable (S : Schema) (c : Nat)

/-- `cls().from_pydict(x)` for a message class -/
def itemP (S : Schema) (c : Nat) (x : PVal) : R Val := fromPyDictI S (fresh S c) x

theorem fromPyItems_cons (x : PVal) (xs : List PVal) :
    fromPyItems S c (x :: xs) = (itemP S c x).bind fun v => (fromPyItems S c xs).bind fun vs => .ok (v :: vs) := by
  cases x with
  | obj ks ps => rw [fromPyItems]; rfl
  | _ =>
    rw [fromPyItems]
    · rfl
    all_goals (intros; contradiction)

theorem appendLoop_eq (c' : Nat) : ∀ (items : List PVal) (xs0 : List Val),
    appendLoop S (decP S) (.message c') items (.list xs0)
      = (ofR (fromPyItems S c' items)).bind fun ys => .ok (.list (xs0 ++ ys))
  | [], xs0 => by rw [fromPyItems]; simp [appendLoop, Res.ok_bind]
  | x :: items, xs0 => by
    rw [appendLoop, fromPyItems_cons, Res.ofR_bind, Res.bind_assoc]
    refine Res.bind_congr (x := ofR (itemP S c' x)) fun m _ => ?_
    simp only [listAppend, Res.ok_bind, appendLoop_eq c' items (xs0 ++ [m]), Res.ofR_bind, Res.bind_assoc, Res.ofR_ok,
      List.append_assoc, List.singleton_append]

theorem appendLoop_nonmsg (cls : Cls) (h : ∀ c', cls ≠ .message c') (v : Val) :
    ∀ items : List PVal, appendLoop S (decP S) cls items v = if items.isEmpty then .ok v else .raise .type
  | [] => by simp [appendLoop]
  | x :: items => by
    rw [appendLoop]
    cases cls with
    | message c' => exact absurd rfl (h c')
    | _ => rfl

theorem setLoop_eq (c' : Nat) : ∀ (ks : List JKey) (ps : List PVal) (ks0 vs0 : List Val), ks.length = ps.length →
    setLoop S (decP S) (.message c') ks ps (.dict ks0 vs0)
      = (ofR (fromPyItems S c' ps)).bind fun ys =>
          .ok (.dict (dictInsertAll ks0 vs0 (ks.map keyV) ys).1 (dictInsertAll ks0 vs0 (ks.map keyV) ys).2)
  | [], [], ks0, vs0, _ => by rw [fromPyItems]; rfl
  | [], _ :: _, _, _, h => by cases h
  | _ :: _, [], _, _, h => by cases h
  | k :: ks, x :: ps, ks0, vs0, h => by
    rw [setLoop, fromPyItems_cons, Res.ofR_bind, Res.bind_assoc]
    refine Res.bind_congr (x := ofR (itemP S c' x)) fun m _ => ?_
    show setLoop S (decP S) (.message c') ks ps (.dict _ _) = _
    rw [setLoop_eq c' ks ps _ _ (Nat.succ.inj h), Res.ofR_bind, Res.bind_assoc]
    rfl

theorem setLoop_nonmsg (cls : Cls) (h : ∀ c', cls ≠ .message c') (v : Val) :
    ∀ (ks : List JKey) (ps : List PVal), ks.length = ps.length →
      setLoop S (decP S) cls ks ps v = if ps.isEmpty then .ok v else .raise .type
  | [], [], _ => by simp [setLoop]
  | [], _ :: _, h => by simp at h
  | _ :: _, [], h => by simp at h
  | k :: ks, x :: ps, _ => by
    rw [setLoop]
    cases cls with
    | message c' => exact absurd rfl (h c')
    | _ => rfl

theorem setAttrNN_slots_irrel (S : Schema) (fs : List FieldD) (st : MState) (i : Nat) (f : FieldD) (hf : fs[i]? = some f)
    (a v : Val) (hv : v ≠ .none) : setAttrNN S fs { st with slots := setAt st.slots i a } i v = setAttr S fs st i v := by
  cases v with
  | none => exact absurd rfl hv
  | _ => exact setAttr_over S fs st i f hf a _

theorem unRaw_ne (p : PVal) (w : Val) (h : unRaw p = .ok w) (hp : p ≠ .null) (hr : p ≠ .raw .none) : w ≠ .none := by
  intro e; subst e
  cases p with
  | null => exact hp rfl
  | raw v => rw [unRaw] at h; cases h; exact hr rfl
  | arr xs => rw [unRaw] at h; cases hx : unRawList xs <;> rw [hx] at h <;> cases h
  | obj ks xs => rw [unRaw] at h; cases hx : unRawList xs <;> rw [hx] at h <;> cases h
  | _ => rw [unRaw] at h <;> cases h

/-- the object under the key is stored as it is: `if v is not None: setattr(self, name, v)` -/
def storeP (S : Schema) (c : Nat) (st : MState) (i : Nat) (p : PVal) : R MState :=
  (unRaw p).bind fun w => .ok (setAttrNN S (fieldsOf S c) st i w)

/-- `getattr` returned a list: `for item in value[key]: v.append(cls().from_pydict(item))` -/
def listStepP (S : Schema) (c : Nat) (st1 : MState) (i : Nat) (f : FieldD) (xs : List Val) : PVal → R MState
  | .arr items =>
    if f.wraps.isSome then (if items.isEmpty then .ok (setAttr S (fieldsOf S c) st1 i (.list xs)) else .error .type)
    else (match f.kind with
      | .user c' => (fromPyItems S c' items).bind fun ys => .ok (setAttr S (fieldsOf S c) st1 i (.list (xs ++ ys)))
      | _ => if items.isEmpty then .ok (setAttr S (fieldsOf S c) st1 i (.list xs)) else .error .type)
  | .obj _ _ => .error .notImpl
  | p => .error (iterErr p)

/-- `v.from_pydict(value[key])` on what `getattr` returned -/
def callStepP (S : Schema) (c : Nat) (st1 : MState) (i : Nat) : Val → PVal → R MState
  | .msg c' sl _ unk cur, .obj ks ps =>
    (fromPyKeys S c' { slots := sl, onWire := true, unknown := unk, cur := cur } ks ps).bind fun st' =>
      .ok (setAttr S (fieldsOf S c) st1 i (st'.toVal c'))
  | v, _ => .error (notMsgErr v)

/-- a message-typed field, by what `getattr` returned -/
def msgStepP (S : Schema) (c : Nat) (st1 : MState) (i : Nat) (f : FieldD) (v : Val) (p : PVal) : R MState :=
  match v with
  | .list xs => listStepP S c st1 i f xs p
  | .ts _ => storeP S c st1 i p
  | .dur _ => storeP S c st1 i p
  | v => if f.wraps.isSome then storeP S c st1 i p else callStepP S c st1 i v p

/-- a `map<K, Message>` field: `for k in value[key]: v[k] = cls().from_pydict(value[key][k])` -/
def mapStepP (S : Schema) (c : Nat) (st1 : MState) (i : Nat) (f : FieldD) (v : Val) : PVal → R MState
  | .arr items => if items.isEmpty then .ok (setAttrNN S (fieldsOf S c) st1 i v) else .error .type
  | .obj ks ps =>
    (match v with
     | .dict ks0 vs0 =>
       (match f.mapVKind with
        | .user c' =>
          (fromPyItems S c' ps).bind fun ys =>
            .ok (setAttr S (fieldsOf S c) st1 i
              (.dict (dictInsertAll ks0 vs0 (ks.map keyV) ys).1 (dictInsertAll ks0 vs0 (ks.map keyV) ys).2))
        | _ => if ps.isEmpty then .ok (setAttr S (fieldsOf S c) st1 i (.dict ks0 vs0)) else .error .type)
     | _ => .error .type)
  | p => .error (iterErr p)

theorem fromPyField_eq (st : MState) (i : Nat) (f : FieldD) (p : PVal) (hnull : p ≠ .null) :
    fromPyField S (fieldsOf S c) st i f p
      = if f.ty == .message then (getAttr S (fieldsOf S c) st i).bind fun q => msgStepP S c q.2 i f q.1 p
        else if f.ty == .map && f.mapV == .message then
          (getAttr S (fieldsOf S c) st i).bind fun q => mapStepP S c q.2 i f q.1 p
        else storeP S c st i p := by
  cases p with
  | null => exact absurd rfl hnull
  | _ =>
    -- a list, a dict, any other object: one equation of `fromPyField` each (for the catch-all one `rw` leaves the side
    -- goals that `p` is none of the others); in the message branch the two sides agree case by case of what `getattr` returned
    rw [fromPyField]
    · exact ite_congr rfl (fun _ => congrArg _ (funext fun ⟨v, _⟩ => by cases v <;> rfl)) fun _ => rfl
    all_goals (intros; contradiction)

/-- `setattr(self, name, v)` of the object `v` the slot holds after an in-place mutation, unless `v is None` -/
abbrev storeBack (S : Schema) (c : Nat) (st1 : MState) (name : List Char) (v : Val) : Res MState :=
  if (!(isNone v)) = true then Res.ok (pySetattr S c (slotStore S c st1 name v) name v)
  else Res.ok (slotStore S c st1 name v)

section
variable {S c} {st1 : MState} {name : List Char} {i : Nat} {f : FieldD}
  (hfn : findName (fieldsOf S c) name 0 = some (i, f))
include hfn

/-- the store of a dict-side object as it is: `v = value[key]; if v is not None: setattr(self, name, v)` -/
theorem store_raw (p : PVal) :
    ((asFieldValue p).bind fun v =>
      if (!(isNone v)) = true then Res.ok (pySetattr S c st1 name v) else Res.ok st1)
      = ofR (storeP S c st1 i p) := by
  unfold asFieldValue storeP
  rw [Res.ofR_bind]
  refine Res.bind_congr fun w _ => ?_
  simp only [pySetattr, hfn]
  cases w <;> rfl

variable (hfi : (fieldsOf S c)[i]? = some f)
include hfi

theorem store_mutated (v : Val) (hv : isNone v = false) :
    storeBack S c st1 name v
      = Res.ok (setAttr S (fieldsOf S c) st1 i v) := by
  simp only [storeBack, hv, Bool.not_false, if_true, pySetattr, slotStore, hfn]
  rw [setAttr_over S (fieldsOf S c) st1 i f hfi]

/-- a class that is no message class (`datetime`, `timedelta`, `Optional[…]`): `cls()` raises with the first item,
    so the loop leaves `v` as it is or raises TypeError; `v` is then stored -/
theorem store_unless_items (v : Val)
    (hv : isNone v = false) {α : Type} (items : List α) :
    ((if items.isEmpty then Res.ok v else .raise .type).bind (storeBack S c st1 name))
      = ofR (if items.isEmpty then .ok (setAttr S (fieldsOf S c) st1 i v) else .error .type) := by
  cases items with
  | nil => exact store_mutated hfn hfi v hv
  | cons x items => rfl

theorem list_case (hm : (f.ty == PType.message) = true) (xs : List Val) (p : PVal) :
    ((pyClsByField S c name).bind fun cls =>
      (appendEach S (decP S) cls (.list xs) p).bind (storeBack S c st1 name))
    = ofR (listStepP S c st1 i f xs p) := by
  simp only [pyClsByField, fdClsByField, hfn, Res.ok_bind, clsOfField, hm, if_true]
  cases p with
  | arr items =>
    simp only [appendEach, listStepP]
    by_cases hw : f.wraps.isSome = true
    · simp only [hw, if_true]
      rw [appendLoop_nonmsg S .other (by intro c' h; cases h)]
      exact store_unless_items hfn hfi _ rfl items
    · simp only [hw, Bool.false_eq_true, if_false]
      cases hk : f.kind with
      | user c' =>
        rw [appendLoop_eq, Res.bind_assoc, Res.ofR_bind]
        exact Res.bind_congr fun ys _ => store_mutated hfn hfi (.list (xs ++ ys)) rfl
      | timestamp =>
        simp only []
        rw [appendLoop_nonmsg S .datetime (by intro c' h; cases h)]
        exact store_unless_items hfn hfi _ rfl items
      | duration =>
        simp only []
        rw [appendLoop_nonmsg S .timedelta (by intro c' h; cases h)]
        exact store_unless_items hfn hfi _ rfl items
  | obj ks ps => rfl
  | _ => rfl

theorem call_case (v : Val) (p : PVal) :
    ((callFromPyDict (decP S) v p).bind (storeBack S c st1 name))
    = ofR (callStepP S c st1 i v p) := by
  cases v with
  | msg c' sl ow unk cur =>
    cases p with
    | obj ks ps =>
      simp only [callFromPyDict, decP, fromPyDictI, callStepP, Res.ofR_bind, Res.bind_assoc]
      exact Res.bind_congr fun st' _ => store_mutated hfn hfi (st'.toVal c') rfl
    | _ => rfl
  | _ => rfl

theorem map_case (hmap : (f.ty == PType.map) = true) (hmv : (f.mapV == PType.message) = true) (v : Val) (p : PVal)
    (hnull : p ≠ .null)
    (hlen : ∀ ks ps, p = .obj ks ps → ks.length = ps.length) (hdict : isDict v = true) :
    ((pyClsByFieldMapValue S c name).bind fun cls =>
      (setEach S (decP S) cls v p).bind (storeBack S c st1 name))
    = ofR (mapStepP S c st1 i f v p) := by
  cases v with
  | dict ks0 vs0 =>
    simp only [pyClsByFieldMapValue, clsByFieldMapValue, hfn, hmap, hmv, if_true, Res.ok_bind]
    cases p with
    | null => exact absurd rfl hnull
    | arr items =>
      cases items with
      | nil =>
        simp only [setEach, Res.ok_bind]
        rw [store_mutated hfn hfi _ rfl]; rfl
      | cons x items => rfl
    | obj ks ps =>
      have hl := hlen ks ps rfl
      simp only [setEach, mapStepP]
      cases hk : f.mapVKind with
      | user c' =>
        rw [setLoop_eq S c' ks ps ks0 vs0 hl, Res.bind_assoc, Res.ofR_bind]
        exact Res.bind_congr fun ys _ => store_mutated hfn hfi (.dict _ _) rfl
      | timestamp =>
        simp only []
        rw [setLoop_nonmsg S .datetime (by intro c' h; cases h) _ ks ps hl]
        exact store_unless_items hfn hfi _ rfl ps
      | duration =>
        simp only []
        rw [setLoop_nonmsg S .timedelta (by intro c' h; cases h) _ ks ps hl]
        exact store_unless_items hfn hfi _ rfl ps
    | _ => rfl
  | _ => simp [isDict] at hdict

end

theorem key_foundP (st : MState) (bs : Bytes) (i : Nat) (f : FieldD) (p : PVal)
    (hfn : findName (fieldsOf S c) (Casing.safeSnake (bs.map Char.ofNat)) 0 = some (i, f))
    (hlen : ∀ ks ps, p = .obj ks ps → ks.length = ps.length)
    (hdict : (f.ty == .map && f.mapV == .message) = true →
      ∀ v st1, getAttr S (fieldsOf S c) st i = .ok (v, st1) → isDict v = true) :
    Src.from_pydict_key S c (decP S) st (.str bs) p = ofR (fromPyField S (fieldsOf S c) st i f p) := by
  have hfi : (fieldsOf S c)[i]? = some f := by simpa using (SrcTieFromDict.findName_spec (fieldsOf S c) _ 0 i f hfn).2.1
  unfold Src.from_pydict_key
  by_cases hnull : p = .null
  · subst hnull
    simp only [safeSnakeCase, Res.ok_bind, metaByFieldName, hfn, Option.map_some, jIsNone,
      Bool.not_true, ↓reduceIte, Bool.false_eq_true, fromPyField, Res.ofR_ok]
  have hjn : jIsNone p = false := by
    cases p with
    | null => exact absurd rfl hnull
    | _ => rfl
  rw [fromPyField_eq S c st i f p hnull]
  simp only [safeSnakeCase, Res.ok_bind, metaByFieldName, hfn, Option.map_some, metaProtoType, metaWraps, mapTypesSet,
    metaMapValue, hjn, Bool.not_false, ↓reduceIte, pyGetattr]
  -- the kind of field, as the source and `fromPyField_eq` test it
  by_cases hm : (f.ty == PType.message) = true
  · simp only [hm, ↓reduceIte, Res.ofR_bind]
    refine Res.ofR_bind_congr fun ⟨v, st1⟩ _ => ?_
    -- by what `getattr` returned, in the order of the tests of the source
    cases v with
    | list xs => exact list_case hfn hfi hm xs p
    | ts us => exact store_raw hfn p
    | dur us => exact store_raw hfn p
    | _ =>
      simp only [isList, isDatetime, isTimedelta, msgStepP, ↓reduceIte, Bool.false_eq_true]
      by_cases hw : f.wraps.isSome = true
      · simp only [hw, ↓reduceIte]; exact store_raw hfn p
      · simp only [hw, ↓reduceIte, Bool.false_eq_true]; exact call_case hfn hfi _ p
  by_cases hmm : (f.ty == PType.map && f.mapV == PType.message) = true
  · simp only [hm, hmm, ↓reduceIte, Bool.false_eq_true, Res.ofR_bind]
    refine Res.ofR_bind_congr fun ⟨v, st1⟩ hga => ?_
    have hmm' := hmm
    rw [Bool.and_eq_true] at hmm'
    exact map_case hfn hfi hmm'.1 hmm'.2 v p hnull hlen (hdict hmm v st1 hga)
  · simp only [hm, hmm]
    exact store_raw hfn p

theorem from_pydict_key_eq (st : MState) (key : JKey) (p : PVal) (hok : StepOk S c st key p) :
    Src.from_pydict_key S c (decP S) st key p = ofR (keyStepP S c st key p) := by
  cases key with
  | str bs =>
    have hk : fieldOfJKey (fieldsOf S c) (.str bs)
        = .ok (findName (fieldsOf S c) (Casing.safeSnake (bs.map Char.ofNat)) 0) := rfl
    cases hfn : findName (fieldsOf S c) (Casing.safeSnake (bs.map Char.ofNat)) 0 with
    | none =>
      unfold Src.from_pydict_key keyStepP
      rw [hk, hfn]
      simp only [safeSnakeCase, Res.ok_bind, metaByFieldName, hfn, Option.map_none]
      rfl
    | some q =>
      obtain ⟨i, f⟩ := q
      rw [hfn] at hk
      rw [key_foundP S c st bs i f p hfn hok.1 (hok.2 i f hk), keyStepP, hk]
  | int v => rfl
  | bool b => rfl

/-- `for key in value: <translated body>` (hand-written fold; the body is the translated `Src.from_pydict_key`) -/
def srcKeysLoop (S : Schema) (c : Nat) : MState → List JKey → List PVal → Res MState
  | st, k :: ks, p :: ps => (Src.from_pydict_key S c (decP S) st k p).bind fun st' => srcKeysLoop S c st' ks ps
  | st, _, _ => .ok st

theorem srcKeysLoop_eq : ∀ (ks : List JKey) (ps : List PVal) (st : MState),
    KeysTieOk S c st ks ps → srcKeysLoop S c st ks ps = ofR (fromPyKeys S c st ks ps)
  | [], ps, st, _ => by rw [srcKeysLoop, fromPyKeys]; rfl; all_goals (intros; contradiction)
  | k :: ks, [], st, _ => by rw [srcKeysLoop, fromPyKeys]; rfl; all_goals (intros; contradiction)
  | k :: ks, p :: ps, st, h => by
    rw [srcKeysLoop, fromPyKeys_cons, from_pydict_key_eq S c st k p h.1, Res.ofR_bind]
    exact Res.ofR_bind_congr fun st' hs => srcKeysLoop_eq ks ps st' (h.2 st' hs)

end tie

end Bp.SrcTieFromPyDict
